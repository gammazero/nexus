/-
  What acceptance by `authClient` and by the realm lookup means, and the condition `Welcomed` under
  which `attach` ends with WELCOME (`attach_of_welcomed`).  Then the specification of `attach`, read
  off its decision chain once (`attach_shape`): per outcome, the condition under which it arises,
  what was sent, whether the session joined, which ABORT reason goes with which failing branch, and
  that what is left unread is a suffix of the script.  The lemmas C09 uses are projections of it,
  but for two that run `attach` forwards under the conditions of `Welcomed`: the converse
  `attach_of_welcomed` and the transcript part of `attach_welcome_hello`.
-/
import Nexus.Auth.Accept

namespace Nexus.Auth
open Nexus

/-- The non-bypass route through `authClient`. -/
def ViaAuthenticator (fx : Facts) (rc : RealmCfg) (env : Env) (details : Dict) (script : List Arrival)
    (w : Dict) : Prop :=
  ∃ a method w0,
    getAuthenticator fx.firstMatch (realmAuths rc) (offeredMethods details) = some (a, method) ∧
    (runAuth fx a env details script).res = .ok w0 ∧
    w = (w0.set "authmethod" (.str method)).set "roles" env.routerRoles

/-- the test of `authClient` for the local bypass, when it fails -/
theorem localBypass_false {env : Env} {rc : RealmCfg} (h : ¬ (env.isLocal = true ∧ rc.requireLocalAuth = false)) :
    (env.isLocal && !rc.requireLocalAuth) = false := by
  cases h1 : env.isLocal <;> cases h2 : rc.requireLocalAuth <;> simp_all

theorem authClient_ok_iff {fx : Facts} {rc : RealmCfg} {env : Env} {details : Dict} {script : List Arrival}
    {w : Dict} :
    (authClient fx rc env details script).res = .ok w ↔
      (env.isLocal = true ∧ rc.requireLocalAuth = false ∧ w = localWelcome env details) ∨
      (¬ (env.isLocal = true ∧ rc.requireLocalAuth = false) ∧ ViaAuthenticator fx rc env details script w) := by
  unfold authClient ViaAuthenticator
  by_cases hl : env.isLocal = true ∧ rc.requireLocalAuth = false
  · simp only [hl.1, hl.2, Bool.not_false, Bool.and_self, if_true, Except.ok.injEq, true_and, and_self,
      not_true_eq_false, false_and, or_false]
    exact eq_comm
  · have hloc : (env.isLocal = true ∧ rc.requireLocalAuth = false ∧ w = localWelcome env details) ↔ False :=
      ⟨fun h => hl ⟨h.1, h.2.1⟩, False.elim⟩
    simp only [localBypass_false hl, Bool.false_eq_true, if_false, hloc, hl, false_or, not_false_eq_true, true_and]
    cases hm : offeredMethods details with
    | nil => simp only [getAuthenticator, reduceCtorEq, false_and, exists_false]
    | cons m ms =>
      cases hg : getAuthenticator fx.firstMatch (realmAuths rc) (m :: ms) with
      | none => simp only [hg, reduceCtorEq, false_and, exists_false]
      | some am =>
        obtain ⟨a, method⟩ := am
        simp only [hg, Option.some.injEq, Prod.mk.injEq]
        cases hr : (runAuth fx a env details script).res with
        | error e =>
          simp only [reduceCtorEq, false_iff]
          rintro ⟨_, _, w1, ⟨rfl, rfl⟩, hr', _⟩
          cases hr.symm.trans hr'
        | ok w0 =>
          simp only [Except.ok.injEq]
          constructor
          · rintro rfl; exact ⟨a, method, w0, ⟨rfl, rfl⟩, hr, rfl⟩
          · rintro ⟨_, _, w1, ⟨rfl, rfl⟩, hr', rfl⟩
            cases hr.symm.trans hr'; rfl

theorem authClient_via_sent {fx : Facts} {rc : RealmCfg} {env : Env} {details : Dict}
    {script : List Arrival} {a : Authr} {method : String}
    (hn : ¬ (env.isLocal = true ∧ rc.requireLocalAuth = false))
    (hg : getAuthenticator fx.firstMatch (realmAuths rc) (offeredMethods details) = some (a, method)) :
    (authClient fx rc env details script).sent = (runAuth fx a env details script).sent ∧
    (authClient fx rc env details script).rest = (runAuth fx a env details script).rest := by
  unfold authClient
  simp only [localBypass_false hn, Bool.false_eq_true, if_false]
  cases hm : offeredMethods details with
  | nil => rw [hm] at hg; simp [getAuthenticator] at hg
  | cons m ms =>
    rw [hm] at hg
    simp only [hg]
    split <;> exact ⟨rfl, rfl⟩

theorem authClient_local_sent {fx : Facts} {rc : RealmCfg} {env : Env} {details : Dict}
    {script : List Arrival} (h1 : env.isLocal = true) (h2 : rc.requireLocalAuth = false) :
    (authClient fx rc env details script).sent = [] ∧
    (authClient fx rc env details script).rest = script := by
  simp [authClient, h1, h2]

/-- The realm named in HELLO is there, or the template creates it. -/
def RealmAvailable (rt : RouterCfg) (realm : String) (rc : RealmCfg) (created : Option RealmCfg) : Prop :=
  rt.closed = false ∧ rt.closing = false ∧
  ((findRealm rt.realms realm = some rc ∧ created = none) ∨
   (findRealm rt.realms realm = none ∧ created = some rc ∧
      ∃ t, rt.template = some t ∧ L2.validUri t.strictURI "" realm = true ∧ rc = { t with uri := realm }))

theorem lookupRealm_ok_iff {rt : RouterCfg} {realm : String} {rc : RealmCfg} {created : Option RealmCfg} :
    lookupRealm rt realm = .ok (rc, created) ↔ RealmAvailable rt realm rc created := by
  unfold lookupRealm RealmAvailable
  cases rt.closed <;> cases rt.closing <;>
    simp only [Bool.false_eq_true, if_false, if_true, reduceCtorEq, true_and, false_and]
  cases findRealm rt.realms realm with
  | some rc' =>
    simp only [Except.ok.injEq, Prod.mk.injEq, Option.some.injEq, reduceCtorEq, false_and, or_false]
    exact ⟨fun h => ⟨h.1, h.2.symm⟩, fun h => ⟨h.1, h.2.symm⟩⟩
  | none =>
    simp only [reduceCtorEq, false_and, false_or, true_and]
    cases rt.template with
    | none => simp only [reduceCtorEq, false_and, exists_false, and_false]
    | some t =>
      simp only [Option.some.injEq, exists_eq_left']
      split
      · simp only [Except.ok.injEq, Prod.mk.injEq, *, true_and]
        exact ⟨fun h => ⟨h.1 ▸ h.2.symm, h.1.symm⟩, fun h => ⟨h.2.symm, h.2 ▸ h.1.symm⟩⟩
      · simp only [reduceCtorEq, *, false_and, and_false]

/-- The exact condition under which `attach` ends with WELCOME, and what it then records. -/
def Welcomed (fx : Facts) (rt : RouterCfg) (env : Env) (arr : List Arrival)
    (sid : Nat) (sess w : Dict) : Prop :=
  ∃ d realm details rest rc created,
    arr = ⟨d, .msg (.hello realm details)⟩ :: rest ∧ d < Gen.Auth.helloTimeoutMs ∧
    realm ≠ "" ∧ RealmAvailable rt realm rc created ∧
    hasClientRole details = true ∧
    (authClient fx rc env (helloDetails env details) rest).res = .ok w ∧
    rc.closing = false ∧
    sid = env.o.sid ∧ sess = sessDetails fx (helloDetails env details) w sid

theorem attach_of_welcomed {fx : Facts} {rt : RouterCfg} {env : Env} {arr : List Arrival}
    {sid : Nat} {sess w : Dict} (h : Welcomed fx rt env arr sid sess w) :
    (attach fx rt env arr).outcome = .welcome sid sess w := by
  obtain ⟨d, realm, details, rest, rc, created, harr, hd, hre, hav, hrole, hauth, hcl, hsid, hsess⟩ := h
  subst harr
  have hl := lookupRealm_ok_iff.mpr hav
  have hre' : (realm == "") = false := by simpa using hre
  simp [attach, recvTimeout, hd, hre', hl, attachRealm, hrole, hauth, hcl, hsid, hsess]

/-- Branches that fail inside `authClient` / an authenticator. -/
def Why.isAuth : Why → Bool
  | .noAuthSupplied | .noAuthenticator | .missingAuthid | .authRoleError | .keyError | .nonceError
  | .challengeBlocked | .recvTimeout | .recvClosed | .unexpectedMsg | .invalidTicket
  | .invalidSignature | .sigDecode | .sigLength | .onWelcomeError | .customError => true
  | _ => false

/-- The two branches in which no message arrived: the peer is closed without ABORT. -/
def Why.isDrop : Why → Bool
  | .helloTimeout | .helloClosed => true
  | _ => false

/-- The ABORT reason that goes with a failing branch ("" where no ABORT is sent).  For the branches of the realm
    lookup the model computes the reason by `reasonOfLookup`; that the two agree there is `lookupRealm_error`. -/
def reasonOf : Why → String
  | .helloTimeout | .helloClosed => ""
  | .notHello _ => Gen.N.ErrProtocolViolation
  | .emptyRealm | .noSuchRealm | .realmCreateFailed => Gen.N.ErrNoSuchRealm
  | .routerClosed | .routerClosing | .realmClosing => Gen.N.ErrSystemShutdown
  | .noRoles => Gen.N.ErrNoSuchRole
  | _ => Gen.N.ErrAuthenticationFailed

theorem exchange_err {blocked : Bool} {t : Nat} {ch : Sent} {script : List Arrival} {e : Why}
    (h : (exchange blocked t ch script).got = .error e) : e.isAuth = true := by
  unfold exchange at h
  cases blocked with
  | true => simp at h; subst h; rfl
  | false =>
    simp only [Bool.false_eq_true, if_false] at h
    split at h <;> simp at h <;> subst h <;> rfl

theorem finishWelcome_err {bp : Option Bypass} {authid : String} {w details : Dict} {e : Why}
    (h : finishWelcome bp authid w details = .error e) : e.isAuth = true := by
  unfold finishWelcome at h
  split at h
  · simp at h
  · split at h
    · simp at h
    · simp at h; subst h; rfl

theorem andThen_err {got : Except Why String} {f : String → Except Why Dict} {e : Why}
    (h : andThen got f = .error e) (hg : ∀ e', got = .error e' → e'.isAuth = true)
    (hf : ∀ sig e', f sig = .error e' → e'.isAuth = true) : e.isAuth = true := by
  cases got with
  | ok sig => exact hf sig e h
  | error e' =>
    simp [andThen] at h
    subst h
    exact hg e' rfl

theorem csDecide_err {checks : Bool} {o : Oracle} {pubkey challenge : Bytes} {w : Dict} {sig : String} {e : Why}
    (h : csDecide checks o pubkey challenge w sig = .error e) : e.isAuth = true := by
  unfold csDecide at h
  split at h
  · rename_i e' hv
    simp at h
    subst h
    unfold csVerify at hv
    split at hv
    · simp at hv; subst hv; rfl
    · split at hv
      · simp at hv; subst hv; rfl
      · split at hv <;> simp at hv
  · simp at h; subst h; rfl
  · simp at h

/-- what `authClient` sends (`authClient_regular`): CHALLENGEs, never WELCOME or ABORT -/
def OnlyChallenges (l : List Sent) : Prop := ∀ s ∈ l, ∃ m e, s = .challenge m e

theorem exchange_sent (blocked : Bool) (t : Nat) (m : String) (e : Dict) (script : List Arrival) :
    OnlyChallenges (exchange blocked t (.challenge m e) script).sent := by
  unfold exchange
  cases blocked with
  | true => intro s hs; simp at hs
  | false =>
    simp only [Bool.false_eq_true, if_false]
    split <;> (intro s hs; simp at hs; exact ⟨m, e, hs⟩)

theorem onlyChallenges_nil : OnlyChallenges [] := by intro s hs; simp at hs

/-- What every authenticator run looks like: only CHALLENGEs are sent, what is left unread is a suffix
    of the script, and an error is an authentication failure. -/
def AuthRes.Regular (script : List Arrival) (r : AuthRes) : Prop :=
  OnlyChallenges r.sent ∧ r.rest <:+ script ∧ ∀ e, r.res = .error e → e.isAuth = true

theorem AuthRes.Regular.direct {script : List Arrival} {res : Except Why Dict}
    (h : ∀ e, res = .error e → e.isAuth = true) : AuthRes.Regular script { sent := [], res := res, rest := script } :=
  ⟨onlyChallenges_nil, List.suffix_refl _, h⟩

theorem AuthRes.Regular.exch {script : List Arrival} (blocked : Bool) (t : Nat) (m : String) (x : Dict)
    {f : String → Except Why Dict} (hf : ∀ sig e, f sig = .error e → e.isAuth = true) :
    AuthRes.Regular script
      { sent := (exchange blocked t (.challenge m x) script).sent,
        res := andThen (exchange blocked t (.challenge m x) script).got f,
        rest := (exchange blocked t (.challenge m x) script).rest } :=
  ⟨exchange_sent _ _ _ _ _, exchange_suffix _ _ _ _, fun _ h => andThen_err h (fun _ => exchange_err) hf⟩

theorem runAuth_regular (fx : Facts) (a : Authr) (env : Env) (details : Dict) (script : List Arrival) :
    (runAuth fx a env details script).Regular script := by
  have err : ∀ {e e' : Why}, e.isAuth = true → (Except.error e : Except Why Dict) = .error e' → e'.isAuth = true :=
    fun h he => by cases he; exact h
  cases a with
  | anonymous role => exact .direct (fun e h => nomatch h)
  | custom m f =>
    refine .direct (fun e h => ?_)
    split at h
    · cases h
    · exact err rfl h
  | ticket ks t =>
    simp only [runAuth, ticketAuth]
    split
    · exact .direct (fun _ => err rfl)
    · split
      · exact .direct (fun _ => finishWelcome_err)
      · refine .exch _ _ _ _ (fun sig e he => ?_)
        split at he
        · exact finishWelcome_err he
        · exact err rfl he
  | wampcra ks t =>
    simp only [runAuth, craAuth]
    split
    · exact .direct (fun _ => err rfl)
    · split
      · exact .direct (fun _ => finishWelcome_err)
      · split
        · exact .direct (fun _ => err rfl)
        · refine .exch _ _ _ _ (fun sig e he => ?_)
          split at he
          · exact finishWelcome_err he
          · exact err rfl he
  | cryptosign ks t =>
    simp only [runAuth, csAuth]
    split
    · exact .direct (fun _ => err rfl)
    · split
      · exact .direct (fun _ => err rfl)
      · split
        · exact .direct (fun _ => finishWelcome_err)
        · split
          · exact .direct (fun _ => err rfl)
          · split
            · exact .direct (fun _ => err rfl)
            · split
              · exact .direct (fun _ => err rfl)
              · exact .exch _ _ _ _ (fun sig e => csDecide_err)

theorem authClient_regular (fx : Facts) (rc : RealmCfg) (env : Env) (details : Dict) (script : List Arrival) :
    (authClient fx rc env details script).Regular script := by
  unfold authClient
  split
  · exact .direct (fun e h => nomatch h)
  · split
    · exact .direct (fun e h => by cases h; rfl)
    · split
      · exact .direct (fun e h => by cases h; rfl)
      · rename_i a method _
        obtain ⟨hs, hr, he⟩ := runAuth_regular fx a env details script
        simp only []  -- substitutes the `have r := runAuth …` so that `split` sees the match on `.res`
        split
        · exact ⟨hs, hr, fun e h => by cases h; exact he _ ‹_›⟩
        · exact ⟨hs, hr, fun e h => nomatch h⟩

theorem reasonOf_auth {e : Why} (h : e.isAuth = true) : reasonOf e = Gen.N.ErrAuthenticationFailed := by
  cases e <;> first | rfl | cases h

theorem reasonOf_eq_auth_iff {e : Why} : reasonOf e = Gen.N.ErrAuthenticationFailed ↔ e.isAuth = true :=
  ⟨fun h => by cases e <;> first | rfl | exact absurd h (by simp only [reasonOf]; decide), reasonOf_auth⟩

theorem isDrop_of_isAuth {e : Why} (h : e.isAuth = true) : e.isDrop = false := by
  cases e <;> simp_all [Why.isAuth, Why.isDrop]

theorem lookupRealm_error {rt : RouterCfg} {realm : String} {e : Why} (h : lookupRealm rt realm = .error e) :
    reasonOfLookup e = reasonOf e ∧ e.isDrop = false := by
  unfold lookupRealm at h
  repeat' split at h
  -- each leaf returns a fixed `.error` (both facts by `rfl`) or an `.ok` (excluded by `h`)
  all_goals first | cases h; exact ⟨rfl, rfl⟩ | cases h

/-- What `attach` returns, outcome by outcome: WELCOME exactly under `Welcomed`, with the session joined; ABORT with
    the reason of the failing branch and nobody joined; no message at all when no HELLO arrived in time.  Before
    the last message only CHALLENGEs were sent, and what is left unread is a suffix of the script. -/
def Shape (fx : Facts) (rt : RouterCfg) (env : Env) (arr : List Arrival) (r : Result) : Prop :=
  r.rest <:+ arr ∧
  match r.outcome with
  | .welcome sid sess w =>
    -- WELCOME is the last message; it is missing only when it was dropped at a full queue
    Welcomed fx rt env arr sid sess w ∧ r.joined = true ∧
      ∃ pre, OnlyChallenges pre ∧ (r.sent = pre ++ [.welcome sid w] ∨ r.sent = pre)
  | .abort reason why =>
    r.joined = false ∧ reason = reasonOf why ∧ why.isDrop = false ∧
      ∃ pre, r.sent = pre ++ [.abort reason] ∧ OnlyChallenges pre
  | .dropped why =>
    r.joined = false ∧ r.sent = [] ∧ r.created = none ∧ (why = .helloTimeout ∨ why = .helloClosed) ∧
      ¬ ∃ d m rest, arr = ⟨d, .msg m⟩ :: rest ∧ d < Gen.Auth.helloTimeoutMs

theorem abortWith_shape {fx : Facts} {rt : RouterCfg} {env : Env} {arr : List Arrival} {reason : String}
    {why : Why} {sent : List Sent} {created : Option RealmCfg} {rest : List Arrival}
    (hrest : rest <:+ arr) (hs : OnlyChallenges sent) (hr : reason = reasonOf why)
    (hd : why.isDrop = false := by rfl) :
    Shape fx rt env arr (abortWith reason why sent created rest) :=
  ⟨hrest, rfl, hr, hd, sent, rfl, hs⟩

theorem attach_shape (fx : Facts) (rt : RouterCfg) (env : Env) (arr : List Arrival) :
    Shape fx rt env arr (attach fx rt env arr) := by
  have hsuf := recvTimeout_suffix Gen.Auth.helloTimeoutMs arr
  have silent : ∀ {x rest}, recvTimeout Gen.Auth.helloTimeoutMs arr = (x, rest) → (∀ m, x ≠ .msg m) →
      ¬ ∃ d m rest, arr = ⟨d, .msg m⟩ :: rest ∧ d < Gen.Auth.helloTimeoutMs := by
    rintro x rest hr hx ⟨d, m, rest', h⟩
    cases hr.symm.trans (recvTimeout_msg_iff.mpr ⟨d, h⟩)
    exact hx m rfl
  unfold attach
  split <;> rename_i hrecv <;> rw [hrecv] at hsuf
  · exact ⟨hsuf, rfl, rfl, rfl, Or.inl rfl, silent hrecv nofun⟩
  · exact ⟨hsuf, rfl, rfl, rfl, Or.inr rfl, silent hrecv nofun⟩
  · exact abortWith_shape hsuf onlyChallenges_nil rfl
  · exact abortWith_shape hsuf onlyChallenges_nil rfl
  · rename_i realm details rest
    obtain ⟨d, harr, hd⟩ := recvTimeout_msg_iff.mp hrecv
    by_cases hre : realm = ""
    · simp only [hre, beq_self_eq_true, if_true]
      exact abortWith_shape hsuf onlyChallenges_nil rfl
    · simp only [beq_iff_eq, hre, if_false]
      cases hl : lookupRealm rt realm with
      | error e => exact abortWith_shape hsuf onlyChallenges_nil (lookupRealm_error hl).1 (lookupRealm_error hl).2
      | ok p =>
        obtain ⟨hs, hr, he⟩ := authClient_regular fx p.1 env (helloDetails env details) rest
        have hr' := hr.trans hsuf
        unfold attachRealm
        cases hrole : hasClientRole details with
        | false => exact abortWith_shape hsuf onlyChallenges_nil rfl
        | true =>
          simp only [Bool.not_true, Bool.false_eq_true, if_false]
          cases ha : (authClient fx p.1 env (helloDetails env details) rest).res with
          | error e => exact abortWith_shape hr' hs (reasonOf_auth (he e ha)).symm (isDrop_of_isAuth (he e ha))
          | ok w =>
            cases hc : p.1.closing with
            | true => exact abortWith_shape hr' hs rfl
            | false =>
              refine ⟨hr', ⟨d, realm, details, rest, p.1, p.2, harr, hd, hre, lookupRealm_ok_iff.mp hl, hrole, ha,
                hc, rfl, rfl⟩, rfl, _, hs, ?_⟩
              show (if _ then _ else _) = _ ∨ (if _ then _ else _) = _
              split
              · exact Or.inr rfl
              · exact Or.inl rfl

theorem attach_welcome {fx : Facts} {rt : RouterCfg} {env : Env} {arr : List Arrival}
    {sid : Nat} {sess w : Dict}
    (h : (attach fx rt env arr).outcome = .welcome sid sess w) : Welcomed fx rt env arr sid sess w := by
  have hs := (attach_shape fx rt env arr).2
  rw [h] at hs
  exact hs.1

/-- the router reads the client's actions in order and never skips one -/
theorem attach_suffix (fx : Facts) (rt : RouterCfg) (env : Env) (arr : List Arrival) :
    (attach fx rt env arr).rest <:+ arr :=
  (attach_shape fx rt env arr).1

/-- `attach_welcome` read at a script whose HELLO is given and a realm entry known to be the one
    looked up (the existential witnesses are these), with the rest of the result: the transcript is
    what `authClient` sent, then WELCOME. -/
theorem attach_welcome_hello {fx : Facts} {rt : RouterCfg} {env : Env} {d : Nat} {realm : String}
    {details : Dict} {rest : List Arrival} {rc : RealmCfg} {created : Option RealmCfg}
    {sid : Nat} {sess w : Dict}
    (h : (attach fx rt env (⟨d, .msg (.hello realm details)⟩ :: rest)).outcome = .welcome sid sess w)
    (hav : RealmAvailable rt realm rc created) :
    d < Gen.Auth.helloTimeoutMs ∧ realm ≠ "" ∧ hasClientRole details = true ∧
    (authClient fx rc env (helloDetails env details) rest).res = .ok w ∧ rc.closing = false ∧
    sid = env.o.sid ∧ sess = sessDetails fx (helloDetails env details) w sid ∧
    (attach fx rt env (⟨d, .msg (.hello realm details)⟩ :: rest)).sent =
      (authClient fx rc env (helloDetails env details) rest).sent ++
        (if fx.welcomeNonBlocking && env.challengeBlocked then [] else [.welcome sid w]) ∧
    (attach fx rt env (⟨d, .msg (.hello realm details)⟩ :: rest)).created = created ∧
    (attach fx rt env (⟨d, .msg (.hello realm details)⟩ :: rest)).rest =
      (authClient fx rc env (helloDetails env details) rest).rest := by
  obtain ⟨d', realm', details', rest', rc', created', harr, hd, hre, hav', hrole, hauth, hcl, hsid, hsess⟩ :=
    attach_welcome h
  cases harr
  cases (lookupRealm_ok_iff.mpr hav).symm.trans (lookupRealm_ok_iff.mpr hav')
  refine ⟨hd, hre, hrole, hauth, hcl, hsid, hsess, ?_⟩
  have hre' : (realm == "") = false := by simpa using hre
  simp only [attach, recvTimeout, hd, if_true, hre', Bool.false_eq_true, if_false, lookupRealm_ok_iff.mpr hav,
    attachRealm, hrole, Bool.not_true, hauth, hcl, hsid]
  refine ⟨?_, trivial, trivial⟩
  split <;> simp

end Nexus.Auth
