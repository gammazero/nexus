/-
  The wampcra challenge string determines the session id (the code's part of C09
  `wampcra_replay_rejected'`).

  `CRAuthenticator.makeChallengeStr` (router/auth/crauth.go) renders
      { "nonce":"%s", "authprovider":"%s", "authid":"%s", "timestamp":"%s", "authrole":"%s",
        "authmethod":"%s", "session":%d }
  The format string is regenerated from the source (`Gen.Auth.craChallengeFormat`); the lemmas
  below are about that string, so that a change of the format breaks the build here.

  The argument: the rendered string ends in `:<decimal digits of the session id> }`.  The decimal
  digits contain no `:`, so the maximal `:`-free suffix of the string is `<digits> }`, whatever the
  five `%s` arguments are (they may contain `:`, `"`, `}`, digits — they all come before that last
  `:`).  Equal strings therefore have equal digit runs, and `Nat.toDigits 10` is injective.
-/
import Nexus.Auth.Model

namespace Nexus.Auth.WpD
open Nexus Nexus.Auth

theorem sprintfAux_lit (lit rest : List Char) (args : List String) (h : '%' ∉ lit) :
    sprintfAux (lit ++ rest) args = lit ++ sprintfAux rest args := by
  induction lit with
  | nil => rfl
  | cons c cs ih =>
    have hc : c ≠ '%' := fun e => h (by simp [e])
    have hcs : '%' ∉ cs := fun e => h (by simp [e])
    simp only [List.cons_append]
    rw [sprintfAux]
    · rw [ih hcs]
    · intro _ _ _ _ e _; exact hc e
    · intro _ _ _ _ e _; exact hc e

theorem sprintfAux_verb (lit : String) (v : Char) (rest : List Char) (a : String) (as : List String)
    (h : '%' ∉ lit.toList) (hv : v = 's' ∨ v = 'd') :
    sprintfAux (lit.toList ++ '%' :: v :: rest) (a :: as) = lit.toList ++ (a.toList ++ sprintfAux rest as) := by
  rw [sprintfAux_lit _ _ _ h]
  rcases hv with rfl | rfl <;> rw [sprintfAux]

/-- The kernel evaluates `String.toList` on a literal in quadratic time; `String.toList_ofList` on the
    literal read as `String.ofList [..]` is linear. -/
theorem craFormat_split :
    Gen.Auth.craChallengeFormat.toList =
      "{ \"nonce\":\"".toList ++ '%' :: 's' :: ("\", \"authprovider\":\"".toList ++ '%' :: 's' ::
      ("\", \"authid\":\"".toList ++ '%' :: 's' :: ("\", \"timestamp\":\"".toList ++ '%' :: 's' ::
      ("\", \"authrole\":\"".toList ++ '%' :: 's' :: ("\", \"authmethod\":\"".toList ++ '%' :: 's' ::
      ("\", \"session\"".toList ++ ':' :: '%' :: 'd' :: " }".toList)))))) := by
  unfold Gen.Auth.craChallengeFormat
  repeat rw [String.toList_ofList]
  rfl

/-- everything `makeChallengeStr` writes before the `:` that precedes the session id -/
def craPrefix (nonce provider authid ts authrole : String) : List Char :=
  "{ \"nonce\":\"".toList ++ (nonce.toList ++ ("\", \"authprovider\":\"".toList ++ (provider.toList ++
  ("\", \"authid\":\"".toList ++ (authid.toList ++ ("\", \"timestamp\":\"".toList ++ (ts.toList ++
  ("\", \"authrole\":\"".toList ++ (authrole.toList ++ ("\", \"authmethod\":\"".toList ++ ("wampcra".toList ++
  "\", \"session\"".toList)))))))))))

theorem craChallengeStr_toList (nonce provider authid ts authrole : String) (sid : Nat) :
    (craChallengeStr nonce provider authid ts authrole sid).toList =
      craPrefix nonce provider authid ts authrole ++ ':' :: (Nat.toDigits 10 sid ++ [' ', '}']) := by
  have lit (s : String) (l : List Char) (e : s.toList = l := by exact String.toList_ofList)
    (h : '%' ∉ l := by decide) : '%' ∉ s.toList := e ▸ h
  have tail : sprintfAux (':' :: '%' :: 'd' :: " }".toList) [toString sid] =
      ':' :: (Nat.toDigits 10 sid ++ [' ', '}']) := by
    rw [show " }".toList = [' ', '}'] from String.toList_ofList, Nat.toString_eq_repr, ← Nat.toList_repr]
    rfl
  unfold craChallengeStr sprintf craPrefix
  rw [String.toList_ofList, craFormat_split]
  iterate 6 rw [sprintfAux_verb _ _ _ _ _ (lit _ _) (.inl rfl)]
  rw [sprintfAux_lit _ _ _ (lit _ _), tail]
  simp only [List.append_assoc]

theorem takeWhile_sep {d : List Char} (x : List Char) (h : ∀ c ∈ d, c ≠ ':') :
    (d ++ ':' :: x).takeWhile (· != ':') = d := by
  induction d with
  | nil => simp
  | cons a as ih => simp_all

theorem toDigits_ten_inj {a b : Nat} (h : Nat.toDigits 10 a = Nat.toDigits 10 b) : a = b := by
  have ha := @Nat.ofDigitChars_ten_toDigits a
  rw [h, Nat.ofDigitChars_ten_toDigits] at ha
  exact ha.symm

theorem suffix_sid_inj {pre₁ pre₂ : List Char} {s₁ s₂ : Nat}
    (h : pre₁ ++ ':' :: (Nat.toDigits 10 s₁ ++ [' ', '}']) = pre₂ ++ ':' :: (Nat.toDigits 10 s₂ ++ [' ', '}'])) :
    s₁ = s₂ := by
  have e : ∀ (pre D : List Char), (pre ++ ':' :: (D ++ [' ', '}'])).reverse =
      ('}' :: ' ' :: D.reverse) ++ ':' :: pre.reverse := by
    intro pre D; simp
  have hr := congrArg List.reverse h
  rw [e, e] at hr
  have hfree : ∀ s : Nat, ∀ c ∈ '}' :: ' ' :: (Nat.toDigits 10 s).reverse, c ≠ ':' := by
    intro s c hc
    simp only [List.mem_cons, List.mem_reverse] at hc
    rcases hc with hc | hc | hc
    · subst hc; decide
    · subst hc; decide
    · exact fun e => absurd (e ▸ Nat.isDigit_of_mem_toDigits (by decide) (by decide) hc) (by decide)
  -- equal wholes have equal `:`-free prefixes
  have hd : '}' :: ' ' :: (Nat.toDigits 10 s₁).reverse = '}' :: ' ' :: (Nat.toDigits 10 s₂).reverse := by
    rw [← takeWhile_sep _ (hfree s₁), hr, takeWhile_sep _ (hfree s₂)]
  simp only [List.cons.injEq, true_and, List.reverse_inj] at hd
  exact toDigits_ten_inj hd

theorem craChallengeStr_sid_inj {n p a t r n' p' a' t' r' : String} {s₁ s₂ : Nat}
    (h : craChallengeStr n p a t r s₁ = craChallengeStr n' p' a' t' r' s₂) : s₁ = s₂ := by
  have hl := congrArg String.toList h
  rw [craChallengeStr_toList, craChallengeStr_toList] at hl
  exact suffix_sid_inj hl

end Nexus.Auth.WpD
