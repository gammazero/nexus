/-
  The pieces `attach` is built from: the merge loops that make the recorded session details,
  `recvTimeout`, `getAuthenticator` (first offered method that has an authenticator), and the normal
  form of `cleanSessionDetails`.
-/
import Nexus.Auth.Model
import Nexus.Base.Lemmas

namespace Nexus.Auth
open Nexus

theorem mergeInto_cons (skip : List String) (dst rest : Dict) (k1 : String) (v1 : WVal) :
    mergeInto skip dst ((k1, v1) :: rest) =
      (if k1 ∈ skip then mergeInto skip dst rest else (mergeInto skip dst rest).set k1 v1) := by
  by_cases h : k1 ∈ skip <;> simp [mergeInto, List.foldr, h]

theorem get?_mergeInto (skip : List String) (dst src : Dict) (k : String) :
    (mergeInto skip dst src).get? k =
      if k ∈ skip then dst.get? k
      else match src.get? k with
        | some v => some v
        | none => dst.get? k := by
  induction src with
  | nil => simp [mergeInto, Dict.get?]
  | cons p rest ih =>
    obtain ⟨k1, v1⟩ := p
    rw [mergeInto_cons, Dict.get?_cons]
    by_cases hs : k1 ∈ skip
    · rw [if_pos hs, ih]
      by_cases hk : k1 = k
      · subst hk; simp [hs]
      · simp [hk]
    · rw [if_neg hs, Dict.get?_set]
      by_cases hk : k1 = k
      · subst hk; simp [hs]
      · simp [hk, ih]

theorem get?_sessDetails (fx : Facts) (hello welcome : Dict) (sid : Nat) (k : String) :
    (sessDetails fx hello welcome sid).get? k =
      if k = fx.sessionKey then some (.int sid)
      else if k ∈ fx.welcomeSkip then
        (if k ∈ fx.helloSkip then none else hello.get? k)
      else match welcome.get? k with
        | some v => some v
        | none => if k ∈ fx.helloSkip then none else hello.get? k := by
  unfold sessDetails
  rw [Dict.get?_set]
  by_cases h : k = fx.sessionKey
  · simp [h]
  · simp only [h, Ne.symm h, if_false]
    rw [get?_mergeInto, get?_mergeInto]
    have hnil : Dict.get? [] k = none := rfl
    by_cases hw : k ∈ fx.welcomeSkip
    · simp only [hw, if_true]
      by_cases hh : k ∈ fx.helloSkip
      · simp [hh, hnil]
      · simp only [hh, if_false, hnil]
        cases hello.get? k <;> rfl
    · simp only [hw, if_false]
      cases welcome.get? k with
      | some v => rfl
      | none =>
        by_cases hh : k ∈ fx.helloSkip
        · simp [hh, hnil]
        · simp only [hh, if_false, hnil]
          cases hello.get? k <;> rfl

/-- `recvTimeout` hands out a message exactly when the script starts with it, in time -/
theorem recvTimeout_msg_iff {t : Nat} {arr : List Arrival} {m : ClientMsg} {rest : List Arrival} :
    recvTimeout t arr = (.msg m, rest) ↔ ∃ d, arr = ⟨d, .msg m⟩ :: rest ∧ d < t := by
  refine ⟨fun h => ?_, fun ⟨d, e, hd⟩ => by simp [e, recvTimeout, hd]⟩
  cases arr with
  | nil => simp [recvTimeout] at h
  | cons a as =>
    obtain ⟨d, ev⟩ := a
    unfold recvTimeout at h
    by_cases hd : d < t
    · simp only [hd, if_true] at h
      cases ev with
      | msg m' =>
        simp at h
        obtain ⟨h1, h2⟩ := h
        subst h1; subst h2
        exact ⟨d, rfl, hd⟩
      | close => simp at h
    · simp [hd] at h

theorem recvTimeout_suffix (t : Nat) (arr : List Arrival) : (recvTimeout t arr).2 <:+ arr := by
  cases arr with
  | nil => exact List.suffix_refl _
  | cons a as =>
    obtain ⟨d, ev⟩ := a
    by_cases hd : d < t
    · cases ev with
      | msg m => simp only [recvTimeout, hd, if_true]; exact List.suffix_cons _ _
      | close => simp only [recvTimeout, hd, if_true]; exact List.suffix_cons _ _
    · simp only [recvTimeout, hd, if_false]; exact List.suffix_refl _

/-- `method` is the first of the offered `methods` for which the realm has an authenticator, and `a` is it
    (`getAuthenticator` over the `authmethods` of HELLO, realm.go:722). -/
def FirstConfigured (auths : List (String × Authr)) (methods : List String) (method : String) (a : Authr) : Prop :=
  ∃ pre post, methods = pre ++ method :: post ∧
    (∀ m ∈ pre, lookupAuth auths m = none) ∧ lookupAuth auths method = some a

theorem getAuthenticator_first {auths : List (String × Authr)} {ms : List String} {a : Authr} {m : String}
    (h : getAuthenticator true auths ms = some (a, m)) : FirstConfigured auths ms m a := by
  induction ms with
  | nil => simp [getAuthenticator] at h
  | cons x xs ih =>
    unfold getAuthenticator at h
    simp only [if_true] at h
    cases hx : lookupAuth auths x with
    | some a' =>
      rw [hx] at h
      simp at h
      obtain ⟨h1, h2⟩ := h
      subst h1; subst h2
      exact ⟨[], xs, rfl, by simp, hx⟩
    | none =>
      rw [hx] at h
      obtain ⟨pre, post, he, hp, hl⟩ := ih h
      refine ⟨x :: pre, post, by simp [he], ?_, hl⟩
      intro y hy
      cases hy with
      | head => exact hx
      | tail _ hy' => exact hp y hy'

theorem getAuthenticator_of_first {auths : List (String × Authr)} {ms : List String} {a : Authr} {m : String}
    (h : FirstConfigured auths ms m a) : getAuthenticator true auths ms = some (a, m) := by
  obtain ⟨pre, post, he, hp, hl⟩ := h
  subst he
  induction pre with
  | nil => simp [getAuthenticator, hl]
  | cons x xs ih =>
    have hx : lookupAuth auths x = none := hp x (by simp)
    have : getAuthenticator true auths (x :: xs ++ m :: post) = getAuthenticator true auths (xs ++ m :: post) := by
      simp [getAuthenticator, hx]
    rw [this]
    exact ih (fun y hy => hp y (by simp [hy]))

theorem getAuthenticator_none {auths : List (String × Authr)} {ms : List String}
    (h : getAuthenticator true auths ms = none) : ∀ m ∈ ms, lookupAuth auths m = none := by
  induction ms with
  | nil => simp
  | cons x xs ih =>
    unfold getAuthenticator at h
    simp only [if_true] at h
    cases hx : lookupAuth auths x with
    | some a' => rw [hx] at h; simp at h
    | none =>
      rw [hx] at h
      intro m hm
      cases hm with
      | head => exact hx
      | tail _ hm' => exact ih h m hm'

theorem get?_pick (d : Dict) (l : List String) (acc : Dict) (k : String) :
    Dict.get? (l.foldl (fun (acc : Dict) k => match d.get? k with | some v => acc.set k v | none => acc) acc) k =
      if k ∈ l then (match d.get? k with | some v => some v | none => acc.get? k) else acc.get? k := by
  induction l generalizing acc with
  | nil => simp
  | cons x xs ih =>
    rw [List.foldl_cons, ih]
    by_cases hx : k = x
    · subst hx; cases hd : d.get? k <;> simp [Dict.get?_set]
    · cases hd : d.get? x <;> simp [hx, Ne.symm hx, Dict.get?_set]

/-- What `cleanSessionDetails` starts from: the details, or under MetaStrict the picked keys. -/
def picked (ms : Bool) (inc : List String) (d : Dict) : Dict :=
  if ms then
    (Gen.Auth.metaStdItems ++ inc).foldl
      (fun acc k => match d.get? k with | some v => acc.set k v | none => acc) []
  else d

theorem get?_picked (ms : Bool) (inc : List String) (d : Dict) {k : String}
    (hk : k ∈ Gen.Auth.metaStdItems ++ inc) : (picked ms inc d).get? k = d.get? k := by
  cases ms with
  | false => rfl
  | true =>
    have h := get?_pick d (Gen.Auth.metaStdItems ++ inc) [] k
    rw [if_pos hk] at h
    exact h.trans (by cases d.get? k <;> rfl)

theorem cleanSessionDetails_eq (ms : Bool) (inc : List String) (d : Dict) :
    cleanSessionDetails ms inc d =
      match d.get? "transport" with
      | some (.dict t) =>
        match Dict.get? t "auth" with
        | some (.dict _) =>
          (picked ms inc d).set "transport"
            (if (t.filter (fun kv => kv.1 != "auth")).isEmpty then .null
             else .dict (t.filter (fun kv => kv.1 != "auth")))
        | _ => picked ms inc d
      | _ => picked ms inc d := by
  unfold cleanSessionDetails dictChild picked
  cases ht : d.get? "transport" with
  | none => rfl
  | some v =>
    cases v with
    | dict t =>
      cases ha : Dict.get? t "auth" with
      | none => simp only [ha]; rfl
      | some a => cases a <;> simp only [ha] <;> rfl
    | _ => rfl

theorem get?_cleanSessionDetails (ms : Bool) (inc : List String) (d : Dict) {k : String}
    (hk : k ≠ "transport") : (cleanSessionDetails ms inc d).get? k = (picked ms inc d).get? k := by
  rw [cleanSessionDetails_eq]
  split
  · split
    · exact Dict.get?_set_ne _ _ (Ne.symm hk)
    · rfl
  · rfl

end Nexus.Auth
