/-
  What acceptance by each built-in authenticator means.

  A further built-in authenticator `x` touches, in this order: a constructor of `Authr` with its lines in
  `Authr.method` and `runAuth` (Model); here a predicate `XAccepts` and a theorem `xAuth_ok` that reads it off
  an accepted run; its case in `runAuth_regular` (Shape), whose `split`s follow the `if`s of the authenticator
  one by one; in C09 its lines in `builtinIdentity` with `runAuth_builtin`, and in the `match a with` of
  `bound_to_this_challenge`; outside Lean `toAuthr` in Driver/Auth.lean, the list of hashed `Authenticate`
  functions in gen/auth.go and harness/handshake.  `Authr.custom` cannot stand in for it: it sends nothing
  (`sent := []`).  An authenticator that challenges is written with `exchange` and `andThen` as the three
  here are, and then `exchange_ok`, `andThen_ok` read an accepted run and `AuthRes.Regular.exch`, `.direct`
  give its case of `runAuth_regular`.  A new constructor of `Why` falls under the wildcards of `Why.isAuth`
  (not an authentication failure) and of `reasonOf` (`authentication_failed`); the two disagree there, and
  it shows in `reasonOf_eq_auth_iff` only — and in `runAuth_regular` when an authenticator returns it.
-/
import Nexus.Auth.Lemmas

namespace Nexus.Auth
open Nexus

/-- The script starts with an AUTHENTICATE that arrives before the timeout `t` (ms). -/
def AnswersInTime (t : Nat) (script : List Arrival) (sig : String) (rest : List Arrival) : Prop :=
  ∃ d extra, script = ⟨d, .msg (.authenticate sig extra)⟩ :: rest ∧ d < t

theorem AnswersInTime.unique {t t' : Nat} {script : List Arrival} {sig sig' : String} {rest rest' : List Arrival}
    (h : AnswersInTime t script sig rest) (h' : AnswersInTime t' script sig' rest') : sig = sig' ∧ rest = rest' := by
  obtain ⟨d, e, hs, _⟩ := h
  obtain ⟨d', e', hs', _⟩ := h'
  cases hs.symm.trans hs'
  exact ⟨rfl, rfl⟩

theorem exchange_ok {blocked : Bool} {t : Nat} {ch : Sent} {script : List Arrival} {sig : String}
    (h : (exchange blocked t ch script).got = .ok sig) :
    blocked = false ∧ (exchange blocked t ch script).sent = [ch] ∧
      AnswersInTime t script sig (exchange blocked t ch script).rest := by
  unfold exchange at h ⊢
  cases blocked with
  | true => simp at h
  | false =>
    simp only [Bool.false_eq_true, if_false] at h ⊢
    split at h
    · simp at h
    · simp at h
    · rename_i sig' extra rest hrecv
      simp at h
      subst h
      refine ⟨by simp, ?_, ?_⟩
      · simp
      · obtain ⟨d, he, hd⟩ := recvTimeout_msg_iff.mp hrecv
        exact ⟨d, extra, he, hd⟩
    · simp at h

theorem exchange_suffix (blocked : Bool) (t : Nat) (ch : Sent) (script : List Arrival) :
    (exchange blocked t ch script).rest <:+ script := by
  unfold exchange
  split
  · exact List.suffix_refl _
  · have h := recvTimeout_suffix t script
    split <;> (rename_i heq; rw [heq] at h; exact h)

theorem exchange_of_answer {t : Nat} {ch : Sent} {script rest : List Arrival} {sig : String}
    (h : AnswersInTime t script sig rest) :
    exchange false t ch script = { sent := [ch], got := .ok sig, rest := rest } := by
  obtain ⟨d, extra, he, hd⟩ := h
  subst he
  simp [exchange, recvTimeout, hd]

theorem andThen_ok {got : Except Why String} {f : String → Except Why Dict} {w : Dict}
    (h : andThen got f = .ok w) : ∃ sig, got = .ok sig ∧ f sig = .ok w := by
  cases got with
  | ok sig => exact ⟨sig, rfl, h⟩
  | error e => simp [andThen] at h

theorem ticketMatches_iff {ticket : Option Bytes} {sig : String} :
    ticketMatches ticket sig = true ↔ ∃ t, ticket = some t ∧ sig.toUTF8.toList = t := by
  cases ticket with
  | none => simp [ticketMatches]
  | some t => simp [ticketMatches]

theorem storedTicket_some {ks : KeyStore} {authid : String} {t : Bytes}
    (h : storedTicket ks authid = some t) : ks.authKey authid "ticket" = .ok (some t) := by
  unfold storedTicket at h
  cases hk : ks.authKey authid "ticket" with
  | ok k => rw [hk] at h; simp at h; simp [h]
  | error e => rw [hk] at h; simp at h

/-- The challenge path: when the key store did not vouch for the client, the bypass case of what
    acceptance means (`ticketAuth_ok`, `craAuth_ok`, `csAuth_ok`) is void.  The statement itself
    is propositional logic; `b` is the bypass flag at its uses. -/
theorem challengePath {b : Bool} {p q : Prop} (hb : b = false) (h : b = true ∧ p ∨ b = false ∧ q) : q :=
  h.elim (fun hp => absurd (hb.symm.trans hp.1) Bool.false_ne_true) And.right

/-- ticket (challenge path): the response is the stored ticket. -/
def TicketAccepts (ks : KeyStore) (t : Nat) (env : Env) (details : Dict) (script rest : List Arrival) : Prop :=
  env.challengeBlocked = false ∧
  ∃ sig key, AnswersInTime (crTimeout t) script sig rest ∧
    ks.authKey (details.optString "authid") "ticket" = .ok (some key) ∧ sig.toUTF8.toList = key

theorem ticketAuth_ok {ks : KeyStore} {t : Nat} {env : Env} {details : Dict} {script : List Arrival} {w : Dict}
    (h : (ticketAuth ks t env details script).res = .ok w) :
    details.optString "authid" ≠ "" ∧
    finishWelcome ks.bypass (details.optString "authid")
      (stdWelcome (details.optString "authid") (roleOr ks (details.optString "authid") "") "ticket" ks.provider)
      details = .ok w ∧
    ((alreadyAuth ks.bypass (details.optString "authid") details = true ∧
        (ticketAuth ks t env details script).sent = []) ∨
     (alreadyAuth ks.bypass (details.optString "authid") details = false ∧
        (ticketAuth ks t env details script).sent = [.challenge "ticket" []] ∧
        TicketAccepts ks t env details script (ticketAuth ks t env details script).rest)) := by
  by_cases ha : details.optString "authid" = ""
  · simp [ticketAuth, ha] at h
  · refine ⟨ha, ?_⟩
    by_cases hal : alreadyAuth ks.bypass (details.optString "authid") details = true
    · simp only [ticketAuth, beq_iff_eq, ha, hal, if_true, if_false] at h ⊢
      exact ⟨h, Or.inl ⟨trivial, trivial⟩⟩
    · simp only [ticketAuth, beq_iff_eq, ha, hal, if_false] at h ⊢
      obtain ⟨sig, hgot, hdec⟩ := andThen_ok h
      obtain ⟨hb, hsent, hans⟩ := exchange_ok hgot
      by_cases hm : ticketMatches (storedTicket ks (details.optString "authid")) sig = true
      · simp only [hm, if_true] at hdec
        obtain ⟨tk, htk, hs⟩ := ticketMatches_iff.mp hm
        refine ⟨hdec, Or.inr ⟨trivial, hsent, hb, sig, tk, hans, storedTicket_some htk, hs⟩⟩
      · simp [hm] at hdec

/-- wampcra (challenge path): the decoded response is the HMAC, under the key the router holds for
    this authid, of the challenge string issued in this handshake. -/
def CraAccepts (rk : Bool) (ks : KeyStore) (t : Nat) (env : Env) (details : Dict) (script rest : List Arrival)
    (chStr : String) : Prop :=
  env.challengeBlocked = false ∧
  ∃ nonce sig sb, env.o.chalNonce = some nonce ∧
    chStr = craChallengeOf ks env (details.optString "authid") nonce ∧
    AnswersInTime (crTimeout t) script sig rest ∧
    env.o.b64decode sig = some sb ∧
    sb = env.o.hmac (craKey rk ks env.o (details.optString "authid")) chStr

theorem craVerify_iff {o : Oracle} {sig chal : String} {key : Bytes} :
    craVerify o sig chal key = true ↔ ∃ sb, o.b64decode sig = some sb ∧ sb = o.hmac key chal := by
  unfold craVerify
  cases o.b64decode sig with
  | none => simp
  | some sb => simp

theorem craAuth_ok {rk : Bool} {ks : KeyStore} {t : Nat} {env : Env} {details : Dict} {script : List Arrival} {w : Dict}
    (h : (craAuth rk ks t env details script).res = .ok w) :
    details.optString "authid" ≠ "" ∧
    finishWelcome ks.bypass (details.optString "authid")
      (stdWelcome (details.optString "authid") (roleOr ks (details.optString "authid") "user") "wampcra" ks.provider)
      details = .ok w ∧
    ((alreadyAuth ks.bypass (details.optString "authid") details = true ∧
        (craAuth rk ks t env details script).sent = []) ∨
     (alreadyAuth ks.bypass (details.optString "authid") details = false ∧
        ∃ chStr, (craAuth rk ks t env details script).sent =
            [.challenge "wampcra" (craExtra ks (details.optString "authid") chStr)] ∧
          CraAccepts rk ks t env details script (craAuth rk ks t env details script).rest chStr)) := by
  by_cases ha : details.optString "authid" = ""
  · simp [craAuth, ha] at h
  · refine ⟨ha, ?_⟩
    by_cases hal : alreadyAuth ks.bypass (details.optString "authid") details = true
    · simp only [craAuth, beq_iff_eq, ha, hal, if_true, if_false] at h ⊢
      exact ⟨h, Or.inl ⟨trivial, trivial⟩⟩
    · simp only [craAuth, beq_iff_eq, ha, hal, if_false] at h ⊢
      cases hn : env.o.chalNonce with
      | none => simp [hn] at h
      | some nonce =>
        simp only [hn] at h ⊢
        obtain ⟨sig, hgot, hdec⟩ := andThen_ok h
        obtain ⟨hb, hsent, hans⟩ := exchange_ok hgot
        by_cases hv : craVerify env.o sig (craChallengeOf ks env (details.optString "authid") nonce)
            (craKey rk ks env.o (details.optString "authid")) = true
        · simp only [hv, if_true] at hdec
          obtain ⟨sb, hsb, heq⟩ := craVerify_iff.mp hv
          exact ⟨hdec, Or.inr ⟨trivial, _, hsent, hb, nonce, sig, sb, hn, rfl, hans, hsb, heq⟩⟩
        · simp [hv] at hdec

/-- On the challenge path an accepted wampcra run says of any in-time answer of the script that it decodes to the
    HMAC, under the key the router holds, of the challenge string of this handshake.  The refusals of C09 are read
    off it. -/
theorem craAuth_ok_sig {rk : Bool} {ks : KeyStore} {t : Nat} {env : Env} {details : Dict}
    {script : List Arrival} {w : Dict} {sig : String} {rest : List Arrival}
    (h : (craAuth rk ks t env details script).res = .ok w)
    (hb : alreadyAuth ks.bypass (details.optString "authid") details = false)
    (hans : AnswersInTime (crTimeout t) script sig rest) :
    ∃ nonce, env.o.chalNonce = some nonce ∧
      env.o.b64decode sig = some (env.o.hmac (craKey rk ks env.o (details.optString "authid"))
        (craChallengeOf ks env (details.optString "authid") nonce)) := by
  obtain ⟨chStr, _, _, nonce, sig', sb, hn, hch, hans', hdec, heq⟩ := challengePath hb (craAuth_ok h).2.2
  cases (hans.unique hans').1
  exact ⟨nonce, hn, by rw [hdec, heq, hch]⟩

theorem craExtra_challenge (ks : KeyStore) (authid chStr : String) :
    (craExtra ks authid chStr).get? "challenge" = some (.str chStr) := by
  unfold craExtra; split <;> rfl

/-- with the guard (`err != nil || len(key) == 0`, crauth.go), a key store answer without a key (nil or empty
    slice, no error) makes wampcra use the throw-away key -/
theorem craKey_of_no_key {ks : KeyStore} {o : Oracle} {authid : String} {k : Option Bytes}
    (hk : ks.authKey authid "wampcra" = .ok k) (he : (k.getD []).isEmpty = true) :
    craKey true ks o authid = craThrowAway o := by
  simp [craKey, hk, he]

/-- cryptosign as the code decides it: the hex-decoded response has the right length and opens
    under the stored public key; when `checks`, the opened message is the issued challenge. -/
def CsVerified (checks : Bool) (o : Oracle) (sig : String) (pubkey challenge : Bytes) : Prop :=
  ∃ sb opened, o.hexdecode sig = some sb ∧ sb.length = Gen.Auth.cryptosignSignedLen ∧
    o.signOpen sb (pad32 pubkey) = some opened ∧ (checks = true → opened = challenge)

theorem csVerify_true_iff {checks : Bool} {o : Oracle} {sig : String} {pubkey challenge : Bytes} :
    csVerify checks o sig pubkey challenge = .ok true ↔ CsVerified checks o sig pubkey challenge := by
  unfold csVerify CsVerified
  cases o.hexdecode sig with
  | none => simp
  | some sb =>
    by_cases hl : sb.length = Gen.Auth.cryptosignSignedLen
    · cases hso : o.signOpen sb (pad32 pubkey) with
      | none => simp [hl, hso]
      | some opened =>
        cases checks with
        | true => simp [hl, hso]
        | false => simp [hl, hso]
    · simp [hl]

theorem csDecide_ok {checks : Bool} {o : Oracle} {pubkey challenge : Bytes} {w w' : Dict} {sig : String}
    (h : csDecide checks o pubkey challenge w sig = .ok w') :
    w' = w ∧ CsVerified checks o sig pubkey challenge := by
  unfold csDecide at h
  split at h
  · simp at h
  · simp at h
  · rename_i hv
    simp at h
    exact ⟨h.symm, csVerify_true_iff.mp hv⟩

/-- cryptosign (challenge path): the CHALLENGE was issued, and the response, arriving in time, verifies
    (`CsVerified`) against the public key the key store holds for this authid — an actual key when `rk`
    (the empty-key guard of cryptosign.go) is on. -/
def CsAccepts (checks rk : Bool) (ks : KeyStore) (t : Nat) (env : Env) (details : Dict)
    (script rest : List Arrival) (challenge : Bytes) : Prop :=
  env.challengeBlocked = false ∧ env.o.csChallenge = some challenge ∧
  ∃ sig key, AnswersInTime (crTimeout t) script sig rest ∧
    ks.authKey (details.optString "authid") "cryptosign" = .ok key ∧
    (rk && (key.getD []).isEmpty) = false ∧
    CsVerified checks env.o sig (key.getD []) challenge

theorem csAuth_ok {checks rk : Bool} {ks : KeyStore} {t : Nat} {env : Env} {details : Dict}
    {script : List Arrival} {w : Dict}
    (h : (csAuth checks rk ks t env details script).res = .ok w) :
    details.optString "authid" ≠ "" ∧
    ∃ authrole, ks.authRole (details.optString "authid") = .ok authrole ∧
    ((alreadyAuth ks.bypass (details.optString "authid") details = true ∧
        (csAuth checks rk ks t env details script).sent = [] ∧
        finishWelcome ks.bypass (details.optString "authid")
          (stdWelcome (details.optString "authid") authrole "cryptosign" ks.provider) details = .ok w) ∨
     (alreadyAuth ks.bypass (details.optString "authid") details = false ∧
        w = stdWelcome (details.optString "authid") authrole "cryptosign" ks.provider ∧
        ∃ challenge, (csAuth checks rk ks t env details script).sent =
            [.challenge "cryptosign" [("challenge", .str (hexEncode challenge))]] ∧
          CsAccepts checks rk ks t env details script (csAuth checks rk ks t env details script).rest challenge)) := by
  by_cases ha : details.optString "authid" = ""
  · simp [csAuth, ha] at h
  · refine ⟨ha, ?_⟩
    cases hr : ks.authRole (details.optString "authid") with
    | error e => simp [csAuth, ha, hr] at h
    | ok authrole =>
      refine ⟨authrole, rfl, ?_⟩
      by_cases hal : alreadyAuth ks.bypass (details.optString "authid") details = true
      · simp only [csAuth, beq_iff_eq, ha, hr, hal, if_true, if_false] at h ⊢
        exact Or.inl ⟨trivial, trivial, h⟩
      · simp only [csAuth, beq_iff_eq, ha, hr, hal, if_false] at h ⊢
        cases hk : ks.authKey (details.optString "authid") "cryptosign" with
        | error e => simp [hk] at h
        | ok key =>
          simp only [hk] at h ⊢
          cases hrk : (rk && (key.getD []).isEmpty) with
          | true => simp [hrk] at h
          | false =>
          simp only [hrk, Bool.false_eq_true, if_false] at h ⊢
          cases hc : env.o.csChallenge with
          | none => simp [hc] at h
          | some challenge =>
            simp only [hc] at h ⊢
            obtain ⟨sig, hgot, hdec⟩ := andThen_ok h
            obtain ⟨hb, hsent, hans⟩ := exchange_ok hgot
            obtain ⟨hw, hv⟩ := csDecide_ok hdec
            exact Or.inr ⟨trivial, hw, challenge, hsent, hb, hc, sig, key, hans, hk, hrk, hv⟩

/-- without a bypass the welcome details are the method's own -/
theorem finishWelcome_of_no_bypass {bp : Option Bypass} (hb : bp.isNone = true) {authid : String}
    {w details w' : Dict} (h : finishWelcome bp authid w details = .ok w') : w' = w := by
  cases bp with
  | none => cases h; rfl
  | some b => cases hb

theorem stdWelcome_identity (authid authrole method provider : String) :
    (stdWelcome authid authrole method provider).get? "authid" = some (.str authid) ∧
    (stdWelcome authid authrole method provider).get? "authrole" = some (.str authrole) ∧
    (stdWelcome authid authrole method provider).get? "authprovider" = some (.str provider) :=
  ⟨rfl, rfl, rfl⟩

theorem anonymousAuth_res (role : String) (o : Oracle) (script : List Arrival) :
    (anonymousAuth role o script).res =
      .ok [("authid", .str (fmtHex o.authidRand)), ("authrole", .str role),
           ("authprovider", .str "static"), ("authmethod", .str "anonymous")] := rfl

end Nexus.Auth
