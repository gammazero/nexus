/-
  Lemmas on the base types that several areas use: the bytes of a `String`, and reading a key of a
  dictionary after `Dict.set` (Go map assignment on the association list) or `Dict.erase`.
-/
import Nexus.Base.WVal

namespace Nexus

theorem toList_loop_eq (bs : ByteArray) (i : Nat) (r : List UInt8) :
    ByteArray.toList.loop bs i r = r.reverse ++ bs.data.toList.drop i := by
  fun_induction ByteArray.toList.loop bs i r with
  | case1 i r h ih =>
    rw [ih]
    have h' : i < bs.data.toList.length := h
    rw [List.drop_eq_getElem_cons h']
    have hg : bs.get! i = bs.data.toList[i] := by
      cases bs with
      | mk d =>
        show d[i]! = _
        have : i < d.size := h
        simp [this]
    rw [hg, List.reverse_cons, List.append_assoc]
    rfl
  | case2 i r h =>
    have h' : bs.data.toList.length ≤ i := Nat.le_of_not_lt h
    rw [List.drop_eq_nil_of_le h', List.append_nil]

theorem byteArray_toList_eq (bs : ByteArray) : bs.toList = bs.data.toList := by
  unfold ByteArray.toList
  rw [toList_loop_eq]; rfl

theorem string_eq_of_utf8_eq {s t : String} (h : s.toUTF8.toList = t.toUTF8.toList) : s = t := by
  rw [byteArray_toList_eq, byteArray_toList_eq] at h
  exact String.toByteArray_inj.mp (ByteArray.ext (Array.toList_inj.mp h))

theorem utf8_inj {s t : String} : s.toUTF8.toList = t.toUTF8.toList ↔ s = t :=
  ⟨string_eq_of_utf8_eq, fun h => h ▸ rfl⟩

end Nexus

namespace Nexus.Dict

theorem get?_cons (k1 : String) (v1 : WVal) (rest : Dict) (k : String) :
    get? ((k1, v1) :: rest) k = if k1 = k then some v1 else get? rest k := by
  by_cases h : k1 = k <;> simp [get?, h]

theorem get?_set_self (d : Dict) (k : String) (v : WVal) : (d.set k v).get? k = some v := by
  induction d with
  | nil => simp [set, get?]
  | cons p rest ih =>
    obtain ⟨a, b⟩ := p
    by_cases ha : a = k <;> simp [set, get?, ha, ih]

theorem get?_set_ne (d : Dict) {k k' : String} (v : WVal) (h : k ≠ k') : (d.set k v).get? k' = d.get? k' := by
  induction d with
  | nil => simp [set, get?, h]
  | cons p rest ih =>
    obtain ⟨a, b⟩ := p
    by_cases ha : a = k
    · subst ha; simp [set, get?, h]
    · simp only [set, beq_iff_eq, ha, if_false, get?]
      rw [ih]

theorem set_set (d : Dict) (k : String) (v v' : WVal) : (d.set k v).set k v' = d.set k v' := by
  induction d with
  | nil => simp [set]
  | cons p rest ih =>
    obtain ⟨a, b⟩ := p
    by_cases ha : a = k <;> simp [set, ha, ih]

theorem get?_erase_self (d : Dict) (k : String) : (d.erase k).get? k = none := by
  induction d with
  | nil => rfl
  | cons p rest ih =>
    obtain ⟨a, b⟩ := p
    by_cases ha : a = k <;> simp [erase, get?, ha] <;> simpa [erase] using ih

theorem get?_set (d : Dict) (k k' : String) (v : WVal) :
    (d.set k v).get? k' = if k = k' then some v else d.get? k' := by
  by_cases h : k = k'
  · subst h; rw [get?_set_self, if_pos rfl]
  · rw [get?_set_ne d v h, if_neg h]

theorem get?_ite_set_ne (c : Bool) (d : Dict) {k k' : String} (v : WVal) (h : k ≠ k') :
    (if c then d.set k v else d).get? k' = d.get? k' := by
  cases c
  · rfl
  · exact get?_set_ne _ _ h

end Nexus.Dict
