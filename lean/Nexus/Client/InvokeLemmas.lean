/-
  The invocation-worker model (`Nexus.Client.I`): `step` as a relation with one constructor per
  outcome (`Step`, `step_spec`), and invariants of every event sequence.  Each invariant `InvX` is
  carried over a step by what it needs of the two state updates, `InvX.setW` and (where it speaks
  of `out`) `InvX.emit`.
-/
import Nexus.Client.Invoke
import Nexus.Client.Steps

namespace Nexus.Client.I
open Nexus.Gen

section frames
variable (st : State) (w : Nat) (x : Worker) (o : Out)
@[simp] theorem emit_ws : (st.emit o).ws = st.ws := rfl
@[simp] theorem emit_n : (st.emit o).n = st.n := rfl
@[simp] theorem emit_out : (st.emit o).out = o :: st.out := rfl
@[simp] theorem emit_kill : (st.emit o).kill = st.kill := rfl
@[simp] theorem emit_pendingSend : (st.emit o).pendingSend = st.pendingSend := rfl
@[simp] theorem emit_lastRecv : (st.emit o).lastRecv = st.lastRecv := rfl
@[simp] theorem emit_clientDone : (st.emit o).clientDone = st.clientDone := rfl
@[simp] theorem emit_crashed : (st.emit o).crashed = st.crashed := rfl
@[simp] theorem emit_now : (st.emit o).now = st.now := rfl
@[simp] theorem setW_ws : (st.setW w x).ws = fun w' => if w' = w then x else st.ws w' := rfl
@[simp] theorem setW_n : (st.setW w x).n = st.n := rfl
@[simp] theorem setW_out : (st.setW w x).out = st.out := rfl
@[simp] theorem setW_kill : (st.setW w x).kill = st.kill := rfl
@[simp] theorem setW_pendingSend : (st.setW w x).pendingSend = st.pendingSend := rfl
@[simp] theorem setW_lastRecv : (st.setW w x).lastRecv = st.lastRecv := rfl
@[simp] theorem setW_clientDone : (st.setW w x).clientDone = st.clientDone := rfl
@[simp] theorem setW_crashed : (st.setW w x).crashed = st.crashed := rfl
@[simp] theorem setW_now : (st.setW w x).now = st.now := rfl
end frames

variable {cfg : Cfg} {st st' : State} {ev : Ev} {w : Nat} {x : Worker}

theorem setW_ws_eq (st : State) (w : Nat) (x : Worker) (a : Nat) :
    a = w ∧ (st.setW w x).ws a = x ∨ a ≠ w ∧ (st.setW w x).ws a = st.ws a :=
  if e : a = w then .inl ⟨e, if_pos e⟩ else .inr ⟨e, if_neg e⟩

theorem runs (cfg : Cfg) : Runs (step cfg) (steps cfg) := ⟨fun _ => rfl, fun _ _ _ => rfl⟩

theorem findLive_some {st : State} {reg req k w : Nat} (h : findLive st reg req k = some w) :
    w < k ∧ (st.ws w).live = true ∧ (st.ws w).reg = reg ∧ (st.ws w).req = req := by
  induction k with
  | zero => simp [findLive] at h
  | succ k ih =>
    simp only [findLive] at h
    split at h
    · rename_i hc
      simp at h; subst h
      simp at hc
      exact ⟨by omega, hc.1.1, hc.1.2, hc.2⟩
    · obtain ⟨h1, h2⟩ := ih h
      exact ⟨by omega, h2⟩

theorem findLive_none {st : State} {reg req k : Nat} (h : findLive st reg req k = none) :
    ∀ w, w < k → ¬ ((st.ws w).live = true ∧ (st.ws w).reg = reg ∧ (st.ws w).req = req) := by
  induction k with
  | zero => intro w hw; omega
  | succ k ih =>
    simp only [findLive] at h
    split at h
    · simp at h
    · rename_i hc
      intro w hw
      by_cases hwk : w = k
      · subst hwk; simp at hc; intro ⟨a, b, c⟩; exact absurd c (hc a b)
      · exact ih h w (by omega)

theorem updateLastRecvID_snd (last id : UInt64) :
    (updateLastRecvID last id).2 = isNewRecvID last id := by
  unfold updateLastRecvID; split <;> simp_all

theorem afterResult_eq (x : Worker) (r : HRes) :
    afterResult x r = cleanup x ∨ afterResult x r = { x with inner := .idle } := by
  unfold afterResult
  split
  · exact .inl rfl
  · split
    · exact .inr rfl
    · exact .inl rfl

/-- `step` case by case: one constructor per way an event can succeed, with the conditions it
    passed and the state it leaves, written with the worker update outermost.  (What decided the
    outcome of the PPT handling is left out.)  Indexed by the event like `R.Step`, but a constructor
    names the whole next state as a term of `st`; like `R.Step` it has no converse (`crash` admits
    any `site`, `enqueued` and `created` any unpacked `a`, `k`). -/
inductive Step (cfg : Cfg) (st : State) : Ev → State → Prop
  | tick {d} : Step cfg st (.tick d) { st with now := st.now + d }
  | clientDone : Step cfg st .clientDone { st with clientDone := true }
  | endRecv : Step cfg st .endRecv { st with recvDone := true }
  | abandon {w i} : st.pendingSend = some (w, i) → cfg.enqueueEscapes = true →
      ((st.ws w).ctx.isSome = true ∨ st.recvDone = true) →
      Step cfg st .queueSendAbandon ({ st with pendingSend := none }.emit (.abandoned w i))
  | refused {i hasH} : st.pendingSend = none →
      Step cfg st (.recvInvocation i hasH)
        (st.emit (.send (.error tINVOCATION i.req N.ErrInvalidArgument)))
  | crash {i hasH site} : st.pendingSend = none →
      Step cfg st (.recvInvocation i hasH) { st with crashed := some site }
  | repeated {i w} : st.pendingSend = none → findLive st i.reg i.req st.n = some w →
      cfg.finalGate = true → (st.ws w).final = true →
      Step cfg st (.recvInvocation i true) (st.emit (.repeated i.req))
  | enqueued {i a k w} : st.pendingSend = none → findLive st i.reg i.req st.n = some w →
      (cfg.finalGate = true → (st.ws w).final = false) → (st.ws w).queue.length < cfg.queueCap →
      Step cfg st (.recvInvocation i true)
        ({ st with lastRecv := (updateLastRecvID st.lastRecv (UInt64.ofNat i.req)).1 }.setW w
          { st.ws w with final := (st.ws w).final || (cfg.finalGate && !i.progress),
                         queue := (st.ws w).queue ++ [{ i with args := a, kw := k }],
                         accepted := { i with args := a, kw := k } :: (st.ws w).accepted })
  | blocked {i a k w} : st.pendingSend = none → findLive st i.reg i.req st.n = some w →
      (cfg.finalGate = true → (st.ws w).final = false) → ¬ (st.ws w).queue.length < cfg.queueCap →
      Step cfg st (.recvInvocation i true)
        ({ st with lastRecv := (updateLastRecvID st.lastRecv (UInt64.ofNat i.req)).1,
                   pendingSend := some (w, { i with args := a, kw := k }) }.setW w
          { st.ws w with final := (st.ws w).final || (cfg.finalGate && !i.progress) })
  | ignored {i} : st.pendingSend = none → findLive st i.reg i.req st.n = none →
      cfg.invGate = true → isNewRecvID st.lastRecv (UInt64.ofNat i.req) = false →
      Step cfg st (.recvInvocation i true) (st.emit (.ignored i.req))
  | created {i a k} : st.pendingSend = none → findLive st i.reg i.req st.n = none →
      (cfg.invGate = true → isNewRecvID st.lastRecv (UInt64.ofNat i.req) = true) →
      Step cfg st (.recvInvocation i true)
        (create st { i with args := a, kw := k } (cfg.finalGate && !i.progress))
  | sendDone {w i} : st.pendingSend = some (w, i) → (st.ws w).queue.length < cfg.queueCap →
      (st.ws w).live = true →
      Step cfg st .queueSendDone ({ st with pendingSend := none }.setW w
        { st.ws w with queue := (st.ws w).queue ++ [i], accepted := i :: (st.ws w).accepted })
  | sendLost {w i} : st.pendingSend = some (w, i) → (st.ws w).queue.length < cfg.queueCap →
      (st.ws w).live = false →
      Step cfg st .queueSendDone (({ st with pendingSend := none }.emit (.lost w i)).setW w
        { st.ws w with queue := (st.ws w).queue ++ [i] })
  | interruptNone {req} : st.pendingSend = none → st.kill req = none →
      Step cfg st (.recvInterrupt req)
        { st with lastRecv := (updateLastRecvID st.lastRecv (UInt64.ofNat req)).1 }
  | interrupt {req w} : st.pendingSend = none → st.kill req = some w →
      Step cfg st (.recvInterrupt req)
        ({ st with lastRecv := (updateLastRecvID st.lastRecv (UInt64.ofNat req)).1 }.setW w
          { st.ws w with ctx := some ((st.ws w).ctx.getD .canceled) })
  | innerTake {w i rest} : w < st.n → (st.ws w).inner = .idle → (st.ws w).queue = i :: rest →
      Step cfg st (.innerTake w) ((st.emit (.handlerStart w i)).setW w
        { st.ws w with inner := .running i, queue := rest, loopMore := i.progress,
                       handled := i :: (st.ws w).handled })
  | handlerDrop {w r j} : (st.ws w).inner = .running j →
      (st.clientDone = true ∨ (st.ws w).ctx.isSome = true) →
      Step cfg st (.handlerReturn w r true) (st.setW w (cleanup (st.ws w)))
  | handlerResultEnd {w r j} : (st.ws w).inner = .running j → (st.ws w).res.length < cfg.resCap →
      Step cfg st (.handlerReturn w r false)
        (st.setW w (cleanup { st.ws w with res := (st.ws w).res ++ [r] }))
  | handlerResultMore {w r j} : (st.ws w).inner = .running j → (st.ws w).res.length < cfg.resCap →
      Step cfg st (.handlerReturn w r false)
        (st.setW w { st.ws w with res := (st.ws w).res ++ [r], inner := .idle })
  | handlerWait {w r j} : (st.ws w).inner = .running j → ¬ (st.ws w).res.length < cfg.resCap →
      Step cfg st (.handlerReturn w r false) (st.setW w { st.ws w with inner := .sending r })
  | sendRetryEnd {w r} : (st.ws w).inner = .sending r → (st.ws w).res.length < cfg.resCap →
      Step cfg st (.innerSendRetry w)
        (st.setW w (cleanup { st.ws w with res := (st.ws w).res ++ [r] }))
  | sendRetryMore {w r} : (st.ws w).inner = .sending r → (st.ws w).res.length < cfg.resCap →
      Step cfg st (.innerSendRetry w)
        (st.setW w { st.ws w with res := (st.ws w).res ++ [r], inner := .idle })
  | innerExit {w : Nat} : w < st.n → (st.clientDone = true ∨ (st.ws w).ctx.isSome = true) →
      ((st.ws w).inner = .idle ∨ ∃ r, (st.ws w).inner = .sending r) →
      Step cfg st (.innerExit w) (st.setW w (cleanup (st.ws w)))
  | outerOmit {w r rest} : w < st.n → (st.ws w).outer = .waiting → (st.ws w).res = r :: rest →
      r.isOmit = true → Step cfg st (.outerTake w) (st.setW w { st.ws w with res := rest })
  | outerTake {w r rest} : w < st.n → (st.ws w).outer = .waiting → (st.ws w).res = r :: rest →
      r.isOmit = false →
      Step cfg st (.outerTake w) (st.setW w { st.ws w with res := rest, outer := .final r })
  | outerCtx {w : Nat} : w < st.n → (st.ws w).outer = .waiting → (st.ws w).ctx.isSome = true →
      Step cfg st (.outerCtx w) (st.setW w { st.ws w with outer := .final { err := N.ErrCanceled } })
  | outerDone {w : Nat} : w < st.n → (st.ws w).outer = .waiting → st.clientDone = true →
      Step cfg st (.outerDone w) (outerFinish st w false)
  | outerSkip {w r} : (st.ws w).outer = .final r → st.clientDone = true →
      Step cfg st (.outerAnswer w true) (outerFinish st w false)
  | outerAnswer {w r m} : (st.ws w).outer = .final r →
      m = (if r.err != "" then .error tINVOCATION (st.ws w).req r.err else .yield (st.ws w).req false) →
      Step cfg st (.outerAnswer w false) (outerFinish ((st.emit (.send m)).emit (.answer w m)) w true)
  | timeout {w d} : w < st.n → (st.ws w).deadline = some d → (st.ws w).ctx = none → st.now ≥ d →
      Step cfg st (.invTimeout w) (st.setW w { st.ws w with ctx := some .deadline })
  | spArm {w j} : (st.ws w).inner = .running j → (st.ws w).spArmed = false →
      (st.ws w).progOK = true → st.progGate (st.ws w).req = true →
      Step cfg st (.spCheck w) (st.setW w { st.ws w with spArmed := true })
  | spRefuse {w j} : (st.ws w).inner = .running j → (st.ws w).spArmed = false →
      ((st.ws w).progOK && st.progGate (st.ws w).req) = false →
      Step cfg st (.spCheck w) (st.emit (.progressRefused w))
  | spSend {w : Nat} : (st.ws w).spArmed = true →
      Step cfg st (.spSend w) (((st.emit (.send (.yield (st.ws w).req true))).emit
        (.progressSent w)).setW w { st.ws w with spArmed := false })
  | spAbandon {w : Nat} : (st.ws w).spArmed = true → (st.ws w).ctx.isSome = true →
      Step cfg st (.spAbandon w)
        ((st.emit (.progressRefused w)).setW w { st.ws w with spArmed := false })

theorem step_spec (h : step cfg st ev = some st') : Step cfg st ev st' := by
  have hc : ¬ st.crashed.isSome = true := fun hc => by rw [step.eq_def, if_pos hc] at h; cases h
  rw [step.eq_def, if_neg hc] at h
  cases ev <;> simp only at h
  case tick => cases h; exact .tick
  case clientDone => cases h; exact .clientDone
  case endRecv => cases h; exact .endRecv
  case queueSendAbandon =>
    split at h
    · split at h <;> cases h
      rename_i hp hc
      simp only [Bool.and_eq_true, Bool.or_eq_true] at hc
      exact .abandon hp hc.1 hc.2
    · cases h
  case recvInvocation i hasH =>
    unfold recvInvocation at h
    split at h
    · cases h
    rename_i hp
    replace hp := Option.not_isSome_iff_eq_none.1 hp
    split at h
    · cases h; exact .refused hp
    rename_i hh
    replace hh : hasH = true := by simpa using hh
    subst hh
    split at h <;> cases h
    · exact .crash hp
    · exact .refused hp
    unfold accept
    split <;> rename_i hfl
    · rename_i w
      split <;> rename_i hf
      · simp only [Bool.and_eq_true] at hf
        exact .repeated hp hfl hf.1 hf.2
      · replace hf : cfg.finalGate = true → (st.ws w).final = false := by simpa using hf
        simp only [enqueue]
        split <;> rename_i hroom
        · exact .enqueued hp hfl hf hroom
        · exact .blocked hp hfl hf hroom
    · rw [updateLastRecvID_snd]
      split <;> rename_i hg
      · simp only [Bool.and_eq_true, Bool.not_eq_eq_eq_not, Bool.not_true] at hg
        exact .ignored hp hfl hg.1 hg.2
      · exact .created hp hfl (by simpa using hg)
  case queueSendDone =>
    split at h
    · rename_i hp
      split at h
      · rename_i hroom
        split at h <;> rename_i hl <;> cases h
        · exact .sendDone hp hroom hl
        · exact .sendLost hp hroom (by simpa using hl)
      · cases h
    · cases h
  case recvInterrupt req =>
    split at h
    · cases h
    rename_i hp
    replace hp := Option.not_isSome_iff_eq_none.1 hp
    split at h <;> rename_i hk <;> cases h
    · exact .interruptNone hp hk
    · exact .interrupt hp hk
  case innerTake w =>
    split at h
    · rename_i hi hq
      split at h <;> cases h
      rename_i hw
      exact .innerTake hw hi hq
    · cases h
  case handlerReturn w r drop =>
    split at h
    · rename_i hi
      split at h
      · split at h <;> cases h
        rename_i hd hc
        subst hd
        exact .handlerDrop hi (by simpa using hc)
      · rename_i hd
        replace hd : drop = false := by simpa using hd
        subst hd
        split at h <;> rename_i hroom <;> cases h
        · rcases afterResult_eq _ r with e | e <;> rw [e]
          · exact .handlerResultEnd hi hroom
          · exact .handlerResultMore hi hroom
        · exact .handlerWait hi hroom
    · cases h
  case innerSendRetry w =>
    split at h
    · rename_i hi
      split at h <;> cases h
      rename_i hroom
      rcases afterResult_eq _ _ with e | e <;> rw [e]
      · exact .sendRetryEnd hi hroom
      · exact .sendRetryMore hi hroom
    · cases h
  case innerExit w =>
    split at h
    · rename_i hc
      simp only [Bool.and_eq_true, Bool.or_eq_true, decide_eq_true_eq] at hc
      split at h <;> cases h <;> rename_i hi
      · exact .innerExit hc.1 hc.2 (.inl hi)
      · exact .innerExit hc.1 hc.2 (.inr ⟨_, hi⟩)
    · cases h
  case outerTake w =>
    split at h
    · rename_i ho hr
      split at h
      · rename_i hw
        split at h <;> rename_i hom <;> cases h
        · exact .outerOmit hw ho hr hom
        · exact .outerTake hw ho hr (by simpa using hom)
      · cases h
    · cases h
  case outerCtx w =>
    split at h
    · rename_i ho
      split at h <;> cases h
      rename_i hc
      simp only [Bool.and_eq_true, decide_eq_true_eq] at hc
      exact .outerCtx hc.1 ho hc.2
    · cases h
  case outerDone w =>
    split at h
    · rename_i ho
      split at h <;> cases h
      rename_i hc
      simp only [Bool.and_eq_true, decide_eq_true_eq] at hc
      exact .outerDone hc.1 ho hc.2
    · cases h
  case outerAnswer w skip =>
    split at h
    · rename_i ho
      split at h
      · rename_i hs
        subst hs
        split at h <;> cases h
        rename_i hd
        exact .outerSkip ho hd
      · rename_i hs
        replace hs : skip = false := by simpa using hs
        subst hs
        cases h
        exact .outerAnswer ho rfl
    · cases h
  case invTimeout w =>
    split at h
    · rename_i hd hx
      split at h <;> cases h
      rename_i hc
      simp only [Bool.and_eq_true, decide_eq_true_eq] at hc
      exact .timeout hc.1 hd hx hc.2
    · cases h
  case spCheck w =>
    split at h
    · rename_i hi
      split at h
      · cases h
      rename_i ha
      replace ha : (st.ws w).spArmed = false := by simpa using ha
      split at h <;> rename_i hg <;> cases h
      · simp only [Bool.and_eq_true] at hg
        exact .spArm hi ha hg.1 hg.2
      · exact .spRefuse hi ha (by simpa using hg)
    · cases h
  case spSend w =>
    split at h <;> cases h
    rename_i ha
    exact .spSend ha
  case spAbandon w =>
    split at h <;> cases h
    rename_i hc
    simp only [Bool.and_eq_true] at hc
    exact .spAbandon hc.1 hc.2

/-- `st.n` workers have been created, numbered from 0, and no two live ones serve the same
    (registration, request): `findLive` finds the one worker of an invocation, if any. -/
def InvLive (st : State) : Prop :=
  (∀ w, st.n ≤ w → (st.ws w).live = false) ∧
  (∀ w w', (st.ws w).live = true → (st.ws w').live = true →
     (st.ws w).reg = (st.ws w').reg → (st.ws w).req = (st.ws w').req → w = w')

theorem InvLive.setW (hreg : x.reg = (st.ws w).reg) (hreq : x.req = (st.ws w).req)
    (hlive : x.live = true → (st.ws w).live = true) (h : InvLive st) : InvLive (st.setW w x) := by
  have key (a : Nat) : ((st.setW w x).ws a).reg = (st.ws a).reg ∧
      ((st.setW w x).ws a).req = (st.ws a).req ∧
      (((st.setW w x).ws a).live = true → (st.ws a).live = true) := by
    rcases setW_ws_eq st w x a with ⟨rfl, e⟩ | ⟨_, e⟩ <;> rw [e]
    · exact ⟨hreg, hreq, hlive⟩
    · exact ⟨rfl, rfl, id⟩
  refine ⟨fun a ha => ?_, fun a b ha hb hreg hreq => ?_⟩
  · exact Bool.eq_false_iff.2 fun e => by simpa [h.1 a ha] using (key a).2.2 e
  · rw [(key a).1, (key b).1] at hreg
    rw [(key a).2.1, (key b).2.1] at hreq
    exact h.2 a b ((key a).2.2 ha) ((key b).2.2 hb) hreg hreq

theorem invLive_step (hinv : InvLive st) (h : step cfg st ev = some st') : InvLive st' := by
  cases step_spec h with
  | tick | clientDone | endRecv | abandon | refused | crash | repeated | ignored | interruptNone
  | spRefuse => exact hinv
  | @created i _ _ _ hfl =>
    have old {b} (hb : b ≠ st.n) (hl : (st.ws b).live = true) :
        ¬ ((st.ws b).reg = i.reg ∧ (st.ws b).req = i.req) := fun e =>
      findLive_none hfl b (Nat.lt_of_not_le fun hle => by simp [hinv.1 b hle] at hl) ⟨hl, e⟩
    refine ⟨fun b hb => ?_, fun b c hb hc hreg hreq => ?_⟩
    · replace hb : st.n + 1 ≤ b := hb
      exact (congrArg Worker.live (if_neg (by omega))).trans (hinv.1 b (by omega))
    · simp only [create, emit_ws, setW_ws] at hb hc hreg hreq
      by_cases eb : b = st.n <;> by_cases ec : c = st.n <;>
        simp only [eb, ec, if_true, if_false] at hb hc hreg hreq
      · rw [eb, ec]
      · exact absurd ⟨hreg.symm, hreq.symm⟩ (old ec hc)
      · exact absurd ⟨hreg, hreq⟩ (old eb hb)
      · exact hinv.2 b c hb hc hreg hreq
  | handlerDrop | innerExit | handlerResultEnd | sendRetryEnd => exact .setW rfl rfl nofun hinv
  | _ => exact .setW rfl rfl id hinv

/-- Worker slots not yet created hold the default worker; the kill switches and a pending queue
    send refer to created workers. -/
def InvFresh (st : State) : Prop :=
  (∀ w, st.n ≤ w → st.ws w = {}) ∧
  (∀ w i, st.pendingSend = some (w, i) → w < st.n) ∧
  (∀ r w, st.kill r = some w → w < st.n)

theorem InvFresh.setW (hw : w < st.n) (h : InvFresh st) : InvFresh (st.setW w x) :=
  ⟨fun a (ha : st.n ≤ a) => (if_neg (by omega)).trans (h.1 a ha), h.2.1, h.2.2⟩

theorem InvFresh.outerFinish {b : Bool} (hw : w < st.n) (h : InvFresh st) :
    InvFresh (outerFinish st w b) := by
  refine ⟨(h.setW hw).1, h.2.1, fun r a (e : (if r = _ then none else st.kill r) = some a) => ?_⟩
  split at e
  · cases e
  · exact h.2.2 r a e

theorem InvFresh.lt (h : InvFresh st) (hne : st.ws w ≠ {}) : w < st.n :=
  Nat.lt_of_not_le fun hle => hne (h.1 w hle)

theorem invFresh_step (hinv : InvFresh st) (h : step cfg st ev = some st') : InvFresh st' := by
  have noPending : InvFresh { st with pendingSend := none } := ⟨hinv.1, nofun, hinv.2.2⟩
  cases step_spec h with
  | tick | clientDone | endRecv | refused | crash | repeated | ignored | interruptNone | spRefuse =>
    exact hinv
  | abandon => exact noPending
  | sendDone hp | sendLost hp => exact .setW (hinv.2.1 _ _ hp) noPending
  | enqueued _ hfl => exact .setW (findLive_some hfl).1 hinv
  | blocked _ hfl =>
    have hw := (findLive_some hfl).1
    exact .setW hw ⟨hinv.1, fun _ _ e => by cases e; exact hw, hinv.2.2⟩
  | interrupt _ hk => exact .setW (hinv.2.2 _ _ hk) hinv
  | created hp =>
    refine ⟨fun a (ha : st.n + 1 ≤ a) => (if_neg (by omega)).trans (hinv.1 a (by omega)),
      fun a j (e : st.pendingSend = _) => (by rw [hp] at e; cases e),
      fun r a (e : (if r = _ then some st.n else st.kill r) = some a) => ?_⟩
    show a < st.n + 1
    split at e
    · cases e; omega
    · exact Nat.lt_succ_of_lt (hinv.2.2 r a e)
  | innerTake hw | innerExit hw | outerOmit hw | outerTake hw | outerCtx hw | timeout hw =>
    exact .setW hw hinv
  | handlerDrop hx | handlerResultEnd hx | handlerResultMore hx | handlerWait hx | sendRetryEnd hx
  | sendRetryMore hx | spArm hx | spSend hx
  | spAbandon hx => exact .setW (hinv.lt fun e => by rw [e] at hx; cases hx) hinv
  | outerDone hw => exact .outerFinish hw hinv
  | outerSkip hx | outerAnswer hx =>
    exact .outerFinish (hinv.lt fun e => by rw [e] at hx; cases hx) hinv

def isAnswer (w : Nat) : Out → Bool
  | .answer w' _ => w' == w
  | _ => false

@[simp] theorem isAnswer_send (w : Nat) (m : CMsg) : isAnswer w (.send m) = false := rfl
@[simp] theorem isAnswer_created (w a b c : Nat) : isAnswer w (.created a b c) = false := rfl
@[simp] theorem isAnswer_handlerStart (w a : Nat) (i : Inv) : isAnswer w (.handlerStart a i) = false := rfl
@[simp] theorem isAnswer_answer (w a : Nat) (m : CMsg) : isAnswer w (.answer a m) = (a == w) := rfl
@[simp] theorem isAnswer_ignored (w a : Nat) : isAnswer w (.ignored a) = false := rfl
@[simp] theorem isAnswer_lost (w a : Nat) (i : Inv) : isAnswer w (.lost a i) = false := rfl
@[simp] theorem isAnswer_repeated (w a : Nat) : isAnswer w (.repeated a) = false := rfl
@[simp] theorem isAnswer_abandoned (w a : Nat) (i : Inv) : isAnswer w (.abandoned a i) = false := rfl
@[simp] theorem isAnswer_progressSent (w a : Nat) : isAnswer w (.progressSent a) = false := rfl
@[simp] theorem isAnswer_progressRefused (w a : Nat) : isAnswer w (.progressRefused a) = false := rfl

def Outer.answered : Outer → Bool
  | .exited true => true
  | _ => false

@[simp] theorem answered_waiting : Outer.waiting.answered = false := rfl
@[simp] theorem answered_final (r : HRes) : (Outer.final r).answered = false := rfl
@[simp] theorem answered_exited (b : Bool) : (Outer.exited b).answered = b := by cases b <;> rfl

/-- The answers logged for worker `w`: one iff its outer goroutine ended by answering. -/
def InvAnswer (st : State) : Prop :=
  ∀ w, List.countP (isAnswer w) st.out = if (st.ws w).outer.answered then 1 else 0

/-- An answer is a final YIELD or an ERROR of type INVOCATION bearing the worker's request id. -/
def answerFor (req : Nat) (m : CMsg) : Bool :=
  match m with
  | .yield r false => r == req
  | .error t r _ => t == tINVOCATION && r == req
  | _ => false

/-- What an answer in the log looks like; `InvAnswer` says how many there are. -/
def InvAnswerShape (st : State) : Prop :=
  ∀ o ∈ st.out, ∀ w m, o = .answer w m → w < st.n ∧ answerFor (st.ws w).req m = true

theorem InvAnswer.setW (ho : x.outer.answered = (st.ws w).outer.answered) (h : InvAnswer st) :
    InvAnswer (st.setW w x) := fun b => by
  show _ = if (if b = w then x else st.ws b).outer.answered then 1 else 0
  rw [setW_out, h b]
  by_cases e : b = w
  · rw [if_pos e, ho, e]
  · rw [if_neg e]

theorem InvAnswer.emit {o : Out} (ho : ∀ b, isAnswer b o = false) (h : InvAnswer st) :
    InvAnswer (st.emit o) := fun b => by
  rw [emit_out, emit_ws, List.countP_cons_of_neg (by simp [ho b])]
  exact h b

theorem invAnswer_step (hf : InvFresh st) (hinv : InvAnswer st) (h : step cfg st ev = some st') :
    InvAnswer st' := by
  cases step_spec h with
  | tick | clientDone | endRecv | crash | interruptNone => exact hinv
  | abandon | refused | repeated | ignored | spRefuse => exact .emit (fun _ => rfl) hinv
  | created =>
    refine .emit (fun _ => rfl) (.setW ?_ hinv)
    rw [hf.1 st.n (Nat.le_refl _)]
  | innerTake | sendLost | spAbandon => exact .setW rfl (.emit (fun _ => rfl) hinv)
  | spSend => exact .setW rfl (.emit (fun _ => rfl) (.emit (fun _ => rfl) hinv))
  | outerTake _ ho | outerCtx _ ho | outerDone _ ho | outerSkip ho =>
    exact .setW (by rw [ho]; rfl) hinv
  | @outerAnswer w _ m ho =>
    intro b
    show List.countP _ (.answer w m :: .send m :: st.out) =
      if (if b = w then _ else st.ws b).outer.answered then 1 else 0
    rw [List.countP_cons, List.countP_cons_of_neg (by simp), hinv b]
    by_cases e : b = w
    · subst e; simp [ho]
    · simp [e, Ne.symm e]
  | _ => exact .setW rfl hinv

end Nexus.Client.I
