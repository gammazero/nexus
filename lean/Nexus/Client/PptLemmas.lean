/-
  Lemmas about the PPT model: with no bare site in the table the functions never panic.
-/
import Nexus.Client.Sites

namespace Nexus.Client
open Nexus.Gen

@[simp] theorem map_isPanic {α β} (f : α → β) (o : Outcome α) : (o.map f).isPanic = o.isPanic := by
  cases o <;> rfl

section clean
variable {F : PptFacts} (hF : F.clean)
include hF

theorem clean_bare (fn kind expr : String) (h : (fn, kind, expr) ∈ modelSites) : F.bare fn kind expr = false :=
  hF.1 (fn, kind, expr) h

theorem atSite_clean (fn kind expr : String) (e : PptErr) (h : (fn, kind, expr) ∈ modelSites) :
    (atSite F fn kind expr e).isPanic = false := by
  simp [atSite, clean_bare hF fn kind expr h]

theorem nilPayload_clean : (nilPayload F).isPanic = false := by
  simp [nilPayload, hF.2]

theorem nativePayload_clean (args : List Val) : (nativePayload F args).isPanic = false := by
  unfold nativePayload
  split
  · exact atSite_clean hF _ _ _ _ (by simp [modelSites])
  · rfl
  · exact nilPayload_clean hF
  · rw [clean_bare hF _ _ _ (by simp [modelSites])]
    exact nilPayload_clean hF

/-- The part both unpackers share: `args[0]` decoded by the serializer named `s`, if that is one of
    the function's serializers (`known`); `onNil` is what a nil payload leads to. -/
theorem withName_clean (deser : Deser) (args : List Val) (fn : String) (known : Bool)
    (onNil : Outcome Unpacked) (hnil : onNil.isPanic = false)
    (hi : (fn, "index", "args[0]") ∈ modelSites) (ha : (fn, "assert", "args[0].([]byte)") ∈ modelSites)
    (s : String) :
    (if known then
      (match args with
        | [] => atSite F fn "index" "args[0]" .serialization
        | .bin b :: _ =>
          (match deser s b with
            | .err => Outcome.ok (Except.error PptErr.serialization)
            | .nil => onNil
            | .val a k => .ok (.ok (a, k)))
        | _ :: _ => atSite F fn "assert" "args[0].([]byte)" .serialization)
      else (Outcome.ok (Except.error PptErr.serializerInvalid) : Outcome Unpacked)).isPanic = false := by
  split
  · split
    · exact atSite_clean hF _ _ _ _ hi
    · split
      · rfl
      · exact hnil
      · rfl
    · exact atSite_clean hF _ _ _ _ ha
  · rfl

theorem unpackPPT_clean (deser : Deser) (details : Dict) (args : List Val) :
    (unpackPPTPayload F deser details args).isPanic = false := by
  have hname (s : String) := withName_clean hF deser args "unpackPPTPayload"
    (Client.PPTSerializers.contains s) (nilPayload F) (nilPayload_clean hF)
    (by simp [modelSites]) (by simp [modelSites]) s
  unfold unpackPPTPayload
  split
  · rfl
  · simp only
    split
    · exact nativePayload_clean hF _
    · split
      · exact nativePayload_clean hF _
      · exact hname _
    · rw [clean_bare hF _ _ _ (by simp [modelSites])]
      exact hname ""

theorem unpackE2EE_clean (deser : Deser) (details : Dict) (args : List Val) :
    (unpackE2EEPayload F deser details args).isPanic = false := by
  have hname (s : String) := withName_clean hF deser args "unpackE2EEPayload"
    (Client.E2eeSerializers.contains s) (.ok (.ok ([], []))) rfl
    (by simp [modelSites]) (by simp [modelSites]) s
  unfold unpackE2EEPayload
  split
  · rfl
  · simp only
    split
    · exact hname _
    · rw [clean_bare hF _ _ _ (by simp [modelSites])]
      exact hname ""

theorem unpackByScheme_clean (deser : Deser) (scheme : String) (details : Dict) (args : List Val) :
    (unpackByScheme F deser scheme details args).isPanic = false := by
  unfold unpackByScheme
  split
  · exact unpackE2EE_clean hF ..
  · exact unpackPPT_clean hF ..

theorem eventPpt_clean (deser : Deser) (details : Dict) (args : List Val) (kw : Dict) :
    (eventPpt F deser details args kw).isPanic = false := by
  unfold eventPpt
  simp only
  split
  · rfl
  · split
    · rfl
    · rw [map_isPanic]; exact unpackByScheme_clean hF ..

theorem invocationPpt_clean (deser : Deser) (details : Dict) (args : List Val) (kw : Dict) :
    (invocationPpt F deser details args kw).isPanic = false := by
  unfold invocationPpt
  simp only
  split
  · rfl
  · split
    · rfl
    · rw [map_isPanic]; exact unpackByScheme_clean hF ..

theorem prepareCallResult_clean (deser : Deser) (dealerPPT : Bool) (details : Dict) (args : List Val) (kw : Dict) :
    (prepareCallResult F deser dealerPPT details args kw).isPanic = false := by
  unfold prepareCallResult
  simp only
  split
  · rfl
  · split
    · rfl
    · split
      · rfl
      · rw [map_isPanic]; exact unpackByScheme_clean hF ..

end clean

/-- The regenerated site table has no bare site, and the decoded payload pointer is nil-checked. -/
theorem gen_clean : PptFacts.gen.clean := by
  constructor
  · decide
  · decide

end Nexus.Client
