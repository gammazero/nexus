/-
  What the update primitives of the rendezvous model (`Nexus.Client.R`) do to each component of the
  state, what `prepare` and `postProcess` can change, and its event sequences.
-/
import Nexus.Client.Rendezvous
import Nexus.Client.Steps

namespace Nexus.Client.R
open Nexus.Gen

section frames
variable (st : State) (g : Nat) (w : Waiter) (o : Out) (m : CMsg) (id : Nat) (x : Option Nat)

@[simp] theorem emit_ws : (st.emit o).ws = st.ws := rfl
@[simp] theorem emit_awaiting : (st.emit o).awaiting = st.awaiting := rfl
@[simp] theorem emit_run : (st.emit o).run = st.run := rfl
@[simp] theorem emit_out : (st.emit o).out = o :: st.out := rfl
@[simp] theorem emit_done : (st.emit o).done = st.done := rfl
@[simp] theorem emit_crashed : (st.emit o).crashed = st.crashed := rfl
@[simp] theorem emit_close : (st.emit o).close = st.close := rfl
@[simp] theorem emit_inbox : (st.emit o).inbox = st.inbox := rfl
@[simp] theorem emit_arrived : (st.emit o).arrived = st.arrived := rfl
@[simp] theorem emit_sendClosed : (st.emit o).sendClosed = st.sendClosed := rfl
@[simp] theorem emit_recvDone : (st.emit o).recvDone = st.recvDone := rfl
@[simp] theorem emit_drawn : (st.emit o).drawn = st.drawn := rfl
@[simp] theorem emit_idgen : (st.emit o).idgen = st.idgen := rfl
@[simp] theorem emit_now : (st.emit o).now = st.now := rfl

@[simp] theorem setW_ws : (st.setW g w).ws = fun g' => if g' = g then w else st.ws g' := rfl
@[simp] theorem setW_awaiting : (st.setW g w).awaiting = st.awaiting := rfl
@[simp] theorem setW_run : (st.setW g w).run = st.run := rfl
@[simp] theorem setW_out : (st.setW g w).out = st.out := rfl
@[simp] theorem setW_done : (st.setW g w).done = st.done := rfl
@[simp] theorem setW_crashed : (st.setW g w).crashed = st.crashed := rfl
@[simp] theorem setW_close : (st.setW g w).close = st.close := rfl
@[simp] theorem setW_inbox : (st.setW g w).inbox = st.inbox := rfl
@[simp] theorem setW_arrived : (st.setW g w).arrived = st.arrived := rfl
@[simp] theorem setW_sendClosed : (st.setW g w).sendClosed = st.sendClosed := rfl
@[simp] theorem setW_recvDone : (st.setW g w).recvDone = st.recvDone := rfl
@[simp] theorem setW_drawn : (st.setW g w).drawn = st.drawn := rfl
@[simp] theorem setW_idgen : (st.setW g w).idgen = st.idgen := rfl
@[simp] theorem setW_now : (st.setW g w).now = st.now := rfl

@[simp] theorem setAwait_ws : (st.setAwait id x).ws = st.ws := rfl
@[simp] theorem setAwait_awaiting : (st.setAwait id x).awaiting = fun i => if i = id then x else st.awaiting i := rfl
@[simp] theorem setAwait_run : (st.setAwait id x).run = st.run := rfl
@[simp] theorem setAwait_out : (st.setAwait id x).out = st.out := rfl
@[simp] theorem setAwait_done : (st.setAwait id x).done = st.done := rfl
@[simp] theorem setAwait_crashed : (st.setAwait id x).crashed = st.crashed := rfl
@[simp] theorem setAwait_close : (st.setAwait id x).close = st.close := rfl
@[simp] theorem setAwait_inbox : (st.setAwait id x).inbox = st.inbox := rfl
@[simp] theorem setAwait_arrived : (st.setAwait id x).arrived = st.arrived := rfl
@[simp] theorem setAwait_sendClosed : (st.setAwait id x).sendClosed = st.sendClosed := rfl
@[simp] theorem setAwait_recvDone : (st.setAwait id x).recvDone = st.recvDone := rfl
@[simp] theorem setAwait_drawn : (st.setAwait id x).drawn = st.drawn := rfl
@[simp] theorem setAwait_idgen : (st.setAwait id x).idgen = st.idgen := rfl
@[simp] theorem setAwait_now : (st.setAwait id x).now = st.now := rfl

@[simp] theorem sendR_eq : st.sendR m = st.emit (.send m) := rfl

@[simp] theorem forget_ws (cfg : Cfg) : (st.forget cfg id).ws = st.ws := by unfold State.forget; split <;> rfl
@[simp] theorem forget_sendClosed (cfg : Cfg) : (st.forget cfg id).sendClosed = st.sendClosed := by unfold State.forget; split <;> rfl
@[simp] theorem forget_recvDone (cfg : Cfg) : (st.forget cfg id).recvDone = st.recvDone := by unfold State.forget; split <;> rfl
@[simp] theorem forget_now (cfg : Cfg) : (st.forget cfg id).now = st.now := by unfold State.forget; split <;> rfl
@[simp] theorem forget_eventHandlers (cfg : Cfg) : (st.forget cfg id).eventHandlers = st.eventHandlers := by
  unfold State.forget; split <;> rfl

theorem forget_awaiting_some (cfg : Cfg) {i g' : Nat} (h : (st.forget cfg id).awaiting i = some g') :
    st.awaiting i = some g' := by
  unfold State.forget at h
  split at h
  · simp at h; exact h.2
  · exact h

theorem forget_awaiting_deleted (cfg : Cfg) (hd : cfg.deletesEntry = true) :
    (st.forget cfg id).awaiting id = none := by
  unfold State.forget; simp [hd]

@[simp] theorem runExit_ws : st.runExit.ws = st.ws := rfl
@[simp] theorem runExit_awaiting : st.runExit.awaiting = st.awaiting := rfl
@[simp] theorem runExit_run : st.runExit.run = .exited := rfl
@[simp] theorem runExit_done : st.runExit.done = true := rfl
@[simp] theorem runExit_out : st.runExit.out = .done :: st.out := rfl
@[simp] theorem runExit_crashed : st.runExit.crashed = st.crashed := rfl
@[simp] theorem runExit_close : st.runExit.close = st.close := rfl
@[simp] theorem runExit_sendClosed : st.runExit.sendClosed = st.sendClosed := rfl
@[simp] theorem runExit_drawn : st.runExit.drawn = st.drawn := rfl
@[simp] theorem runExit_idgen : st.runExit.idgen = st.idgen := rfl
@[simp] theorem runExit_recvDone : st.runExit.recvDone = st.recvDone := rfl
@[simp] theorem runExit_inbox : st.runExit.inbox = st.inbox := rfl
@[simp] theorem runExit_arrived : st.runExit.arrived = st.arrived := rfl
@[simp] theorem runExit_now : st.runExit.now = st.now := rfl

end frames

theorem step_cases {cfg : Cfg} {st st' : State} {ev : Ev} (h : step cfg st ev = some st') :
    st.crashed = none ∧
    ((st.sendClosed = true ∧ st' = { st with crashed := some "send on closed channel" }) ∨
     stepCore cfg st ev = some st') := by
  unfold step at h
  split at h
  · simp at h
  · rename_i hc
    refine ⟨by simpa using hc, ?_⟩
    split at h
    · simp at h
    · split at h
      · rename_i hs
        simp at h hs
        exact .inl ⟨hs.1, h.symm⟩
      · simp at h; subst h; exact .inr (by assumption)

theorem step_of_crashed {cfg : Cfg} {st : State} (hc : st.crashed.isSome = true) (ev : Ev) : step cfg st ev = none :=
  if_pos hc

theorem step_open {cfg : Cfg} {st : State} (hc : st.crashed = none) (hsc : st.sendClosed = false) (ev : Ev) :
    step cfg st ev = stepCore cfg st ev := by
  unfold step
  rw [hc, hsc]
  cases stepCore cfg st ev <;> rfl

/-- A send after `Close()` closed the channel panics (whichever goroutine it is). -/
theorem send_after_close_panics (cfg : Cfg) (st st2 : State) (ev : Ev) (hc : st.crashed = none)
    (hsc : st.sendClosed = true) (h : stepCore cfg st ev = some st2) (hs : sentSomething st st2 = true) :
    step cfg st ev = some { st with crashed := some "send on closed channel" } := by
  simp [step, hc, h, hsc, hs]

theorem runs (cfg : Cfg) : Runs (step cfg) (steps cfg) := ⟨fun _ => rfl, fun _ _ _ => rfl⟩

theorem steps_append (cfg : Cfg) (st : State) (evs : List Ev) (e : Ev) :
    steps cfg st (evs ++ [e]) = (steps cfg st evs).bind fun st' => step cfg st' e := by
  rw [(runs cfg).append]
  cases steps cfg st evs with
  | none => rfl
  | some s => show (step cfg s e).bind _ = step cfg s e; cases step cfg s e <;> rfl

theorem Reachable.extend {cfg : Cfg} {st st' : State} (hr : Reachable cfg st) (evs : List Ev)
    (h : steps cfg st evs = some st') : Reachable cfg st' := by
  obtain ⟨e0, h0⟩ := hr
  exact ⟨e0 ++ evs, by rw [(runs cfg).append, h0]; exact h⟩

def Phase.started : Phase → Bool
  | .idle => false
  | _ => true

/-- `b` differs from `a` at most in the handler tables. -/
structure SameCore (a b : State) : Prop where
  now : b.now = a.now
  idgen : b.idgen = a.idgen
  drawn : b.drawn = a.drawn
  ws : b.ws = a.ws
  awaiting : b.awaiting = a.awaiting
  inbox : b.inbox = a.inbox
  arrived : b.arrived = a.arrived
  rclosed : b.rclosed = a.rclosed
  run : b.run = a.run
  recvDone : b.recvDone = a.recvDone
  done : b.done = a.done
  sendClosed : b.sendClosed = a.sendClosed
  close : b.close = a.close
  crashed : b.crashed = a.crashed
  out : b.out = a.out

section pop
variable (st : State) (rest : List (Option RMsg))
@[simp] theorem pop_ws : (st.pop rest).ws = st.ws := rfl
@[simp] theorem pop_awaiting : (st.pop rest).awaiting = st.awaiting := rfl
@[simp] theorem pop_run : (st.pop rest).run = st.run := rfl
@[simp] theorem pop_out : (st.pop rest).out = st.out := rfl
@[simp] theorem pop_done : (st.pop rest).done = st.done := rfl
@[simp] theorem pop_crashed : (st.pop rest).crashed = st.crashed := rfl
@[simp] theorem pop_close : (st.pop rest).close = st.close := rfl
@[simp] theorem pop_inbox : (st.pop rest).inbox = rest := rfl
@[simp] theorem pop_arrived : (st.pop rest).arrived = st.arrived := rfl
@[simp] theorem pop_sendClosed : (st.pop rest).sendClosed = st.sendClosed := rfl
@[simp] theorem pop_recvDone : (st.pop rest).recvDone = st.recvDone := rfl
@[simp] theorem pop_drawn : (st.pop rest).drawn = st.drawn := rfl
@[simp] theorem pop_idgen : (st.pop rest).idgen = st.idgen := rfl
@[simp] theorem pop_now : (st.pop rest).now = st.now := rfl
@[simp] theorem pop_eventHandlers : (st.pop rest).eventHandlers = st.eventHandlers := rfl
end pop

/-- `b` is `a` after the post-processing of an API call: the handler tables may have grown; a
    PPT protocol violation sent ABORT and stopped receiving (before fix aee6f97: closed the send side). -/
structure SameMod (a b : State) : Prop where
  now : b.now = a.now
  idgen : b.idgen = a.idgen
  drawn : b.drawn = a.drawn
  ws : b.ws = a.ws
  awaiting : b.awaiting = a.awaiting
  inbox : b.inbox = a.inbox
  arrived : b.arrived = a.arrived
  rclosed : b.rclosed = a.rclosed
  run : b.run = a.run
  recvDone : b.recvDone = a.recvDone ∨ b.recvDone = true
  done : b.done = a.done
  close : b.close = a.close
  crashed : b.crashed = a.crashed
  sendClosed : b.sendClosed = a.sendClosed ∨ (b.sendClosed = true)
  out : b.out = a.out ∨ b.out = .send (.abort N.ErrProtocolViolation) :: a.out

theorem abortSession_sendClosed (cfg : Cfg) (st : State) (h : cfg.abortClosesSend = false) :
    (abortSession cfg st).sendClosed = st.sendClosed := by
  unfold abortSession
  simp [h]
  split <;> rfl

theorem postProcess_sendClosed {cfg : Cfg} {st st1 : State} {w : Waiter} {r r' : Ret}
    (hc : cfg.abortClosesSend = false) (h : postProcess cfg st w r = .ok (st1, r')) :
    st1.sendClosed = st.sendClosed := by
  unfold postProcess at h
  split at h
  · simp at h; obtain ⟨h1, _⟩ := h; subst h1; rfl
  · simp at h; obtain ⟨h1, _⟩ := h; subst h1; rfl
  · split at h
    · simp at h
    · simp at h; obtain ⟨h1, _⟩ := h; subst h1; exact abortSession_sendClosed cfg st hc
    · simp at h; obtain ⟨h1, _⟩ := h; subst h1; rfl
    · simp at h; obtain ⟨h1, _⟩ := h; subst h1; rfl
  · simp at h; obtain ⟨h1, _⟩ := h; subst h1; rfl

/-- Post-processing can only panic inside `prepareCallResultMessage`. -/
theorem postProcess_panic {cfg : Cfg} {st : State} {w : Waiter} {r : Ret} {site : String}
    (h : postProcess cfg st w r = .panic site) :
    ∃ d a k, prepareCallResult cfg.ppt cfg.deser cfg.dealerPPT d a k = .panic site := by
  unfold postProcess at h
  split at h
  · simp at h
  · simp at h
  · split at h
    · rename_i hp; simp at h; subst h; exact ⟨_, _, _, hp⟩
    · simp at h
    · simp at h
    · simp at h
  · simp at h

end Nexus.Client.R
