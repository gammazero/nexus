/-
  The case analysis of `R.step`: `Step cfg st ev st'` holds when a waiter moves (`WStep`) or a step
  that moves none is taken (`GStep`); each has one constructor per path through `step`, with the
  branch conditions as hypotheses, and gives `st'` as the changed fields of `st`, the waiter after
  the move and the outputs logged.  Every proof that an invariant is preserved goes by cases on it.
-/
import Nexus.Client.RendezvousLemmas

namespace Nexus.Client.R
open Nexus.Gen

abbrev State.withTables (st t : State) : State :=
  { st with eventHandlers := t.eventHandlers, topicSub := t.topicSub, invHandlers := t.invHandlers,
            procReg := t.procReg }

theorem prepare_eq {st st1 : State} {op : OpKind} {name : String} {x : Nat}
    (h : prepare st op name = .ok (st1, x)) : st1 = st.withTables st1 := by
  unfold prepare at h
  split at h
  · split at h <;> cases h; rfl
  · split at h <;> cases h; rfl
  · cases h; rfl

/-- `postProcess` changes at most the handler tables and, when it aborts the session over an
    unannounced PPT result, sends ABORT (`pre`) and stops receiving or closes the send side. -/
theorem postProcess_eq {cfg : Cfg} {st t : State} {w : Waiter} {r r' : Ret}
    (h : postProcess cfg st w r = .ok (t, r')) :
    ∃ pre, (pre = [] ∨ pre = [.send (.abort N.ErrProtocolViolation)]) ∧
      (t.recvDone = st.recvDone ∨ t.recvDone = true) ∧ (t.sendClosed = st.sendClosed ∨ t.sendClosed = true) ∧
      t = { st.withTables t with recvDone := t.recvDone, sendClosed := t.sendClosed, out := pre ++ st.out } := by
  unfold postProcess at h
  split at h
  case h_3 =>
    split at h <;> cases h
    case h_2 =>
      unfold abortSession
      split
      · exact ⟨[_], .inr rfl, .inl rfl, .inr rfl, rfl⟩
      · split
        · exact ⟨[], .inl rfl, .inr rfl, .inl rfl, rfl⟩
        · exact ⟨[_], .inr rfl, .inr rfl, .inl rfl, rfl⟩
    all_goals exact ⟨[], .inl rfl, .inl rfl, .inl rfl, rfl⟩
  all_goals cases h; exact ⟨[], .inl rfl, .inl rfl, .inl rfl, rfl⟩

theorem forget_eq (st : State) (cfg : Cfg) (id : Nat) :
    st.forget cfg id = { st with awaiting := (st.forget cfg id).awaiting } := by
  unfold State.forget; split <;> rfl

abbrev State.emits (st : State) (os : List Out) : State := { st with out := os ++ st.out }

@[simp] theorem emits_ws (st : State) (os : List Out) : (st.emits os).ws = st.ws := rfl
@[simp] theorem emits_out (st : State) (os : List Out) : (st.emits os).out = os ++ st.out := rfl

/-- The moves of waiter `g`: `G` is `st` with the other fields the move changes, `w'` the waiter after
    it, `os` what it logs.  In the `api…` constructors `t` holds the handler tables after `prepare` and
    `ig`, `id` are what `IDGen.Next` yields; `apiReturn` is the call that returns at once (the name is
    not subscribed or registered, or the client is not connected).  In `finish…` and `callReturn…`,
    `t` is the state after `postProcess`, of which the handler tables, `recvDone` and `sendClosed`
    count; in the `…Abort` ones it sent ABORT (a PPT protocol violation). -/
inductive WStep (cfg : Cfg) (st : State) (g : Nat) : Ev → State → Waiter → List Out → Prop
  | apiReturn (op : OpKind) (name : String) (prog : Bool) (t : State) (r : Ret)
      (hidle : (st.ws g).phase = .idle) :
    WStep cfg st g (.apiStart g op name prog) (st.withTables t)
      { op := op, name := name, phase := .returned r } [.ret g r]
  | apiFire (name : String) (prog : Bool) (t : State) {ig : UInt64} {id : Nat} (hd : st.done = false)
      (hig : ig = (idGenNext st.idgen).1) (hid : id = (idGenNext st.idgen).2.toNat)
      (hidle : (st.ws g).phase = .idle) :
    WStep cfg st g (.apiStart g .publishNoAck name prog)
      { st.withTables t with idgen := ig, drawn := st.drawn + 1 }
      { op := .publishNoAck, name := name, phase := .returned .ok }
      [.ret g .ok, .send (requestMsg .publishNoAck id name 0 false)]
  | apiRequest (op : OpKind) (name : String) (prog : Bool) (t : State) (x : Nat) {ig : UInt64} {id : Nat}
      (hd : st.done = false) (hop : op ≠ .publishNoAck) (hig : ig = (idGenNext st.idgen).1)
      (hid : id = (idGenNext st.idgen).2.toNat) (hidle : (st.ws g).phase = .idle) :
    WStep cfg st g (.apiStart g op name prog)
      ({ st.withTables t with idgen := ig, drawn := st.drawn + 1 }.setAwait id (some g))
      { op := op, name := name, req := id, phase := .pending, hasProg := prog && op == OpKind.call }
      [.send (requestMsg op id name x prog)]
  | ctxEnd (k : CtxKind) (hop : (st.ws g).op = .call) (hctx : (st.ws g).ctx = none)
      (hleft : (st.ws g).phase.left = false) (hidle : (st.ws g).phase ≠ .idle) :
    WStep cfg st g (.ctxEnd g k) st { st.ws g with ctx := some k } []
  | apiWait (hph : (st.ws g).phase = .pending) :
    WStep cfg st g (.apiWait g) st { st.ws g with phase := .waiting, deadline := st.now + cfg.timeout } []
  | timeoutReply (hop : (st.ws g).op ≠ .call) (hdl : st.now ≥ (st.ws g).deadline)
      (hph : (st.ws g).phase = .waiting) :
    WStep cfg st g (.timeout g) st { st.ws g with phase := .finishing .timeout } []
  | timeoutCancel {k : CtxKind} (hdl : st.now ≥ (st.ws g).deadline) (hph : (st.ws g).phase = .cancelWaiting k) :
    WStep cfg st g (.timeout g) st { st.ws g with phase := .finishing .timeout } []
  | noticeCtx {k : CtxKind} (hctx : (st.ws g).ctx = some k) (hop : (st.ws g).op = .call)
      (hph : (st.ws g).phase = .waiting) :
    WStep cfg st g (.noticeCtx g) st
      { st.ws g with phase := .cancelWaiting k, cancelled := true, deadline := st.now + cfg.timeout }
      [.send (.cancel (st.ws g).req cfg.cancelMode)]
  | seeDone (hd : st.done = true) (hph : (st.ws g).phase = .waiting) :
    WStep cfg st g (.seeDone g) st { st.ws g with phase := .finishing .notConn } []
  | deliverReply {m : RMsg} (hrun : st.run = .signalling g m) (hph : (st.ws g).phase = .waiting) :
    WStep cfg st g .deliver { st with run := .idle }
      { st.ws g with
        phase := if (st.ws g).hasProg && isProgressive m then .progSending m else .finishing (.msg m) }
      [.handed g m]
  | deliverCancelled {m : RMsg} {k : CtxKind} (hrun : st.run = .signalling g m)
      (hph : (st.ws g).phase = .cancelWaiting k) :
    WStep cfg st g .deliver { st with run := .idle }
      { st.ws g with phase := if isError m then .finishing (.ctx k) else .cancelWaiting k } [.handed g m]
  | progTake {m : RMsg} (hbusy : (st.ws g).progBusy = false) (hph : (st.ws g).phase = .progSending m) :
    WStep cfg st g (.progTake g) st { st.ws g with phase := .waiting, progBusy := true } [.progress g m]
  | progReturn (hbusy : (st.ws g).progBusy = true) :
    WStep cfg st g (.progReturn g) st { st.ws g with progBusy := false } []
  | finishProg {r : Ret} (hprog : (st.ws g).hasProg = true) (hph : (st.ws g).phase = .finishing r) :
    WStep cfg st g (.finish g) { st with awaiting := (st.forget cfg (st.ws g).req).awaiting }
      { st.ws g with phase := .closing r } []
  | finishOk {r r' : Ret} {t : State} (hprog : (st.ws g).hasProg = false)
      (hrd : t.recvDone = st.recvDone ∨ t.recvDone = true)
      (hsc : t.sendClosed = st.sendClosed ∨ t.sendClosed = true)
      (hpp : postProcess cfg (st.forget cfg (st.ws g).req) (st.ws g) r = .ok (t, r'))
      (hph : (st.ws g).phase = .finishing r) :
    WStep cfg st g (.finish g)
      { st.withTables t with
        awaiting := (st.forget cfg (st.ws g).req).awaiting, recvDone := t.recvDone, sendClosed := t.sendClosed }
      { st.ws g with phase := .returned r' } [.ret g r']
  | finishAbort {r r' : Ret} {t : State} (hprog : (st.ws g).hasProg = false)
      (hrd : t.recvDone = st.recvDone ∨ t.recvDone = true)
      (hsc : t.sendClosed = st.sendClosed ∨ t.sendClosed = true)
      (hpp : postProcess cfg (st.forget cfg (st.ws g).req) (st.ws g) r = .ok (t, r'))
      (hph : (st.ws g).phase = .finishing r) :
    WStep cfg st g (.finish g)
      { st.withTables t with
        awaiting := (st.forget cfg (st.ws g).req).awaiting, recvDone := t.recvDone, sendClosed := t.sendClosed }
      { st.ws g with phase := .returned r' } [.ret g r', .send (.abort N.ErrProtocolViolation)]
  | callReturnOk {r r' : Ret} {t : State} (hbusy : (st.ws g).progBusy = false)
      (hrd : t.recvDone = st.recvDone ∨ t.recvDone = true)
      (hsc : t.sendClosed = st.sendClosed ∨ t.sendClosed = true)
      (hpp : postProcess cfg st (st.ws g) r = .ok (t, r')) (hph : (st.ws g).phase = .closing r) :
    WStep cfg st g (.callReturn g) { st.withTables t with recvDone := t.recvDone, sendClosed := t.sendClosed }
      { st.ws g with phase := .returned r' } [.ret g r']
  | callReturnAbort {r r' : Ret} {t : State} (hbusy : (st.ws g).progBusy = false)
      (hrd : t.recvDone = st.recvDone ∨ t.recvDone = true)
      (hsc : t.sendClosed = st.sendClosed ∨ t.sendClosed = true)
      (hpp : postProcess cfg st (st.ws g) r = .ok (t, r')) (hph : (st.ws g).phase = .closing r) :
    WStep cfg st g (.callReturn g) { st.withTables t with recvDone := t.recvDone, sendClosed := t.sendClosed }
      { st.ws g with phase := .returned r' } [.ret g r', .send (.abort N.ErrProtocolViolation)]

inductive GStep (cfg : Cfg) (st : State) : Ev → State → List Out → Prop
  | sendOnClosed (ev : Ev) (hsc : st.sendClosed = true) :
    GStep cfg st ev { st with crashed := some "send on closed channel" } []
  | tick (d : Nat) : GStep cfg st (.tick d) { st with now := st.now + d } []
  | inject (m : RMsg) (hrc : st.rclosed = false) :
    GStep cfg st (.inject m) { st with inbox := st.inbox ++ [some m], arrived := m :: st.arrived } []
  | injectClose (hrc : st.rclosed = false) :
    GStep cfg st .injectClose { st with inbox := st.inbox ++ [none], rclosed := true } []
  | giveUp {g : Nat} {m : RMsg} (hrun : st.run = .signalling g m) (hesc : cfg.signalEscapes = true)
      (hleft : (st.ws g).phase.left = true) :
    GStep cfg st .giveUp { st with run := .idle } []
  | finishPanic {g : Nat} {r : Ret} {site : String} (hph : (st.ws g).phase = .finishing r)
      (hpanic : postProcess cfg (st.forget cfg (st.ws g).req) (st.ws g) r = .panic site) :
    GStep cfg st (.finish g) { st with awaiting := (st.forget cfg (st.ws g).req).awaiting, crashed := some site } []
  | callReturnPanic {g : Nat} {r : Ret} {site : String} (hph : (st.ws g).phase = .closing r)
      (hpanic : postProcess cfg st (st.ws g) r = .panic site) :
    GStep cfg st (.callReturn g) { st with crashed := some site } []
  | recvClosed {rest : List (Option RMsg)} (hrun : st.run = .idle) (hin : st.inbox = none :: rest) :
    GStep cfg st .runRecv { st with inbox := rest, run := .exited, done := true } [.done]
  | recvUnclaimed {m : RMsg} {rest : List (Option RMsg)} (hrun : st.run = .idle) (hin : st.inbox = some m :: rest) :
    GStep cfg st .runRecv { st with inbox := rest } [.unclaimed m, .recv m]
  | recvDropped {m : RMsg} {rest : List (Option RMsg)} {sub : Nat} (hrun : st.run = .idle)
      (hin : st.inbox = some m :: rest) :
    GStep cfg st .runRecv { st with inbox := rest } [.eventDropped sub, .recv m]
  | recvUnhandled {m : RMsg} {rest : List (Option RMsg)} (hrun : st.run = .idle) (hin : st.inbox = some m :: rest) :
    GStep cfg st .runRecv { st with inbox := rest } [.unhandled (typeCode m), .recv m]
  | recvSignal {m : RMsg} {rest : List (Option RMsg)} {g id : Nat} (hrun : st.run = .idle)
      (hin : st.inbox = some m :: rest) (hsig : sigId m = some id) (hg : st.awaiting id = some g) :
    GStep cfg st .runRecv { st with inbox := rest, run := .signalling g m } [.recv m]
  | recvEventPanic {m : RMsg} {rest : List (Option RMsg)} {site : String} {sub pub : Nat} {d : Dict}
      {a : List Val} {k : Dict} (hrun : st.run = .idle) (hin : st.inbox = some m :: rest)
      (hm : m = .event sub pub d a k) (hpanic : eventPpt cfg.ppt cfg.deser d a k = .panic site) :
    GStep cfg st .runRecv { st with inbox := rest, crashed := some site } [.recv m]
  | recvEvent {rest : List (Option RMsg)} {sub pub : Nat} {d : Dict} {a : List Val} {k : Dict}
      (a' : List Val) (k' : Dict) (hrun : st.run = .idle) (hin : st.inbox = some (.event sub pub d a k) :: rest) :
    GStep cfg st .runRecv { st with inbox := rest, run := .inEvent }
      [.eventStart sub pub a' k', .recv (.event sub pub d a k)]
  | recvToWorker {m : RMsg} {rest : List (Option RMsg)} (hrun : st.run = .idle) (hin : st.inbox = some m :: rest) :
    GStep cfg st .runRecv { st with inbox := rest, run := .busy m } [.toWorker m, .recv m]
  | recvExit {m : RMsg} {rest : List (Option RMsg)} (hrun : st.run = .idle) (hin : st.inbox = some m :: rest) :
    GStep cfg st .runRecv { st with inbox := rest, run := .exited, done := true } [.done, .recv m]
  | runSeeRecvDone (hrun : st.run = .idle) (hrd : st.recvDone = true) :
    GStep cfg st .runSeeRecvDone { st with run := .exited, done := true } [.done]
  | eventReturn (hrun : st.run = .inEvent) : GStep cfg st .eventReturn { st with run := .idle } [.eventEnd]
  | busyEnd {m : RMsg} (hrun : st.run = .busy m) : GStep cfg st .busyEnd { st with run := .idle } []
  | closeStartDone (hcl : st.close = .no) (hd : st.done = true) :
    GStep cfg st .closeStart { st with close := .waitWorkers } []
  | closeStart (hcl : st.close = .no) (hd : st.done = false) :
    GStep cfg st .closeStart { st with close := .sentGoodbye (st.now + cfg.closeFactor * cfg.timeout) }
      [.send (.goodbye N.CloseRealm)]
  | closeSeeDone (hcl : (∃ d, st.close = .sentGoodbye d) ∨ st.close = .forced) (hd : st.done = true) :
    GStep cfg st .closeSeeDone { st with close := .waitWorkers } []
  | closeForce {d : Nat} (hcl : st.close = .sentGoodbye d) (hnow : st.now ≥ d) :
    GStep cfg st .closeForce { st with close := .forced, recvDone := true } []
  | closeTwice (hcl : st.close = .waitWorkers) (hsc : st.sendClosed = true) :
    GStep cfg st .closeWorkersDone { st with crashed := some "close of closed channel" } []
  | closeReturn (hcl : st.close = .waitWorkers) (hsc : st.sendClosed = false) :
    GStep cfg st .closeWorkersDone { st with close := .returned, sendClosed := true } [.closeReturned]

/-- Indexed by the event; a constructor of `WStep`/`GStep` gives a triple (`G`, `w'`, `os`), put together
    here.  `Step` only over-approximates `step`, and `step_spec` has no converse: `apiReturn` admits any
    tables `t` and result `r`, `recvEvent` any unpacked `a'`, `k'`, `recvDropped` any `sub`, `sendOnClosed` any
    event, whatever `stepCore` would have done.  That serves invariants (by cases on `Step`); a proof
    that a step can be taken (`close_from_quiet`, `unblock_run`, the witnesses) evaluates `step` itself,
    which is `stepCore` while nothing has crashed and the send side is open (`step_open`). -/
inductive Step (cfg : Cfg) (st : State) : Ev → State → Prop
  | waiter {ev : Ev} {G : State} {w' : Waiter} {os : List Out} (g : Nat) (h : WStep cfg st g ev G w' os) :
    Step cfg st ev ((G.emits os).setW g w')
  | global {ev : Ev} {G : State} {os : List Out} (h : GStep cfg st ev G os) : Step cfg st ev (G.emits os)

theorem GStep.frame {cfg : Cfg} {st G : State} {ev : Ev} {os : List Out} (h : GStep cfg st ev G os) :
    G.ws = st.ws ∧ G.out = st.out ∧ G.drawn = st.drawn ∧ G.idgen = st.idgen := by
  cases h <;> exact ⟨rfl, rfl, rfl, rfl⟩

theorem WStep.frame {cfg : Cfg} {st G : State} {g : Nat} {ev : Ev} {w' : Waiter} {os : List Out}
    (h : WStep cfg st g ev G w' os) : G.ws = st.ws ∧ G.out = st.out := by
  cases h <;> exact ⟨rfl, rfl⟩

theorem step_crashed {cfg : Cfg} {st st' : State} {ev : Ev} (h : step cfg st ev = some st') :
    st.crashed = none := (step_cases h).1

theorem step_spec {cfg : Cfg} {st st' : State} {ev : Ev} (h : step cfg st ev = some st') :
    Step cfg st ev st' := by
  have hs := step_cases h
  clear h
  obtain ⟨-, ⟨hsc, rfl⟩ | h⟩ := hs
  · exact .global (.sendOnClosed ev hsc)
  unfold stepCore at h
  cases ev <;> simp only at h
  case tick d => cases h; exact .global (.tick d)
  case inject m => split at h <;> cases h; exact .global (.inject m (by simpa using ‹¬ st.rclosed = true›))
  case injectClose => split at h <;> cases h; exact .global (.injectClose (by simpa using ‹¬ st.rclosed = true›))
  case apiStart g op name prog =>
    unfold apiStart at h
    split at h
    rotate_left
    · cases h
    rename_i hidle
    split at h
    · cases h; exact .waiter g (.apiReturn op name prog st _ hidle)
    rename_i st1 x hp
    rw [prepare_eq hp] at h
    split at h
    · cases h; exact .waiter g (.apiReturn op name prog st1 .notConn hidle)
    rename_i hd
    split at h <;> cases h
    · rename_i hop
      cases eq_of_beq hop
      exact .waiter g (.apiFire name prog st1 (by simpa using hd) rfl rfl hidle)
    · rename_i hop
      exact .waiter g (.apiRequest op name prog st1 x (by simpa using hd) (by simpa using hop) rfl rfl hidle)
  case ctxEnd g k =>
    simp only [Option.ite_none_right_eq_some, Option.some.injEq, Bool.and_eq_true, beq_iff_eq,
      Option.isNone_iff_eq_none, Bool.not_eq_eq_eq_not, Bool.not_true] at h
    obtain ⟨⟨⟨⟨hop, hctx⟩, hleft⟩, hidle⟩, rfl⟩ := h
    exact .waiter g (.ctxEnd k hop hctx hleft fun hi => by simp [hi] at hidle)
  case apiWait g => split at h <;> cases h; exact .waiter g (.apiWait ‹_›)
  case timeout g =>
    split at h
    · split at h <;> cases h
      rename_i hph hc
      simp only [Bool.and_eq_true, bne_iff_ne, ne_eq, decide_eq_true_eq] at hc
      exact .waiter g (.timeoutReply hc.1 hc.2 hph)
    · split at h <;> cases h
      exact .waiter g (.timeoutCancel ‹_› ‹_›)
    · cases h
  case noticeCtx g =>
    split at h
    · split at h <;> cases h
      rename_i k hph hctx hop
      exact .waiter g (.noticeCtx hctx (by simpa using hop) hph)
    · cases h
  case seeDone g =>
    split at h
    · split at h <;> cases h
      exact .waiter g (.seeDone ‹_› ‹_›)
    · cases h
  case deliver =>
    split at h
    · rename_i g m hrun
      split at h <;> cases h
      · exact .waiter g (.deliverReply hrun ‹_›)
      · exact .waiter g (.deliverCancelled hrun ‹_›)
    · cases h
  case giveUp =>
    split at h
    · rename_i g m hrun
      split at h <;> cases h
      rename_i hc
      simp only [Bool.and_eq_true] at hc
      exact .global (.giveUp hrun hc.1 hc.2)
    · cases h
  case progTake g =>
    split at h
    · split at h <;> cases h
      rename_i m hph hb
      exact .waiter g (.progTake (by simpa using hb) hph)
    · cases h
  case progReturn g => split at h <;> cases h; exact .waiter g (.progReturn ‹_›)
  case finish g =>
    split at h
    · rename_i r hph
      split at h <;> cases h
      · rw [forget_eq]; exact .waiter g (.finishProg ‹_› hph)
      · rename_i hprog
        unfold complete
        simp only
        split
        · rename_i heq; rw [forget_eq]; exact .global (.finishPanic hph (by simpa using heq))
        · rename_i st1 r' hpp
          obtain ⟨pre, hpre, hrd, hsc, heq⟩ := postProcess_eq hpp
          rw [heq, forget_eq]; simp only [forget_ws] at hpp ⊢
          rcases hpre with rfl | rfl
          · exact .waiter g (.finishOk (by simpa using hprog) (by simpa using hrd) (by simpa using hsc) hpp hph)
          · exact .waiter g (.finishAbort (by simpa using hprog) (by simpa using hrd) (by simpa using hsc) hpp hph)
    · cases h
  case callReturn g =>
    split at h
    · rename_i r hph
      split at h <;> cases h
      rename_i hb
      unfold complete
      simp only
      split
      · exact .global (.callReturnPanic hph ‹_›)
      · rename_i st1 r' hpp
        obtain ⟨pre, hpre, hrd, hsc, heq⟩ := postProcess_eq hpp
        rw [heq]
        rcases hpre with rfl | rfl
        · exact .waiter g (.callReturnOk (by simpa using hb) hrd hsc hpp hph)
        · exact .waiter g (.callReturnAbort (by simpa using hb) hrd hsc hpp hph)
    · cases h
  case runRecv =>
    unfold runRecv at h
    split at h
    · cases h; exact .global (.recvClosed ‹_› ‹_›)
    · rename_i m rest hrun hin
      cases h
      unfold dispatch
      split
      · rename_i f hact
        split
        · exact .global (.recvUnclaimed hrun hin)
        · rename_i g hg
          cases hf : m.field? f with
          | none => simp [hf] at hg
          | some id =>
            rw [hf] at hg
            exact .global (.recvSignal hrun hin (by simp [sigId, hact, hf]) hg)
      · split
        · split
          · split
            · split
              · exact .global (.recvEventPanic hrun hin rfl ‹_›)
              · exact .global (.recvDropped hrun hin)
              · exact .global (.recvEvent _ _ hrun hin)
            · exact .global (.recvDropped hrun hin)
          · exact .global (.recvToWorker hrun hin)
        · exact .global (.recvToWorker hrun hin)
      · exact .global (.recvExit hrun hin)
      · exact .global (.recvUnhandled hrun hin)
    · cases h
  case runSeeRecvDone =>
    split at h
    · split at h <;> cases h
      exact .global (.runSeeRecvDone ‹_› ‹_›)
    · cases h
  case eventReturn => split at h <;> cases h; exact .global (.eventReturn ‹_›)
  case busyEnd => split at h <;> cases h; exact .global (.busyEnd ‹_›)
  case closeStart =>
    split at h
    · rename_i hcl
      split at h <;> cases h
      · exact .global (.closeStartDone hcl ‹_›)
      · exact .global (.closeStart hcl (by simpa using ‹¬ st.done = true›))
    · cases h
  case closeSeeDone =>
    split at h
    · split at h <;> cases h
      exact .global (.closeSeeDone (.inl ⟨_, ‹_›⟩) ‹_›)
    · split at h <;> cases h
      exact .global (.closeSeeDone (.inr ‹_›) ‹_›)
    · cases h
  case closeForce =>
    split at h
    · split at h <;> cases h
      exact .global (.closeForce ‹_› ‹_›)
    · cases h
  case closeWorkersDone =>
    split at h
    · rename_i hcl
      split at h <;> cases h
      · exact .global (.closeTwice hcl ‹_›)
      · exact .global (.closeReturn hcl (by simpa using ‹¬ st.sendClosed = true›))
    · cases h

end Nexus.Client.R
