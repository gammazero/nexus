/-
  `CallProgressive` as a whole: the waiter of `Nexus.Client.R` and the sender goroutine of
  `Nexus.Client.P` side by side (product system `RP`).  The two share the request id, the caller's
  context (a `sendProg` that honours it returns its error once it has ended) and the send channel
  (`Close()` closes it for both).  Every interleaving of the two is an event sequence of `RP`.
-/
import Nexus.Client.Progressive
import Nexus.Client.RendezvousAll

namespace Nexus.Client.RP

structure Cfg where
  r : R.Cfg := {}
  p : P.Cfg := {}

/-- The sender reads the same `c.cancelMode` as the waiter. -/
def Cfg.pc (cfg : Cfg) : P.Cfg := { cfg.p with cancelMode := cfg.r.cancelMode }

structure State where
  r : R.State := {}
  p : P.State := {}

inductive Ev where
  | r (e : R.Ev)
  | p (e : P.Ev)
  deriving Repr, Inhabited

def allowed (st : State) : P.Ev → Bool
  | .spawn g req _ _ =>
    -- after the call's first CALL went out
    (st.r.ws g).op == .call && (st.r.ws g).req == req && !(match (st.r.ws g).phase with | .idle => true | _ => false)
  | .pulled g (.err true) => (st.r.ws g).ctx.isSome     -- `ctx.Err()` needs an ended context
  | .closePeer => false                                  -- only `Close()` closes the peer
  | _ => true

def step (cfg : Cfg) (st : State) (ev : Ev) : Option State :=
  if st.r.crashed.isSome || st.p.crashed.isSome then none else
  match ev with
  | .r e => (R.step cfg.r st.r e).map fun r' => { r := r', p := { st.p with sendClosed := r'.sendClosed } }
  | .p e => if allowed st e then (P.step cfg.pc st.p e).map fun p' => { st with p := p' } else none

def steps (cfg : Cfg) (st : State) : List Ev → Option State
  | [] => some st
  | e :: es => (step cfg st e).bind fun st' => steps cfg st' es

def Reachable (cfg : Cfg) (st : State) : Prop := ∃ evs, steps cfg {} evs = some st

theorem runs (cfg : Cfg) : Runs (step cfg) (steps cfg) := ⟨fun _ => rfl, fun _ _ _ => rfl⟩

/-- A step of `RP` is a step of the waiter's side, after which the sender sees what `Close()` did to
    the send channel, or an allowed step of the sender's. -/
theorem step_cases {cfg : Cfg} {st st' : State} {ev : Ev} (h : step cfg st ev = some st') :
    (∃ e r', R.step cfg.r st.r e = some r' ∧
      st' = { r := r', p := { st.p with sendClosed := r'.sendClosed } }) ∨
    (∃ e p', P.step cfg.pc st.p e = some p' ∧ st' = { st with p := p' }) := by
  unfold step at h
  split at h
  · cases h
  cases ev with
  | r e =>
    obtain ⟨r', hr', rfl⟩ := Option.map_eq_some_iff.1 h
    exact .inl ⟨e, r', hr', rfl⟩
  | p e =>
    simp only at h
    split at h
    · obtain ⟨p', hp', rfl⟩ := Option.map_eq_some_iff.1 h
      exact .inr ⟨e, p', hp', rfl⟩
    · cases h

theorem r_reachable (cfg : Cfg) (st : State) (h : Reachable cfg st) : R.Reachable cfg.r st.r := by
  refine (runs cfg).reachable (P := fun st => R.Reachable cfg.r st.r) ⟨[], rfl⟩ ?_ h
  intro st ev st' hr hs
  rcases step_cases hs with ⟨e, r', hr', rfl⟩ | ⟨_, _, _, rfl⟩
  · exact hr.extend [e] (by simp [R.steps, hr'])
  · exact hr

/-- A property of the sender system that does not look at `sendClosed` carries over to `RP`. -/
theorem p_invariant (cfg : Cfg) (I : P.State → Prop) (h0 : I {})
    (hs : ∀ st ev st', I st → P.step cfg.pc st ev = some st' → I st')
    (hc : ∀ st b, I st → I { st with sendClosed := b }) (st : State) (h : Reachable cfg st) : I st.p := by
  refine (runs cfg).reachable (P := fun st => I st.p) h0 ?_ h
  intro st ev st' hi hst
  rcases step_cases hst with ⟨_, _, _, rfl⟩ | ⟨_, _, hp', rfl⟩
  · exact hc _ _ hi
  · exact hs _ _ _ hi hp'

theorem sender_cancel_mode (cfg : Cfg) (st : State) (h : Reachable cfg st) :
    ∀ q ∈ P.cancelsOf st.p.out, q.2 = cfg.pc.senderCancelMode :=
  p_invariant cfg (fun s => ∀ q ∈ P.cancelsOf s.out, q.2 = cfg.pc.senderCancelMode)
    (by intro q hq; simp [P.cancelsOf] at hq) (P.cancel_mode_step cfg.pc) (fun _ _ hi => hi) st h

/-- A progressive call whose context ends while `sendProg` (which honours it) waits for the next
    chunk: the waiter sends CANCEL and so does the sender — two CANCELs for one request, both with
    the configured mode (before fix 4f8171f the sender's said KillNoWait). -/
def doubleCancel : List Ev :=
  [.r (.apiStart 1 .call "p" false), .p (.spawn 1 1 "p" false), .r (.apiWait 1),
   .r (.ctxEnd 1 .canceled), .r (.noticeCtx 1), .p (.pulled 1 (.err true)), .p (.sendDone 1)]

/-- The call has returned (the callee answered with an ERROR) and the sender goes on sending. -/
def senderOutlivesCall : List Ev :=
  [.r (.apiStart 1 .call "p" false), .p (.spawn 1 1 "p" false), .r (.apiWait 1),
   .r (.inject (.error 48 1 [] "x.failed" [] [])), .r .runRecv, .r .deliver, .r (.finish 1),
   .p (.pulled 1 (.chunk true)), .p (.sendDone 1)]

/-- … and after `Close()` its next send is a send on a closed channel. -/
def senderAfterClose : List Ev :=
  senderOutlivesCall ++
  [.p (.pulled 1 (.chunk true)), .r .closeStart, .r (.inject (.goodbye [] "wamp.close.goodbye_and_out")), .r .runRecv,
   .r .closeSeeDone, .r .closeWorkersDone, .p (.sendDone 1)]

/-- The final chunk of a progressive call whose options leave `progress` unset. -/
def unsetProgress : List Ev :=
  [.r (.apiStart 1 .call "p" false), .p (.spawn 1 1 "p" false), .r (.apiWait 1),
   .p (.pulled 1 (.chunk true)), .p (.sendDone 1), .p (.pulled 1 .noFlag), .p (.sendDone 1)]

end Nexus.Client.RP
