/-
  State invariants of the rendezvous model, for every reachable state: correlation of replies and
  waiters, Done and Close, the shape of a waiter, and request ids (as long as fewer than 2^53 ids have
  been drawn from the session's IDGen, the regenerated `idGenNext`, no two API calls share one).
-/
import Nexus.Client.RendezvousStep
import Nexus.Ids.Lemmas

namespace Nexus.Client.R
open Nexus.Gen

/-- Correlation invariant: an `awaitingReply` entry points to the waiter that drew that id; a
    reply being signalled was looked up under the id of the waiter it is signalled to. -/
def InvCorr (st : State) : Prop :=
  (∀ id g, st.awaiting id = some g → (st.ws g).req = id ∧ (st.ws g).phase.started = true) ∧
  (∀ g m, st.run = .signalling g m → sigId m = some (st.ws g).req ∧ (st.ws g).phase.started = true)

theorem invCorr_init : InvCorr {} := by
  constructor
  · intro id g h; simp at h
  · intro g m h; simp at h

theorem InvCorr.mono {a b : State} (h : InvCorr a)
    (hws : ∀ g, (a.ws g).phase.started = true → (b.ws g).req = (a.ws g).req ∧ (b.ws g).phase.started = true)
    (haw : ∀ id g, b.awaiting id = some g → a.awaiting id = some g)
    (hrun : ∀ g m, b.run = .signalling g m → a.run = .signalling g m) : InvCorr b := by
  constructor
  · intro id g hb
    have := h.1 id g (haw id g hb)
    exact ⟨(hws g this.2).1 ▸ this.1, (hws g this.2).2⟩
  · intro g m hb
    have := h.2 g m (hrun g m hb)
    exact ⟨(hws g this.2).1 ▸ this.1, (hws g this.2).2⟩

theorem InvCorr.update {a b : State} (h : InvCorr a) (g : Nat) (w : Waiter)
    (hws : b.ws = (a.setW g w).ws)
    (hw : (a.ws g).phase.started = true → w.req = (a.ws g).req ∧ w.phase.started = true)
    (haw : ∀ id g', b.awaiting id = some g' → a.awaiting id = some g')
    (hrun : ∀ g' m, b.run = .signalling g' m → a.run = .signalling g' m) : InvCorr b := by
  refine h.mono (fun g' hs => ?_) haw hrun
  simp only [hws, setW_ws]
  split
  · subst g'; exact hw hs
  · exact ⟨rfl, hs⟩

theorem invCorr_step (cfg : Cfg) (st : State) (ev : Ev) (st' : State)
    (hinv : InvCorr st) (h : step cfg st ev = some st') : InvCorr st' := by
  cases step_spec h with
  | global hg =>
    cases hg
    case giveUp | recvClosed | recvEvent | recvToWorker | recvExit | runSeeRecvDone | eventReturn | busyEnd =>
      exact ⟨hinv.1, nofun⟩
    case finishPanic =>
      exact hinv.mono (fun _ h => ⟨rfl, h⟩) (fun _ _ h => forget_awaiting_some _ _ _ h) (fun _ _ => id)
    case recvSignal hsig hg =>
      refine ⟨hinv.1, fun g' m' h => ?_⟩
      cases h
      exact ⟨(hinv.1 _ _ hg).1 ▸ hsig, (hinv.1 _ _ hg).2⟩
    all_goals exact hinv
  | waiter g hw =>
    cases hw
    case ctxEnd | progReturn => exact hinv.update g _ rfl (fun h => ⟨rfl, h⟩) (fun _ _ => id) (fun _ _ => id)
    case apiReturn hidle | apiFire hidle =>
      exact hinv.update g _ rfl (fun h => by rw [hidle] at h; cases h) (fun _ _ => id) (fun _ _ => id)
    case deliverReply | deliverCancelled =>
      exact hinv.update g _ rfl (fun _ => ⟨rfl, by dsimp only; split <;> rfl⟩) (fun _ _ => id) nofun
    case finishProg | finishOk | finishAbort =>
      exact hinv.update g _ rfl (fun _ => ⟨rfl, rfl⟩) (fun _ _ h => forget_awaiting_some _ _ _ h) (fun _ _ => id)
    case apiRequest hidle =>
      have hg : ∀ g', (st.ws g').phase.started = true → g' ≠ g := fun g' h e => by rw [e, hidle] at h; cases h
      constructor
      · intro id g'
        simp only [setW_ws, setW_awaiting, setAwait_awaiting]
        split
        next hid => rintro ⟨rfl⟩; rw [if_pos rfl]; exact ⟨hid.symm, rfl⟩
        next => intro h; rw [if_neg (hg g' (hinv.1 id g' h).2)]; exact hinv.1 id g' h
      · intro g' m
        simp only [setW_ws, setW_run, setAwait_run]
        intro h; rw [if_neg (hg g' (hinv.2 g' m h).2)]; exact hinv.2 g' m h
    all_goals exact hinv.update g _ rfl (fun _ => ⟨rfl, rfl⟩) (fun _ _ => id) (fun _ _ => id)

def Ret.cancelOutcome (k : CtxKind) : Ret → Bool
  | .ctx k' => k' == k
  | .timeout => true
  | _ => false

/-- Per-waiter well-formedness: only Calls reach the Call-only phases; once the ctx.Done branch
    was taken (`cancelled`) the waiter can only end with the context's error or ErrReplyTimeout. -/
def Waiter.wf (w : Waiter) : Prop :=
  (w.hasProg = true → w.op = .call) ∧
  (w.cancelled = true → w.op = .call) ∧
  (match w.phase with
   | .idle | .pending | .waiting => w.cancelled = false
   | .progSending _ => w.op = .call ∧ w.hasProg = true ∧ w.cancelled = false
   | .cancelWaiting k => w.op = .call ∧ w.cancelled = true ∧ w.ctx = some k
   | .finishing r => w.cancelled = true → ∃ k, w.ctx = some k ∧ r.cancelOutcome k = true
   | .closing r => w.hasProg = true ∧ (w.cancelled = true → ∃ k, w.ctx = some k ∧ r.cancelOutcome k = true)
   | .returned r => w.cancelled = true → ∃ k, w.ctx = some k ∧ r.cancelOutcome k = true)

/-- How the control fields hang together (Done() is closed exactly when the receive loop has exited, …), and
    every waiter is well-formed: the other invariants take their facts about `done` and `wf` from here. -/
def InvState (st : State) : Prop :=
  (st.done = true ↔ st.run = .exited) ∧
  ((st.close = .waitWorkers ∨ st.close = .returned) → st.done = true) ∧
  (st.close = .forced → st.recvDone = true) ∧
  (∀ g, (st.ws g).wf)

theorem invState_init : InvState {} := by
  refine ⟨by simp, by simp, by simp, ?_⟩
  intro g; simp [Waiter.wf]

theorem postProcess_cancelOutcome {cfg : Cfg} {st st1 : State} {w : Waiter} {r r' : Ret} {k : CtxKind}
    (h : postProcess cfg st w r = .ok (st1, r')) (hr : r.cancelOutcome k = true) : r'.cancelOutcome k = true := by
  unfold postProcess at h
  split at h <;> simp [Ret.cancelOutcome] at hr
  all_goals (simp at h; obtain ⟨_, h2⟩ := h; subst h2; simpa [Ret.cancelOutcome] using hr)

theorem Waiter.wf.not_cancelled {w : Waiter} (h : w.wf) (hctx : w.ctx = none) : w.cancelled = false := by
  have h3 := h.2.2
  cases hc : w.cancelled
  · rfl
  · cases hp : w.phase <;> simp [hp, hc, hctx] at h3

theorem WStep.wf {cfg : Cfg} {st G : State} {g : Nat} {ev : Ev} {w' : Waiter} {os : List Out}
    (h : WStep cfg st g ev G w' os) (hw : (st.ws g).wf) : w'.wf := by
  have hnc := hw.not_cancelled
  obtain ⟨h1, h2, h3⟩ := hw
  cases h
  case progReturn => exact ⟨h1, h2, h3⟩
  case apiReturn | apiFire => exact ⟨nofun, nofun, nofun⟩
  case apiRequest => exact ⟨fun h => eq_of_beq (Bool.and_eq_true _ _ ▸ h).2, nofun, rfl⟩
  case ctxEnd hctx hleft hidle =>
    have := hnc hctx
    refine ⟨h1, h2, ?_⟩
    cases hp : (st.ws g).phase <;> simp_all [Phase.left]
  case noticeCtx hctx hop _ => exact ⟨h1, fun _ => hop, hop, rfl, hctx⟩
  case apiWait hph => rw [hph] at h3; exact ⟨h1, h2, h3⟩
  case timeoutReply hph | seeDone hph =>
    rw [hph] at h3; exact ⟨h1, h2, fun hc => absurd hc (Bool.eq_false_iff.1 h3)⟩
  case timeoutCancel k _ hph => rw [hph] at h3; exact ⟨h1, h2, fun _ => ⟨k, h3.2.2, rfl⟩⟩
  case deliverReply m _ hph =>
    rw [hph] at h3
    cases hc : ((st.ws g).hasProg && isProgressive m)
    · exact ⟨h1, h2, fun hc => absurd hc (Bool.eq_false_iff.1 h3)⟩
    · exact ⟨h1, h2, h1 (Bool.and_eq_true _ _ ▸ hc).1, (Bool.and_eq_true _ _ ▸ hc).1, h3⟩
  case deliverCancelled m k _ hph =>
    rw [hph] at h3
    cases isError m
    · exact ⟨h1, h2, h3⟩
    · exact ⟨h1, h2, fun _ => ⟨k, h3.2.2, beq_self_eq_true k⟩⟩
  case progTake hph => rw [hph] at h3; exact ⟨h1, h2, h3.2.2⟩
  case finishProg hprog hph => rw [hph] at h3; exact ⟨h1, h2, hprog, h3⟩
  case finishOk hpp hph | finishAbort hpp hph =>
    rw [hph] at h3
    exact ⟨h1, h2, fun hc => (h3 hc).imp fun k hk => ⟨hk.1, postProcess_cancelOutcome hpp hk.2⟩⟩
  case callReturnOk hpp hph | callReturnAbort hpp hph =>
    rw [hph] at h3
    exact ⟨h1, h2, fun hc => (h3.2 hc).imp fun k hk => ⟨hk.1, postProcess_cancelOutcome hpp hk.2⟩⟩

theorem invWf_step (cfg : Cfg) (st : State) (ev : Ev) (st' : State)
    (hw : ∀ g, (st.ws g).wf) (h : step cfg st ev = some st') : ∀ g, (st'.ws g).wf := by
  cases step_spec h with
  | global hg => exact hg.frame.1 ▸ hw
  | waiter g hw' =>
    intro g'
    simp only [setW_ws, hw'.frame.1]
    split
    · exact hw'.wf (hw g)
    · exact hw g'

theorem invDone_step (cfg : Cfg) (st : State) (ev : Ev) (st' : State)
    (hd : st.done = true ↔ st.run = .exited)
    (hcl : (st.close = .waitWorkers ∨ st.close = .returned) → st.done = true)
    (hf : st.close = .forced → st.recvDone = true)
    (h : step cfg st ev = some st') :
    (st'.done = true ↔ st'.run = .exited) ∧ ((st'.close = .waitWorkers ∨ st'.close = .returned) → st'.done = true) ∧
    (st'.close = .forced → st'.recvDone = true) := by
  cases step_spec h with
  | waiter g hw =>
    cases hw
    case finishOk hrd _ _ _ | finishAbort hrd _ _ _ | callReturnOk hrd _ _ _ | callReturnAbort hrd _ _ _ =>
      exact ⟨hd, hcl, fun hc => hrd.elim (fun h => h.trans (hf hc)) id⟩
    case deliverReply hrun _ | deliverCancelled hrun _ => exact ⟨by simp [hd, hrun], hcl, hf⟩
    all_goals exact ⟨hd, hcl, hf⟩
  | global hg =>
    cases hg
    case giveUp hrun _ _ | busyEnd hrun | eventReturn hrun | recvSignal hrun _ _ _ | recvEvent hrun _ |
      recvToWorker hrun _ => exact ⟨by simp [hd, hrun], hcl, hf⟩
    case recvClosed | recvExit | runSeeRecvDone => exact ⟨by simp, fun _ => rfl, hf⟩
    case closeStartDone hdone | closeSeeDone hdone => exact ⟨hd, fun _ => hdone, nofun⟩
    case closeStart => exact ⟨hd, by simp, nofun⟩
    case closeForce => exact ⟨hd, by simp, fun _ => rfl⟩
    case closeReturn hcl' _ => exact ⟨hd, fun _ => hcl (.inl hcl'), nofun⟩
    all_goals exact ⟨hd, hcl, hf⟩

theorem invState_step (cfg : Cfg) (st : State) (ev : Ev) (st' : State)
    (hinv : InvState st) (h : step cfg st ev = some st') : InvState st' := by
  obtain ⟨hd, hcl, hf, hw⟩ := hinv
  obtain ⟨h1, h2, h3⟩ := invDone_step cfg st ev st' hd hcl hf h
  exact ⟨h1, h2, h3, invWf_step cfg st ev st' hw h⟩

def isDoneOut : Out → Bool
  | .done => true
  | _ => false

/-- Done() is closed exactly once, when the loop exits. -/
def InvDoneOnce (st : State) : Prop :=
  List.countP isDoneOut st.out = if st.done then 1 else 0

theorem invDoneOnce_init : InvDoneOnce {} := by simp [InvDoneOnce]

theorem InvDoneOnce.move {a b : State} {os : List Out} (hout : b.out = os ++ a.out)
    (hk : (b.done = a.done ∧ List.countP isDoneOut os = 0) ∨
      (a.done = false ∧ b.done = true ∧ List.countP isDoneOut os = 1)) (h : InvDoneOnce a) : InvDoneOnce b := by
  unfold InvDoneOnce at h ⊢
  rw [hout, List.countP_append, h]
  rcases hk with ⟨hd, hc⟩ | ⟨h0, h1, hc⟩
  · rw [hd, hc, Nat.zero_add]
  · rw [h0, h1, hc]; rfl

theorem invDoneOnce_step (cfg : Cfg) (st : State) (ev : Ev) (st' : State)
    (hd : st.done = true ↔ st.run = .exited) (hinv : InvDoneOnce st) (h : step cfg st ev = some st') :
    InvDoneOnce st' := by
  have hidle : st.run = .idle → st.done = false := fun hr =>
    Bool.eq_false_iff.2 fun e => by have := hd.mp e; rw [hr] at this; cases this
  cases step_spec h with
  | waiter g hw =>
    cases hw
    all_goals exact .move rfl (.inl ⟨rfl, rfl⟩) hinv
  | global hg =>
    cases hg
    case recvClosed hrun _ | recvExit hrun _ | runSeeRecvDone hrun _ =>
      exact .move (a := st) rfl (.inr ⟨hidle hrun, rfl, rfl⟩) hinv
    all_goals exact .move rfl (.inl ⟨rfl, rfl⟩) hinv

theorem idGenNext_small (s : UInt64) (h : s.toNat < 2 ^ 53) :
    (idGenNext s).1 = (idGenNext s).2 ∧ (idGenNext s).2.toNat = s.toNat + 1 :=
  ⟨rfl, by have := Ids.WpD.next_fst_toNat s (by omega); rw [if_neg (by omega)] at this; exact this⟩

/-- Before `IDGen` wraps the ids drawn are 1, …, `drawn`.  A waiter's `req` is the id it keeps, one of
    these, or 0 when it keeps none (idle, returned at once, PUBLISH without acknowledge); none is kept twice. -/
def InvIds (st : State) : Prop :=
  st.drawn < 2 ^ 53 →
    st.idgen.toNat = st.drawn ∧
    (∀ g, (st.ws g).req ≤ st.drawn) ∧
    (∀ g, (st.ws g).phase = .idle → (st.ws g).req = 0) ∧
    (∀ g g', (st.ws g).req ≠ 0 → (st.ws g).req = (st.ws g').req → g = g')

theorem invIds_init : InvIds {} := by
  intro _
  refine ⟨rfl, ?_, ?_, ?_⟩ <;> intros <;> simp_all

theorem InvIds.update {a b : State} (h : InvIds a) (g : Nat) (w : Waiter) (hd : b.drawn = a.drawn)
    (hi : b.idgen = a.idgen) (hws : b.ws = (a.setW g w).ws)
    (hreq : a.drawn < 2 ^ 53 → w.req = (a.ws g).req) (hph : w.phase = .idle → (a.ws g).phase = .idle) :
    InvIds b := by
  intro hb
  rw [hd] at hb
  obtain ⟨h1, h2, h3, h4⟩ := h hb
  have key : ∀ g', (b.ws g').req = (a.ws g').req ∧ ((b.ws g').phase = .idle → (a.ws g').phase = .idle) := by
    intro g'
    simp only [hws, setW_ws]
    split
    · subst g'; exact ⟨hreq hb, hph⟩
    · exact ⟨rfl, id⟩
  refine ⟨hi ▸ hd ▸ h1, fun g' => ?_, fun g' hp => ?_, fun g' g'' hn he => ?_⟩
  · rw [(key g').1, hd]; exact h2 g'
  · rw [(key g').1]; exact h3 g' ((key g').2 hp)
  · rw [(key g').1] at hn he; rw [(key g'').1] at he; exact h4 g' g'' hn he

/-- The waiter that draws was idle, so it kept no id; the new id `drawn + 1` is above every id kept,
    hence differs from all of them. -/
theorem InvIds.draw {a b : State} (h : InvIds a) (g : Nat) (w : Waiter) (hd : b.drawn = a.drawn + 1)
    (hi : b.idgen = (idGenNext a.idgen).1) (hws : b.ws = (a.setW g w).ws) (hidle : (a.ws g).phase = .idle)
    (hph : w.phase ≠ .idle) (hreq : w.req = 0 ∨ w.req = (idGenNext a.idgen).2.toNat) : InvIds b := by
  intro hb
  rw [hd] at hb
  obtain ⟨h1, h2, h3, h4⟩ := h (Nat.lt_of_succ_lt hb)
  have hn := idGenNext_small a.idgen (by omega)
  rw [hn.2, h1] at hreq
  have h0 := h3 g hidle
  simp only [hws, setW_ws, hd, hi]
  refine ⟨by rw [hn.1, hn.2, h1], fun g' => ?_, fun g' => ?_, fun g' g'' => ?_⟩
  · split
    · omega
    · exact Nat.le_succ_of_le (h2 g')
  · split
    · exact fun h => absurd h hph
    · exact h3 g'
  · have := h2 g'
    have := h2 g''
    split <;> split
    · intros; subst_vars; rfl
    · intro hne he; omega
    · intro hne he; omega
    · exact h4 g' g''

theorem invIds_step (cfg : Cfg) (st : State) (ev : Ev) (st' : State)
    (hinv : InvIds st) (h : step cfg st ev = some st') : InvIds st' := by
  cases step_spec h with
  | global hg => cases hg <;> exact hinv
  | waiter g hw =>
    cases hw
    case ctxEnd | progReturn => exact hinv.update g _ rfl rfl rfl (fun _ => rfl) id
    case deliverReply | deliverCancelled =>
      exact hinv.update g _ rfl rfl rfl (fun _ => rfl) (fun h => by dsimp only at h; split at h <;> cases h)
    case apiReturn hidle => exact hinv.update g _ rfl rfl rfl (fun hb => ((hinv hb).2.2.1 g hidle).symm) nofun
    case apiFire hig _ hidle => exact hinv.draw g _ rfl hig rfl hidle nofun (.inl rfl)
    case apiRequest hig hid hidle => exact hinv.draw g _ rfl hig rfl hidle nofun (.inr hid)
    all_goals exact hinv.update g _ rfl rfl rfl (fun _ => rfl) nofun

end Nexus.Client.R
