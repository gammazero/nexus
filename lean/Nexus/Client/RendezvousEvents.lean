/-
  Event handlers in the rendezvous model: they run one at a time, in the order the receive loop
  took the EVENTs from the transport, which is the order the router sent them.
-/
import Nexus.Client.RendezvousStep

namespace Nexus.Client.R

/-- Is an event handler running, according to the log (newest first)? -/
def evOpen : List Out → Bool
  | [] => false
  | .eventStart .. :: _ => true
  | .eventEnd :: _ => false
  | _ :: rest => evOpen rest

/-- Handler starts and ends alternate. -/
def wellNested : List Out → Bool
  | [] => true
  | .eventStart .. :: rest => wellNested rest && !evOpen rest
  | .eventEnd :: rest => wellNested rest && evOpen rest
  | _ :: rest => wellNested rest

/-- (subscription, publication) of the EVENTs a handler was started for, newest first. -/
def startedEvents : List Out → List (Nat × Nat)
  | [] => []
  | .eventStart s p _ _ :: rest => (s, p) :: startedEvents rest
  | _ :: rest => startedEvents rest

/-- (subscription, publication) of the EVENTs the receive loop took from the transport, newest first. -/
def recvEvents : List Out → List (Nat × Nat)
  | [] => []
  | .recv (.event s p _ _ _) :: rest => (s, p) :: recvEvents rest
  | _ :: rest => recvEvents rest

def recvLog : List Out → List RMsg
  | [] => []
  | .recv m :: rest => m :: recvLog rest
  | _ :: rest => recvLog rest

def RunPhase.isInEvent : RunPhase → Bool
  | .inEvent => true
  | _ => false

def InvEvents (st : State) : Prop :=
  evOpen st.out = st.run.isInEvent ∧ wellNested st.out = true ∧
  (startedEvents st.out).Sublist (recvEvents st.out)

/-- The transport is FIFO: what `run` has taken so far, followed by what is still queued, is what
    the router sent, in order. -/
def InvFifo (st : State) : Prop :=
  (recvLog st.out).reverse ++ st.inbox.filterMap id = st.arrived.reverse

theorem recvEvents_recv_sublist (m : RMsg) (out : List Out) :
    (recvEvents out).Sublist (recvEvents (.recv m :: out)) := by
  cases m <;> simp [recvEvents]

theorem invEvents_init : InvEvents {} := by simp [InvEvents, evOpen, wellNested, startedEvents, recvEvents, RunPhase.isInEvent]
theorem invFifo_init : InvFifo {} := by simp [InvFifo, recvLog]

theorem InvEvents.mono {a b : State} (h : InvEvents a) (hopen : evOpen b.out = evOpen a.out)
    (hnest : wellNested b.out = wellNested a.out) (hst : startedEvents b.out = startedEvents a.out)
    (hrecv : (recvEvents a.out).Sublist (recvEvents b.out)) (hrun : b.run.isInEvent = a.run.isInEvent) :
    InvEvents b :=
  ⟨by rw [hopen, hrun]; exact h.1, by rw [hnest]; exact h.2.1, by rw [hst]; exact h.2.2.trans hrecv⟩

theorem invEvents_step (cfg : Cfg) (st : State) (ev : Ev) (st' : State)
    (hinv : InvEvents st) (h : step cfg st ev = some st') : InvEvents st' := by
  cases step_spec h with
  | waiter g hw =>
    cases hw
    case deliverReply hrun _ | deliverCancelled hrun _ =>
      exact hinv.mono rfl rfl rfl (List.Sublist.refl _) (by rw [hrun]; rfl)
    all_goals exact hinv
  | global hg =>
    cases hg
    case giveUp hrun _ _ | busyEnd hrun | runSeeRecvDone hrun _ | recvClosed hrun _ =>
      exact hinv.mono rfl rfl rfl (List.Sublist.refl _) (by rw [hrun]; rfl)
    case recvSignal hrun _ _ _ | recvToWorker hrun _ | recvExit hrun _ =>
      exact hinv.mono rfl rfl rfl (recvEvents_recv_sublist _ _) (by rw [hrun]; rfl)
    case recvEventPanic | recvUnclaimed | recvDropped | recvUnhandled =>
      exact hinv.mono rfl rfl rfl (recvEvents_recv_sublist _ _) rfl
    case recvEvent hrun _ =>
      have hopen : evOpen st.out = false := by rw [hinv.1, hrun]; rfl
      exact ⟨rfl, by simp [wellNested, evOpen, hopen, hinv.2.1], hinv.2.2.cons_cons _⟩
    case eventReturn hrun =>
      have hopen : evOpen st.out = true := by rw [hinv.1, hrun]; rfl
      exact ⟨rfl, by simp [wellNested, hopen, hinv.2.1], hinv.2.2⟩
    all_goals exact hinv

theorem InvFifo.recv {a b : State} (h : InvFifo a) (m : RMsg) (rest : List (Option RMsg))
    (hin : a.inbox = some m :: rest) (hout : recvLog b.out = m :: recvLog a.out) (hinb : b.inbox = rest)
    (harr : b.arrived = a.arrived) : InvFifo b := by
  unfold InvFifo at h ⊢
  rw [hout, hinb, harr, ← h, hin]
  simp

theorem invFifo_step (cfg : Cfg) (st : State) (ev : Ev) (st' : State)
    (hinv : InvFifo st) (h : step cfg st ev = some st') : InvFifo st' := by
  cases step_spec h with
  | waiter g hw =>
    cases hw
    all_goals exact hinv
  | global hg =>
    cases hg
    case inject | injectClose => unfold InvFifo at hinv ⊢; simp [← hinv]
    case recvClosed hin => unfold InvFifo at hinv ⊢; simpa [hin, recvLog] using hinv
    case recvSignal hin _ _ | recvEventPanic hin _ _ | recvToWorker hin | recvExit hin | recvEvent hin |
      recvUnclaimed hin | recvDropped hin | recvUnhandled hin => exact hinv.recv _ _ hin rfl rfl rfl
    all_goals exact hinv

end Nexus.Client.R
