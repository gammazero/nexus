/-
  All invariants of the rendezvous model together, for every reachable state.

  For a new invariant: a property `Φ g w l` of one waiter and the log that ignores outputs about other
  waiters is `Local`, and `Local.step` leaves only the moving waiter's `WStep` cases (`InvRet`, `InvHand`,
  `InvProg`, `InvHandedCorr`).  A property of the whole log that a class of outputs leaves alone (`Out.mute`,
  `Out.noCancel`) goes over the outputs of a step by `emits_of` (`quietAfterRet`, `InvCancelCount`).  An
  invariant on tables and ids has its own `InvX.update`/`.mono`/`.move`/`.draw`, used constructor by
  constructor.  All go by cases on `Step`, which has no converse (see there).  An invariant that needs a
  hypothesis on `cfg` (`InvClose`) or on the run (`NotSendingToGone`) stays out of `AllInv`, in
  RendezvousLive beside its use, with its own `_step` lemma and induction.
-/
import Nexus.Client.RendezvousLog
import Nexus.Client.RendezvousEvents

namespace Nexus.Client.R

/-- Every message ever handed to waiter `g` was looked up under `g`'s request id. -/
def InvHandedCorr (st : State) : Prop :=
  ∀ o ∈ st.out, ∀ g m, o = .handed g m → sigId m = some (st.ws g).req ∧ (st.ws g).phase.started = true

theorem invHandedCorr_init : InvHandedCorr {} := by intro o h; simp at h

theorem handedCorr_local : Local fun g w l =>
    ∀ m, Out.handed g m ∈ l → sigId m = some w.req ∧ w.phase.started = true := by
  intro g w o l ho
  refine ⟨fun h m hm => h m (List.mem_cons_of_mem _ hm), fun h m hm => ?_⟩
  rcases List.mem_cons.1 hm with rfl | hm
  · simp [Out.about] at ho
  · exact h m hm

theorem invHandedCorr_step (cfg : Cfg) (st : State) (ev : Ev) (st' : State)
    (hcorr : InvCorr st) (hinv : InvHandedCorr st) (h : step cfg st ev = some st') : InvHandedCorr st' := by
  intro o ho g m e
  subst e
  refine handedCorr_local.step (step_spec h) (fun {g _ _ _} hw hi m hm => ?_) (fun g m hm => hinv _ hm g m rfl) g m ho
  cases hw
  case deliverReply hrun _ | deliverCancelled hrun _ =>
    have : sigId m = some (st.ws g).req ∧ (st.ws g).phase.started = true := by
      rcases List.mem_cons.1 hm with e | hm
      · cases e; exact hcorr.2 g _ hrun
      · exact hi m hm
    exact ⟨this.1, by dsimp only; split <;> rfl⟩
  case apiReturn hidle | apiFire hidle | apiRequest hidle =>
    have := (hi m (by simpa using hm)).2
    rw [hidle] at this; cases this
  case ctxEnd | progReturn => exact hi m hm
  all_goals exact ⟨(hi m (by simpa using hm)).1, rfl⟩

structure AllInv (cfg : Cfg) (st : State) : Prop where
  handedCorr : InvHandedCorr st
  corr : InvCorr st
  state : InvState st
  ids : InvIds st
  ret : InvRet st
  hand0 : InvHand0 st
  hand : InvHand st
  prog : InvProg st
  cancelMode : InvCancelMode cfg st
  cancelCount : InvCancelCount st
  events : InvEvents st
  fifo : InvFifo st
  doneOnce : InvDoneOnce st

theorem allInv_init (cfg : Cfg) : AllInv cfg {} :=
  ⟨invHandedCorr_init, invCorr_init, invState_init, invIds_init, invRet_init, invHand0_init, invHand_init, invProg_init,
   invCancelMode_init cfg, invCancelCount_init, invEvents_init, invFifo_init, invDoneOnce_init⟩

theorem allInv_step (cfg : Cfg) (st : State) (ev : Ev) (st' : State) (hi : AllInv cfg st)
    (h : step cfg st ev = some st') : AllInv cfg st' :=
  ⟨invHandedCorr_step cfg st ev st' hi.corr hi.handedCorr h, invCorr_step cfg st ev st' hi.corr h, invState_step cfg st ev st' hi.state h,
   invIds_step cfg st ev st' hi.ids h, invRet_step cfg st ev st' hi.ret h,
   invHand0_step cfg st ev st' hi.hand0 h, invHand_step cfg st ev st' hi.state.2.2.2 hi.hand0 hi.hand h,
   invProg_step cfg st ev st' hi.prog h, invCancelMode_step cfg st ev st' hi.ids hi.cancelMode h,
   invCancelCount_step cfg st ev st' hi.state.2.2.2 hi.ids hi.cancelMode hi.cancelCount h,
   invEvents_step cfg st ev st' hi.events h, invFifo_step cfg st ev st' hi.fifo h,
   invDoneOnce_step cfg st ev st' hi.state.1 hi.doneOnce h⟩

theorem allInv_reachable (cfg : Cfg) (st : State) (h : Reachable cfg st) : AllInv cfg st :=
  (runs cfg).reachable (allInv_init cfg) (allInv_step cfg) h

end Nexus.Client.R
