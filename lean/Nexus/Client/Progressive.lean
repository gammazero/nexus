/-
  Client model, part 5: `CallProgressive`'s sender goroutine.

  `CallProgressive` is `Call` plus one goroutine (regenerated skeletons `callSkeleton`,
  `callProgressiveSkeleton`: the same calls in the same order, with `sendProg` in front and one more
  `go`): the API goroutine asks `sendProg` for the first chunk, then does exactly what `Call`
  does (draw the id, `expectReply`, send the CALL, `waitForReplyWithCancel`, close `progChan`, unpack
  the result) — that part is the waiter of `Nexus.Client.R`, with the CALL carrying `progress`.
  If the first chunk says `progress: true`, the SENDER goroutine modelled here is started.  It shares
  nothing with the waiter but the request id, the caller's context (only through `sendProg`) and the
  session's send channel; it watches neither the call's return nor Done (`progSenderSelects = 0`):

      for callInProgress {
        opts, args, kw, err := sendProg(ctx)             -- `pulled`
        if err != nil { Send() <- CANCEL{mode: c.cancelMode}; return }     -- (fix 4f8171f; before: KillNoWait)
        callInProgress, _ = opts[progress].(bool)        -- comma-ok (fix 42310e3; before: bare, unset panicked)
        if prepareCallPayloadMessage(…) != nil { Send() <- CANCEL{mode: c.cancelMode}; return }
        Send() <- CALL{id, progress}                     -- `sendDone`
      }

  Events are the atomic steps of the sender goroutines (one per progressive call `g`), of the
  environment (`sendProg` returning, the router stalling) and `closePeer` (= `Close()` closing the
  send channel).  Go panics are explicit.  Core-only.
-/
import Nexus.Client.Rendezvous
import Nexus.Client.Steps

namespace Nexus.Client.P
open Nexus.Gen Nexus.Client

/-- What `sendProg` (application code) handed back. -/
inductive Pull where
  | chunk (more : Bool)      -- options with `progress: more`
  | err (ctx : Bool)         -- an error; `ctx`: because the caller's context ended (`ctx.Err()`)
  | payloadErr               -- a chunk that `prepareCallPayloadMessage` refuses (PPT options)
  | noFlag                   -- options without a Bool `progress` (nil options included)
  deriving Repr, DecidableEq, Inhabited

inductive Phase where
  | idle
  | pulling                  -- inside `sendProg`
  | sendingChunk (more : Bool)
  | sendingCancel
  | exited
  deriving Repr, DecidableEq, Inhabited

structure Sender where
  req : Nat := 0
  name : String := ""
  recvProg : Bool := false
  phase : Phase := .idle
  deriving Repr, Inhabited

inductive Out where
  | send (g : Nat) (m : CMsg)
  deriving Repr, Inhabited

/-- Regenerated: every `wamp.Cancel` literal in the goroutine takes its mode from `c.cancelMode`
    (fix 4f8171f); before the fix both said `wamp.CancelModeKillNoWait`. -/
def genSenderUsesConfigured : Bool :=
  Client.progSenderCancelModes.all (· == "c.cancelMode") && !Client.progSenderCancelModes.isEmpty

/-- Regenerated: `progress` is read from the options with a comma-ok assertion (fix 42310e3). -/
def genProgressCommaOk : Bool := Client.progSenderProgressAssert == "comma-ok"

/-- The sender's sends are bare channel sends and its loop watches only `callInProgress`. -/
def genSenderBare : Bool := Client.progSenderSelects == 0 && Client.progSenderLoopCond == "callInProgress"

structure Cfg where
  cancelMode : String := Client.defaultCancelMode      -- the client's configured mode (`c.cancelMode`)
  usesConfigured : Bool := genSenderUsesConfigured
  progressCommaOk : Bool := genProgressCommaOk
  bare : Bool := genSenderBare

/-- The mode of the CANCELs the sender builds. -/
def Cfg.senderCancelMode (cfg : Cfg) : String :=
  if cfg.usesConfigured then cfg.cancelMode else Client.cancelModeKillNoWait

structure State where
  ss : Nat → Sender := fun _ => {}
  stalled : Bool := false         -- the router is not reading
  sendClosed : Bool := false      -- `sess.Close()` was called
  crashed : Option String := none
  out : List Out := []

def State.setS (st : State) (g : Nat) (x : Sender) : State :=
  { st with ss := fun g' => if g' = g then x else st.ss g' }

inductive Ev where
  | spawn (g req : Nat) (name : String) (recvProg : Bool)
  | pulled (g : Nat) (p : Pull)
  | sendDone (g : Nat)
  | stall (b : Bool)
  | closePeer
  deriving Repr, Inhabited

def noFlagSite : String := "CallProgressive: assert cliOptions[wamp.OptProgress].(bool)"

def step (cfg : Cfg) (st : State) (ev : Ev) : Option State :=
  if st.crashed.isSome then none else
  match ev with
  | .spawn g req name rp =>
    match (st.ss g).phase with
    | .idle => some (st.setS g { req := req, name := name, recvProg := rp, phase := .pulling })
    | _ => none
  | .pulled g p =>
    let x := st.ss g
    match x.phase with
    | .pulling =>
      match p with
      | .chunk more => some (st.setS g { x with phase := .sendingChunk more })
      | .err _ => some (st.setS g { x with phase := .sendingCancel })
      | .payloadErr => some (st.setS g { x with phase := .sendingCancel })
      | .noFlag =>
        -- unset / non-boolean `progress`: the last chunk (comma-ok), or a panic (bare assertion)
        if cfg.progressCommaOk then some (st.setS g { x with phase := .sendingChunk false })
        else some { st with crashed := some noFlagSite }
    | _ => none
  | .sendDone g =>
    let x := st.ss g
    -- a send on a closed channel panics, whether the goroutine arrives at it or was blocked in it
    let go (m : CMsg) (next : Phase) : Option State :=
      if st.sendClosed then some { st with crashed := some "send on closed channel" }
      else if st.stalled then none
      else some ({ st.setS g { x with phase := next } with out := .send g m :: st.out })
    match x.phase with
    | .sendingChunk more => go (.callChunk x.req x.name x.recvProg more) (if more then .pulling else .exited)
    | .sendingCancel => go (.cancel x.req cfg.senderCancelMode) .exited
    | _ => none
  | .stall b => some { st with stalled := b }
  | .closePeer => some { st with sendClosed := true }

def steps (cfg : Cfg) (st : State) : List Ev → Option State
  | [] => some st
  | e :: es => (step cfg st e).bind fun st' => steps cfg st' es

def Reachable (cfg : Cfg) (st : State) : Prop := ∃ evs, steps cfg {} evs = some st

theorem runs (cfg : Cfg) : Runs (step cfg) (steps cfg) := ⟨fun _ => rfl, fun _ _ _ => rfl⟩

theorem steps_append (cfg : Cfg) (st : State) (a b : List Ev) :
    steps cfg st (a ++ b) = (steps cfg st a).bind fun st' => steps cfg st' b :=
  (runs cfg).append st a b

/-- The messages sender `g` has sent, oldest first. -/
def sendsOf (g : Nat) : List Out → List CMsg
  | [] => []
  | .send g' m :: rest => if g' = g then sendsOf g rest ++ [m] else sendsOf g rest

def chunk (x : Sender) (more : Bool) : CMsg := .callChunk x.req x.name x.recvProg more

/-- Shape of a sender's output: chunks with `progress: true`, then — once it has exited — one final
    chunk (`progress: false`) or one CANCEL with `cfg.senderCancelMode`; nothing after that. -/
def Shape (cfg : Cfg) (st : State) (g : Nat) : Prop :=
  let x := st.ss g
  ∃ k, match x.phase with
    | .idle => sendsOf g st.out = []
    | .exited => sendsOf g st.out = List.replicate k (chunk x true) ++ [chunk x false] ∨
                 sendsOf g st.out = List.replicate k (chunk x true) ++ [.cancel x.req cfg.senderCancelMode]
    | _ => sendsOf g st.out = List.replicate k (chunk x true)

@[simp] theorem setS_same (st : State) (g : Nat) (x : Sender) : (st.setS g x).ss g = x := by simp [State.setS]
@[simp] theorem setS_other (st : State) (g g' : Nat) (x : Sender) (h : g' ≠ g) : (st.setS g x).ss g' = st.ss g' := by
  simp [State.setS, h]
@[simp] theorem setS_out (st : State) (g : Nat) (x : Sender) : (st.setS g x).out = st.out := rfl

/-- `step` case by case: a sender is spawned, leaves `sendProg` (`pulled`: towards a chunk or a
    CANCEL), gets a message out (`sentChunk`, `sentCancel`), or only flags of the state change (a panic,
    the router stalling or reading again, `Close()`).  Not indexed by the event: `shape_step` and
    `cancel_mode_step` need only what a step does to one sender and to the log, so every other event
    falls under `flags`, which admits any values. -/
inductive Step (cfg : Cfg) (st : State) : State → Prop
  | spawn (g req : Nat) (name : String) (rp : Bool) (hph : (st.ss g).phase = .idle) :
    Step cfg st (st.setS g { req := req, name := name, recvProg := rp, phase := .pulling })
  | pulled (g : Nat) (ph : Phase) (hph : (st.ss g).phase = .pulling)
      (hnew : ph = .sendingCancel ∨ ∃ more, ph = .sendingChunk more) :
    Step cfg st (st.setS g { st.ss g with phase := ph })
  | sentChunk (g : Nat) (more : Bool) (hph : (st.ss g).phase = .sendingChunk more) :
    Step cfg st { st.setS g { st.ss g with phase := if more then .pulling else .exited } with
      out := .send g (chunk (st.ss g) more) :: st.out }
  | sentCancel (g : Nat) (hph : (st.ss g).phase = .sendingCancel) :
    Step cfg st { st.setS g { st.ss g with phase := .exited } with
      out := .send g (.cancel (st.ss g).req cfg.senderCancelMode) :: st.out }
  | flags (c : Option String) (stalled closed : Bool) :
    Step cfg st { st with crashed := c, stalled := stalled, sendClosed := closed }

theorem step_spec {cfg : Cfg} {st st' : State} {ev : Ev} (h : step cfg st ev = some st') :
    Step cfg st st' := by
  unfold step at h
  split at h
  · cases h
  cases ev with
  | spawn g req name rp =>
    simp only at h
    split at h <;> cases h
    exact .spawn g req name rp ‹_›
  | pulled g p =>
    simp only at h
    split at h
    · rename_i hph
      cases p <;> simp only at h
      case chunk => cases h; exact .pulled g _ hph (.inr ⟨_, rfl⟩)
      case err | payloadErr => cases h; exact .pulled g _ hph (.inl rfl)
      case noFlag =>
        split at h <;> cases h
        · exact .pulled g _ hph (.inr ⟨_, rfl⟩)
        · exact .flags _ _ _
    · cases h
  | sendDone g =>
    simp only at h
    split at h
    · rename_i more hph
      split at h
      · cases h; exact .flags _ _ _
      · split at h <;> cases h
        exact .sentChunk g more hph
    · rename_i hph
      split at h
      · cases h; exact .flags _ _ _
      · split at h <;> cases h
        exact .sentCancel g hph
    · cases h
  | stall b => cases h; exact .flags _ _ _
  | closePeer => cases h; exact .flags _ _ _

theorem shape_step (cfg : Cfg) (st : State) (ev : Ev) (st' : State) (g : Nat)
    (hinv : Shape cfg st g) (h : step cfg st ev = some st') : Shape cfg st' g := by
  obtain ⟨k, hk⟩ := hinv
  -- a step of another sender `g'` leaves `g`'s phase and messages as they are
  cases step_spec h with
  | flags => exact ⟨k, hk⟩
  | spawn g' req name rp hph =>
    by_cases hg : g = g'
    · subst hg
      simp only [hph] at hk
      exact ⟨0, by simp [hk]⟩
    · exact ⟨k, by simpa [hg] using hk⟩
  | pulled g' ph hph hnew =>
    by_cases hg : g = g'
    · subst hg
      simp only [hph] at hk
      rcases hnew with rfl | ⟨more, rfl⟩ <;> exact ⟨k, by simpa [chunk] using hk⟩
    · exact ⟨k, by simpa [hg] using hk⟩
  | sentChunk g' more hph =>
    by_cases hg : g = g'
    · subst hg
      simp only [hph] at hk
      -- one more chunk: the last one if `more` is false
      cases more
      · exact ⟨k, by simp [sendsOf, hk, chunk]⟩
      · exact ⟨k + 1, by simp [sendsOf, hk, chunk, List.replicate_succ']⟩
    · exact ⟨k, by simpa [hg, Ne.symm hg, sendsOf] using hk⟩
  | sentCancel g' hph =>
    by_cases hg : g = g'
    · subst hg
      simp only [hph] at hk
      exact ⟨k, by simp [sendsOf, hk, chunk]⟩
    · exact ⟨k, by simpa [hg, Ne.symm hg, sendsOf] using hk⟩

theorem shape_reachable (cfg : Cfg) (st : State) (h : Reachable cfg st) (g : Nat) : Shape cfg st g :=
  (runs cfg).reachable (P := fun st => Shape cfg st g) ⟨0, by simp [sendsOf]⟩
    (fun st ev st' hi hs => shape_step cfg st ev st' g hi hs) h

/-- The CANCELs of a log, newest first: (request id, mode). -/
def cancelsOf : List Out → List (Nat × String)
  | [] => []
  | .send _ (.cancel r mode) :: rest => (r, mode) :: cancelsOf rest
  | _ :: rest => cancelsOf rest

theorem cancel_mode_step (cfg : Cfg) (st : State) (ev : Ev) (st' : State)
    (hinv : ∀ p ∈ cancelsOf st.out, p.2 = cfg.senderCancelMode) (h : step cfg st ev = some st') :
    ∀ p ∈ cancelsOf st'.out, p.2 = cfg.senderCancelMode := by
  cases step_spec h with
  | sentCancel g hph =>
    intro p hp
    rcases List.mem_cons.1 (hp : p ∈ _ :: cancelsOf st.out) with rfl | hp
    · rfl
    · exact hinv p hp
  | _ => exact hinv

theorem cancel_mode_reachable (cfg : Cfg) (st : State) (h : Reachable cfg st) :
    ∀ p ∈ cancelsOf st.out, p.2 = cfg.senderCancelMode :=
  (runs cfg).reachable (P := fun st => ∀ p ∈ cancelsOf st.out, p.2 = cfg.senderCancelMode)
    (by intro p hp; simp [cancelsOf] at hp) (cancel_mode_step cfg) h

theorem sender_uses_configured_today : ({} : Cfg).usesConfigured = true := by decide
theorem progress_comma_ok_today : ({} : Cfg).progressCommaOk = true := by decide
theorem sender_bare_today : ({} : Cfg).bare = true := by decide

theorem sender_mode_today (mode : String) : ({ cancelMode := mode } : Cfg).senderCancelMode = mode := by
  have h : genSenderUsesConfigured = true := by decide
  simp [Cfg.senderCancelMode, h]

end Nexus.Client.P
