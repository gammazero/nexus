/-
  The invocation-worker model, continued: which INVOCATIONs start a worker, the queue between the receive loop
  and the handler (FIFO, back-pressure and its escapes), `SendProgress`, and all invariants together.
-/
import Nexus.Client.InvokeLemmas
import Nexus.Client.Witness

namespace Nexus.Client.I
open Nexus.Gen

variable {cfg : Cfg} {st st' : State} {ev : Ev} {w : Nat} {x : Worker}

theorem InvAnswerShape.setW (hreq : x.req = (st.ws w).req) (h : InvAnswerShape st) :
    InvAnswerShape (st.setW w x) := fun o ho b m e => by
  refine ⟨(h o ho b m e).1, ?_⟩
  show answerFor (if b = w then x else st.ws b).req m = true
  split
  · next eb => rw [hreq, ← eb]; exact (h o ho b m e).2
  · exact (h o ho b m e).2

theorem InvAnswerShape.emit {o : Out} (ho : ∀ b, isAnswer b o = false) (h : InvAnswerShape st) :
    InvAnswerShape (st.emit o) := fun o' ho' b m e =>
  (List.mem_cons.1 ho').elim
    (fun eo => by have := ho b; rw [← eo, e, isAnswer_answer, beq_self_eq_true] at this; cases this)
    (h o' · b m e)

theorem InvAnswerShape.answer {m : CMsg} (hw : w < st.n) (hm : answerFor (st.ws w).req m = true)
    (h : InvAnswerShape st) : InvAnswerShape (st.emit (.answer w m)) := fun o' ho' b m' e =>
  (List.mem_cons.1 ho').elim (fun eo => by cases eo.symm.trans e; exact ⟨hw, hm⟩) (h o' · b m' e)

theorem invAnswerShape_step (hf : InvFresh st) (hinv : InvAnswerShape st)
    (h : step cfg st ev = some st') : InvAnswerShape st' := by
  cases step_spec h with
  | tick | clientDone | endRecv | crash | interruptNone => exact hinv
  | abandon | refused | repeated | ignored | spRefuse => exact .emit (fun _ => rfl) hinv
  | created =>
    refine .emit (fun _ => rfl) fun o ho b m e => ?_
    have ⟨hb, ha⟩ := hinv o ho b m e
    refine ⟨Nat.lt_succ_of_lt hb, ?_⟩
    show answerFor (if b = st.n then _ else st.ws b).req m = true
    rwa [if_neg (Nat.ne_of_lt hb)]
  | innerTake | sendLost | spAbandon => exact .setW rfl (.emit (fun _ => rfl) hinv)
  | spSend => exact .setW rfl (.emit (fun _ => rfl) (.emit (fun _ => rfl) hinv))
  | outerAnswer ho hm =>
    refine .setW rfl (.answer (hf.lt fun e => by rw [e] at ho; cases ho) ?_ (.emit (fun _ => rfl) hinv))
    rw [hm]
    split <;> simp [answerFor]
  | _ => exact .setW rfl hinv

/-- A worker is started only by an INVOCATION that has a handler, passed the PPT handling, has no
    live worker for its (registration, request) and — the gate being in place — bears an id that
    `IsNewRecvID` accepts. -/
theorem worker_created_only_when_new (cfg : Cfg) (st : State) (ev : Ev) (st' : State)
    (h : step cfg st ev = some st') (hn : st'.n ≠ st.n) :
    ∃ i hasH, ev = .recvInvocation i hasH ∧ hasH = true ∧ st'.n = st.n + 1 ∧
      findLive st i.reg i.req st.n = none ∧
      (cfg.invGate = true → isNewRecvID st.lastRecv (UInt64.ofNat i.req) = true) := by
  cases step_spec h with
  | created _ hfl hnew => exact ⟨_, true, rfl, rfl, rfl, hfl, hnew⟩
  | _ => exact absurd rfl hn

/-- An INVOCATION whose id is not new and that has no live worker changes nothing (it is only
    noted as ignored): the duplicate / old id is discarded. -/
theorem stale_invocation_ignored (cfg : Cfg) (st : State) (i : Inv)
    (hg : cfg.invGate = true) (hold : isNewRecvID st.lastRecv (UInt64.ofNat i.req) = false)
    (hnl : findLive st i.reg i.req st.n = none) :
    accept cfg st i = st.emit (.ignored i.req) := by
  simp [accept, hnl, hg, updateLastRecvID_snd, hold]

/-- A further INVOCATION for a live worker whose final (non-progressive) message was already
    received is dropped: nothing changes (it is only noted). -/
theorem repeated_final_dropped (cfg : Cfg) (st : State) (i : Inv) (w : Nat)
    (hg : cfg.finalGate = true) (hl : findLive st i.reg i.req st.n = some w) (hf : (st.ws w).final = true) :
    accept cfg st i = st.emit (.repeated i.req) := by
  simp [accept, hl, hg, hf]

/-- The loop can only come to wait for room in a worker's queue while that worker's invocation is
    still open (its final message not yet received): back-pressure of a progressive invocation. -/
theorem blocks_only_on_open_invocation (cfg : Cfg) (st : State) (i : Inv) (w : Nat) (j : Inv)
    (hg : cfg.finalGate = true) (hp : st.pendingSend = none)
    (h : (accept cfg st i).pendingSend = some (w, j)) : (st.ws w).final = false ∧ (st.ws w).live = true := by
  unfold accept at h
  split at h <;> rename_i hfl
  · split at h <;> rename_i hf
    · rw [emit_pendingSend, hp] at h; cases h
    · simp only [enqueue] at h
      split at h
      · rw [setW_pendingSend, hp] at h; cases h
      · cases h
        exact ⟨by simpa [hg] using hf, (findLive_some hfl).2.1⟩
  · split at h <;> (replace h : st.pendingSend = _ := h; rw [hp] at h; cases h)

/-- The loop waits for room in a worker's queue inside a select whose other cases let it leave:
    once the worker's context has ended (INTERRUPT processed earlier, the `timeout` detail) or the
    session has stopped receiving (Close forcing the loop out, `abortSession`), the wait is over.
    Apart from these and the return of the worker's handler nothing ends it
    (`C17.inv_queue_wait_ends`). -/
theorem enqueue_escapes (cfg : Cfg) (st : State) (w : Nat) (i : Inv)
    (he : cfg.enqueueEscapes = true) (hc : st.crashed = none) (hp : st.pendingSend = some (w, i))
    (hx : (st.ws w).ctx.isSome = true ∨ st.recvDone = true) :
    ∃ st', step cfg st .queueSendAbandon = some st' ∧ st'.pendingSend = none := by
  refine ⟨{ st with pendingSend := none }.emit (.abandoned w i), ?_, rfl⟩
  rcases hx with hx | hx <;> simp [step, hc, hp, he, hx]

theorem today_final_gate : ({} : Cfg).finalGate = true := by decide

/-- By design: progressive chunks arriving faster than the handler takes them make the loop wait. -/
theorem progChunks_block :
    ((steps {} {} Witness.progChunks).map fun st => st.pendingSend.isSome &&
      (match (st.ws 0).inner with | .running _ => true | _ => false)) = some true := by decide

def Inv.matches (i : Inv) (x : Worker) : Prop := i.req = x.req ∧ i.reg = x.reg

/-- Everything queued for, pending for, or already handled by worker `w` carries `w`'s
    (registration, request). -/
def InvMatch (st : State) : Prop :=
  (∀ w, ∀ i ∈ (st.ws w).queue, i.matches (st.ws w)) ∧
  (∀ w, ∀ i ∈ (st.ws w).handled, i.matches (st.ws w)) ∧
  (∀ w i, st.pendingSend = some (w, i) → i.matches (st.ws w))

theorem InvMatch.setW (hq : ∀ i ∈ x.queue, i.matches x) (hh : ∀ i ∈ x.handled, i.matches x)
    (hp : ∀ i, st.pendingSend = some (w, i) → i.matches x) (h : InvMatch st) :
    InvMatch (st.setW w x) := by
  refine ⟨fun a => ?_, fun a => ?_, fun a i hi => ?_⟩ <;>
    rcases setW_ws_eq st w x a with ⟨rfl, e⟩ | ⟨_, e⟩ <;> rw [e]
  · exact hq
  · exact h.1 a
  · exact hh
  · exact h.2.1 a
  · exact hp i hi
  · exact h.2.2 a i hi

theorem invMatch_step (hinv : InvMatch st) (h : step cfg st ev = some st') : InvMatch st' := by
  have noPending : InvMatch { st with pendingSend := none } := ⟨hinv.1, hinv.2.1, nofun⟩
  have snoc {w : Nat} {i : Inv} (hi : i.matches (st.ws w)) :
      ∀ j ∈ (st.ws w).queue ++ [i], j.matches (st.ws w) := fun j hj =>
    (List.mem_append.1 hj).elim (hinv.1 w j) fun e => List.mem_singleton.1 e ▸ hi
  cases step_spec h with
  | tick | clientDone | endRecv | refused | crash | repeated | ignored | interruptNone | spRefuse =>
    exact hinv
  | abandon => exact noPending
  | sendDone hp | sendLost hp => exact .setW (snoc (hinv.2.2 _ _ hp)) (hinv.2.1 _) nofun noPending
  | enqueued _ hfl =>
    have hfs := findLive_some hfl
    exact .setW (snoc ⟨hfs.2.2.2.symm, hfs.2.2.1.symm⟩) (hinv.2.1 _) (hinv.2.2 _) hinv
  | @blocked i a k _ _ hfl =>
    have hfs := findLive_some hfl
    have hm : Inv.matches { i with args := a, kw := k } (st.ws _) :=
      ⟨hfs.2.2.2.symm, hfs.2.2.1.symm⟩
    exact .setW (hinv.1 _) (hinv.2.1 _) (fun _ e => by cases e; exact hm)
      ⟨hinv.1, hinv.2.1, fun _ _ e => by cases e; exact hm⟩
  | created hp =>
    exact InvMatch.setW (st := { st with lastRecv := _, n := _, kill := _, progGate := _ })
      (fun _ hi => List.mem_singleton.1 hi ▸ ⟨rfl, rfl⟩) nofun (fun _ e => by rw [hp] at e; cases e)
      hinv
  | @innerTake w _ _ _ _ hq =>
    have hm := hinv.1 w
    rw [hq] at hm
    exact .setW (fun j hj => hm j (List.mem_cons_of_mem _ hj))
      (fun j hj => (List.mem_cons.1 hj).elim (fun e => by rw [e]; exact hm _ List.mem_cons_self)
        (hinv.2.1 w j))
      (hinv.2.2 _) hinv
  | handlerDrop | innerExit | handlerResultEnd | sendRetryEnd =>
    exact .setW nofun (hinv.2.1 _) (hinv.2.2 _) hinv
  | _ => exact .setW (hinv.1 _) (hinv.2.1 _) (hinv.2.2 _) hinv

/-- The queue is FIFO: the handler is given the oldest queued invocation … -/
theorem innerTake_takes_head (cfg : Cfg) (st st' : State) (w : Nat)
    (h : step cfg st (.innerTake w) = some st') :
    ∃ i rest, (st.ws w).queue = i :: rest ∧ (st'.ws w).queue = rest ∧ (st'.ws w).handled = i :: (st.ws w).handled := by
  cases step_spec h with
  | innerTake _ _ hq =>
    exact ⟨_, _, hq, congrArg Worker.queue (if_pos rfl), congrArg Worker.handled (if_pos rfl)⟩

/-- … and a further INVOCATION for a live worker goes to the tail of that worker's queue. -/
theorem enqueue_appends (cfg : Cfg) (st : State) (w : Nat) (i : Inv)
    (hroom : (st.ws w).queue.length < cfg.queueCap) :
    ((enqueue cfg st w i).ws w).queue = (st.ws w).queue ++ [i] ∧
    ∀ w', w' ≠ w → (enqueue cfg st w i).ws w' = st.ws w' := by
  simp [enqueue, hroom]
  intro w' hw; simp [hw]

/-- History-level: for every worker (= one invocation id), the sequence of INVOCATION messages given
    to the handler so far is a prefix of the sequence accepted from the router for it (both ghost
    logs are newest first); while the worker is live the difference is exactly its queue, in
    order; a worker that has stopped reading never takes another message. -/
def InvPrefix (st : State) : Prop :=
  (∀ w, (st.ws w).live = true → (st.ws w).accepted = (st.ws w).queue.reverse ++ (st.ws w).handled) ∧
  (∀ w, ∃ rest, (st.ws w).accepted = rest ++ (st.ws w).handled) ∧
  (∀ w, w < st.n → (st.ws w).live = false → (match (st.ws w).inner with | .exited => True | _ => False))

theorem InvPrefix.setW (ha : x.live = true → x.accepted = x.queue.reverse ++ x.handled)
    (hb : ∃ rest, x.accepted = rest ++ x.handled)
    (hx : w < st.n → x.live = false → (match x.inner with | .exited => True | _ => False))
    (h : InvPrefix st) : InvPrefix (st.setW w x) := by
  refine ⟨fun a => ?_, fun a => ?_, fun a => ?_⟩ <;>
    rcases setW_ws_eq st w x a with ⟨rfl, e⟩ | ⟨_, e⟩ <;> rw [e]
  · exact ha
  · exact h.1 a
  · exact hb
  · exact h.2.1 a
  · exact hx
  · exact h.2.2 a

theorem invPrefix_step (hinv : InvPrefix st) (h : step cfg st ev = some st') : InvPrefix st' := by
  -- a created worker that is not live has exited: one that is idle, running or sending is live
  have live {w : Nat} (hw : w < st.n) (hi : (st.ws w).inner ≠ .exited) : (st.ws w).live = true := by
    cases hl : (st.ws w).live
    · have := hinv.2.2 w hw hl
      split at this
      · exact absurd ‹_› hi
      · exact this.elim
    · rfl
  have push {w : Nat} {i : Inv} (hl : (st.ws w).live = true) :
      i :: (st.ws w).accepted = ((st.ws w).queue ++ [i]).reverse ++ (st.ws w).handled := by
    rw [hinv.1 w hl, List.reverse_append]; rfl
  cases step_spec h with
  | tick | clientDone | endRecv | abandon | refused | crash | repeated | ignored | interruptNone
  | spRefuse => exact hinv
  | sendDone _ _ hl =>
    exact .setW (fun _ => push hl) ⟨_, push hl⟩ (fun _ e => by rw [hl] at e; cases e) hinv
  | enqueued _ hfl =>
    have hl := (findLive_some hfl).2.1
    exact .setW (fun _ => push hl) ⟨_, push hl⟩ (fun _ e => by rw [hl] at e; cases e) hinv
  | sendLost _ _ hl =>
    exact .setW (fun e => by rw [hl] at e; cases e) (hinv.2.1 _) (hinv.2.2 _) hinv
  | created =>
    show InvPrefix (State.setW _ st.n _)
    refine ⟨fun a => ?_, fun a => ?_, fun a (ha : a < st.n + 1) => ?_⟩ <;>
      rcases setW_ws_eq _ st.n _ a with ⟨rfl, e⟩ | ⟨ne, e⟩ <;> rw [e]
    · exact fun _ => rfl
    · exact hinv.1 a
    · exact ⟨[_], rfl⟩
    · exact hinv.2.1 a
    · exact nofun
    · exact hinv.2.2 a (by omega)
  | @innerTake w _ _ hw hi hq =>
    have hl := live hw (by rw [hi]; nofun)
    have ha : (st.ws w).accepted = _ := hinv.1 w hl
    rw [hq, List.reverse_cons, List.append_assoc] at ha
    exact .setW (fun _ => ha) ⟨_, ha⟩ (fun _ e => by rw [hl] at e; cases e) hinv
  | handlerDrop | innerExit | handlerResultEnd | sendRetryEnd =>
    exact .setW nofun (hinv.2.1 _) (fun _ _ => trivial) hinv
  | handlerResultMore hi | sendRetryMore hi | handlerWait hi =>
    exact .setW (hinv.1 _) (hinv.2.1 _)
      (fun hw hl => by rw [live hw (by rw [hi]; nofun)] at hl; cases hl) hinv
  | _ => exact .setW (hinv.1 _) (hinv.2.1 _) (hinv.2.2 _) hinv

/-- `SendProgress` gets past its lookups only for an invocation whose caller asked for progressive
    results (the request id is in the handler's context and in `progGate`). -/
def InvSp (st : State) : Prop := ∀ w, (st.ws w).spArmed = true → (st.ws w).progOK = true ∧ w < st.n

theorem InvSp.setW (hx : x.spArmed = true → x.progOK = true ∧ w < st.n) (h : InvSp st) :
    InvSp (st.setW w x) := fun a => by
  rcases setW_ws_eq st w x a with ⟨rfl, e⟩ | ⟨_, e⟩ <;> rw [e]
  · exact hx
  · exact h a

theorem invSp_step (hf : InvFresh st) (hinv : InvSp st) (h : step cfg st ev = some st') :
    InvSp st' := by
  cases step_spec h with
  | tick | clientDone | endRecv | abandon | refused | crash | repeated | ignored | interruptNone
  | spRefuse => exact hinv
  | created =>
    exact InvSp.setW (st := { st with lastRecv := _, n := st.n + 1, kill := _, progGate := _ }) nofun
      fun a ha => ⟨(hinv a ha).1, Nat.lt_succ_of_lt (hinv a ha).2⟩
  | spArm hi _ hp => exact .setW (fun _ => ⟨hp, hf.lt fun e => by rw [e] at hi; cases hi⟩) hinv
  | spSend | spAbandon => exact .setW nofun hinv
  | _ => exact .setW (hinv _) hinv

/-- The YIELD of `SendProgress` carries the invocation's request id and `progress: true`. -/
theorem spSend_sends (cfg : Cfg) (st st' : State) (w : Nat) (h : step cfg st (.spSend w) = some st') :
    st'.out = .progressSent w :: .send (.yield (st.ws w).req true) :: st.out := by
  cases step_spec h with
  | spSend => rfl

/-- A handler calling `SendProgress` for a caller that did not ask for progressive results, or after
    the gate was removed (the invocation was answered), is refused and nothing is sent. -/
theorem spCheck_refuses (cfg : Cfg) (st st' : State) (w : Nat)
    (hg : ((st.ws w).progOK && st.progGate (st.ws w).req) = false)
    (h : step cfg st (.spCheck w) = some st') : st' = st.emit (.progressRefused w) := by
  cases step_spec h with
  | spArm _ _ hp hgate => rw [hp, hgate] at hg; cases hg
  | spRefuse => rfl

/-- Race (observation): a handler that ignores its cancelled context and is inside `SendProgress`, past
    the gate lookup, when the worker answers the INTERRUPT with ERROR: its progressive YIELD follows
    the invocation's ERROR. -/
def progressAfterAnswer : List Ev :=
  [.recvInvocation { req := 7, reg := 3, details := [(N.OptReceiveProgress, .bool true)] } true, .innerTake 0,
   .spCheck 0, .recvInterrupt 7, .outerCtx 0, .outerAnswer 0 false, .spSend 0]

theorem progress_after_answer_possible :
    (steps {} {} progressAfterAnswer).map (fun st => st.out.filterMap fun o => match o with | .send m => some m | _ => none) =
      some [.yield 7 true, .error tINVOCATION 7 N.ErrCanceled] := by decide

structure AllInv (st : State) : Prop where
  live : InvLive st
  fresh : InvFresh st
  answer : InvAnswer st
  shape : InvAnswerShape st
  matching : InvMatch st
  prefix_ : InvPrefix st
  sp : InvSp st

theorem allInv_init : AllInv {} where
  live := ⟨fun _ _ => rfl, nofun⟩
  fresh := ⟨fun _ _ => rfl, nofun, nofun⟩
  answer := fun _ => rfl
  shape := nofun
  matching := ⟨nofun, nofun, nofun⟩
  prefix_ := ⟨nofun, fun _ => ⟨[], rfl⟩, nofun⟩
  sp := nofun

theorem allInv_step (hi : AllInv st) (h : step cfg st ev = some st') : AllInv st' :=
  ⟨invLive_step hi.live h, invFresh_step hi.fresh h, invAnswer_step hi.fresh hi.answer h,
   invAnswerShape_step hi.fresh hi.shape h, invMatch_step hi.matching h,
   invPrefix_step hi.prefix_ h, invSp_step hi.fresh hi.sp h⟩

theorem allInv_reachable (cfg : Cfg) (st : State) (h : Reachable cfg st) : AllInv st :=
  (runs cfg).reachable allInv_init (fun _ _ _ hi hs => allInv_step hi hs) h

end Nexus.Client.I
