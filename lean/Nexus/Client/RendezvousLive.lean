/-
  The receive loop of the rendezvous model: when it is blocked for good (`RunStuck`), that this
  is permanent, the exact guard under which it cannot happen, the concrete witnesses, and Close.
-/
import Nexus.Client.RendezvousAll
import Nexus.Client.PptLemmas
import Nexus.Client.Witness

namespace Nexus.Client.R

theorem stuck_no_run_step (cfg : Cfg) (st : State) (ev : Ev)
    (hs : RunStuck cfg st) (hr : ev.isRun = true) : step cfg st ev = none := by
  obtain ⟨hesc, gs, ms, hrun0, hgone⟩ := hs
  have hcore : stepCore cfg st ev = none := by
    unfold stepCore
    cases ev <;> simp [Ev.isRun] at hr <;> simp only
    case runRecv => simp [runRecv, hrun0]
    case deliver =>
      simp only [hrun0]
      cases hp : (st.ws gs).phase <;> simp [hp, Phase.gone] at hgone ⊢
    case giveUp => simp [hrun0, hesc]
    all_goals simp [hrun0]
  unfold step
  simp [hcore]

theorem RunStuck.update {cfg : Cfg} {a b : State} (h : RunStuck cfg a) (g : Nat) (w : Waiter) (hrun : b.run = a.run)
    (hws : b.ws = (a.setW g w).ws) (hw : (a.ws g).phase.gone = true → w.phase.gone = true) : RunStuck cfg b := by
  obtain ⟨hesc, gs, ms, hrun0, hgone⟩ := h
  refine ⟨hesc, gs, ms, hrun ▸ hrun0, ?_⟩
  simp only [hws, setW_ws]
  split
  · subst gs; exact hw hgone
  · exact hgone

theorem stuck_stable (cfg : Cfg) (st : State) (ev : Ev) (st' : State)
    (hs : RunStuck cfg st) (h : step cfg st ev = some st') : RunStuck cfg st' := by
  obtain ⟨hesc, gs, ms, hrun0, hgone⟩ := id hs
  cases step_spec h with
  | global hg =>
    cases hg
    case giveUp hesc' _ => rw [hesc] at hesc'; cases hesc'
    case recvClosed hrun _ | recvUnclaimed hrun _ | recvDropped hrun _ | recvUnhandled hrun _ |
      recvSignal hrun _ _ _ | recvEventPanic hrun _ _ _ | recvEvent hrun _ |
      recvToWorker hrun _ | recvExit hrun _ | runSeeRecvDone hrun _ | eventReturn hrun | busyEnd hrun =>
      rw [hrun0] at hrun; cases hrun
    all_goals exact hs
  | waiter g hw =>
    cases hw
    case deliverReply hrun hph | deliverCancelled hrun hph =>
      rw [hrun0] at hrun; cases hrun; rw [hph] at hgone; cases hgone
    case ctxEnd | progReturn => exact hs.update g _ rfl rfl id
    case finishProg | finishOk | finishAbort | callReturnOk | callReturnAbort => exact hs.update g _ rfl rfl fun _ => rfl
    all_goals
      rename_i hph
      exact hs.update g _ rfl rfl fun h => by rw [hph] at h; cases h

theorem stuck_forever (cfg : Cfg) (st : State) (evs : List Ev) (st' : State)
    (hs : RunStuck cfg st) (h : steps cfg st evs = some st') : RunStuck cfg st' :=
  (runs cfg).invariant (stuck_stable cfg) evs st st' hs h

/-- Executable form of `RunStuck`. -/
def stuckB (cfg : Cfg) (st : State) : Bool :=
  !cfg.signalEscapes && (match st.run with | .signalling g _ => (st.ws g).phase.gone | _ => false)

theorem stuck_of_stuckB (cfg : Cfg) (st : State) (h : stuckB cfg st = true) : RunStuck cfg st := by
  unfold stuckB at h
  simp only [Bool.and_eq_true, Bool.not_eq_true'] at h
  obtain ⟨h1, h2⟩ := h
  split at h2
  · rename_i g m hrun
    exact ⟨h1, g, m, hrun, h2⟩
  · simp at h2

/-- Today's configuration as regenerated from the source. -/
def cfgToday : Cfg := {}

/-- The configuration the source had before fixes 652e15e, 710325f, aee6f97 (regression witness). -/
def cfgOld : Cfg := { signalEscapes := false, abortClosesSend := true, ppt := PptFacts.allBare }

theorem today_escapes : cfgToday.signalEscapes = true := by decide

theorem today_not_stuck (st : State) : ¬ RunStuck cfgToday st := fun hs => by
  have := today_escapes
  rw [hs.1] at this
  cases this
theorem today_deletes : cfgToday.deletesEntry = true := by decide
theorem today_abort : cfgToday.abortClosesSend = false := by decide
theorem today_ppt : cfgToday.ppt.clean := gen_clean

def closedOK (s : State) : Bool := decide (s.close = .returned) && s.crashed.isNone

theorem exists_of_map {o : Option State} {p : State → Bool} (h : o.map p = some true) :
    ∃ s, o = some s ∧ p s = true := by
  cases o with
  | none => simp at h
  | some s => exact ⟨s, rfl, by simpa using h⟩

/-- With the two-way select of before fix 710325f the F16 witnesses leave the loop stuck. -/
theorem f16_old_stuck : ((steps cfgOld {} Witness.f16).map (stuckB cfgOld)) = some true := by decide
theorem f16dup_old_stuck : ((steps cfgOld {} Witness.f16dup).map (stuckB cfgOld)) = some true := by decide

/-- The open finding F43: CANCEL sent after Close() closed the send channel. -/
theorem closeRace_crashes :
    ((steps cfgToday {} Witness.closeRace).map (·.crashed)) = some (some "send on closed channel") := by decide

/-- A stuck loop never exits, so Done is never signalled and Close never returns. -/
theorem stuck_close_never_returns (cfg : Cfg) (st : State) (hreach : Reachable cfg st) (hs : RunStuck cfg st)
    (evs : List Ev) (st' : State) (h : steps cfg st evs = some st') :
    st'.done = false ∧ st'.close ≠ .returned := by
  have hs' := stuck_forever cfg st evs st' hs h
  have hinv := allInv_reachable cfg st' (hreach.extend evs h)
  obtain ⟨_, g, m, hrun, _⟩ := hs'
  obtain ⟨hd, hcl, _, _⟩ := hinv.state
  have hnd : st'.done = false := by
    cases hdn : st'.done with
    | false => rfl
    | true => have := hd.mp hdn; rw [hrun] at this; cases this
  refine ⟨hnd, ?_⟩
  intro hc
  have := hcl (.inr hc)
  rw [hnd] at this
  cases this

/-- The two ways the loop can get stuck: the response timer of waiter `g` fires while the loop is
    already sending to `g`; or the loop takes a reply whose waiter has left its select for good
    but has not deleted its entry yet. -/
def racy (st : State) (ev : Ev) : Bool :=
  match ev with
  | .timeout g => (match st.run with | .signalling g' _ => g' == g | _ => false)
  | .runRecv =>
    (match st.run, st.inbox with
     | .idle, some m :: _ =>
       (match (sigId m).bind st.awaiting with
        | some g => (st.ws g).phase.gone
        | none => false)
     | _, _ => false)
  | _ => false

def stepsGuarded (cfg : Cfg) (st : State) : List Ev → Option State
  | [] => some st
  | e :: es => if racy st e then none else (step cfg st e).bind fun st' => stepsGuarded cfg st' es

/-- A step of a run without racy steps. -/
def stepGuarded (cfg : Cfg) (st : State) (ev : Ev) : Option State :=
  if racy st ev then none else step cfg st ev

theorem runsGuarded (cfg : Cfg) : Runs (stepGuarded cfg) (stepsGuarded cfg) :=
  ⟨fun _ => rfl, fun st e es => by rw [stepsGuarded, stepGuarded]; split <;> rfl⟩

theorem stepsGuarded_steps (cfg : Cfg) (evs : List Ev) (st st' : State)
    (h : stepsGuarded cfg st evs = some st') : steps cfg st evs = some st' := by
  induction evs generalizing st with
  | nil => simpa [stepsGuarded, steps] using h
  | cons e es ih =>
    simp only [stepsGuarded] at h
    split at h
    · simp at h
    · simp only [steps]
      cases hs : step cfg st e with
      | none => simp [hs] at h
      | some st1 => simp [hs] at h ⊢; exact ih st1 h

/-- Holds along runs without a racy step only (`stepsGuarded`), hence outside `AllInv`. -/
def NotSendingToGone (st : State) : Prop :=
  ∀ g m, st.run = .signalling g m → (st.ws g).phase.gone = false

theorem NotSendingToGone.update {a b : State} (h : NotSendingToGone a) (g : Nat) (w : Waiter) (hrun : b.run = a.run)
    (hws : b.ws = (a.setW g w).ws) (hw : ∀ m, a.run = .signalling g m → w.phase.gone = false) :
    NotSendingToGone b := by
  intro g' m hb
  rw [hrun] at hb
  simp only [hws, setW_ws]
  split
  · subst g'; exact hw m hb
  · exact h g' m hb

/-- The loop begins to send to `g` only in `recvSignal`, where `racy` excludes a `g` that has gone; while it
    sends, `g` could go only by its timer (racy) or by `seeDone` (the loop would have exited, `InvState`). -/
theorem notSendingToGone_step (cfg : Cfg) (st : State) (ev : Ev) (st' : State)
    (hi : InvState st) (hc : InvCorr st) (hg : NotSendingToGone st) (hr : racy st ev = false)
    (h : step cfg st ev = some st') : NotSendingToGone st' := by
  have hd := hi.1
  have hcorr := hc.2
  cases step_spec h with
  | global hs =>
    cases hs
    case giveUp | recvClosed | recvEvent | recvToWorker | recvExit | runSeeRecvDone | eventReturn | busyEnd =>
      exact nofun
    case recvUnclaimed hrun _ | recvDropped hrun _ | recvUnhandled hrun _ | recvEventPanic hrun _ _ _ =>
      exact fun g m h => by cases hrun.symm.trans h
    case recvSignal hrun hin hsig hga =>
      intro g' m' h
      cases h
      simpa [racy, hrun, hin, hsig, hga] using hr
    all_goals exact hg
  | waiter g hw =>
    cases hw
    case deliverReply | deliverCancelled => exact nofun
    case ctxEnd | progReturn => exact hg.update g _ rfl rfl fun m hr => hg g m hr
    case apiRequest | apiWait | noticeCtx | progTake => exact hg.update g _ rfl rfl fun _ _ => rfl
    case apiReturn hidle | apiFire hidle =>
      exact hg.update g _ rfl rfl fun m hr => by have := (hcorr g m hr).2; rw [hidle] at this; cases this
    case timeoutReply | timeoutCancel => exact hg.update g _ rfl rfl fun m hrun => by simp [racy, hrun] at hr
    case seeDone hdone _ =>
      exact hg.update g _ rfl rfl fun m hrun => by have := hd.mp hdone; rw [hrun] at this; cases this
    case finishProg hph | finishOk hph | finishAbort hph | callReturnOk hph | callReturnAbort hph =>
      exact hg.update g _ rfl rfl fun m hrun => by have := hg g m hrun; rw [hph] at this; cases this

/-- Partial form of "the receive loop never gets stuck": along every event sequence without a racy
    step the loop is never blocked for good. -/
theorem never_stuck_guarded (cfg : Cfg) (evs : List Ev) (st : State)
    (h : stepsGuarded cfg {} evs = some st) : ¬ RunStuck cfg st := by
  have hg : InvState st ∧ InvCorr st ∧ NotSendingToGone st :=
    (runsGuarded cfg).reachable (P := fun s => InvState s ∧ InvCorr s ∧ NotSendingToGone s)
      ⟨invState_init, invCorr_init, nofun⟩
      (fun a e b ⟨hi, hc, hg⟩ hs => by
        unfold stepGuarded at hs
        split at hs
        · cases hs
        · exact ⟨invState_step cfg a e b hi hs, invCorr_step cfg a e b hc hs,
            notSendingToGone_step cfg a e b hi hc hg (Bool.eq_false_iff.2 ‹_›) hs⟩) ⟨evs, h⟩
  rintro ⟨_, g, m, hrun, hgone⟩
  have := hg.2.2 g m hrun
  rw [hgone] at this
  cases this

/-- What ends the session from the router side: the transport closing, or a message whose case in
    `runReceiveFromRouter` returns true (GOODBYE, ABORT — regenerated table). -/
def endsSession : Option RMsg → Bool
  | none => true
  | some m => (match actionOf m.typeName with | .exit _ => true | _ => false)

theorem take_new1 {α} (l : List α) (a : α) : List.take (l.length + 1 - l.length) (a :: l) = [a] := by
  have : l.length + 1 - l.length = 1 := by omega
  rw [this]; rfl

theorem close_from_quiet (cfg : Cfg) (st : State) (hi : InvState st) (hc : st.crashed = none)
    (hsc : st.sendClosed = false) (hrun : st.run = .idle ∨ st.run = .exited) :
    ∃ evs st', steps cfg st evs = some st' ∧ st'.close = .returned ∧ st'.crashed = none := by
  suffices h : ∃ evs, (steps cfg st evs).map closedOK = some true by
    obtain ⟨evs, h⟩ := h
    obtain ⟨s, h1, h2⟩ := exists_of_map h
    simp [closedOK] at h2
    exact ⟨evs, s, h1, h2.1, h2.2⟩
  obtain ⟨hd, hcl, hf, _⟩ := hi
  have hidle : st.done = false → st.run = .idle := fun h0 =>
    hrun.resolve_right fun h => by rw [hd.mpr h] at h0; cases h0
  cases hclose : st.close <;> cases hdone : st.done
  case returned.true | returned.false => exact ⟨[], by simp [steps, closedOK, hclose, hc]⟩
  case waitWorkers.true | waitWorkers.false =>
    exact ⟨[.closeWorkersDone], by simp [closedOK, steps, step_open, stepCore, hc, hsc, hclose]⟩
  case no.true => exact ⟨[.closeStart, .closeWorkersDone], by simp [closedOK, steps, step_open, stepCore, hc, hsc, hclose, hdone]⟩
  case no.false =>
    exact ⟨[.closeStart, .tick (cfg.closeFactor * cfg.timeout), .closeForce, .runSeeRecvDone, .closeSeeDone,
      .closeWorkersDone], by
      simp [closedOK, steps, step_open, stepCore, State.runExit, State.emit, State.sendR, hc, hsc, hclose, hdone, hidle hdone]⟩
  case sentGoodbye.true | forced.true =>
    exact ⟨[.closeSeeDone, .closeWorkersDone], by simp [closedOK, steps, step_open, stepCore, hc, hsc, hclose, hdone]⟩
  case sentGoodbye.false d =>
    exact ⟨[.tick d, .closeForce, .runSeeRecvDone, .closeSeeDone, .closeWorkersDone], by
      simp [closedOK, steps, step_open, stepCore, State.runExit, State.emit, hc, hsc, hclose, hdone, hidle hdone]⟩
  case forced.false =>
    exact ⟨[.runSeeRecvDone, .closeSeeDone, .closeWorkersDone], by
      simp [closedOK, steps, step_open, stepCore, State.runExit, State.emit, hc, hsc, hclose, hidle hdone, hf hclose]⟩

def quietB (s : State) : Bool :=
  s.crashed.isNone && !s.sendClosed && (match s.run with | .idle => true | .exited => true | _ => false)

theorem postProcess_no_panic {cfg : Cfg} (hp : cfg.ppt.clean) (st : State) (w : Waiter) (r : Ret) (site : String) :
    postProcess cfg st w r ≠ .panic site := by
  intro h
  obtain ⟨d, a, k, hpc⟩ := postProcess_panic h
  have := prepareCallResult_clean hp cfg.deser cfg.dealerPPT d a k
  rw [hpc] at this
  simp at this

theorem finish_step_ok (cfg : Cfg) (st : State) (g : Nat) (r : Ret)
    (hp : cfg.ppt.clean) (ha : cfg.abortClosesSend = false)
    (hc : st.crashed = none) (hsc : st.sendClosed = false) (hph : (st.ws g).phase = .finishing r) :
    ∃ st1, step cfg st (.finish g) = some st1 ∧ st1.crashed = none ∧ st1.sendClosed = false ∧
      st1.run = st.run ∧ (st1.ws g).phase.left = true := by
  have ⟨st1, h1⟩ : ∃ st1, step cfg st (.finish g) = some st1 := Option.isSome_iff_exists.1 <| by
    cases hprog : (st.ws g).hasProg <;> simp [step_open, stepCore, hc, hsc, hph, hprog]
  refine ⟨st1, h1, ?_⟩
  cases step_spec h1 with
  | global hg =>
    cases hg
    case sendOnClosed hsc' => rw [hsc] at hsc'; cases hsc'
    case finishPanic hpanic => exact absurd hpanic (postProcess_no_panic hp _ _ _ _)
  | waiter _ hw =>
    cases hw
    case finishProg => exact ⟨hc, hsc, rfl, by simp [Phase.left]⟩
    case finishOk hpp _ | finishAbort hpp _ =>
      exact ⟨hc, ((postProcess_sendClosed ha hpp).trans (forget_sendClosed ..)).trans hsc, rfl, by simp [Phase.left]⟩

/-- Whatever the loop is doing, it can be brought back to its select by letting the goroutine it
    waits for take its next steps: a waiter on its way into its select, the progress goroutine,
    the application's event handler, a worker — or, for a waiter that has gone, the waiter's own
    exit path, after which the loop takes the `gone` case. -/
theorem unblock_run (cfg : Cfg) (st : State) (hi : InvCorr st) (hc : st.crashed = none)
    (hsc : st.sendClosed = false) (hp : cfg.ppt.clean) (ha : cfg.abortClosesSend = false)
    (hns : ¬ RunStuck cfg st) :
    ∃ evs, (steps cfg st evs).map quietB = some true := by
  cases hrun : st.run with
  | idle => exact ⟨[], by simp [steps, quietB, hc, hsc, hrun]⟩
  | exited => exact ⟨[], by simp [steps, quietB, hc, hsc, hrun]⟩
  | inEvent => exact ⟨[.eventReturn], by simp [steps, step_open, stepCore, quietB, hc, hsc, hrun]⟩
  | busy m => exact ⟨[.busyEnd], by simp [steps, step_open, stepCore, quietB, hc, hsc, hrun]⟩
  | signalling g m =>
    have hst := (hi.2 g m hrun).2
    have hesc : (st.ws g).phase.gone = true → cfg.signalEscapes = true := by
      intro hg
      cases he : cfg.signalEscapes with
      | true => rfl
      | false => exact absurd ⟨he, g, m, hrun, hg⟩ hns
    cases hph : (st.ws g).phase with
    | idle => simp [hph, Phase.started] at hst
    | pending =>
      exact ⟨[.apiWait g, .deliver], by simp [steps, step_open, stepCore, quietB, hc, hsc, hrun, hph]⟩
    | waiting => exact ⟨[.deliver], by simp [steps, step_open, stepCore, quietB, hc, hsc, hrun, hph]⟩
    | cancelWaiting k => exact ⟨[.deliver], by simp [steps, step_open, stepCore, quietB, hc, hsc, hrun, hph]⟩
    | progSending m' =>
      cases hpb : (st.ws g).progBusy with
      | true =>
        exact ⟨[.progReturn g, .progTake g, .deliver],
          by simp [steps, step_open, stepCore, quietB, hc, hsc, hrun, hph, hpb]⟩
      | false =>
        exact ⟨[.progTake g, .deliver], by simp [steps, step_open, stepCore, quietB, hc, hsc, hrun, hph, hpb]⟩
    | finishing r =>
      have he := hesc (by simp [hph, Phase.gone])
      obtain ⟨st1, h1, hc1, hsc1, hrun1, hleft⟩ := finish_step_ok cfg st g r hp ha hc hsc hph
      refine ⟨[.finish g, .giveUp], ?_⟩
      have h2 : step cfg st1 .giveUp = some { st1 with run := .idle } := by
        simp [step_open, stepCore, hc1, hsc1, hrun1, hrun, he, hleft]
      simp [steps, h1, h2, quietB, hc1, hsc1]
    | closing r =>
      have he := hesc (by simp [hph, Phase.gone])
      exact ⟨[.giveUp], by simp [steps, step_open, stepCore, quietB, hc, hsc, hrun, hph, he, Phase.left]⟩
    | returned r =>
      have he := hesc (by simp [hph, Phase.gone])
      exact ⟨[.giveUp], by simp [steps, step_open, stepCore, quietB, hc, hsc, hrun, hph, he, Phase.left]⟩

/-- With today's `abortSession` only `Close()` closes the send channel (once, as its last act), and
    with a clean site table the only panic left is a send on that closed channel (F43). -/
def InvClose (st : State) : Prop :=
  (st.sendClosed = true → st.close = .returned) ∧
  (∀ s, st.crashed = some s → s = "send on closed channel" ∧ st.sendClosed = true)

theorem invClose_init : InvClose {} := by
  constructor <;> intros <;> simp_all

theorem crash_step (cfg : Cfg) (hp : cfg.ppt.clean) (st : State) (ev : Ev) (st' : State) (hinv : InvClose st)
    (h : step cfg st ev = some st') (hcr : st'.crashed.isSome = true) :
    st.sendClosed = true ∧ st' = { st with crashed := some "send on closed channel" } := by
  have hc := step_crashed h
  cases step_spec h with
  | waiter g hw => cases hw <;> exact absurd (show st.crashed.isSome = true from hcr) (by rw [hc]; decide)
  | global hg =>
    cases hg
    case sendOnClosed hsc => exact ⟨hsc, rfl⟩
    case finishPanic hpanic | callReturnPanic hpanic => exact absurd hpanic (postProcess_no_panic hp _ _ _ _)
    case recvEventPanic d a k _ _ _ hpanic =>
      have := eventPpt_clean hp cfg.deser d a k
      rw [hpanic] at this; simp at this
    case closeTwice hcl hsc => rw [hinv.1 hsc] at hcl; cases hcl
    all_goals exact absurd (show st.crashed.isSome = true from hcr) (by rw [hc]; decide)

/-- A crash in `st'` is new (`step_crashed`), so the second part is `crash_step`. -/
theorem invClose_step (cfg : Cfg) (hp : cfg.ppt.clean) (ha : cfg.abortClosesSend = false)
    (st : State) (ev : Ev) (st' : State)
    (hinv : InvClose st) (h : step cfg st ev = some st') : InvClose st' := by
  refine ⟨?_, fun s hs => ?_⟩
  · have h1 := hinv.1
    cases step_spec h with
    | waiter g hw =>
      cases hw
      case finishOk hpp _ | finishAbort hpp _ =>
        show _ = true → _
        rw [(postProcess_sendClosed ha hpp).trans (forget_sendClosed ..)]; exact h1
      case callReturnOk hpp _ | callReturnAbort hpp _ =>
        show _ = true → _
        rw [postProcess_sendClosed ha hpp]; exact h1
      all_goals exact h1
    | global hg =>
      cases hg
      case closeStartDone hcl _ | closeStart hcl _ | closeForce hcl _ =>
        exact fun hsc => by rw [h1 hsc] at hcl; cases hcl
      case closeSeeDone hcl _ =>
        exact fun hsc => by rw [h1 hsc] at hcl; rcases hcl with ⟨_, h⟩ | h <;> cases h
      case closeReturn => exact fun _ => rfl
      all_goals exact h1
  · obtain ⟨hsc, rfl⟩ := crash_step cfg hp st ev st' hinv h (by rw [hs]; rfl)
    cases hs
    exact ⟨rfl, hsc⟩

theorem invClose_reachable (cfg : Cfg) (hp : cfg.ppt.clean) (ha : cfg.abortClosesSend = false)
    (st : State) (h : Reachable cfg st) : InvClose st :=
  (runs cfg).reachable invClose_init (invClose_step cfg hp ha) h

theorem steps_crashed (cfg : Cfg) (st : State) (evs : List Ev) (st' : State) (hc : st.crashed.isSome = true)
    (h : steps cfg st evs = some st') : evs = [] ∧ st' = st := by
  cases evs with
  | nil => simp [steps] at h; exact ⟨rfl, h.symm⟩
  | cons e es => simp [steps, step_of_crashed hc] at h

theorem crash_split (cfg : Cfg) (evs : List Ev) (st0 st : State) (h0 : st0.crashed = none)
    (h : steps cfg st0 evs = some st) (hc : st.crashed.isSome = true) :
    ∃ pre ev st1, evs = pre ++ [ev] ∧ steps cfg st0 pre = some st1 ∧ st1.crashed = none ∧ step cfg st1 ev = some st := by
  induction evs generalizing st0 with
  | nil => simp [steps] at h; subst h; simp [h0] at hc
  | cons e es ih =>
    simp only [steps] at h
    cases hs : step cfg st0 e with
    | none => simp [hs] at h
    | some s1 =>
      rw [hs] at h
      simp only [Option.bind_some] at h
      cases hc1 : s1.crashed with
      | some x =>
        obtain ⟨he, hst⟩ := steps_crashed cfg s1 es st (by simp [hc1]) h
        subst he; subst hst
        exact ⟨[], e, st0, rfl, rfl, h0, hs⟩
      | none =>
        obtain ⟨pre, ev, st1, he, hp, hc', hst⟩ := ih s1 hc1 h
        exact ⟨e :: pre, ev, st1, by simp [he], by simp [steps, hs, hp], hc', hst⟩

/-- F43, delimited: a run of today's client ends in a panic IF AND ONLY IF its last event was taken
    in an uncrashed state in which `Close()` had returned (and closed the send channel), and that
    event is a panicking send — nothing else changes in the state. -/
theorem crash_iff (cfg : Cfg) (hp : cfg.ppt.clean) (ha : cfg.abortClosesSend = false)
    (evs : List Ev) (st : State) (h : steps cfg {} evs = some st) :
    st.crashed.isSome = true ↔
    ∃ pre ev st1, evs = pre ++ [ev] ∧ steps cfg {} pre = some st1 ∧ st1.crashed = none ∧
      st1.close = .returned ∧ st1.sendClosed = true ∧
      step cfg st1 ev = some { st1 with crashed := some "send on closed channel" } ∧
      st = { st1 with crashed := some "send on closed channel" } := by
  constructor
  · intro hc
    obtain ⟨pre, ev, st1, he, hpre, hc1, hst⟩ := crash_split cfg evs {} st rfl h hc
    have hi := invClose_reachable cfg hp ha st1 ⟨pre, hpre⟩
    obtain ⟨hsc, heq⟩ := crash_step cfg hp st1 ev st hi hst hc
    exact ⟨pre, ev, st1, he, hpre, hc1, hi.1 hsc, hsc, heq ▸ hst, heq⟩
  · rintro ⟨pre, ev, st1, _, _, _, _, _, _, rfl⟩
    rfl

/-- From every reachable state in which nothing has crashed and the loop is not stuck for good,
    some continuation lets Close() return (the application's handlers return, the workers finish). -/
theorem close_can_return (cfg : Cfg) (hp : cfg.ppt.clean) (ha : cfg.abortClosesSend = false)
    (st : State) (hr : Reachable cfg st) (hc : st.crashed = none) (hns : ¬ RunStuck cfg st) :
    ∃ evs st', steps cfg st evs = some st' ∧ st'.close = .returned ∧ st'.crashed = none := by
  have hi := allInv_reachable cfg st hr
  have hcl := invClose_reachable cfg hp ha st hr
  cases hsc : st.sendClosed with
  | true => exact ⟨[], st, rfl, hcl.1 hsc, hc⟩
  | false =>
    obtain ⟨e1, h1⟩ := unblock_run cfg st hi.corr hc hsc hp ha hns
    obtain ⟨s1, hs1, hq⟩ := exists_of_map h1
    simp only [quietB, Bool.and_eq_true, Option.isNone_iff_eq_none, Bool.not_eq_true'] at hq
    obtain ⟨⟨hc1, hsc1⟩, hrun1⟩ := hq
    have hrun1' : s1.run = .idle ∨ s1.run = .exited := by
      cases hr1 : s1.run <;> simp [hr1] at hrun1 ⊢
    obtain ⟨e2, s2, hs2, hcl2, hcr⟩ := close_from_quiet cfg s1 ((runs cfg).invariant (invState_step cfg) e1 st s1 hi.state hs1) hc1 hsc1 hrun1'
    exact ⟨e1 ++ e2, s2, by rw [(runs cfg).append, hs1]; exact hs2, hcl2, hcr⟩

end Nexus.Client.R
