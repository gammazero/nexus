/-
  Invariants of the rendezvous model that speak about the output log (what was handed to which
  waiter, what each call returned, which progress results the handler saw, which CANCELs went
  out), for every reachable state.
-/
import Nexus.Client.RendezvousInv

namespace Nexus.Client.R
open Nexus.Gen

def isRet (g : Nat) : Out → Bool
  | .ret g' _ => g' == g
  | _ => false

def isHanded (g : Nat) : Out → Bool
  | .handed g' _ => g' == g
  | _ => false

def isProgress (g : Nat) : Out → Bool
  | .progress g' _ => g' == g
  | _ => false

def isCancelFor (r : Nat) : Out → Bool
  | .send (.cancel r' _) => r' == r
  | _ => false

def Phase.early : Phase → Bool
  | .idle | .pending | .waiting => true
  | _ => false

def Phase.isReturned : Phase → Bool
  | .returned _ => true
  | _ => false

@[simp] theorem isRet_send (g : Nat) (m : CMsg) : isRet g (.send m) = false := rfl
@[simp] theorem isRet_ret (g : Nat) (g' : Nat) (r : Ret) : isRet g (.ret g' r) = (g' == g) := rfl
@[simp] theorem isRet_handed (g : Nat) (g' : Nat) (m : RMsg) : isRet g (.handed g' m) = false := rfl
@[simp] theorem isRet_progress (g : Nat) (g' : Nat) (m : RMsg) : isRet g (.progress g' m) = false := rfl
@[simp] theorem isRet_recv (g : Nat) (m : RMsg) : isRet g (.recv m) = false := rfl
@[simp] theorem isRet_unclaimed (g : Nat) (m : RMsg) : isRet g (.unclaimed m) = false := rfl
@[simp] theorem isRet_eventStart (g : Nat) (s p : Nat) (a : List Val) (k : Dict) : isRet g (.eventStart s p a k) = false := rfl
@[simp] theorem isRet_eventEnd (g : Nat)  : isRet g Out.eventEnd = false := rfl
@[simp] theorem isRet_eventDropped (g : Nat) (s : Nat) : isRet g (.eventDropped s) = false := rfl
@[simp] theorem isRet_unhandled (g : Nat) (t : Nat) : isRet g (.unhandled t) = false := rfl
@[simp] theorem isRet_toWorker (g : Nat) (m : RMsg) : isRet g (.toWorker m) = false := rfl
@[simp] theorem isRet_done (g : Nat)  : isRet g Out.done = false := rfl
@[simp] theorem isRet_closeReturned (g : Nat)  : isRet g Out.closeReturned = false := rfl
@[simp] theorem isHanded_send (g : Nat) (m : CMsg) : isHanded g (.send m) = false := rfl
@[simp] theorem isHanded_ret (g : Nat) (g' : Nat) (r : Ret) : isHanded g (.ret g' r) = false := rfl
@[simp] theorem isHanded_handed (g : Nat) (g' : Nat) (m : RMsg) : isHanded g (.handed g' m) = (g' == g) := rfl
@[simp] theorem isHanded_progress (g : Nat) (g' : Nat) (m : RMsg) : isHanded g (.progress g' m) = false := rfl
@[simp] theorem isHanded_recv (g : Nat) (m : RMsg) : isHanded g (.recv m) = false := rfl
@[simp] theorem isHanded_unclaimed (g : Nat) (m : RMsg) : isHanded g (.unclaimed m) = false := rfl
@[simp] theorem isHanded_eventStart (g : Nat) (s p : Nat) (a : List Val) (k : Dict) : isHanded g (.eventStart s p a k) = false := rfl
@[simp] theorem isHanded_eventEnd (g : Nat)  : isHanded g Out.eventEnd = false := rfl
@[simp] theorem isHanded_eventDropped (g : Nat) (s : Nat) : isHanded g (.eventDropped s) = false := rfl
@[simp] theorem isHanded_unhandled (g : Nat) (t : Nat) : isHanded g (.unhandled t) = false := rfl
@[simp] theorem isHanded_toWorker (g : Nat) (m : RMsg) : isHanded g (.toWorker m) = false := rfl
@[simp] theorem isHanded_done (g : Nat)  : isHanded g Out.done = false := rfl
@[simp] theorem isHanded_closeReturned (g : Nat)  : isHanded g Out.closeReturned = false := rfl
@[simp] theorem isProgress_send (g : Nat) (m : CMsg) : isProgress g (.send m) = false := rfl
@[simp] theorem isProgress_ret (g : Nat) (g' : Nat) (r : Ret) : isProgress g (.ret g' r) = false := rfl
@[simp] theorem isProgress_handed (g : Nat) (g' : Nat) (m : RMsg) : isProgress g (.handed g' m) = false := rfl
@[simp] theorem isProgress_progress (g : Nat) (g' : Nat) (m : RMsg) : isProgress g (.progress g' m) = (g' == g) := rfl
@[simp] theorem isProgress_recv (g : Nat) (m : RMsg) : isProgress g (.recv m) = false := rfl
@[simp] theorem isProgress_unclaimed (g : Nat) (m : RMsg) : isProgress g (.unclaimed m) = false := rfl
@[simp] theorem isProgress_eventStart (g : Nat) (s p : Nat) (a : List Val) (k : Dict) : isProgress g (.eventStart s p a k) = false := rfl
@[simp] theorem isProgress_eventEnd (g : Nat)  : isProgress g Out.eventEnd = false := rfl
@[simp] theorem isProgress_eventDropped (g : Nat) (s : Nat) : isProgress g (.eventDropped s) = false := rfl
@[simp] theorem isProgress_unhandled (g : Nat) (t : Nat) : isProgress g (.unhandled t) = false := rfl
@[simp] theorem isProgress_toWorker (g : Nat) (m : RMsg) : isProgress g (.toWorker m) = false := rfl
@[simp] theorem isProgress_done (g : Nat)  : isProgress g Out.done = false := rfl
@[simp] theorem isProgress_closeReturned (g : Nat)  : isProgress g Out.closeReturned = false := rfl
@[simp] theorem isCancelFor_send_cancel (r r' : Nat) (mode : String) : isCancelFor r (.send (.cancel r' mode)) = (r' == r) := rfl
@[simp] theorem isCancelFor_ret (q : Nat) (g' : Nat) (r : Ret) : isCancelFor q (.ret g' r) = false := rfl
@[simp] theorem isCancelFor_handed (r : Nat) (g' : Nat) (m : RMsg) : isCancelFor r (.handed g' m) = false := rfl
@[simp] theorem isCancelFor_progress (r : Nat) (g' : Nat) (m : RMsg) : isCancelFor r (.progress g' m) = false := rfl
@[simp] theorem isCancelFor_recv (r : Nat) (m : RMsg) : isCancelFor r (.recv m) = false := rfl
@[simp] theorem isCancelFor_unclaimed (r : Nat) (m : RMsg) : isCancelFor r (.unclaimed m) = false := rfl
@[simp] theorem isCancelFor_eventStart (r : Nat) (s p : Nat) (a : List Val) (k : Dict) : isCancelFor r (.eventStart s p a k) = false := rfl
@[simp] theorem isCancelFor_eventEnd (r : Nat)  : isCancelFor r Out.eventEnd = false := rfl
@[simp] theorem isCancelFor_eventDropped (r : Nat) (s : Nat) : isCancelFor r (.eventDropped s) = false := rfl
@[simp] theorem isCancelFor_unhandled (r : Nat) (t : Nat) : isCancelFor r (.unhandled t) = false := rfl
@[simp] theorem isCancelFor_toWorker (r : Nat) (m : RMsg) : isCancelFor r (.toWorker m) = false := rfl
@[simp] theorem isCancelFor_done (r : Nat)  : isCancelFor r Out.done = false := rfl
@[simp] theorem isCancelFor_closeReturned (r : Nat)  : isCancelFor r Out.closeReturned = false := rfl

theorem no_ret_of_not_returned {st : State}
    (hc1 : ∀ g, List.countP (isRet g) st.out = if (st.ws g).phase.isReturned then 1 else 0)
    (g : Nat) (hg : (st.ws g).phase.isReturned = false) : List.countP (isRet g) st.out = 0 := by
  rw [hc1 g, hg]; rfl

/-- Nothing is handed to a waiter, and its progress handler is not called, once `ret g` is logged
    (the log is newest first). -/
def quietAfterRet : List Out → Prop
  | [] => True
  | o :: rest => quietAfterRet rest ∧
      ∀ g, (isHanded g o = true ∨ isProgress g o = true) → List.countP (isRet g) rest = 0

/-- Each API call returns at most once, exactly when its waiter is in phase `returned`; after that
    nothing reaches it any more. -/
def InvRet (st : State) : Prop :=
  (∀ g, List.countP (isRet g) st.out = if (st.ws g).phase.isReturned then 1 else 0) ∧
  quietAfterRet st.out

theorem invRet_init : InvRet {} := by
  constructor
  · intro g; simp [Phase.isReturned]
  · simp [quietAfterRet]

@[simp] theorem setW_ws_self (st : State) (g : Nat) (w : Waiter) : (st.setW g w).ws g = w := by
  simp only [setW_ws, if_pos]

def Out.mute : Out → Bool
  | .handed .. | .progress .. => false
  | _ => true

def Out.noCancel : Out → Bool
  | .send (.cancel ..) => false
  | _ => true

theorem mute_not {o : Out} (h : o.mute = true) (g : Nat) : isHanded g o = false ∧ isProgress g o = false := by
  cases o <;> first | exact ⟨rfl, rfl⟩ | cases h

theorem emits_of {P : State → Prop} {q : Out → Bool} (hemit : ∀ {a o}, q o = true → P a → P (a.emit o))
    {b : State} {os : List Out} (hs : os.all q = true) (h : P b) : P (b.emits os) := by
  induction os with
  | nil => exact h
  | cons o os ih =>
    rw [List.all_cons, Bool.and_eq_true] at hs
    exact hemit hs.1 (ih hs.2)

theorem to_only {g : Nat} {m : RMsg} {o : Out} (ho : o = .handed g m ∨ o = .progress g m) {g' : Nat}
    (h : isHanded g' o = true ∨ isProgress g' o = true) : g' = g := by
  rcases ho with rfl | rfl <;> simp at h <;> exact h.symm

def Out.about (g : Nat) (o : Out) : Bool := isRet g o || isHanded g o || isProgress g o

/-- `Φ g w l`, a property of waiter `g` in state `w` with log `l`, ignores outputs addressed to others. -/
def Local (Φ : Nat → Waiter → List Out → Prop) : Prop :=
  ∀ {g w o l}, o.about g = false → (Φ g w (o :: l) ↔ Φ g w l)

variable {Φ : Nat → Waiter → List Out → Prop}

theorem Local.emits (hΦ : Local Φ) {g : Nat} {w : Waiter} {os l : List Out}
    (hos : os.all (fun o => !o.about g) = true) : Φ g w (os ++ l) ↔ Φ g w l := by
  induction os with
  | nil => rfl
  | cons o os ih =>
    rw [List.all_cons, Bool.and_eq_true, Bool.not_eq_true'] at hos
    exact (hΦ hos.1).trans (ih hos.2)

/-- What the loop and `Close()` log reaches no waiter, is no CANCEL and is about no waiter. -/
theorem GStep.log {cfg : Cfg} {st G : State} {ev : Ev} {os : List Out} (h : GStep cfg st ev G os) :
    os.all Out.mute = true ∧ os.all Out.noCancel = true ∧ ∀ g, os.all (fun o => !o.about g) = true := by
  cases h
  all_goals exact ⟨rfl, rfl, fun _ => rfl⟩

theorem WStep.about {cfg : Cfg} {st G : State} {g : Nat} {ev : Ev} {w' : Waiter} {os : List Out}
    (h : WStep cfg st g ev G w' os) {g' : Nat} (hg : g' ≠ g) : os.all (fun o => !o.about g') = true := by
  have : (g == g') = false := by simpa using fun e => hg e.symm
  cases h
  all_goals simp [Out.about, this]

/-- A step keeps a local property of every waiter if the moving waiter keeps it. -/
theorem Local.step (hΦ : Local Φ) {cfg : Cfg} {st st' : State} {ev : Ev} (hs : Step cfg st ev st')
    (hg : ∀ {g G w' os}, WStep cfg st g ev G w' os → Φ g (st.ws g) st.out → Φ g w' (os ++ st.out))
    (h : ∀ g, Φ g (st.ws g) st.out) (g' : Nat) : Φ g' (st'.ws g') st'.out := by
  cases hs with
  | global hG => rw [emits_ws, emits_out, hG.frame.1, hG.frame.2.1]; exact (hΦ.emits (hG.log.2.2 g')).2 (h g')
  | waiter g hw =>
    simp only [setW_out, setW_ws, hw.frame.1, hw.frame.2]
    by_cases e : g' = g
    · subst e; rw [if_pos rfl]; exact hg hw (h g')
    · rw [if_neg e]; exact (hΦ.emits (hw.about e)).2 (h g')

theorem ret_local : Local fun g w l => List.countP (isRet g) l = if w.phase.isReturned then 1 else 0 := by
  intro g w o l ho
  simp only [Out.about, Bool.or_eq_false_iff] at ho
  dsimp only
  rw [List.countP_cons, ho.1.1]; rfl

theorem quiet_mute {os l : List Out} (hs : os.all Out.mute = true) (h : quietAfterRet l) :
    quietAfterRet (os ++ l) := by
  induction os with
  | nil => exact h
  | cons o os ih =>
    rw [List.all_cons, Bool.and_eq_true] at hs
    refine ⟨ih hs.2, fun g hg => ?_⟩
    rw [(mute_not hs.1 g).1, (mute_not hs.1 g).2] at hg
    cases hg <;> contradiction

theorem invRet_step (cfg : Cfg) (st : State) (ev : Ev) (st' : State)
    (hinv : InvRet st) (h : step cfg st ev = some st') : InvRet st' := by
  have hs := step_spec h
  refine ⟨ret_local.step hs (fun {g _ _ _} hw hi => ?_) hinv.1, ?_⟩
  · cases hw
    case apiReturn hph | apiFire hph => rw [hph] at hi; simpa [List.countP_cons, Phase.isReturned] using hi
    case ctxEnd | progReturn => exact hi
    case deliverReply hph | deliverCancelled hph =>
      rw [hph] at hi
      dsimp only; split <;> simpa [List.countP_cons, Phase.isReturned] using hi
    all_goals
      rename_i hph
      rw [hph] at hi
      simpa [List.countP_cons, Phase.isReturned] using hi
  · cases hs with
    | global hG => rw [emits_out, hG.frame.2.1]; exact quiet_mute hG.log.1 hinv.2
    | waiter g hw =>
      have h1 := hinv.1 g
      cases hw
      case deliverReply hph | deliverCancelled hph | progTake hph =>
        rw [hph] at h1
        exact ⟨hinv.2, fun g' hg' => by rw [to_only (m := _) (by first | exact .inl rfl | exact .inr rfl) hg']; exact h1⟩
      all_goals exact quiet_mute rfl hinv.2

/-- Everything but Call takes exactly one message from its reply channel. -/
def InvHand (st : State) : Prop :=
  ∀ g, (st.ws g).op ≠ .call →
    List.countP (isHanded g) st.out ≤ 1 ∧ ((st.ws g).phase.early = true → List.countP (isHanded g) st.out = 0)

def InvHand0 (st : State) : Prop :=
  ∀ g, (st.ws g).phase = .idle → List.countP (isHanded g) st.out = 0 ∧ List.countP (isProgress g) st.out = 0

theorem invHand0_init : InvHand0 {} := by intro g _; simp
theorem invHand_init : InvHand {} := by intro g _; simp

theorem hand0_local : Local fun g w l =>
    w.phase = .idle → List.countP (isHanded g) l = 0 ∧ List.countP (isProgress g) l = 0 := by
  intro g w o l ho
  simp only [Out.about, Bool.or_eq_false_iff] at ho
  dsimp only
  rw [List.countP_cons, List.countP_cons, ho.1.2, ho.2]; rfl

theorem invHand0_step (cfg : Cfg) (st : State) (ev : Ev) (st' : State)
    (hinv : InvHand0 st) (h : step cfg st ev = some st') : InvHand0 st' := by
  refine hand0_local.step (step_spec h) (fun hw => ?_) hinv
  cases hw
  case ctxEnd | progReturn => exact id
  case deliverReply | deliverCancelled => exact fun _ h => by dsimp only at h; split at h <;> cases h
  all_goals exact fun _ => nofun

theorem hand_local : Local fun g w l => w.op ≠ .call →
    List.countP (isHanded g) l ≤ 1 ∧ (w.phase.early = true → List.countP (isHanded g) l = 0) := by
  intro g w o l ho
  simp only [Out.about, Bool.or_eq_false_iff] at ho
  dsimp only
  rw [List.countP_cons, ho.1.2]; rfl

theorem invHand_step (cfg : Cfg) (st : State) (ev : Ev) (st' : State)
    (hw : ∀ g, (st.ws g).wf) (h0 : InvHand0 st) (hinv : InvHand st) (h : step cfg st ev = some st') : InvHand st' := by
  refine hand_local.step (step_spec h) (fun {g _ _ _} hw' hi hc => ?_) hinv
  have h3 := (hw g).2.2
  cases hw'
  case deliverReply hph =>
    have := (hi hc).2 (by rw [hph]; rfl)
    exact ⟨by simp [this], fun e => by dsimp only at e; split at e <;> cases e⟩
  case deliverCancelled hph | progTake hph => rw [hph] at h3; exact absurd h3.1 hc
  case apiReturn hidle | apiRequest hidle | apiFire hidle =>
    have := (h0 g hidle).1
    exact ⟨by simp [this], fun _ => by simp [this]⟩
  case ctxEnd | progReturn => exact hi hc
  case apiWait hph => exact ⟨(hi hc).1, fun _ => (hi hc).2 (by rw [hph]; rfl)⟩
  case finishOk | finishAbort | callReturnOk | callReturnAbort =>
    exact ⟨by simpa [List.countP_cons] using (hi hc).1, nofun⟩
  all_goals exact ⟨(hi hc).1, nofun⟩

def handedMsgs (g : Nat) : List Out → List RMsg
  | [] => []
  | .handed g' m :: rest => if g' = g then m :: handedMsgs g rest else handedMsgs g rest
  | _ :: rest => handedMsgs g rest

def progressMsgs (g : Nat) : List Out → List RMsg
  | [] => []
  | .progress g' m :: rest => if g' = g then m :: progressMsgs g rest else progressMsgs g rest
  | _ :: rest => progressMsgs g rest

/-- The progressive result a waiter is about to pass to the progress goroutine. -/
def Phase.pendingProg : Phase → List RMsg
  | .progSending m => [m]
  | _ => []

@[simp] theorem pendingProg_idle : Phase.idle.pendingProg = [] := rfl
@[simp] theorem pendingProg_pending : Phase.pending.pendingProg = [] := rfl
@[simp] theorem pendingProg_waiting : Phase.waiting.pendingProg = [] := rfl
@[simp] theorem pendingProg_progSending (m : RMsg) : (Phase.progSending m).pendingProg = [m] := rfl
@[simp] theorem pendingProg_cancelWaiting (k : CtxKind) : (Phase.cancelWaiting k).pendingProg = [] := rfl
@[simp] theorem pendingProg_finishing (r : Ret) : (Phase.finishing r).pendingProg = [] := rfl
@[simp] theorem pendingProg_closing (r : Ret) : (Phase.closing r).pendingProg = [] := rfl
@[simp] theorem pendingProg_returned (r : Ret) : (Phase.returned r).pendingProg = [] := rfl

/-- What the progress handler of call `g` has seen (plus the result its waiter is about to pass on)
    is a subsequence, in order, of what was handed to the waiter. -/
def InvProg (st : State) : Prop :=
  ∀ g, ((st.ws g).phase.pendingProg ++ progressMsgs g st.out).Sublist (handedMsgs g st.out)

theorem invProg_init : InvProg {} := by
  intro g; simp [progressMsgs, handedMsgs]

theorem prog_local : Local fun g w l => (w.phase.pendingProg ++ progressMsgs g l).Sublist (handedMsgs g l) := by
  intro g w o l ho
  have : progressMsgs g (o :: l) = progressMsgs g l ∧ handedMsgs g (o :: l) = handedMsgs g l := by
    cases o <;> simp_all [Out.about, progressMsgs, handedMsgs]
  dsimp only
  rw [this.1, this.2]

theorem invProg_step (cfg : Cfg) (st : State) (ev : Ev) (st' : State)
    (hinv : InvProg st) (h : step cfg st ev = some st') : InvProg st' := by
  refine prog_local.step (step_spec h) (fun {g _ _ _} hw hi => ?_) hinv
  cases hw
  case deliverReply hph | deliverCancelled hph =>
    rw [hph] at hi
    simp only [List.cons_append, List.nil_append, handedMsgs, progressMsgs, if_true]
    refine List.Sublist.append (l₂ := [_]) ?_ hi
    split <;> first | exact List.Sublist.refl _ | exact List.nil_sublist _
  case progTake hph =>
    rw [hph] at hi
    simpa [handedMsgs, progressMsgs] using hi
  case ctxEnd | progReturn => exact hi
  all_goals exact (List.sublist_append_right _ _).trans hi

def cancelsOf : List Out → List (Nat × String)
  | [] => []
  | .send (.cancel r mode) :: rest => (r, mode) :: cancelsOf rest
  | _ :: rest => cancelsOf rest

@[simp] theorem isCancelFor_send_subscribe (r : Nat) (q : Nat) (t : String) : isCancelFor r (.send (.subscribe q t)) = false := rfl
@[simp] theorem cancelsOf_send_subscribe (q : Nat) (t : String) (rest : List Out) : cancelsOf (.send (.subscribe q t) :: rest) = cancelsOf rest := rfl
@[simp] theorem isCancelFor_send_unsubscribe (r : Nat) (q s : Nat) : isCancelFor r (.send (.unsubscribe q s)) = false := rfl
@[simp] theorem cancelsOf_send_unsubscribe (q s : Nat) (rest : List Out) : cancelsOf (.send (.unsubscribe q s) :: rest) = cancelsOf rest := rfl
@[simp] theorem isCancelFor_send_publish (r : Nat) (q : Nat) (t : String) (a : Bool) : isCancelFor r (.send (.publish q t a)) = false := rfl
@[simp] theorem cancelsOf_send_publish (q : Nat) (t : String) (a : Bool) (rest : List Out) : cancelsOf (.send (.publish q t a) :: rest) = cancelsOf rest := rfl
@[simp] theorem isCancelFor_send_register (r : Nat) (q : Nat) (t : String) : isCancelFor r (.send (.register q t)) = false := rfl
@[simp] theorem cancelsOf_send_register (q : Nat) (t : String) (rest : List Out) : cancelsOf (.send (.register q t) :: rest) = cancelsOf rest := rfl
@[simp] theorem isCancelFor_send_unregister (r : Nat) (q s : Nat) : isCancelFor r (.send (.unregister q s)) = false := rfl
@[simp] theorem cancelsOf_send_unregister (q s : Nat) (rest : List Out) : cancelsOf (.send (.unregister q s) :: rest) = cancelsOf rest := rfl
@[simp] theorem isCancelFor_send_call (r : Nat) (q : Nat) (t : String) (a : Bool) : isCancelFor r (.send (.call q t a)) = false := rfl
@[simp] theorem cancelsOf_send_call (q : Nat) (t : String) (a : Bool) (rest : List Out) : cancelsOf (.send (.call q t a) :: rest) = cancelsOf rest := rfl
@[simp] theorem isCancelFor_send_yield (r : Nat) (q : Nat) (a : Bool) : isCancelFor r (.send (.yield q a)) = false := rfl
@[simp] theorem cancelsOf_send_yield (q : Nat) (a : Bool) (rest : List Out) : cancelsOf (.send (.yield q a) :: rest) = cancelsOf rest := rfl
@[simp] theorem isCancelFor_send_error (r : Nat) (t q : Nat) (e : String) : isCancelFor r (.send (.error t q e)) = false := rfl
@[simp] theorem cancelsOf_send_error (t q : Nat) (e : String) (rest : List Out) : cancelsOf (.send (.error t q e) :: rest) = cancelsOf rest := rfl
@[simp] theorem isCancelFor_send_goodbye (r : Nat) (e : String) : isCancelFor r (.send (.goodbye e)) = false := rfl
@[simp] theorem cancelsOf_send_goodbye (e : String) (rest : List Out) : cancelsOf (.send (.goodbye e) :: rest) = cancelsOf rest := rfl
@[simp] theorem isCancelFor_send_abort (r : Nat) (e : String) : isCancelFor r (.send (.abort e)) = false := rfl
@[simp] theorem cancelsOf_send_abort (e : String) (rest : List Out) : cancelsOf (.send (.abort e) :: rest) = cancelsOf rest := rfl

@[simp] theorem cancelsOf_request (op : OpKind) (id : Nat) (name : String) (x : Nat) (prog : Bool) (rest : List Out) :
    cancelsOf (.send (requestMsg op id name x prog) :: rest) = cancelsOf rest := by
  cases op <;> rfl

@[simp] theorem isCancelFor_request (r : Nat) (op : OpKind) (id : Nat) (name : String) (x : Nat) (prog : Bool) :
    isCancelFor r (.send (requestMsg op id name x prog)) = false := by
  cases op <;> rfl

/-- Every CANCEL sent carries the configured mode and the id of a request drawn so far. -/
def InvCancelMode (cfg : Cfg) (st : State) : Prop :=
  st.drawn < 2 ^ 53 → ∀ p ∈ cancelsOf st.out, p.2 = cfg.cancelMode ∧ p.1 ≤ st.drawn

theorem invCancelMode_init (cfg : Cfg) : InvCancelMode cfg {} := by
  intro _ p hp; simp [cancelsOf] at hp

theorem invCancelMode_step (cfg : Cfg) (st : State) (ev : Ev) (st' : State)
    (hids : InvIds st) (hinv : InvCancelMode cfg st) (h : step cfg st ev = some st') : InvCancelMode cfg st' := by
  cases step_spec h with
  | global hg =>
    cases hg
    all_goals exact hinv
  | waiter g hw =>
    cases hw
    case noticeCtx =>
      intro hb p hp
      rcases List.mem_cons.1 hp with rfl | hp
      · exact ⟨rfl, (hids hb).2.1 g⟩
      · exact hinv hb p hp
    case apiFire | apiRequest =>
      intro hb p hp
      have := hinv (Nat.lt_of_succ_lt hb) p (by simpa [cancelsOf] using hp)
      exact ⟨this.1, Nat.le_succ_of_le this.2⟩
    all_goals exact hinv

theorem count_cancel_fresh (out : List Out) (d r : Nat) (h : ∀ p ∈ cancelsOf out, p.1 ≤ d) (hr : d < r) :
    List.countP (isCancelFor r) out = 0 := by
  induction out with
  | nil => rfl
  | cons o rest ih =>
    rw [List.countP_cons]
    cases o with
    | send m =>
      cases m with
      | cancel r' mode =>
        have h1 := h (r', mode) (by simp [cancelsOf])
        have : (r' == r) = false := by simp; omega
        simp only [isCancelFor_send_cancel, this, Bool.false_eq_true, if_false, Nat.add_zero]
        exact ih (fun p hp => h p (by simp [cancelsOf, hp]))
      | _ => simpa [isCancelFor, -List.countP_eq_zero] using ih (fun p hp => h p (by simpa [cancelsOf] using hp))
    | _ => simpa [-List.countP_eq_zero] using ih (fun p hp => h p (by simpa [cancelsOf] using hp))

/-- Exactly one CANCEL per call that took the ctx.Done branch, none for any other. -/
def InvCancelCount (st : State) : Prop :=
  st.drawn < 2 ^ 53 → ∀ g, (st.ws g).req ≠ 0 →
    List.countP (isCancelFor (st.ws g).req) st.out = if (st.ws g).cancelled then 1 else 0

theorem invCancelCount_init : InvCancelCount {} := by
  intro _ g hg; simp at hg

theorem noCancel_not {o : Out} (h : o.noCancel = true) (r : Nat) : isCancelFor r o = false := by
  cases o with
  | send m => cases m <;> first | rfl | cases h
  | _ => rfl

theorem InvCancelCount.mono {a b : State} (hws : b.ws = a.ws) (hout : b.out = a.out) (hd : a.drawn ≤ b.drawn)
    (h : InvCancelCount a) : InvCancelCount b := by
  intro hb
  rw [hws, hout]
  exact h (Nat.lt_of_le_of_lt hd hb)

theorem InvCancelCount.emit_of {a : State} {o : Out} (ho : ∀ r, isCancelFor r o = false) (h : InvCancelCount a) :
    InvCancelCount (a.emit o) := by
  intro hb g hg
  rw [emit_out, List.countP_cons, ho]
  exact h hb g hg

theorem InvCancelCount.emit {a : State} {o : Out} (ho : o.noCancel = true) (h : InvCancelCount a) :
    InvCancelCount (a.emit o) :=
  h.emit_of (noCancel_not ho)

theorem InvCancelCount.setW {a : State} {g : Nat} {w : Waiter}
    (hw : a.drawn < 2 ^ 53 → w.req ≠ 0 → (w.req = (a.ws g).req ∧ w.cancelled = (a.ws g).cancelled) ∨
      (List.countP (isCancelFor w.req) a.out = 0 ∧ w.cancelled = false)) (h : InvCancelCount a) :
    InvCancelCount (a.setW g w) := by
  intro hb g'
  by_cases hg : g' = g
  · subst hg
    simp only [setW_out, setW_ws_self]
    intro hne
    rcases hw hb hne with ⟨hr, hc⟩ | ⟨h0, hc⟩
    · rw [hr, hc]; exact h hb g' (hr ▸ hne)
    · rw [h0, hc]; rfl
  · simpa only [setW_out, setW_ws, if_neg hg] using h hb g'

theorem InvCancelCount.cancel {a : State} {g : Nat} {w : Waiter} {mode : String} (hids : InvIds a)
    (hreq : w.req = (a.ws g).req) (hc0 : (a.ws g).cancelled = false) (hc1 : w.cancelled = true)
    (h : InvCancelCount a) : InvCancelCount ((a.emits [.send (.cancel (a.ws g).req mode)]).setW g w) := by
  intro hb g'
  have hu := (hids hb).2.2.2
  simp only [setW_out, List.cons_append, List.nil_append, List.countP_cons, isCancelFor_send_cancel]
  by_cases hg : g' = g
  · subst hg
    simp only [setW_ws_self, hreq, hc1, beq_self_eq_true, if_true]
    intro hne
    have := h hb g' hne
    rw [hc0] at this
    rw [this]; rfl
  · simp only [setW_ws, if_neg hg]
    intro hne
    have hb' : ((a.ws g).req == (a.ws g').req) = false := by
      simpa using fun e => hg (hu g' g hne e.symm)
    rw [hb']
    exact h hb g' hne

theorem invCancelCount_step (cfg : Cfg) (st : State) (ev : Ev) (st' : State)
    (hw : ∀ g, (st.ws g).wf) (hids : InvIds st) (hmode : InvCancelMode cfg st) (hinv : InvCancelCount st)
    (h : step cfg st ev = some st') : InvCancelCount st' := by
  cases step_spec h with
  | global hg =>
    exact emits_of .emit hg.log.2.1 (.mono hg.frame.1 hg.frame.2.1 (Nat.le_of_eq hg.frame.2.2.1.symm) hinv)
  | waiter g hw' =>
    cases hw'
    case noticeCtx hph =>
      have h3 := (hw g).2.2; rw [hph] at h3
      exact .cancel hids rfl h3 rfl hinv
    case apiReturn => exact .setW (fun _ h => absurd rfl h) (emits_of .emit rfl hinv)
    case apiFire =>
      exact .setW (fun _ h => absurd rfl h) (.mono (a := (st.emit (.send _)).emit (.ret g .ok)) rfl rfl (Nat.le_succ _)
        (.emit rfl (.emit_of (fun _ => isCancelFor_request ..) hinv)))
    case apiRequest hid _ =>
      refine .setW (fun hb _ => .inr ⟨?_, rfl⟩) (.mono (a := st.emit (.send _)) rfl rfl (Nat.le_succ _)
        (.emit_of (fun _ => isCancelFor_request ..) hinv))
      have hb : st.drawn < 2 ^ 53 := Nat.lt_of_succ_lt hb
      have hn := idGenNext_small st.idgen (by have := (hids hb).1; omega)
      show List.countP _ (_ :: st.out) = 0
      rw [List.countP_cons, isCancelFor_request]
      exact count_cancel_fresh st.out st.drawn _ (fun p hp => (hmode hb p hp).2)
        (by rw [hid, hn.2, (hids hb).1]; exact Nat.lt_succ_self _)
    all_goals exact .setW (fun _ _ => .inl ⟨rfl, rfl⟩) (emits_of .emit rfl hinv)

end Nexus.Client.R
