/-
  Event sequences of a transition system given by a partial step function: what the models of the
  client (`R`, `I`, `P`, `RP`) share.
-/

namespace Nexus.Client

structure Runs {σ ε : Type} (step : σ → ε → Option σ) (steps : σ → List ε → Option σ) : Prop where
  nil : ∀ s, steps s [] = some s
  cons : ∀ s e es, steps s (e :: es) = (step s e).bind fun s' => steps s' es

variable {σ ε : Type} {step : σ → ε → Option σ} {steps : σ → List ε → Option σ} (hr : Runs step steps)
include hr

theorem Runs.append (s : σ) (a b : List ε) : steps s (a ++ b) = (steps s a).bind fun s' => steps s' b := by
  induction a generalizing s with
  | nil => rw [List.nil_append, hr.nil]; rfl
  | cons e es ih =>
    rw [List.cons_append, hr.cons, hr.cons]
    cases step s e with
    | none => rfl
    | some s1 => exact ih s1

theorem Runs.invariant {P : σ → Prop} (hstep : ∀ s e s', P s → step s e = some s' → P s') :
    ∀ (evs : List ε) (s s' : σ), P s → steps s evs = some s' → P s' := by
  intro evs
  induction evs with
  | nil => intro s s' h hs; rw [hr.nil] at hs; cases hs; exact h
  | cons e es ih =>
    intro s s' h hs
    rw [hr.cons] at hs
    cases h1 : step s e with
    | none => rw [h1] at hs; cases hs
    | some s1 => rw [h1] at hs; exact ih s1 s' (hstep s e s1 h h1) hs

theorem Runs.reachable {P : σ → Prop} {s0 s : σ} (h0 : P s0) (hstep : ∀ s e s', P s → step s e = some s' → P s')
    (h : ∃ evs, steps s0 evs = some s) : P s :=
  h.elim fun evs h => hr.invariant hstep evs s0 s h0 h

end Nexus.Client
