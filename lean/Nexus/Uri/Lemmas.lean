/-
  For the URI part of C19: splitting on dots, the shape `(D)* L` shared by all six URI patterns (a
  sequence of dot-terminated components, then a last component), and the byte classes.  Proof
  file (not imported by the driver).

  What one more policy (a fourth rule about empty components) would touch.  On the side of validation:
  `Policy`, `emptiness`, `ruleB`, `policyOf` (Rule); here `shape`, `regexFor`, and `hem` in `ruleC_iff_split`,
  which says what `emptiness` means for exactly the three policies; `matches_sepShape` assumes the form
  `(D)* L`; `C19.dispatch` goes through the 2×2×2 cases of strict, "wildcard", "prefix" over the generated
  `validURIRegex`.  On the side of matching: `L2.MatchKind`, `matchKind`, `validUriBytes` (L2/Uri),
  `Broker.matching` with `Sub.matchesTopic`/`mem_matching`, `Dealer.matchProcedure` with
  `Reg.isPfxFor`/`Reg.isWildFor`.  The two sides meet only in `policyOfKind` and `C19.matchKind_policy`
  (L2/Proofs/UriBridge).  The source hashes in `reconciledHashes` (Match) are compared when the driver
  runs, not when this builds.
-/
import Nexus.Uri.Regex
import Nexus.Uri.Rule
import Nexus.Uri.Match

namespace Nexus.Uri
open Regex

def DotFree (c : List UInt8) : Prop := ∀ b ∈ c, b ≠ dot

/-- `cs` joined with a dot after every component. -/
def joinDots (cs : List (List UInt8)) : List UInt8 := (cs.map (· ++ [dot])).flatten

@[simp] theorem joinDots_nil : joinDots [] = [] := rfl
@[simp] theorem joinDots_cons (c cs) : joinDots (c :: cs) = c ++ dot :: joinDots cs := by
  simp [joinDots]

theorem splitAux_append {c : List UInt8} (hc : DotFree c) (t : List UInt8) :
    splitAux (c ++ t) = (c ++ (splitAux t).1, (splitAux t).2) := by
  induction c with
  | nil => simp
  | cons b c ih =>
    have hb : b ≠ dot := hc b (by simp)
    have hc' : DotFree c := fun x hx => hc x (by simp [hx])
    simp [splitAux, hb, ih hc']

theorem splitDot_join {cs : List (List UInt8)} {c : List UInt8}
    (hcs : ∀ x ∈ cs, DotFree x) (hc : DotFree c) : splitDot (joinDots cs ++ c) = cs ++ [c] := by
  induction cs with
  | nil =>
    have := splitAux_append hc []
    simp [splitAux] at this
    simp [splitDot, this]
  | cons x xs ih =>
    rw [joinDots_cons, List.append_assoc, List.cons_append, List.cons_append,
      ← ih fun y hy => hcs y (List.mem_cons_of_mem _ hy)]
    simp [splitDot, splitAux_append (hcs x (List.mem_cons_self ..)), splitAux]

theorem splitDot_cons (b : UInt8) (t : List UInt8) :
    splitDot (b :: t) = if b = dot then [] :: splitDot t else (b :: (splitAux t).1) :: (splitAux t).2 := by
  simp only [splitDot, splitAux]
  split <;> rfl

theorem split_decomp (s : List UInt8) : ∃ cs c, splitDot s = cs ++ [c] ∧ s = joinDots cs ++ c := by
  induction s with
  | nil => exact ⟨[], [], rfl, rfl⟩
  | cons b t ih =>
    obtain ⟨cs, c, hsp, ht⟩ := ih
    rw [splitDot_cons]
    by_cases hb : b = dot
    · rw [if_pos hb, hsp, hb, ht]
      exact ⟨[] :: cs, c, rfl, rfl⟩
    · rw [if_neg hb]
      cases cs with
      | nil =>
        obtain ⟨h1, h2⟩ := List.cons.inj hsp
        exact ⟨[], b :: c, by rw [h1, h2]; rfl, by rw [ht]; rfl⟩
      | cons x xs =>
        obtain ⟨h1, h2⟩ := List.cons.inj hsp
        exact ⟨(b :: x) :: xs, c, by rw [h1, h2]; rfl, by rw [ht]; simp⟩

theorem splitDot_ne_nil (s : List UInt8) : splitDot s ≠ [] := by simp [splitDot]

theorem matches_star_sep {D : Regex} {QD : List UInt8 → Prop}
    (hD : ∀ x, Matches D x ↔ ∃ c, QD c ∧ x = c ++ [dot]) (s : List UInt8) :
    Matches (.star D) s ↔ ∃ cs, (∀ c ∈ cs, QD c) ∧ s = joinDots cs := by
  rw [matches_star_iff]
  constructor
  · rintro ⟨ss, hss, rfl⟩
    induction ss with
    | nil => exact ⟨[], by simp, rfl⟩
    | cons x xs ih =>
      obtain ⟨cs, hcs, hj⟩ := ih (fun y hy => hss y (by simp [hy]))
      obtain ⟨c, hc, rfl⟩ := (hD x).mp (hss x (by simp))
      refine ⟨c :: cs, ?_, ?_⟩
      · intro y hy
        cases hy with
        | head => exact hc
        | tail _ hy => exact hcs y hy
      · simp [hj]
  · rintro ⟨cs, hcs, rfl⟩
    refine ⟨cs.map (· ++ [dot]), ?_, rfl⟩
    intro x hx
    obtain ⟨c, hc, rfl⟩ := List.mem_map.mp hx
    exact (hD _).mpr ⟨c, hcs c hc, rfl⟩

theorem matches_sepShape {D L : Regex} {QD QL : List UInt8 → Prop}
    (hD : ∀ x, Matches D x ↔ ∃ c, QD c ∧ x = c ++ [dot])
    (hL : ∀ x, Matches L x ↔ QL x)
    (hQD : ∀ c, QD c → DotFree c) (hQL : ∀ c, QL c → DotFree c) (s : List UInt8) :
    Matches (.seq (.star D) L) s ↔
      ∃ cs c, splitDot s = cs ++ [c] ∧ (∀ x ∈ cs, QD x) ∧ QL c := by
  rw [matches_seq_iff]
  constructor
  · rintro ⟨s₁, s₂, rfl, h₁, h₂⟩
    obtain ⟨cs, hcs, rfl⟩ := (matches_star_sep hD s₁).mp h₁
    have h₂' := (hL s₂).mp h₂
    exact ⟨cs, s₂, splitDot_join (fun x hx => hQD x (hcs x hx)) (hQL _ h₂'), hcs, h₂'⟩
  · rintro ⟨cs, c, hsp, hcs, hc⟩
    obtain ⟨cs', c', hsp', hs⟩ := split_decomp s
    rw [hsp] at hsp'
    obtain ⟨rfl, hcc⟩ := List.append_inj' hsp' rfl
    simp only [List.cons.injEq, and_true] at hcc
    subst hcc
    exact ⟨joinDots cs, c, hs, (matches_star_sep hD _).mpr ⟨cs, hcs, rfl⟩, (hL c).mpr hc⟩

theorem matches_star_cls {C : ByteClass} {s : List UInt8} :
    Matches (.star (.cls C)) s ↔ ∀ b ∈ s, C.mem b = true := by
  constructor
  · intro h b hb
    obtain ⟨ss, hss, rfl⟩ := matches_star_iff.mp h
    obtain ⟨x, hx, hbx⟩ := List.mem_flatten.mp hb
    obtain ⟨b', hb', rfl⟩ := matches_cls_iff.mp (hss x hx)
    simp only [List.mem_singleton] at hbx
    exact hbx ▸ hb'
  · intro h
    induction s with
    | nil => exact .starNil
    | cons b t ih =>
      exact .starCons (.cls (h b (List.mem_cons_self ..))) (ih fun x hx => h x (List.mem_cons_of_mem _ hx))

theorem matches_plus_cls {C : ByteClass} {s : List UInt8} :
    Matches (.plus (.cls C)) s ↔ s ≠ [] ∧ ∀ b ∈ s, C.mem b = true := by
  rw [matches_plus_iff]
  constructor
  · rintro ⟨s₁, s₂, rfl, h₁, h₂⟩
    obtain ⟨b, hb, rfl⟩ := matches_cls_iff.mp h₁
    refine ⟨by simp, ?_⟩
    intro x hx
    simp only [List.singleton_append, List.mem_cons] at hx
    rcases hx with rfl | hx
    · exact hb
    · exact matches_star_cls.mp h₂ x hx
  · rintro ⟨hne, h⟩
    cases s with
    | nil => exact absurd rfl hne
    | cons b t =>
      exact ⟨[b], t, rfl, matches_cls_iff.mpr ⟨b, h b (by simp), rfl⟩,
        matches_star_cls.mpr (fun x hx => h x (by simp [hx]))⟩

theorem matches_opt_plus_cls {C : ByteClass} {s : List UInt8} :
    Matches (.opt (.plus (.cls C))) s ↔ ∀ b ∈ s, C.mem b = true := by
  rw [matches_opt_iff, matches_plus_cls]
  constructor
  · rintro (rfl | ⟨_, h⟩)
    · simp
    · exact h
  · intro h
    by_cases hs : s = []
    · exact .inl hs
    · exact .inr ⟨hs, h⟩

theorem range_single (r b : UInt8) : (r ≤ b && b ≤ r) = (b == r) := by
  rw [Bool.eq_iff_iff]
  simp only [Bool.and_eq_true, decide_eq_true_eq, beq_iff_eq, UInt8.le_iff_toNat_le, ← UInt8.toNat_inj]
  omega

theorem range_pair {r s : UInt8} (h : s.toNat = r.toNat + 1) (b : UInt8) :
    (r ≤ b && b ≤ s) = (b == r || b == s) := by
  rw [Bool.eq_iff_iff]
  simp only [Bool.and_eq_true, Bool.or_eq_true, decide_eq_true_eq, beq_iff_eq, UInt8.le_iff_toNat_le,
    ← UInt8.toNat_inj]
  omega

def dotC : ByteClass := ⟨false, [(0x2e, 0x2e)]⟩

theorem dotC_mem (b : UInt8) : dotC.mem b = true ↔ b = dot := by
  simp [dotC, ByteClass.mem, range_single, dot]

theorem matches_dotC {x : List UInt8} : Matches (.cls dotC) x ↔ x = [dot] := by
  rw [matches_cls_iff]
  constructor
  · rintro ⟨b, hb, rfl⟩; rw [(dotC_mem b).mp hb]
  · rintro rfl; exact ⟨dot, (dotC_mem dot).mpr rfl, rfl⟩

/-! ### The pattern of each policy over an arbitrary class `C` that excludes the dot -/

def shape (C : ByteClass) : Policy → Regex
  | .nonEmpty => .seq (.star (.seq (.plus (.cls C)) (.cls dotC))) (.plus (.cls C))
  | .lastEmpty => .seq (.star (.seq (.plus (.cls C)) (.cls dotC))) (.star (.cls C))
  | .anyEmpty => .seq (.star (.alt (.seq (.plus (.cls C)) (.cls dotC)) (.cls dotC))) (.opt (.plus (.cls C)))

/-- `rule` with the byte test abstracted. -/
def ruleC (ok : UInt8 → Bool) (p : Policy) (s : List UInt8) : Prop :=
  (∀ c ∈ splitDot s, ∀ b ∈ c, ok b = true) ∧ emptiness p (splitDot s)

section shapes
variable {C : ByteClass} (hdot : C.mem dot = false)
include hdot

theorem dotFree_of_mem {c : List UInt8} (h : ∀ b ∈ c, C.mem b = true) : DotFree c := by
  intro b hb hbd
  have := h b hb
  rw [hbd, hdot] at this
  cases this

omit hdot in
theorem matches_compDot {x : List UInt8} :
    Matches (.seq (.plus (.cls C)) (.cls dotC)) x ↔
      ∃ c, (c ≠ [] ∧ ∀ b ∈ c, C.mem b = true) ∧ x = c ++ [dot] := by
  rw [matches_seq_iff]
  constructor
  · rintro ⟨s₁, s₂, rfl, h₁, h₂⟩
    rw [matches_dotC.mp h₂]
    exact ⟨s₁, matches_plus_cls.mp h₁, rfl⟩
  · rintro ⟨c, hc, rfl⟩
    exact ⟨c, [dot], rfl, matches_plus_cls.mpr hc, matches_dotC.mpr rfl⟩

omit hdot in
theorem matches_compDotOrDot {x : List UInt8} :
    Matches (.alt (.seq (.plus (.cls C)) (.cls dotC)) (.cls dotC)) x ↔
      ∃ c, (∀ b ∈ c, C.mem b = true) ∧ x = c ++ [dot] := by
  rw [matches_alt_iff, matches_compDot, matches_dotC]
  constructor
  · rintro (⟨c, ⟨_, hc⟩, rfl⟩ | rfl)
    · exact ⟨c, hc, rfl⟩
    · exact ⟨[], by simp, rfl⟩
  · rintro ⟨c, hc, rfl⟩
    by_cases hn : c = []
    · subst hn; exact .inr rfl
    · exact .inl ⟨c, ⟨hn, hc⟩, rfl⟩

omit hdot in
theorem ruleC_iff_split (p : Policy) (s : List UInt8) :
    ruleC C.mem p s ↔ ∃ cs c, splitDot s = cs ++ [c] ∧
      (∀ x ∈ cs, (p = .anyEmpty ∨ x ≠ []) ∧ ∀ b ∈ x, C.mem b = true) ∧
      ((p ≠ .nonEmpty ∨ c ≠ []) ∧ ∀ b ∈ c, C.mem b = true) := by
  obtain ⟨cs, c, hsp, -⟩ := split_decomp s
  have hem : emptiness p (cs ++ [c]) ↔ (∀ x ∈ cs, p = .anyEmpty ∨ x ≠ []) ∧ (p ≠ .nonEmpty ∨ c ≠ []) := by
    cases p <;> simp [emptiness, or_imp, forall_and]
  unfold ruleC
  rw [hsp, hem]
  constructor
  · rintro ⟨hall, hcs, hc⟩
    exact ⟨cs, c, rfl, fun x hx => ⟨hcs x hx, hall x (List.mem_append_left _ hx)⟩,
      hc, hall c (List.mem_append_right _ (List.mem_singleton.mpr rfl))⟩
  · rintro ⟨cs', c', heq, hcs, hc⟩
    obtain ⟨rfl, hcc⟩ := List.append_inj' heq rfl
    cases hcc
    refine ⟨fun x hx => ?_, fun x hx => (hcs x hx).1, hc.1⟩
    rcases List.mem_append.mp hx with hx | hx
    · exact (hcs x hx).2
    · exact List.mem_singleton.mp hx ▸ hc.2

theorem matches_shape (p : Policy) (s : List UInt8) : Matches (shape C p) s ↔ ruleC C.mem p s := by
  rw [ruleC_iff_split]
  cases p
  · rw [shape, matches_sepShape (QD := fun c => c ≠ [] ∧ ∀ b ∈ c, C.mem b = true)
      (QL := fun c => c ≠ [] ∧ ∀ b ∈ c, C.mem b = true) (fun _ => matches_compDot) (fun _ => matches_plus_cls)
      (fun _ h => dotFree_of_mem hdot h.2) (fun _ h => dotFree_of_mem hdot h.2)]
    simp
  · rw [shape, matches_sepShape (QD := fun c => c ≠ [] ∧ ∀ b ∈ c, C.mem b = true)
      (QL := fun c => ∀ b ∈ c, C.mem b = true) (fun _ => matches_compDot) (fun _ => matches_star_cls)
      (fun _ h => dotFree_of_mem hdot h.2) (fun _ h => dotFree_of_mem hdot h)]
    simp
  · rw [shape, matches_sepShape (QD := fun c => ∀ b ∈ c, C.mem b = true)
      (QL := fun c => ∀ b ∈ c, C.mem b = true) (fun _ => matches_compDotOrDot) (fun _ => matches_opt_plus_cls)
      (fun _ h => dotFree_of_mem hdot h) (fun _ h => dotFree_of_mem hdot h)]
    simp

end shapes

/-! ### The two byte classes of the generated patterns -/

def looseC : ByteClass :=
  ⟨true, [(0x09, 0x0a), (0x0c, 0x0d), (0x20, 0x20), (0x2e, 0x2e), (0x23, 0x23)]⟩

def strictC : ByteClass := ⟨false, [(0x30, 0x39), (0x61, 0x7a), (0x5f, 0x5f)]⟩

theorem looseC_mem_eq : looseC.mem = okByte false := funext fun b => by
  simp only [looseC, ByteClass.mem, List.any, range_single, range_pair (r := 0x09) (s := 0x0a) rfl,
    range_pair (r := 0x0c) (s := 0x0d) rfl, okByte, looseByte, Bool.or_false, Bool.true_bne, Bool.or_assoc,
    Bool.false_eq_true, if_false]

theorem strictC_mem_eq : strictC.mem = okByte true := funext fun b => by
  simp only [strictC, ByteClass.mem, List.any, range_single, okByte, strictByte, Bool.or_false, Bool.false_bne,
    Bool.or_assoc, if_true]

/-- Which pattern belongs to which (strict, policy): the table the property implies. -/
def regexFor : Bool → Policy → Regex
  | false, .nonEmpty => Nexus.Gen.looseURINonEmpty
  | false, .lastEmpty => Nexus.Gen.looseURILastEmpty
  | false, .anyEmpty => Nexus.Gen.looseURIEmpty
  | true, .nonEmpty => Nexus.Gen.strictURINonEmpty
  | true, .lastEmpty => Nexus.Gen.strictURILastEmpty
  | true, .anyEmpty => Nexus.Gen.strictURIEmpty

theorem matchPrefix_eq : Nexus.Gen.MatchPrefix = prefixName := by decide
theorem matchWildcard_eq : Nexus.Gen.MatchWildcard = wildcardName := by decide

theorem wildLoop_iff (ws ps : List (List UInt8)) :
    wildLoop ws ps = true ↔
      ∀ i (hw : i < ws.length) (hp : i < ps.length), ws[i] = [] ∨ ws[i] = ps[i] := by
  induction ws generalizing ps with
  | nil => simp [wildLoop]
  | cons w ws ih =>
    cases ps with
    | nil => simp [wildLoop]
    | cons p ps =>
      have hstep : wildLoop (w :: ws) (p :: ps) = true ↔ (w = [] ∨ w = p) ∧ wildLoop ws ps = true := by
        simp only [wildLoop]
        by_cases hw : w = [] <;> by_cases hp : w = p <;> simp [hw, hp]
      rw [hstep, ih ps]
      constructor
      · rintro ⟨h0, h⟩ i hw hp
        cases i with
        | zero => exact h0
        | succ i => exact h i (by simpa using hw) (by simpa using hp)
      · intro h
        exact ⟨h 0 (by simp) (by simp), fun i hw hp => h (i + 1) (by simpa using hw) (by simpa using hp)⟩

end Nexus.Uri
