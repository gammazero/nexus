/-
  Regular expressions over bytes: the fragment used by the six URI patterns of
  `wamp/identifier.go` (all of the form `^…$`, so matching is anchored full match).

  * `Regex`            — the AST that `gen uri` emits (`Nexus/Gen/UriRegex.lean`);
  * `Regex.Matches`    — declarative semantics (regular-language membership);
  * `Regex.matchB`     — executable matcher (Brzozowski derivatives with two trivial
                         simplifications), structurally recursive, no fuel;
  * `Regex.matchB_iff` — the matcher decides the semantics.

  Core-only (imported by the driver).
-/
namespace Nexus.Uri

/-- A byte class: a list of inclusive ranges, possibly negated. -/
structure ByteClass where
  neg : Bool
  ranges : List (UInt8 × UInt8)
  deriving Repr, DecidableEq

def ByteClass.mem (c : ByteClass) (b : UInt8) : Bool :=
  c.neg != c.ranges.any (fun r => r.1 ≤ b && b ≤ r.2)

inductive Regex where
  /-- matches nothing -/
  | empty : Regex
  /-- matches the empty string -/
  | eps : Regex
  /-- one byte of the class -/
  | cls (c : ByteClass) : Regex
  | seq (r q : Regex) : Regex
  | alt (r q : Regex) : Regex
  | star (r : Regex) : Regex
  | plus (r : Regex) : Regex
  | opt (r : Regex) : Regex
  deriving Repr, DecidableEq

namespace Regex

/-- Declarative semantics: `Matches r s` iff the whole byte string `s` is in the language of `r`. -/
inductive Matches : Regex → List UInt8 → Prop
  | eps : Matches .eps []
  | cls {c : ByteClass} {b : UInt8} : c.mem b = true → Matches (.cls c) [b]
  | seq {r q : Regex} {s t : List UInt8} : Matches r s → Matches q t → Matches (.seq r q) (s ++ t)
  | altL {r q : Regex} {s : List UInt8} : Matches r s → Matches (.alt r q) s
  | altR {r q : Regex} {s : List UInt8} : Matches q s → Matches (.alt r q) s
  | starNil {r : Regex} : Matches (.star r) []
  | starCons {r : Regex} {s t : List UInt8} : Matches r s → Matches (.star r) t → Matches (.star r) (s ++ t)
  | plus {r : Regex} {s t : List UInt8} : Matches r s → Matches (.star r) t → Matches (.plus r) (s ++ t)
  | optNone {r : Regex} : Matches (.opt r) []
  | optSome {r : Regex} {s : List UInt8} : Matches r s → Matches (.opt r) s

def nullable : Regex → Bool
  | .empty => false
  | .eps => true
  | .cls _ => false
  | .seq r q => nullable r && nullable q
  | .alt r q => nullable r || nullable q
  | .star _ => true
  | .plus r => nullable r
  | .opt _ => true

/-- `seq` that drops dead / trivial left factors (keeps derivatives small). -/
def mkSeq : Regex → Regex → Regex
  | .empty, _ => .empty
  | .eps, q => q
  | r, q => .seq r q

def mkAlt : Regex → Regex → Regex
  | .empty, q => q
  | r, .empty => r
  | r, q => .alt r q

def deriv (b : UInt8) : Regex → Regex
  | .empty => .empty
  | .eps => .empty
  | .cls c => if c.mem b then .eps else .empty
  | .seq r q => if nullable r then mkAlt (mkSeq (deriv b r) q) (deriv b q) else mkSeq (deriv b r) q
  | .alt r q => mkAlt (deriv b r) (deriv b q)
  | .star r => mkSeq (deriv b r) (.star r)
  | .plus r => mkSeq (deriv b r) (.star r)
  | .opt r => deriv b r

def matchB : Regex → List UInt8 → Bool
  | r, [] => nullable r
  | r, b :: s => matchB (deriv b r) s

theorem matches_empty_iff {s} : Matches .empty s ↔ False :=
  ⟨fun h => (nomatch h), False.elim⟩

theorem matches_eps_iff {s} : Matches .eps s ↔ s = [] :=
  ⟨fun h => (by cases h with | eps => rfl), fun h => h ▸ .eps⟩

theorem matches_cls_iff {c s} : Matches (.cls c) s ↔ ∃ b, c.mem b = true ∧ s = [b] :=
  ⟨fun h => by cases h with | cls hb => exact ⟨_, hb, rfl⟩,
   fun ⟨_, hb, hs⟩ => hs ▸ .cls hb⟩

theorem matches_seq_iff {r q s} :
    Matches (.seq r q) s ↔ ∃ s₁ s₂, s = s₁ ++ s₂ ∧ Matches r s₁ ∧ Matches q s₂ :=
  ⟨fun h => by cases h with | seq h₁ h₂ => exact ⟨_, _, rfl, h₁, h₂⟩,
   fun ⟨_, _, hs, h₁, h₂⟩ => hs ▸ .seq h₁ h₂⟩

theorem matches_alt_iff {r q s} : Matches (.alt r q) s ↔ Matches r s ∨ Matches q s :=
  ⟨fun h => by
      cases h with
      | altL h => exact .inl h
      | altR h => exact .inr h,
   fun h => h.elim .altL .altR⟩

theorem matches_opt_iff {r s} : Matches (.opt r) s ↔ s = [] ∨ Matches r s :=
  ⟨fun h => by
      cases h with
      | optNone => exact .inl rfl
      | optSome h => exact .inr h,
   fun h => h.elim (fun e => e ▸ .optNone) .optSome⟩

theorem matches_plus_iff {r s} :
    Matches (.plus r) s ↔ ∃ s₁ s₂, s = s₁ ++ s₂ ∧ Matches r s₁ ∧ Matches (.star r) s₂ :=
  ⟨fun h => by cases h with | plus h₁ h₂ => exact ⟨_, _, rfl, h₁, h₂⟩,
   fun ⟨_, _, hs, h₁, h₂⟩ => hs ▸ .plus h₁ h₂⟩

theorem matches_star_iff {r s} :
    Matches (.star r) s ↔ ∃ ss : List (List UInt8), (∀ x ∈ ss, Matches r x) ∧ s = ss.flatten := by
  constructor
  · intro h
    generalize hr : Regex.star r = r' at h
    induction h with
    | starNil => exact ⟨[], by simp, rfl⟩
    | starCons h₁ _ _ ih₂ =>
      cases hr
      obtain ⟨ss, hss, rfl⟩ := ih₂ rfl
      exact ⟨_ :: ss, by
        intro x hx
        cases hx with
        | head => exact h₁
        | tail _ hx => exact hss x hx, by simp⟩
    | _ => cases hr
  · rintro ⟨ss, hss, rfl⟩
    induction ss with
    | nil => exact .starNil
    | cons x xs ih =>
      rw [List.flatten_cons]
      exact .starCons (hss x (by simp)) (ih (fun y hy => hss y (by simp [hy])))

theorem matches_star_cons {r b s} (h : Matches (.star r) (b :: s)) :
    ∃ s₁ s₂, s = s₁ ++ s₂ ∧ Matches r (b :: s₁) ∧ Matches (.star r) s₂ := by
  generalize hr : Regex.star r = r' at h
  generalize hs : b :: s = s' at h
  induction h with
  | @starCons r₁ u t h₁ h₂ _ ih₂ =>
    cases hr
    cases u with
    | nil => exact ih₂ rfl (by simpa using hs)
    | cons c u =>
      simp only [List.cons_append, List.cons.injEq] at hs
      obtain ⟨rfl, rfl⟩ := hs
      exact ⟨u, t, rfl, h₁, h₂⟩
  | starNil => cases hs
  | _ => cases hr

theorem nullable_iff {r : Regex} : nullable r = true ↔ Matches r [] := by
  induction r with
  | empty => simp [nullable, matches_empty_iff]
  | eps => simp [nullable, matches_eps_iff]
  | cls c => simp [nullable, matches_cls_iff]
  | seq r q ihr ihq => simp [nullable, ihr, ihq, matches_seq_iff, and_assoc]
  | alt r q ihr ihq => simp [nullable, ihr, ihq, matches_alt_iff]
  | star r _ => simp [nullable]; exact .starNil
  | plus r ih => simp [nullable, ih, matches_plus_iff, and_assoc, Matches.starNil]
  | opt r _ => simp [nullable]; exact .optNone

theorem matches_mkSeq_iff {r q s} : Matches (mkSeq r q) s ↔ Matches (.seq r q) s := by
  cases r <;> simp only [mkSeq]
  · simp [matches_seq_iff, matches_empty_iff]
  · simp only [matches_seq_iff, matches_eps_iff]
    constructor
    · intro h; exact ⟨[], s, rfl, rfl, h⟩
    · rintro ⟨_, _, rfl, rfl, h⟩; simpa using h

theorem matches_mkAlt_iff {r q s} : Matches (mkAlt r q) s ↔ Matches (.alt r q) s := by
  cases r <;> cases q <;> simp [mkAlt, matches_alt_iff, matches_empty_iff]

theorem matches_deriv_iff {r : Regex} {b : UInt8} {s : List UInt8} :
    Matches (deriv b r) s ↔ Matches r (b :: s) := by
  induction r generalizing s with
  | empty => simp [deriv, matches_empty_iff]
  | eps => simp [deriv, matches_empty_iff, matches_eps_iff]
  | cls c =>
    rw [matches_cls_iff]
    by_cases h : c.mem b = true
    · simp only [deriv, h, if_true, matches_eps_iff]
      exact ⟨fun e => ⟨b, h, e ▸ rfl⟩, fun ⟨_, _, e⟩ => (List.cons.inj e).2⟩
    · simp only [deriv, h, Bool.false_eq_true, if_false, matches_empty_iff, false_iff]
      rintro ⟨b', hb', e⟩
      exact h ((List.cons.inj e).1 ▸ hb')
  | seq r q ihr ihq =>
    have key : Matches (.seq r q) (b :: s) ↔
        (∃ s₁ s₂, s = s₁ ++ s₂ ∧ Matches r (b :: s₁) ∧ Matches q s₂) ∨
        (Matches r [] ∧ Matches q (b :: s)) := by
      -- `b :: s = s₁ ++ s₂` with `s₁` empty or not
      simp only [matches_seq_iff, List.cons_eq_append_iff, or_and_right, exists_or, and_assoc, exists_and_left,
        exists_eq_left]
      rw [or_comm]
      exact or_congr_left ⟨fun ⟨_, s₂, ⟨s₁, rfl, hs⟩, h⟩ => ⟨s₁, s₂, hs, h⟩,
        fun ⟨s₁, s₂, hs, h⟩ => ⟨_, s₂, ⟨s₁, rfl, hs⟩, h⟩⟩
    rw [key]
    simp only [deriv]
    split
    · rename_i hn
      simp only [matches_mkAlt_iff, matches_alt_iff, matches_mkSeq_iff, matches_seq_iff, ihr, ihq,
        nullable_iff.mp hn, true_and]
    · rename_i hn
      have hn' : ¬ Matches r [] := fun h => hn (nullable_iff.mpr h)
      simp only [matches_mkSeq_iff, matches_seq_iff, ihr, hn', false_and, or_false]
  | alt r q ihr ihq => simp [deriv, matches_mkAlt_iff, matches_alt_iff, ihr, ihq]
  | star r ih =>
    simp only [deriv, matches_mkSeq_iff, matches_seq_iff, ih]
    exact ⟨fun ⟨_, _, e, h₁, h₂⟩ => e ▸ .starCons h₁ h₂, matches_star_cons⟩
  | plus r ih =>
    simp only [deriv, matches_mkSeq_iff, matches_seq_iff, ih]
    refine ⟨fun ⟨_, _, e, h₁, h₂⟩ => e ▸ .plus h₁ h₂, fun h => ?_⟩
    -- plus r = r · star r, and r · star r ⊆ star r
    obtain ⟨_, _, hs, h₁, h₂⟩ := matches_plus_iff.mp h
    exact matches_star_cons (hs ▸ .starCons h₁ h₂)
  | opt r ih =>
    simp only [deriv, ih, matches_opt_iff]
    simp

theorem matchB_iff {r : Regex} {s : List UInt8} : matchB r s = true ↔ Matches r s := by
  induction s generalizing r with
  | nil => simp [matchB, nullable_iff]
  | cons b s ih => simp [matchB, ih, matches_deriv_iff]

instance (r : Regex) (s : List UInt8) : Decidable (Matches r s) :=
  decidable_of_iff _ matchB_iff

end Regex
end Nexus.Uri
