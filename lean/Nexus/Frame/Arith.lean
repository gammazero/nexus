/-
  Arithmetic facts about the generated pure functions (`Nexus.Gen.byteToLength`,
  `fitRecvLimit`, `intToBytes`, `bytesToInt`) and the Go-semantics helpers they
  are written in.  The 24-bit length field is `Codec.beBytes 3` / `Codec.beNat`, so its round
  trip is `Codec.beNat_beBytes`.
-/
import Nexus.Gen.Frame
import Nexus.Codec.BytesLemmas

namespace Nexus.Frame
open Nexus Nexus.Codec

theorem wrapInt_id {x : Int} (h1 : -(2 ^ 63) ≤ x) (h2 : x < 2 ^ 63) : Go.wrapInt x = x := by
  unfold Go.wrapInt; omega

theorem andInt_255 (n : Nat) : Go.andInt (Int.ofNat n) 255 = Int.ofNat (n % 256) :=
  congrArg Int.ofNat (Nat.and_two_pow_sub_one_eq_mod n 8)

theorem shrInt_ofNat (n k : Nat) : Go.shrInt (Int.ofNat n) k = Int.ofNat (n / 2 ^ k) :=
  (Int.shiftRight_eq_div_pow _ k).trans (Int.natCast_ediv n (2 ^ k)).symm

theorem byteOfInt_ofNat (n : Nat) : Go.byteOfInt (Int.ofNat n) = UInt8.ofNat (n % 256) := rfl

theorem intToBytes_beBytes (n : Nat) : Gen.intToBytes (Int.ofNat n) = beBytes 3 n := by
  unfold Gen.intToBytes
  simp only [shrInt_ofNat, andInt_255, byteOfInt_ofNat, beBytes, List.nil_append, List.cons_append,
    Nat.mod_mod, Nat.div_div_eq_div_mul]

theorem or_shl (a b i : Nat) (hb : b < 2 ^ i) : a <<< i ||| b = a * 2 ^ i + b := by
  rw [← Nat.shiftLeft_add_eq_or_of_lt hb, Nat.shiftLeft_eq]

theorem bytesToInt_beNat (a b c : UInt8) :
    Gen.bytesToInt [a, b, c] = Int.ofNat (beNat [a, b, c]) := by
  have ha := a.toNat_lt; have hb := b.toNat_lt; have hc := c.toNat_lt
  have hlen : Go.subInt (Go.lenInt [a, b, c]) 1 = 2 := show Go.wrapInt (3 - 1) = 2 by decide
  unfold Gen.bytesToInt
  rw [hlen]
  -- the loop runs for i = 2, 1, 0 with shifts 0, 8, 16
  show Go.intOfUint (0 ||| Go.shlU64 (Go.uintOfByte c) 0 ||| Go.shlU64 (Go.uintOfByte b) 8 |||
      Go.shlU64 (Go.uintOfByte a) 16) = _
  have key : (0 ||| Go.shlU64 (Go.uintOfByte c) 0 ||| Go.shlU64 (Go.uintOfByte b) 8 |||
      Go.shlU64 (Go.uintOfByte a) 16).toNat = beNat [a, b, c] := by
    simp [Go.shlU64, Go.uintOfByte, UInt64.toNat_or, UInt64.toNat_shiftLeft, UInt8.toNat_toUInt64,
      beNat]
    have e1 : b.toNat <<< 8 % 18446744073709551616 = b.toNat <<< 8 := by
      rw [Nat.shiftLeft_eq]; omega
    have e2 : a.toNat <<< 16 % 18446744073709551616 = a.toNat <<< 16 := by
      rw [Nat.shiftLeft_eq]; omega
    rw [e1, e2, Nat.or_comm c.toNat, or_shl _ _ _ hc, Nat.or_comm, or_shl _ _ _ (by omega)]
    omega
  unfold Go.intOfUint
  rw [key, wrapInt_id] <;> simp only [Int.ofNat_eq_natCast, beNat, List.foldl] <;> omega

theorem bytesToInt_intToBytes_beNat (n : Nat) :
    Gen.bytesToInt (Gen.intToBytes (Int.ofNat n)) = Int.ofNat (beNat (beBytes 3 n)) := by
  rw [intToBytes_beBytes]
  exact bytesToInt_beNat _ _ _

theorem bytesToInt_intToBytes (n : Nat) (h : n < 2 ^ 24) :
    Gen.bytesToInt (Gen.intToBytes (Int.ofNat n)) = Int.ofNat n :=
  (bytesToInt_intToBytes_beNat n).trans (congrArg Int.ofNat (beNat_beBytes 3 n h))

theorem byteToLength_small (b : UInt8) (h : b.toNat ≤ 15) :
    Gen.byteToLength b = ((2 ^ (b.toNat + 9) : Nat) : Int) := by
  unfold Gen.byteToLength Go.shlInt
  have e : (b + 9).toNat = b.toNat + 9 := by
    rw [UInt8.toNat_add]; simp; omega
  rw [e]
  have hp : 2 ^ (b.toNat + 9) ≤ 2 ^ 24 := Nat.pow_le_pow_right (by decide) (by omega)
  have hp' : (2:Int) ^ (b.toNat + 9) ≤ 2 ^ 24 := by exact_mod_cast hp
  have hpos : (0:Int) < 2 ^ (b.toNat + 9) := by
    have : 0 < 2 ^ (b.toNat + 9) := Nat.pow_pos (by decide)
    exact_mod_cast this
  have hk : ((1:Int) * 2 ^ (b.toNat + 9)) = ((2 ^ (b.toNat + 9) : Nat) : Int) := by simp
  rw [if_neg (by omega), hk, wrapInt_id] <;> omega

/-- A search `findSome?` over `range n` with a test `q` returns the first index that passes, or
    none passes. -/
theorem findSome_range {q : Nat → Bool} {g : Nat → UInt8} (n : Nat) :
    match (List.range n).findSome? (fun i => if q i then some (g i) else none) with
    | some b => ∃ i, i < n ∧ b = g i ∧ q i = true ∧ ∀ j, j < i → q j = false
    | none => ∀ j, j < n → q j = false := by
  induction n with
  | zero => simp
  | succ n ih =>
    rw [List.range_succ, List.findSome?_append]
    split at ih
    · next b hb =>
      rw [hb]
      obtain ⟨i, hi, e, hq, hj⟩ := ih
      exact ⟨i, by omega, e, hq, hj⟩
    · next hb =>
      rw [hb]
      simp only [Option.none_or, List.findSome?_cons, List.findSome?_nil]
      cases hq : q n with
      | true =>
        simp
        exact ⟨n, by omega, rfl, hq, ih⟩
      | false =>
        simp
        intro j hj
        by_cases h : j = n
        · subst h; exact hq
        · exact ih j (by omega)

/-- `fitRecvLimit r` is the least length code `b ≤ 15` with `2^(b+9) ≥ r`, and 15 when there is none
    or `r ≤ 0`: Go's loop over the codes 0..14 (`rangeByte`) is a `findSome?` over `range 15`, read
    with `findSome_range`; below 15 `byteToLength` is the plain power (`byteToLength_small`). -/
theorem fit_spec (r : Int) :
    (r ≤ 0 → Gen.fitRecvLimit r = 15) ∧
    (0 < r → (Gen.fitRecvLimit r).toNat ≤ 15 ∧
      ((Gen.fitRecvLimit r).toNat < 15 → r ≤ ((2 ^ ((Gen.fitRecvLimit r).toNat + 9) : Nat) : Int)) ∧
      ∀ j, j < (Gen.fitRecvLimit r).toNat → ((2 ^ (j + 9) : Nat) : Int) < r) := by
  refine ⟨fun h => by unfold Gen.fitRecvLimit; rw [if_neg (by simp; omega)], fun h => ?_⟩
  have hb : ∀ i, i < 15 → (UInt8.ofNat i).toNat = i ∧
      Gen.byteToLength (UInt8.ofNat i) = ((2 ^ (i + 9) : Nat) : Int) := fun i hi => by
    have e : (UInt8.ofNat i).toNat = i := by simp [UInt8.toNat_ofNat']; omega
    exact ⟨e, by rw [byteToLength_small _ (by omega), e]⟩
  have key := findSome_range (q := fun i => decide (Gen.byteToLength (UInt8.ofNat i) ≥ r))
    (g := UInt8.ofNat) 15
  have hf : Gen.fitRecvLimit r =
      ((List.range 15).findSome? (fun i => if decide (Gen.byteToLength (UInt8.ofNat i) ≥ r) = true
        then some (UInt8.ofNat i) else none)).getD 15 := by
    unfold Gen.fitRecvLimit Go.rangeByte
    rw [if_pos (by simp; omega), show (15 : UInt8).toNat = 15 from rfl]
    cases List.findSome? _ (List.range 15) <;> rfl
  rw [hf]
  split at key
  · next b hb' =>
    obtain ⟨i, hi, rfl, hq, hj⟩ := key
    rw [hb', Option.getD_some, (hb i hi).1]
    refine ⟨by omega, fun _ => (hb i hi).2 ▸ of_decide_eq_true hq, fun j hji => ?_⟩
    have := of_decide_eq_false (hj j hji)
    rw [(hb j (by omega)).2] at this
    omega
  · next hb' =>
    rw [hb']
    refine ⟨by decide, fun h => absurd h (by decide), fun j hj => ?_⟩
    have := of_decide_eq_false (key j hj)
    rw [(hb j hj).2] at this
    omega

theorem and15_toNat (x : UInt8) : (x &&& 15).toNat = x.toNat % 16 :=
  (UInt8.toNat_and x 15).trans (Nat.and_two_pow_sub_one_eq_mod x.toNat 4)

theorem shrU8_4_toNat (x : UInt8) : (Go.shrU8 x 4).toNat = x.toNat / 16 := by
  unfold Go.shrU8
  rw [if_neg (by decide), UInt8.toNat_shiftRight]
  have : (UInt8.ofNat 4).toNat % 8 = 4 := by decide
  rw [this, Nat.shiftRight_eq_div_pow]

theorem shlU8_4_or_toNat (m s : UInt8) (hm : m.toNat < 16) (hs : s.toNat < 16) :
    (Go.shlU8 m 4 ||| s).toNat = m.toNat * 16 + s.toNat := by
  unfold Go.shlU8
  rw [if_neg (by decide), UInt8.toNat_or, UInt8.toNat_shiftLeft]
  have : (UInt8.ofNat 4).toNat % 8 = 4 := by decide
  rw [this]
  have e : m.toNat <<< 4 % 2 ^ 8 = m.toNat <<< 4 := by rw [Nat.shiftLeft_eq]; omega
  rw [e, or_shl _ _ _ (by omega)]

end Nexus.Frame
