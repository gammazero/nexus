/-
  C15 × C14: the stream theorem of `Nexus.Props.C15` instantiated with the
  serializer models of `Nexus.Props.C14`.

  `Nexus.C15.stream` assumes an exact codec round trip `de (ser m) = some m`, which no theorem of
  C14 provides: `C14_wire_roundtrip` gives `Deserialize(Serialize(m)) = norm m`, for well-typed
  messages whose emitted list the format can carry.  `Nexus.C15.stream_norm_on` is the stream
  theorem under that weaker hypothesis; here it is discharged (`wire_codec_norm`) for

  * `wireSer fmt`  — `Serialize`: `msgToList`, then the format's `encode` (`none` = the Go
    serializer returns an error: the list is outside what the format model carries — MessagePack /
    CBOR: `validB`, JSON: `Json.okB`, which is used opaquely here, through `Json.encode` and the
    hypothesis of `C14_wire_roundtrip` only);
  * `wireDe fmt`   — `Deserialize`: `Wire.deserialize`, `none` for a codec error or an
    `error` / `panic` verdict of the repo's code (the reader logs and skips: C15's
    `deserializeErrorSkips`).

  This file imports both Props modules; `Nexus/Props/C15.lean` cites it and does not import it
  (so that C15 builds without the codec development).
-/
import Nexus.Props.C14
import Nexus.Props.C15

namespace Nexus.C15
open Nexus Nexus.Frame Nexus.Codec

/-- `Serializer.Serialize(msg)` of format `fmt` as a partial function to bytes. -/
def wireSer (fmt : Format) (m : Msg) : Option (List UInt8) :=
  match msgToList m with
  | .ok l => Wire.encode fmt (.list l)
  | _ => none

/-- `Serializer.Deserialize(bytes)` of format `fmt`: `none` when the reader gets an error (or the
    model says panic) and therefore skips the frame. -/
def wireDe (fmt : Format) (p : List UInt8) : Option Msg :=
  match Wire.deserialize fmt p with
  | .ok (.ok m) => some m
  | _ => none

def carries : Format → List CVal → Prop
  | .msgpack, l => validB MsgPack.maxLen (.list l) = true
  | .cbor, l => validB CBOR.maxLen (.list l) = true
  | .json, l => Json.okB (.list l) = true

/-- `wireSer` yields bytes exactly for the messages whose list is carried, and then the
    format's encoding of that list. -/
theorem wireSer_some_iff (fmt : Format) (m : Msg) (p : List UInt8) :
    wireSer fmt m = some p ↔
      ∃ l, msgToList m = .ok l ∧ carries fmt l ∧
        p = (match fmt with
             | .msgpack => MsgPack.enc (.list l)
             | .cbor => CBOR.enc (.list l)
             | .json => Json.enc (.list l)) := by
  unfold wireSer
  cases hl : msgToList m with
  | ok l =>
    have key : ∀ (c : List CVal → Prop) [∀ x, Decidable (c x)] (e : List CVal → List UInt8),
        (if c l then some (e l) else none) = some p ↔ ∃ l', Res.ok l = .ok l' ∧ c l' ∧ p = e l' := by
      intro c _ e
      by_cases hc : c l <;> simp [hc, eq_comm]
    cases fmt <;> simp only [Wire.encode, Json.encode, MsgPack.encode, CBOR.encode, carries]
    · exact key (fun l => Json.okB (.list l) = true) (fun l => Json.enc (.list l))
    · exact key (fun l => validB MsgPack.maxLen (.list l) = true) (fun l => MsgPack.enc (.list l))
    · exact key (fun l => validB CBOR.maxLen (.list l) = true) (fun l => CBOR.enc (.list l))
  | error e =>
    constructor
    · intro h; cases h
    · rintro ⟨l', hl', _⟩; cases hl'
  | panic s =>
    constructor
    · intro h; cases h
    · rintro ⟨l', hl', _⟩; cases hl'

/-- The codec hypothesis of `stream_norm_on`, from C14: for every well-typed message and each
    of the three formats, whatever `Serialize` yields, `Deserialize` maps to `C14`'s `norm m`. -/
theorem wire_codec_norm (fmt : Format) (m : Msg) (h : C14.WellTyped m) (p : List UInt8)
    (hs : wireSer fmt m = some p) : wireDe fmt p = some (norm m) := by
  unfold wireSer at hs
  split at hs
  · rename_i l hl
    rw [wireDe, C14.C14_serialize_deserialize fmt h hl hs]
  · cases hs

/-- For each of the three serializers, every queue of well-typed
    messages and all limits with sendLimit ≤ recvLimit: the reader hands over `norm m` for exactly
    the messages that serialise (their list is carried by the format) and fit the send limit, in
    order, and ends idle between frames.  `norm` is C14's normalisation (`C14_norm_fields`: nil
    and omitted trailing fields come back as `NewMessage`'s initial values). -/
theorem stream_codec (fmt : Format) (sl rl : Int) (hsl : sl ≤ rl) (msgs : List Msg)
    (hwt : ∀ m, m ∈ msgs → C14.WellTyped m) :
    decodeStream (wireDe fmt) rl (sendAll (wireSer fmt) sl msgs) =
      ((msgs.filter (arrives (wireSer fmt) sl)).map (fun m => Ev.deliver (norm m)), .hdr0) :=
  stream_norm_on (wireSer fmt) (wireDe fmt) norm sl rl hsl msgs
    (fun m hm p hs => wire_codec_norm fmt m (hwt m hm) p hs)

/-- Both directions of a negotiated connection with the real codecs. -/
theorem connected_streams_codec (fmt : Format) (p : UInt8) (rc rs : Int) (c s : PeerCfg)
    (rep : List UInt8) (h : connect p rc rs = (.ok c, ⟨some rep, .ok s⟩)) (up down : List Msg)
    (hup : ∀ m, m ∈ up → C14.WellTyped m) (hdown : ∀ m, m ∈ down → C14.WellTyped m) :
    decodeStream (wireDe fmt) s.recvLimit (sendAll (wireSer fmt) c.sendLimit up) =
        ((up.filter (arrives (wireSer fmt) c.sendLimit)).map (fun m => Ev.deliver (norm m)), .hdr0) ∧
      decodeStream (wireDe fmt) c.recvLimit (sendAll (wireSer fmt) s.sendLimit down) =
        ((down.filter (arrives (wireSer fmt) s.sendLimit)).map (fun m => Ev.deliver (norm m)), .hdr0) :=
  ⟨stream_codec fmt _ _ (Int.le_of_eq (connected_limits p rc rs c s rep h).2.1) up hup,
    stream_codec fmt _ _ (Int.le_of_eq (connected_limits p rc rs c s rep h).2.2) down hdown⟩

/-- An EVENT [36, 1, 2, {}, nil, {"a": 1}] (kwargs without args keeps its position). -/
def exampleEvent : Msg :=
  { schema := (Gen.structs.filter (·.code == 36)).head!,
    fields := [.int 1, .int 2, .dict [], .null, .dict [([97], .int 1)]] }

theorem exampleEvent_wellTyped : C14.WellTyped exampleEvent := by
  refine ⟨by decide, ?_⟩
  have hk : exampleEvent.schema.fields.map (·.kind) =
      [.uint64, .uint64, .mapStringAny, .sliceAny, .mapStringAny] := by decide
  generalize hf : exampleEvent.schema.fields = fs at hk
  match fs, hk with
  | [f1, f2, f3, f4, f5], hk =>
    simp only [List.map_cons, List.map_nil, List.cons.injEq, and_true] at hk
    obtain ⟨h1, h2, h3, h4, h5⟩ := hk
    simp only [exampleEvent, TypedFields, h1, h2, h3, h4, h5, Typed, two64]
    decide

example : wireSer .msgpack exampleEvent = some [150, 36, 1, 2, 128, 192, 129, 161, 97, 1] := by decide
example : wireSer .cbor exampleEvent = some [134, 24, 36, 1, 2, 160, 246, 161, 97, 97, 1] := by decide
/-- `[36,1,2,{},null,{"a":1}]` -/
example : wireSer .json exampleEvent =
    some [91, 51, 54, 44, 49, 44, 50, 44, 123, 125, 44, 110, 117, 108, 108, 44, 123, 34, 97, 34, 58, 49, 125, 93] := by
  decide

/-- The hypotheses of `stream_codec` are satisfiable and its conclusion is not empty: with send
    limit 16 the MessagePack (10 bytes) and CBOR (11 bytes) forms are delivered (as `norm` of the
    message), the JSON form (24 bytes) is dropped by the sender; with 512 all three arrive. -/
example : decodeStream (wireDe .msgpack) 512 (sendAll (wireSer .msgpack) 16 [exampleEvent, exampleEvent]) =
    ([.deliver (norm exampleEvent), .deliver (norm exampleEvent)], .hdr0) := by
  rw [stream_codec .msgpack 16 512 (by decide) _
    (by intro m hm; simp only [List.mem_cons, List.not_mem_nil, or_false, or_self] at hm; subst hm; exact exampleEvent_wellTyped)]
  have h : arrives (wireSer .msgpack) 16 exampleEvent = true := by decide
  simp [List.filter, h]
example : decodeStream (wireDe .json) 512 (sendAll (wireSer .json) 16 [exampleEvent]) = ([], .hdr0) := by
  rw [stream_codec .json 16 512 (by decide) _
    (by intro m hm; simp only [List.mem_cons, List.not_mem_nil, or_false] at hm; subst hm; exact exampleEvent_wellTyped)]
  have h : arrives (wireSer .json) 16 exampleEvent = false := by decide
  simp [List.filter, h]
example : arrives (wireSer .json) 512 exampleEvent = true ∧ arrives (wireSer .cbor) 16 exampleEvent = true := by
  decide

end Nexus.C15
