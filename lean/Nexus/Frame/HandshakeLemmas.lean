/-
  The rawsocket handshake model (`Nexus.Frame.Handshake`) with the generated decisions resolved:
  one equation per side, in terms of the request / reply bytes as numbers.
-/
import Nexus.Frame.Arith
import Nexus.Frame.Handshake

namespace Nexus.Frame

def serName : Nat → String
  | 1 => "JSONSerializer"
  | 2 => "MessagePackSerializer"
  | 3 => "CBORSerializer"
  | _ => "nil"

theorem srvSerCase_eq (x : UInt8) :
    Gen.srvSerCase x =
      if x.toNat = 0 then .reject none "illegal serializer value"
      else if x.toNat ≤ 3 then .accept (serName x.toNat)
      else .reject (some [0x7f, 0x10, 0, 0]) "serializer unsupported" := by
  have e : ∀ k : UInt8, x = k ↔ x.toNat = k.toNat := fun k => UInt8.toNat_inj.symm
  unfold Gen.srvSerCase
  simp only [e]
  generalize x.toNat = n
  rcases n with _ | _ | _ | _ | n <;> first | rfl | (simp [Gen.rawsocketJSON, Gen.rawsocketMsgpack, Gen.rawsocketCBOR, Gen.magic]; omega)

theorem fit_le_15 (r : Int) : (Gen.fitRecvLimit r).toNat ≤ 15 := by
  by_cases hr : 0 < r
  · exact ((fit_spec r).2 hr).1
  · rw [(fit_spec r).1 (by omega)]; decide

theorem serverHandshake_eq (b0 b1 b2 b3 : UInt8) (r : Int) :
    serverHandshake b0 b1 b2 b3 r =
      if b0 ≠ 0x7f then ⟨none, .error "not a rawsocket handshake"⟩
      else if b2 ≠ 0 ∨ b3 ≠ 0 then
        ⟨some [0x7f, 0x30, 0, 0], .error "use of reserved bits (unsupported feature)"⟩
      else if b1.toNat % 16 = 0 then ⟨none, .error "illegal serializer value"⟩
      else if 4 ≤ b1.toNat % 16 then ⟨some [0x7f, 0x10, 0, 0], .error "serializer unsupported"⟩
      else ⟨some [0x7f, Go.shlU8 (Gen.fitRecvLimit r) 4 ||| (b1 &&& 15), 0, 0],
            .ok ⟨some (serName (b1.toNat % 16)), ((2 ^ (b1.toNat / 16 + 9) : Nat) : Int),
                 ((2 ^ ((Gen.fitRecvLimit r).toNat + 9) : Nat) : Int)⟩⟩ := by
  have hb1 := b1.toNat_lt
  have hm : Gen.srvBadMagic b0 = true ↔ b0 ≠ 0x7f := decide_eq_true_iff
  have hres : Gen.srvReserved b2 b3 = true ↔ (b2 ≠ 0 ∨ b3 ≠ 0) := by simp [Gen.srvReserved]
  unfold serverHandshake
  simp only [hm, hres, Gen.srvSerNibble, srvSerCase_eq, and15_toNat]
  by_cases h0 : b0 ≠ 0x7f
  · rw [if_pos h0, if_pos h0]; rfl
  · rw [if_neg h0, if_neg h0]
    by_cases hr : b2 ≠ 0 ∨ b3 ≠ 0
    · rw [if_pos hr, if_pos hr]; rfl
    · rw [if_neg hr, if_neg hr]
      by_cases hs0 : b1.toNat % 16 = 0
      · simp only [if_pos hs0]
      · by_cases hs4 : 4 ≤ b1.toNat % 16
        · simp only [if_neg hs0, if_neg (show ¬ b1.toNat % 16 ≤ 3 by omega), if_pos hs4]
        · simp only [if_neg hs0, if_pos (show b1.toNat % 16 ≤ 3 by omega), if_neg hs4, Gen.srvReply,
            Gen.srvSendLimit, Gen.srvRecvLimit, Gen.magic]
          rw [byteToLength_small _ (by rw [shrU8_4_toNat]; omega), byteToLength_small _ (fit_le_15 r),
            shrU8_4_toNat]
          rfl

theorem clientHandshake_eq (p : UInt8) (rc : Int) (r0 r1 r2 r3 : UInt8) :
    clientHandshake p rc r0 r1 r2 r3 =
      if r0 ≠ 0x7f then .error "not a rawsocket handshake"
      else if r1.toNat % 16 = 0 then
        .error ((Gen.cliErrCase (Go.shrU8 r1 4)).getD
          (fmtCode Gen.cliErrDefaultFmt (Go.shrU8 r1 4).toNat))
      else if r1.toNat % 16 ≠ p.toNat then .error "serializer mismatch"
      else .ok ⟨Gen.cliSerializer p, ((2 ^ (r1.toNat / 16 + 9) : Nat) : Int),
                ((2 ^ ((Gen.fitRecvLimit rc).toNat + 9) : Nat) : Int)⟩ := by
  have hr1 := r1.toNat_lt
  have hx := and15_toNat r1
  have hm : Gen.cliBadMagic r0 = true ↔ r0 ≠ 0x7f := decide_eq_true_iff
  have he : Gen.cliIsErrorReply (Gen.cliRepSerializer r1) = true ↔ r1.toNat % 16 = 0 := by
    rw [← hx]; exact decide_eq_true_iff.trans UInt8.toNat_inj.symm
  have hmm : Gen.cliMismatch (Gen.cliRepSerializer r1) p = true ↔ r1.toNat % 16 ≠ p.toNat := by
    rw [← hx]; exact decide_eq_true_iff.trans (not_congr UInt8.toNat_inj.symm)
  unfold clientHandshake
  simp only [hm, he, hmm, Gen.cliErrCode, Gen.cliSendLimit, Gen.cliRecvLimit]
  rw [byteToLength_small _ (by rw [shrU8_4_toNat]; omega), byteToLength_small _ (fit_le_15 rc),
    shrU8_4_toNat]
  cases Gen.cliErrCase (Go.shrU8 r1 4) <;> rfl

theorem cliSerializer_name (p : UInt8) (h1 : 1 ≤ p.toNat) (h3 : p.toNat ≤ 3) :
    Gen.cliSerializer p = some (serName p.toNat) := by
  have e : ∀ k : UInt8, p = k ↔ p.toNat = k.toNat := fun k => UInt8.toNat_inj.symm
  unfold Gen.cliSerializer
  simp only [e]
  generalize p.toNat = n at h1 h3
  rcases n with _ | _ | _ | _ | n <;> first | rfl | omega

/-- The client accepts a reply only if the reply's serializer nibble equals its protocol byte,
    so a client that ends with a peer has a protocol byte below 16. -/
theorem clientHandshakeReply_ok_proto (p : UInt8) (rc : Int) (bs : List UInt8) (c : PeerCfg)
    (h : clientHandshakeReply p rc bs = .ok c) : p.toNat ≤ 15 := by
  match bs, h with
  | r0 :: r1 :: r2 :: r3 :: _, h =>
    have h : clientHandshake p rc r0 r1 r2 r3 = .ok c := h
    rw [clientHandshake_eq] at h
    -- every branch but the last is an error; in the last, `p.toNat = r1.toNat % 16`
    repeat' split at h
    all_goals first | omega | cases h
  | [], h | [_], h | [_, _], h | [_, _, _], h => cases h

theorem connect_eq (p : UInt8) (rc rs : Int) :
    connect p rc rs =
      (clientHandshakeReply p rc
        ((serverHandshake 0x7f (Go.shlU8 (Gen.fitRecvLimit rc &&& 15) 4 ||| p) 0 0 rs).reply.getD []),
       serverHandshake 0x7f (Go.shlU8 (Gen.fitRecvLimit rc &&& 15) 4 ||| p) 0 0 rs) := rfl

/-- Byte 1 of the client's request: length code in the high nibble, protocol in the low one. -/
theorem requestByte_toNat (p : UInt8) (rc : Int) (hp : p.toNat ≤ 15) :
    (Go.shlU8 (Gen.fitRecvLimit rc &&& 15) 4 ||| p).toNat = (Gen.fitRecvLimit rc).toNat * 16 + p.toNat := by
  have hf := fit_le_15 rc
  have h15 := and15_toNat (Gen.fitRecvLimit rc)
  rw [shlU8_4_or_toNat _ _ (by omega) (by omega), h15]
  omega

end Nexus.Frame
