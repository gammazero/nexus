/-
  Any inbound mix of MSG / PING / PONG frames (`InFrame`, `run_inframes`; `run_units` of
  `WritersLemmas` knows only the two unit kinds a nexus writer produces), the reader goroutine's
  own write calls, PONGs under two different receive limits, and a second, hand-written reading
  of the end of the stream (`readerAtEOF`).
-/
import Nexus.Frame.StreamLemmas
import Nexus.Frame.WritersLemmas

namespace Nexus.Frame.WpD

section
variable {M : Type} (de : List UInt8 → Option M) (rl : Int)

structure InFrame where
  h0 : UInt8
  l0 : UInt8
  l1 : UInt8
  l2 : UInt8
  payload : List UInt8
  deriving Repr

def InFrame.bytes (f : InFrame) : List UInt8 := f.h0 :: f.l0 :: f.l1 :: f.l2 :: f.payload

/-- `% 8 ≤ 2`: type bits 0 (MSG), 1 (PING) or 2 (PONG); the upper five bits of byte 0 are
    arbitrary, the reader switches on `header[0] & 0x07`. -/
def InFrame.wellFormed (f : InFrame) (recvLimit : Int) : Prop :=
  f.h0.toNat % 8 ≤ 2 ∧
    Gen.bytesToInt [f.l0, f.l1, f.l2] = Int.ofNat f.payload.length ∧
    (f.payload.length : Int) ≤ recvLimit

def InFrame.events (f : InFrame) : List (Ev M) :=
  if f.h0.toNat % 8 = 0 then payloadEvents de f.payload
  else if f.h0.toNat % 8 = 1 then [.wrote (2 :: f.l0 :: f.l1 :: f.l2 :: f.payload)]
  else []

theorem run_inframes (fs : List InFrame) (hf : ∀ f, f ∈ fs → f.wellFormed rl) :
    run de rl .hdr0 (fs.flatMap InFrame.bytes) = (fs.flatMap (InFrame.events de), .hdr0) :=
  run_flatMap de rl _ _ fs fun f h =>
    run_frame de rl f.h0 f.l0 f.l1 f.l2 f.payload (hf f h).1 (hf f h).2.1 (hf f h).2.2

end

def writeCalls {M : Type} : List (Ev M) → List WriteCall
  | [] => []
  | .wrote bs :: es => ⟨.reader, bs⟩ :: writeCalls es
  | _ :: es => writeCalls es

theorem writeCalls_append {M : Type} (a b : List (Ev M)) :
    writeCalls (a ++ b) = writeCalls a ++ writeCalls b := by
  induction a with
  | nil => rfl
  | cons e es ih => cases e <;> simp [writeCalls, ih]

theorem writeCalls_payloadEvents {M : Type} (de : List UInt8 → Option M) (p : List UInt8) :
    writeCalls (payloadEvents de p) = [] := by
  unfold payloadEvents
  cases de p <;> rfl

def pongsOf (fs : List InFrame) : List Pong :=
  fs.flatMap (fun f => if f.h0.toNat % 8 = 1 then [⟨f.l0, f.l1, f.l2, f.payload⟩] else [])

theorem readerCalls_cons (q : Pong) (qs : List Pong) :
    readerCalls (q :: qs) = ⟨.reader, pongFrame q⟩ :: readerCalls qs := by
  unfold readerCalls
  rw [List.flatMap_cons]
  simp [pongCalls, Gen.pongWriteParts, writePart, pongFrame]

theorem writeCalls_inframes {M : Type} (de : List UInt8 → Option M) (rl : Int)
    (fs : List InFrame) (hf : ∀ f, f ∈ fs → f.wellFormed rl) :
    writeCalls (run de rl .hdr0 (fs.flatMap InFrame.bytes)).1 = readerCalls (pongsOf fs) := by
  rw [run_inframes de rl fs hf]
  clear hf
  induction fs with
  | nil => rfl
  | cons f fs ih =>
    rw [List.flatMap_cons, writeCalls_append, ih]
    unfold pongsOf
    rw [List.flatMap_cons]
    unfold InFrame.events
    by_cases h0 : f.h0.toNat % 8 = 0
    · rw [if_pos h0, if_neg (by omega), writeCalls_payloadEvents]
      rfl
    · by_cases h1 : f.h0.toNat % 8 = 1
      · rw [if_neg h0, if_pos h1, if_pos h1]
        simp only [List.singleton_append]
        show _ = readerCalls (_ :: pongsOf fs)
        rw [readerCalls_cons]
        rfl
      · rw [if_neg h0, if_neg h1, if_neg h1]
        rfl

theorem pongsOf_wellFormed_other (rl rl' : Int) (fs : List InFrame)
    (hf : ∀ f, f ∈ fs → f.wellFormed rl)
    (hp : ∀ f, f ∈ fs → f.h0.toNat % 8 = 1 → (f.payload.length : Int) ≤ rl') :
    ∀ q, q ∈ pongsOf fs → q.wellFormed rl' := by
  intro q hq
  unfold pongsOf at hq
  obtain ⟨f, hfm, hq⟩ := List.mem_flatMap.mp hq
  by_cases h1 : f.h0.toNat % 8 = 1
  · rw [if_pos h1] at hq
    have : q = ⟨f.l0, f.l1, f.l2, f.payload⟩ := by simpa using hq
    subst this
    exact ⟨(hf f hfm).2.1, hp f hfm h1⟩
  · rw [if_neg h1] at hq
    cases hq

/-- Every PONG answering a well-formed PING is well formed w.r.t. the answerer's limit. -/
theorem pongsOf_wellFormed (rl : Int) (fs : List InFrame) (hf : ∀ f, f ∈ fs → f.wellFormed rl) :
    ∀ q, q ∈ pongsOf fs → q.wellFormed rl :=
  pongsOf_wellFormed_other rl rl fs hf (fun f hfm _ => (hf f hfm).2.2)

theorem merge_right_first {α : Type} (as bs : List α) : Merge as bs (bs ++ as) := by
  induction bs with
  | nil =>
    induction as with
    | nil => exact .nil
    | cons a as ih => exact .left ih
  | cons b bs ih => exact .right ih

theorem wellFormed_min (q : Pong) (a b : Int) :
    q.wellFormed (min a b) ↔ q.wellFormed a ∧ q.wellFormed b := by
  unfold Pong.wellFormed
  constructor
  · rintro ⟨h1, h2⟩
    exact ⟨⟨h1, by omega⟩, ⟨h1, by omega⟩⟩
  · rintro ⟨⟨h1, h2⟩, ⟨_, h3⟩⟩
    exact ⟨h1, by omega⟩

/-- How `recvHandler` ends when the byte stream ends (the peer closed its writing side, or the
    connection broke) with the reader in state `s`. In every case the goroutine returns, the
    deferred `close(rs.rd)` runs, and no further message is handed over:
    * already `closed why` — it had closed the connection itself;
    * `hdr0` — `io.ReadFull(header)` returns `io.EOF` (rawsocketpeer.go:269-286);
    * inside a header / a body — `io.ReadFull` returns `io.ErrUnexpectedEOF`
      (:269-286 for the header, :299-304 MSG, :317-321 PING, :329-334 PONG): the partial frame
      is discarded. -/
inductive EndOfStream where
  | closedBefore (why : CloseReason)
  | eofBetweenFrames
  | eofInsideFrame (blockedIn : RState)
  deriving Repr, DecidableEq

def readerAtEOF : RState → EndOfStream
  | .closed why => .closedBefore why
  | .hdr0 => .eofBetweenFrames
  | s => .eofInsideFrame s

/-- `readerAtEOF` says the same as the model's end-of-stream step `atEOF`
    (`Nexus/Frame/Stream.lean`). -/
theorem readerAtEOF_atEOF (s : RState) :
    atEOF s = match readerAtEOF s with
      | .closedBefore why => .closed why
      | .eofBetweenFrames => .closed (.eof false)
      | .eofInsideFrame _ => .closed (.eof true) := by
  cases s <;> rfl

end Nexus.Frame.WpD
