/-
  Interleavings of write calls, and the reader on what the two writers produce: whole units
  (`run_units`), the sender's queue (`run_frames`).
-/
import Nexus.Frame.StreamLemmas
import Nexus.Frame.Writers

namespace Nexus.Frame

theorem Merge.nil_right {α : Type} {as cs : List α} (h : Merge as [] cs) : cs = as := by
  generalize hb : ([] : List α) = bs at h
  induction h with
  | nil => rfl
  | left _ ih => rw [ih hb]
  | right _ _ => cases hb

theorem Merge.forall {α : Type} {P : α → Prop} {as bs cs : List α} (h : Merge as bs cs)
    (ha : ∀ a, a ∈ as → P a) (hb : ∀ b, b ∈ bs → P b) : ∀ c, c ∈ cs → P c := by
  induction h with
  | nil => nofun
  | left _ ih =>
    simp only [List.forall_mem_cons] at ha ⊢
    exact ⟨ha.1, ih ha.2 hb⟩
  | right _ ih =>
    simp only [List.forall_mem_cons] at hb ⊢
    exact ⟨hb.1, ih ha hb.2⟩

/-- Each goroutine's calls appear in the log in the order it made them. -/
theorem Merge.filter {α : Type} (p : α → Bool) {as bs cs : List α} (h : Merge as bs cs)
    (ha : ∀ a, a ∈ as → p a = true) (hb : ∀ b, b ∈ bs → p b = false) :
    cs.filter p = as ∧ cs.filter (fun x => !p x) = bs := by
  induction h with
  | nil => exact ⟨rfl, rfl⟩
  | @left a as bs cs _ ih =>
    have := ih (fun x hx => ha x (List.mem_cons_of_mem _ hx)) hb
    have pa := ha a List.mem_cons_self
    simp [pa, this.1, this.2]
  | @right b as bs cs _ ih =>
    have := ih ha (fun x hx => hb x (List.mem_cons_of_mem _ hx))
    have pb := hb b List.mem_cons_self
    simp [pb, this.1, this.2]

theorem Merge.flatMap_left {α β : Type} (f : α → List β) {as bs cs : List α} (h : Merge as bs cs)
    (hb : ∀ b, b ∈ bs → f b = []) : cs.flatMap f = as.flatMap f := by
  induction h with
  | nil => rfl
  | left _ ih => simp [List.flatMap_cons, ih hb]
  | @right b as bs cs _ ih =>
    rw [List.flatMap_cons, hb b List.mem_cons_self, List.nil_append]
    exact ih (fun x hx => hb x (List.mem_cons_of_mem _ hx))

theorem wire_senderCalls (sl : Int) (ps : List (List UInt8)) :
    wire (senderCalls sl ps) = (ps.filterMap (frame sl)).flatten := by
  unfold wire senderCalls
  rw [List.map_map]
  have : ((fun (c : WriteCall) => c.bytes) ∘ fun b => (⟨.sender, b⟩ : WriteCall)) = id := rfl
  rw [this, List.map_id]
  induction ps with
  | nil => rfl
  | cons p ps ih =>
    unfold frame
    cases h : frameWrites sl p with
    | none => simp [h]; exact ih
    | some ws =>
      simp only [List.filterMap_cons, h, Option.map_some, List.flatten_cons, List.flatten_append]
      rw [ih]
      rfl

/-- A unit of the connection when frames are written atomically (under a lock). -/
inductive WUnit where
  | msg (payload : List UInt8)
  | pong (p : Pong)

def WUnit.bytes (sl : Int) : WUnit → List UInt8
  | .msg p => (frame sl p).getD []
  | .pong q => pongFrame q

section
variable {M : Type} (de : List UInt8 → Option M) (rl : Int)

def WUnit.events : WUnit → List (Ev M)
  | .msg p => payloadEvents de p
  | .pong _ => []

def WUnit.ok (sl : Int) : WUnit → Prop
  | .msg p => fits sl p = true
  | .pong q => q.wellFormed rl

theorem run_unit (sl : Int) (hsl : sl ≤ rl) (u : WUnit) (hu : u.ok rl sl) :
    run de rl .hdr0 (u.bytes sl) = (u.events de, .hdr0) := by
  cases u with
  | msg p =>
    have hf : fits sl p = true := hu
    obtain ⟨a, b, c, hfr, hlen⟩ := frame_some sl p hf
    simp only [WUnit.bytes, hfr, Option.getD_some]
    exact run_frame de rl 0 a b c p (by decide) hlen (Int.le_trans ((fits_iff sl p).mp hf).1 hsl)
  | pong q => exact run_frame de rl Gen.pongType _ _ _ _ (by decide) hu.1 hu.2

theorem run_units (sl : Int) (hsl : sl ≤ rl) (us : List WUnit) (hu : ∀ u, u ∈ us → u.ok rl sl) :
    run de rl .hdr0 (us.flatMap (WUnit.bytes sl)) = (us.flatMap (WUnit.events de), .hdr0) :=
  run_flatMap de rl _ _ us fun u h => run_unit de rl sl hsl u (hu u h)

end

theorem Merge.of_map {α β : Type} (f : α → β) : ∀ {as bs : List α} {cs' : List β},
    Merge (as.map f) (bs.map f) cs' → ∃ cs, cs' = cs.map f ∧ Merge as bs cs := by
  intro as bs cs' h
  generalize ha : as.map f = as' at h
  generalize hb : bs.map f = bs' at h
  induction h generalizing as bs with
  | nil =>
    obtain rfl := List.map_eq_nil_iff.mp ha
    obtain rfl := List.map_eq_nil_iff.mp hb
    exact ⟨[], rfl, .nil⟩
  | left _ ih =>
    obtain ⟨a, as, rfl, rfl, ha'⟩ := List.map_eq_cons_iff.mp ha
    obtain ⟨cs, rfl, hm⟩ := ih ha' hb
    exact ⟨a :: cs, rfl, .left hm⟩
  | right _ ih =>
    obtain ⟨b, bs, rfl, rfl, hb'⟩ := List.map_eq_cons_iff.mp hb
    obtain ⟨cs, rfl, hm⟩ := ih ha hb'
    exact ⟨b :: cs, rfl, .right hm⟩

def WUnit.call (sl : Int) : WUnit → WriteCall
  | .msg p => ⟨.sender, (frame sl p).getD []⟩
  | .pong q => ⟨.reader, pongFrame q⟩

theorem WUnit.call_bytes (sl : Int) (u : WUnit) : (u.call sl).bytes = u.bytes sl := by
  cases u <;> rfl

/-- With the one-call shape, the sender's calls are exactly the frames of the messages that fit. -/
theorem senderCalls_units (sl : Int) (ps : List (List UInt8)) :
    senderCalls sl ps = ((ps.filter (fits sl)).map WUnit.msg).map (WUnit.call sl) := by
  unfold senderCalls
  induction ps with
  | nil => rfl
  | cons p ps ih =>
    cases hf : fits sl p with
    | false =>
      simp only [List.filterMap_cons, frameWrites_none sl p hf, List.filter_cons, hf]
      exact ih
    | true =>
      obtain ⟨a, b, c, hw, _⟩ := frameWrites_some sl p hf
      simp only [List.filterMap_cons, hw, List.filter_cons, hf, if_true, List.flatten_cons,
        List.map_cons, List.cons_append, List.nil_append]
      rw [ih]
      simp [WUnit.call, frame, hw]

theorem wire_map_call (sl : Int) (us : List WUnit) :
    wire (us.map (WUnit.call sl)) = us.flatMap (WUnit.bytes sl) := by
  simp [wire, List.flatMap_def, Function.comp_def, WUnit.call_bytes]

theorem run_frames {M : Type} (de : List UInt8 → Option M) (rl sl : Int) (hsl : sl ≤ rl)
    (ps : List (List UInt8)) :
    run de rl .hdr0 (ps.filterMap (frame sl)).flatten =
      ((ps.filter (fits sl)).flatMap (payloadEvents de), .hdr0) := by
  have hok : ∀ u, u ∈ (ps.filter (fits sl)).map WUnit.msg → u.ok rl sl :=
    List.forall_mem_map.mpr fun p hp => (List.mem_filter.mp hp).2
  -- the queue's wire image is that of the sender's calls, and those are the fitting messages as units
  rw [← wire_senderCalls, senderCalls_units, wire_map_call, run_units de rl sl hsl _ hok,
    List.flatMap_map]
  rfl

theorem readerCalls_units (sl : Int) (qs : List Pong) :
    readerCalls qs = (qs.map WUnit.pong).map (WUnit.call sl) := by
  unfold readerCalls
  induction qs with
  | nil => rfl
  | cons q qs ih =>
    rw [List.flatMap_cons, ih]
    simp [pongCalls, Gen.pongWriteParts, writePart, WUnit.call, pongFrame]

/-- The sender after cancellation, when it drains: every queued message's calls, in order,
    whatever the scheduler's picks. -/
theorem afterCancel_drains {M : Type} (w : M → List WriteCall) (oracle : List Bool) (q : List M) :
    afterCancel true w oracle q = q.flatMap w := by
  induction q generalizing oracle with
  | nil => cases oracle <;> rfl
  | cons m q ih =>
    cases oracle with
    | nil => rfl
    | cons o os =>
      cases o with
      | true => simp [afterCancel, ih os]
      | false => rfl

theorem wire_append (a b : List WriteCall) : wire (a ++ b) = wire a ++ wire b := by
  simp [wire]

theorem wire_messageCalls {M : Type} (ser : M → Option (List UInt8)) (sl : Int) (q : List M) :
    wire (q.flatMap (messageCalls ser sl)) = sendAll ser sl q := by
  unfold sendAll
  induction q with
  | nil => rfl
  | cons m q ih =>
    rw [List.flatMap_cons, wire_append, ih]
    unfold messageCalls
    cases hs : ser m with
    | none => simp [wire, hs]
    | some p =>
      simp only [wire_senderCalls, List.filterMap_cons, hs, Option.bind_some]
      cases frame sl p <;> simp

end Nexus.Frame
