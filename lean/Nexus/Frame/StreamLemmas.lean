/-
  The sender's frame and the reader machine of `Nexus.Frame.Stream`: what is written for a
  payload; how `run` composes; what the reader does inside a payload, on a header, on one whole
  frame and on a frame that is cut short; the reader's events under another deserializer; the end
  of the stream.
-/
import Nexus.Frame.Arith
import Nexus.Frame.Stream

namespace Nexus.Frame

theorem fits_iff (sl : Int) (p : List UInt8) :
    fits sl p = true ↔ ((p.length : Int) ≤ sl ∧ p.length ≤ 2 ^ 24 - 1) := by
  unfold fits Gen.sendDrop
  simp [Gen.maxFrameLen]
  omega

theorem frameWrites_some (sl : Int) (p : List UInt8) (h : fits sl p = true) :
    ∃ a b c : UInt8, frameWrites sl p = some [0 :: a :: b :: c :: p] ∧
      Gen.bytesToInt [a, b, c] = Int.ofNat p.length := by
  have hlen := ((fits_iff sl p).mp h).2
  refine ⟨_, _, _, ?_, bytesToInt_intToBytes p.length (by omega)⟩
  unfold frameWrites
  unfold fits at h
  rw [if_neg (by simpa using h)]
  simp [Gen.senderWriteParts, writePart, frameHeader, Gen.sendHeader, Gen.intToBytes]

theorem frameWrites_none (sl : Int) (p : List UInt8) (h : fits sl p = false) :
    frameWrites sl p = none := by
  unfold frameWrites
  unfold fits at h
  rw [if_pos (by simpa using h)]

theorem frame_some (sl : Int) (p : List UInt8) (h : fits sl p = true) :
    ∃ a b c : UInt8, frame sl p = some (0 :: a :: b :: c :: p) ∧
      Gen.bytesToInt [a, b, c] = Int.ofNat p.length := by
  obtain ⟨a, b, c, hw, hlen⟩ := frameWrites_some sl p h
  exact ⟨a, b, c, by rw [frame, hw]; simp, hlen⟩

theorem frame_none (sl : Int) (p : List UInt8) (h : fits sl p = false) : frame sl p = none := by
  rw [frame, frameWrites_none sl p h]
  rfl

theorem frame_eq_some {sl : Int} {p f : List UInt8} (h : frame sl p = some f) :
    fits sl p = true ∧ ∃ a b c : UInt8, f = 0 :: a :: b :: c :: p ∧
      Gen.bytesToInt [a, b, c] = Int.ofNat p.length := by
  cases hf : fits sl p with
  | false => rw [frame_none sl p hf] at h; cases h
  | true =>
    obtain ⟨a, b, c, e, hlen⟩ := frame_some sl p hf
    exact ⟨rfl, a, b, c, Option.some.inj (h.symm.trans e), hlen⟩

section
variable {M : Type} (de : List UInt8 → Option M) (rl : Int)

def payloadEvents (p : List UInt8) : List (Ev M) :=
  match de p with
  | some m => [.deliver m]
  | none => []

theorem run_cons (s : RState) (b : UInt8) (bs : List UInt8) :
    run de rl s (b :: bs) = ((step de rl s b).2 ++ (run de rl (step de rl s b).1 bs).1, (run de rl (step de rl s b).1 bs).2) := rfl

theorem run_append (s : RState) (a b : List UInt8) :
    run de rl s (a ++ b) =
      ((run de rl s a).1 ++ (run de rl (run de rl s a).2 b).1, (run de rl (run de rl s a).2 b).2) := by
  induction a generalizing s with
  | nil => simp [run]
  | cons x xs ih =>
    simp only [List.cons_append, run]
    rw [ih]
    simp [List.append_assoc]

theorem run_trans {s s1 s2 : RState} {a b : List UInt8} {e1 e2 : List (Ev M)}
    (h1 : run de rl s a = (e1, s1)) (h2 : run de rl s1 b = (e2, s2)) :
    run de rl s (a ++ b) = (e1 ++ e2, s2) := by
  rw [run_append, h1, h2]

theorem run_then {w : List UInt8} {evs : List (Ev M)} (h : run de rl .hdr0 w = (evs, .hdr0))
    (rest : List UInt8) :
    run de rl .hdr0 (w ++ rest) = (evs ++ (run de rl .hdr0 rest).1, (run de rl .hdr0 rest).2) := by
  rw [run_append, h]

/-- The one induction over frames and units (`run_inframes`, `run_units`): strings that each take
    the reader from idle to idle, concatenated. -/
theorem run_flatMap {α : Type} (bytes : α → List UInt8) (events : α → List (Ev M)) (us : List α)
    (h : ∀ u, u ∈ us → run de rl .hdr0 (bytes u) = (events u, .hdr0)) :
    run de rl .hdr0 (us.flatMap bytes) = (us.flatMap events, .hdr0) := by
  induction us with
  | nil => rfl
  | cons u us ih =>
    rw [List.flatMap_cons, List.flatMap_cons]
    exact run_trans de rl (h u List.mem_cons_self) (ih fun x hx => h x (List.mem_cons_of_mem _ hx))

theorem run_closed (why : CloseReason) (bs : List UInt8) :
    run de rl (.closed why) bs = ([], .closed why) := by
  induction bs with
  | nil => rfl
  | cons x xs ih => simp [run, step, ih]

theorem step_hdr3 (a b c d : UInt8) : step de rl (.hdr3 a b c) d = onHeader de rl a b c d := rfl

theorem run_header (h0 l0 l1 l2 : UInt8) (rest : List UInt8) :
    run de rl .hdr0 (h0 :: l0 :: l1 :: l2 :: rest) =
      ((onHeader de rl h0 l0 l1 l2).2 ++ (run de rl (onHeader de rl h0 l0 l1 l2).1 rest).1,
       (run de rl (onHeader de rl h0 l0 l1 l2).1 rest).2) := by
  have silent : ∀ {s s' : RState} {b : UInt8}, step de rl s b = (s', []) → ∀ bs,
      run de rl s (b :: bs) = run de rl s' bs := fun h bs => by rw [run_cons, h]; rfl
  rw [silent (s := .hdr0) rfl, silent (s := .hdr1 _) rfl, silent (s := .hdr2 _ _) rfl, run_cons,
    step_hdr3]

theorem run_header_short (bs : List UInt8) (h : bs.length < 4) :
    run de rl .hdr0 bs =
      ([], match bs with
           | [] => .hdr0
           | [a] => .hdr1 a
           | [a, b] => .hdr2 a b
           | a :: b :: c :: _ => .hdr3 a b c) := by
  match bs, h with
  | [], _ => rfl
  | [_], _ => rfl
  | [_, _], _ => rfl
  | [_, _, _], _ => rfl
  | _ :: _ :: _ :: _ :: _, h => simp at h; omega

/-! `body`, `pbody`, `echo` and `discard` all count a payload down: a family of states `S n acc`
  (`n + 1` bytes still owed, `acc` the bytes read so far, newest first) that a byte `b` moves from
  `S (n + 1) acc` to `S n (b :: acc)` with the events `ev b`. -/

theorem run_payload_short {S : Nat → List UInt8 → RState} {ev : UInt8 → List (Ev M)}
    (hS : ∀ n acc b, step de rl (S (n + 1) acc) b = (S n (b :: acc), ev b)) (p : List UInt8) :
    ∀ n acc, p.length ≤ n →
      run de rl (S n acc) p = (p.flatMap ev, S (n - p.length) (p.reverse ++ acc)) := by
  induction p with
  | nil => intro n acc _; rfl
  | cons x xs ih =>
    intro n acc h
    cases n with
    | zero => simp at h
    | succ n =>
      rw [run_cons, hS, ih n (x :: acc) (by simpa using h)]
      simp

/-- A complete payload `q ++ [b]`: counted down to `S 0`, then the step on the last byte. -/
theorem run_payload {S : Nat → List UInt8 → RState} {ev : UInt8 → List (Ev M)}
    (hS : ∀ n acc b, step de rl (S (n + 1) acc) b = (S n (b :: acc), ev b))
    (q : List UInt8) (b : UInt8) (acc rest : List UInt8) :
    run de rl (S q.length acc) (q ++ b :: rest) =
      (q.flatMap ev ++ (step de rl (S 0 (q.reverse ++ acc)) b).2 ++
          (run de rl (step de rl (S 0 (q.reverse ++ acc)) b).1 rest).1,
       (run de rl (step de rl (S 0 (q.reverse ++ acc)) b).1 rest).2) := by
  rw [run_append, run_payload_short de rl hS q _ _ (Nat.le_refl _), run_cons]
  simp

theorem run_echo (p : List UInt8) : ∀ (n : Nat) (rest : List UInt8), p.length = n + 1 →
    run de rl (.echo n) (p ++ rest) =
      (p.map (fun b => Ev.wrote [b]) ++ (run de rl .hdr0 rest).1, (run de rl .hdr0 rest).2) := by
  intro n rest h
  rcases List.eq_nil_or_concat p with rfl | ⟨q, b, rfl⟩
  · cases h
  · obtain rfl : q.length = n := by simpa using h
    rw [List.concat_eq_append, List.append_assoc, List.singleton_append,
      run_payload de rl (S := fun n _ => .echo n) (fun _ _ _ => rfl) q b [] rest]
    simp [step, ← List.map_eq_flatMap]

theorem run_echo_short (p : List UInt8) : ∀ (n : Nat), p.length ≤ n →
    run de rl (.echo n) p = (p.map (fun b => Ev.wrote [b]), .echo (n - p.length)) := by
  intro n h
  rw [run_payload_short de rl (S := fun n _ => .echo n) (fun _ _ _ => rfl) p n [] h,
    ← List.map_eq_flatMap]

theorem onPayload_eq (p : List UInt8) : onPayload de p = (.hdr0, payloadEvents de p) := by
  unfold onPayload payloadEvents
  cases de p <;> rfl

end

theorem readerCase_frameType (h0 : UInt8) :
    Gen.readerCase (Gen.frameType h0) =
      if h0.toNat % 8 = 0 then .msg else if h0.toNat % 8 = 1 then .ping
      else if h0.toNat % 8 = 2 then .pong else .reserved := by
  have h : (h0 &&& 7).toNat = h0.toNat % 8 :=
    (UInt8.toNat_and h0 7).trans (Nat.and_two_pow_sub_one_eq_mod h0.toNat 3)
  have e : ∀ k : UInt8, h0 &&& 7 = k ↔ h0.toNat % 8 = k.toNat := fun k => h ▸ UInt8.toNat_inj.symm
  unfold Gen.frameType Gen.readerCase
  simp only [e]
  rfl

section
variable {M : Type} (de : List UInt8 → Option M) (rl : Int)

/-- `n` is the announced length; `bytesToInt_beNat` provides one for any three bytes. -/
theorem onHeader_eq (h0 : UInt8) {l0 l1 l2 : UInt8} {n : Nat}
    (hn : Gen.bytesToInt [l0, l1, l2] = Int.ofNat n) :
    onHeader de rl h0 l0 l1 l2 =
      if Gen.bytesToInt [l0, l1, l2] > rl then (.closed .oversize, [])
      else if h0.toNat % 8 = 0 then
        (if n = 0 then (.hdr0, payloadEvents de []) else (.body (n - 1) [], []))
      else if h0.toNat % 8 = 1 then
        (if n = 0 then (.hdr0, [.wrote [2, l0, l1, l2]]) else (.pbody l0 l1 l2 (n - 1) [], []))
      else if h0.toNat % 8 = 2 then (if n = 0 then .hdr0 else .discard (n - 1), [])
      else (.closed .reservedType, []) := by
  have e : (Int.ofNat n).toNat = n := rfl
  unfold onHeader
  simp only [readerCase_frameType, Gen.recvOversize, decide_eq_true_eq, hn, e, onPayload_eq, onPing,
    Gen.pongAfterPayload, Gen.pongType]
  by_cases c0 : h0.toNat % 8 = 0
  · simp only [if_pos c0]
  · by_cases c1 : h0.toNat % 8 = 1
    · simp only [if_neg c0, if_pos c1]
    · by_cases c2 : h0.toNat % 8 = 2
      · simp only [if_neg c0, if_neg c1, if_pos c2]
      · simp only [if_neg c0, if_neg c1, if_neg c2]

theorem run_frame (h0 l0 l1 l2 : UInt8) (p : List UInt8) (ht : h0.toNat % 8 ≤ 2)
    (hn : Gen.bytesToInt [l0, l1, l2] = Int.ofNat p.length) (hle : (p.length : Int) ≤ rl) :
    run de rl .hdr0 (h0 :: l0 :: l1 :: l2 :: p) =
      (if h0.toNat % 8 = 0 then payloadEvents de p
        else if h0.toNat % 8 = 1 then [.wrote (2 :: l0 :: l1 :: l2 :: p)] else [], .hdr0) := by
  rw [run_header, onHeader_eq de rl h0 hn, if_neg (by rw [hn]; exact Int.not_lt.mpr hle)]
  have t : h0.toNat % 8 = 0 ∨ h0.toNat % 8 = 1 ∨ h0.toNat % 8 = 2 := by omega
  rcases List.eq_nil_or_concat p with rfl | ⟨q, b, rfl⟩
  · rcases t with t | t | t <;> simp [t, run]
  · have hlast := fun S hS => run_payload de rl (S := S) (ev := fun _ => []) hS q b [] []
    rcases t with t | t | t
    · simp [t, step, run, onPayload_eq, hlast .body fun _ _ _ => rfl]
    · simp [t, step, run, Gen.pongType, hlast (.pbody l0 l1 l2) fun _ _ _ => rfl]
    · simp [t, step, run, hlast (fun n _ => .discard n) fun _ _ _ => rfl]

theorem run_frame_truncated (h0 l0 l1 l2 : UInt8) (n : Nat) (p : List UInt8)
    (ht : h0.toNat % 8 ≤ 2) (hn : Gen.bytesToInt [l0, l1, l2] = Int.ofNat n) (hle : (n : Int) ≤ rl)
    (hp : p.length < n) :
    run de rl .hdr0 (h0 :: l0 :: l1 :: l2 :: p) =
      ([], if h0.toNat % 8 = 0 then .body (n - 1 - p.length) p.reverse
           else if h0.toNat % 8 = 1 then .pbody l0 l1 l2 (n - 1 - p.length) p.reverse
           else .discard (n - 1 - p.length)) := by
  rw [run_header, onHeader_eq de rl h0 hn, if_neg (by rw [hn]; exact Int.not_lt.mpr hle)]
  have t : h0.toNat % 8 = 0 ∨ h0.toNat % 8 = 1 ∨ h0.toNat % 8 = 2 := by omega
  have hn0 : n ≠ 0 := by omega
  have hshort := fun S hS =>
    run_payload_short de rl (S := S) (ev := fun _ => []) hS p (n - 1) [] (by omega)
  rcases t with t | t | t
  · simp [t, hn0, hshort .body fun _ _ _ => rfl]
  · simp [t, hn0, hshort (.pbody l0 l1 l2) fun _ _ _ => rfl]
  · simp [t, hn0, hshort (fun n _ => .discard n) fun _ _ _ => rfl]

theorem run_bad_header (h0 l0 l1 l2 : UInt8) (rest : List UInt8)
    (hbad : Gen.bytesToInt [l0, l1, l2] > rl ∨ 3 ≤ h0.toNat % 8) :
    run de rl .hdr0 (h0 :: l0 :: l1 :: l2 :: rest) =
      ([], .closed (if Gen.bytesToInt [l0, l1, l2] > rl then .oversize else .reservedType)) := by
  rw [run_header, onHeader_eq de rl h0 (bytesToInt_beNat l0 l1 l2)]
  by_cases ho : Gen.bytesToInt [l0, l1, l2] > rl
  · rw [if_pos ho, if_pos ho, run_closed]; rfl
  · have h3 : 3 ≤ h0.toNat % 8 := hbad.resolve_left ho
    rw [if_neg ho, if_neg ho, if_neg (by omega), if_neg (by omega), if_neg (by omega), run_closed]
    rfl

theorem delivered_append (a b : List (Ev M)) : delivered (a ++ b) = delivered a ++ delivered b := by
  induction a with
  | nil => rfl
  | cons e es ih => cases e <;> simp [delivered, ih]

theorem written_append (a b : List (Ev M)) : written (a ++ b) = written a ++ written b := by
  induction a with
  | nil => rfl
  | cons e es ih => cases e <;> simp [written, ih]

theorem nilCount_append (a b : List (Ev M)) : nilCount (a ++ b) = nilCount a + nilCount b := by
  induction a with
  | nil => simp [nilCount]
  | cons e es ih => cases e <;> simp [nilCount, ih] <;> omega

theorem delivered_payloadEvents (ps : List (List UInt8)) :
    delivered (ps.flatMap (payloadEvents de)) = ps.filterMap de := by
  induction ps with
  | nil => rfl
  | cons p ps ih =>
    rw [List.flatMap_cons, delivered_append, ih, List.filterMap_cons]
    unfold payloadEvents
    cases de p <;> simp [delivered]

theorem written_payloadEvents (ps : List (List UInt8)) :
    written (ps.flatMap (payloadEvents de)) = [] := by
  induction ps with
  | nil => rfl
  | cons p ps ih =>
    rw [List.flatMap_cons, written_append, ih]
    unfold payloadEvents
    cases de p <;> simp [written]

theorem written_map_wrote (p : List UInt8) : written (p.map (fun b => (Ev.wrote [b] : Ev M))) = p := by
  induction p with
  | nil => rfl
  | cons x xs ih => simp [written, ih]

theorem delivered_map_wrote (p : List UInt8) : delivered (p.map (fun b => (Ev.wrote [b] : Ev M))) = [] := by
  induction p with
  | nil => rfl
  | cons x xs ih => simp [delivered, ih]

def RState.sawEOF : RState → Bool
  | .closed (.eof _) => true
  | _ => false

theorem nilCount_payloadEvents (p : List UInt8) : nilCount (payloadEvents de p) = 0 := by
  unfold payloadEvents; cases de p <;> rfl

/-- A byte never makes the reader hand over a nil message (the type switch has a default
    clause: `Gen.readerCase` is never `fallthroughNil`), and never makes it "see" an end of
    stream: only the `eof` input does.  The two facts are unrelated; they come out of the same
    walk over the states of `step`. -/
theorem step_no_nil_no_eof (s : RState) (b : UInt8) :
    nilCount (step de rl s b).2 = 0 ∧ (step de rl s b).1.sawEOF = s.sawEOF := by
  cases s with
  | hdr3 h0 l0 l1 =>
    have hne : Gen.readerCase (Gen.frameType h0) ≠ .fallthroughNil := by
      rw [readerCase_frameType]
      repeat' split
      all_goals simp
    rw [step_hdr3]
    unfold onHeader
    generalize Gen.bytesToInt [l0, l1, b] = len
    generalize Gen.readerCase (Gen.frameType h0) = k at hne
    by_cases ho : Gen.recvOversize len rl = true
    · simp only [ho, if_true]
      exact ⟨rfl, rfl⟩
    · by_cases hz : len.toNat = 0 <;> cases k <;>
        simp only [ho, hz, if_true, if_false, onPayload_eq, onPing, Gen.pongAfterPayload] <;>
        first | exact ⟨rfl, rfl⟩ | exact ⟨nilCount_payloadEvents de [], rfl⟩ | exact absurd rfl hne
  | body n acc =>
    cases n with
    | zero =>
      show nilCount (onPayload de (b :: acc).reverse).2 = 0 ∧ (onPayload de (b :: acc).reverse).1.sawEOF = false
      rw [onPayload_eq]; exact ⟨nilCount_payloadEvents de _, rfl⟩
    | succ n => exact ⟨rfl, rfl⟩
  | pbody _ _ _ n _ | echo n | discard n => cases n <;> exact ⟨rfl, rfl⟩
  | hdr0 | hdr1 _ | hdr2 _ _ | closed _ => exact ⟨rfl, rfl⟩

theorem run_sawEOF (s : RState) (bs : List UInt8) : (run de rl s bs).2.sawEOF = s.sawEOF := by
  induction bs generalizing s with
  | nil => rfl
  | cons b bs ih => rw [run_cons]; simp only [ih, (step_no_nil_no_eof de rl s b).2]

def mapEv : Ev (List UInt8) → List (Ev M)
  | .deliver p => payloadEvents de p
  | .deliverNil => [.deliverNil]
  | .wrote bs => [.wrote bs]

theorem step_map (s : RState) (b : UInt8) :
    step de rl s b =
      ((step (M := List UInt8) some rl s b).1, (step (M := List UInt8) some rl s b).2.flatMap (mapEv de)) := by
  cases s with
  | hdr3 h0 l0 l1 =>
    rw [step_hdr3, step_hdr3]
    unfold onHeader
    generalize Gen.bytesToInt [l0, l1, b] = len
    generalize Gen.readerCase (Gen.frameType h0) = k
    by_cases ho : Gen.recvOversize len rl = true
    · simp [ho]
    · by_cases hz : len.toNat = 0 <;> cases k <;>
        simp [ho, hz, onPayload_eq, onPing, Gen.pongAfterPayload, mapEv, payloadEvents]
  | body n acc =>
    cases n with
    | zero =>
      show onPayload de _ = ((onPayload some _).1, (onPayload some _).2.flatMap _)
      simp [onPayload_eq, mapEv, payloadEvents]
    | succ n => rfl
  | pbody _ _ _ n _ | echo n | discard n => cases n <;> rfl
  | hdr0 | hdr1 _ | hdr2 _ _ | closed _ => rfl

/-- Deserialisation is a parameter: the reader under a deserializer `de` is the reader under the
    identity deserializer with `de` applied to each payload it would hand over (undeserialisable
    ones vanish).  This is how the family `frames` compares the Lean model with the real codecs. -/
theorem run_map (s : RState) (bs : List UInt8) :
    run de rl s bs =
      ((run (M := List UInt8) some rl s bs).1.flatMap (mapEv de), (run (M := List UInt8) some rl s bs).2) := by
  induction bs generalizing s with
  | nil => rfl
  | cons b bs ih =>
    rw [run_cons, run_cons, step_map, ih]
    simp

theorem delivered_flatMap_mapEv (evs : List (Ev (List UInt8))) :
    delivered (evs.flatMap (mapEv de)) = (delivered evs).filterMap de := by
  induction evs with
  | nil => rfl
  | cons e es ih =>
    rw [List.flatMap_cons, delivered_append, ih]
    cases e with
    | deliver p =>
      simp only [mapEv, delivered, List.filterMap_cons]
      unfold payloadEvents
      cases de p <;> simp [delivered]
    | deliverNil => simp [mapEv, delivered]
    | wrote bs => simp [mapEv, delivered]

theorem written_flatMap_mapEv (evs : List (Ev (List UInt8))) :
    written (evs.flatMap (mapEv de)) = written evs := by
  induction evs with
  | nil => rfl
  | cons e es ih =>
    rw [List.flatMap_cons, written_append, ih]
    cases e with
    | deliver p =>
      simp only [mapEv, written]
      unfold payloadEvents
      cases de p <;> simp [written]
    | deliverNil => simp [mapEv, written]
    | wrote bs => simp [mapEv, written]

theorem runIn_cons (s : RState) (i : In) (is : List In) :
    runIn de rl s (i :: is) =
      ((stepIn de rl s i).2 ++ (runIn de rl (stepIn de rl s i).1 is).1,
       (runIn de rl (stepIn de rl s i).1 is).2) := rfl

theorem runIn_bytes (s : RState) (bs : List UInt8) :
    runIn de rl s (bs.map In.byte) = run de rl s bs := by
  induction bs generalizing s with
  | nil => rfl
  | cons b bs ih =>
    simp only [List.map_cons, runIn_cons, stepIn, ih, run_cons]

theorem runIn_append (s : RState) (a b : List In) :
    runIn de rl s (a ++ b) =
      ((runIn de rl s a).1 ++ (runIn de rl (runIn de rl s a).2 b).1,
       (runIn de rl (runIn de rl s a).2 b).2) := by
  induction a generalizing s with
  | nil => simp [runIn]
  | cons x xs ih =>
    simp only [List.cons_append, runIn_cons]
    rw [ih]
    simp [List.append_assoc]

theorem atEOF_closed (why : CloseReason) : atEOF (.closed why) = .closed why := rfl

theorem atEOF_isClosed (s : RState) : (atEOF s).isClosed = true := by
  cases s <;> rfl

theorem atEOF_idem (s : RState) : atEOF (atEOF s) = atEOF s := by
  cases s <;> rfl

/-- The reason after the end of the stream: the reader's own, if it had closed already;
    otherwise `eof`, flagged with "inside a frame". -/
theorem atEOF_eq (s : RState) :
    atEOF s = match s with
      | .closed why => .closed why
      | s => .closed (.eof s.inFrame) := by
  cases s <;> rfl

theorem atEOF_of_not_closed (s : RState) (h : s.isClosed = false) :
    atEOF s = .closed (.eof s.inFrame) := by
  cases s <;> first | rfl | cases h

theorem runIn_closed (why : CloseReason) (is : List In) :
    runIn de rl (.closed why) is = ([], .closed why) := by
  induction is with
  | nil => rfl
  | cons i is ih => cases i <;> simp [runIn, stepIn, step, atEOF, ih]

theorem runIn_eof_cons (s : RState) (is : List In) :
    runIn de rl s (In.eof :: is) = ([], atEOF s) := by
  rw [runIn_cons]
  simp only [stepIn, List.nil_append]
  have h := atEOF_isClosed s
  cases hs : atEOF s with
  | closed why => rw [runIn_closed]
  | _ => rw [hs] at h; cases h

theorem decodeStreamEOF_eq (bs : List UInt8) :
    decodeStreamEOF de rl bs = ((decodeStream de rl bs).1, atEOF (decodeStream de rl bs).2) := by
  rw [decodeStreamEOF, runIn_append, runIn_bytes]
  simp [runIn, stepIn, decodeStream]

end
end Nexus.Frame
