/-
  `AsID` (C19) on any platform and on any dynamic type.

  `Nexus.Ids.truncToInt64` fixes one platform's answer (amd64: `math.MinInt64`) for the
  float→int64 conversions the Go spec leaves implementation-defined (NaN, ±Inf, truncated value
  outside int64).  Here the platform is a parameter: `FloatConv` gives, per operand bit pattern,
  the value the platform's conversion yields in those cases (so operand-dependent answers such as
  arm64's saturation — NaN ↦ 0, too large ↦ MaxInt64, too small ↦ MinInt64 — are covered), and
  `asInt64P` / `asIDP` are `AsInt64` / `AsID` on that platform; `asIDP amd64 = asID` (`asIDP_amd64`).

  `GoVal` adds the "any other dynamic type" case of the type switch of `AsInt64`
  (`return 0, false`) on top of `GoNum`, and `asIDAny` is `AsID` on such a value.

  The headline theorems are in `Nexus.Props.C19`.  Core-only.
-/
import Nexus.Ids.Lemmas

namespace Nexus.Ids.WpD
open Nexus.Gen Nexus.Ids

/-- Does the exact truncation fit into int64?  (`none` = NaN/±Inf does not.)  Exactly when this is
    `false` Go's `int64(f)` is implementation-defined. -/
def fitsInt64 : Option Int → Bool
  | none => false
  | some t => decide (-(2 ^ 63 : Int) ≤ t ∧ t < 2 ^ 63)

/-- Go's `int64(f)` on a platform whose conversion yields `oor` for this operand when the result
    is implementation-defined. -/
def truncToInt64P (oor : Int64) : Option Int → Int64
  | none => oor
  | some t => if -(2 ^ 63 : Int) ≤ t ∧ t < 2 ^ 63 then Int64.ofInt t else oor

/-- A platform's answers in the implementation-defined cases, per operand bit pattern. -/
structure FloatConv where
  /-- `int64(f)` for a float64 operand with these bits, when NaN/±Inf/out of range -/
  oor64 : UInt64 → Int64
  /-- `int64(f)` for a float32 operand with these bits, when NaN/±Inf/out of range -/
  oor32 : UInt32 → Int64

/-- `wamp.AsInt64` on a numeric value, on platform `P`. -/
def asInt64P (P : FloatConv) : GoNum → Int64
  | .float64 b => truncToInt64P (P.oor64 b) (f64Trunc b)
  | .float32 b => truncToInt64P (P.oor32 b) (f32Trunc b)
  | n => asInt64 n

/-- `wamp.AsID` on a numeric value, on platform `P`. -/
def asIDP (P : FloatConv) (n : GoNum) : Option UInt64 := asIDOfInt64 (asInt64P P n)

/-- amd64 (CVTTSD2SQ / CVTTSS2SQ): always the "integer indefinite" value `MinInt64`. -/
def amd64 : FloatConv := ⟨fun _ => intIndefinite, fun _ => intIndefinite⟩

/-- arm64 (FCVTZS): NaN ↦ 0, otherwise saturation by sign.  (riscv64, ppc64, s390x, mips64, wasm
    and the 32-bit software conversions likewise only ever yield 0, MinInt64 or MaxInt64.) -/
def arm64 : FloatConv where
  oor64 b :=
    if b.toNat / 2 ^ 52 % 2 ^ 11 = 2047 ∧ b.toNat % 2 ^ 52 ≠ 0 then 0
    else if b.toNat / 2 ^ 63 = 1 then Int64.minValue else Int64.maxValue
  oor32 b :=
    if b.toNat / 2 ^ 23 % 2 ^ 8 = 255 ∧ b.toNat % 2 ^ 23 ≠ 0 then 0
    else if b.toNat / 2 ^ 31 = 1 then Int64.minValue else Int64.maxValue

/-- A hypothetical platform (none is known) whose conversion yields 7 in the undefined cases. -/
def hypothetical7 : FloatConv := ⟨fun _ => 7, fun _ => 7⟩

/-- "Every value the platform produces in an implementation-defined case lies outside
    `[1, 2^53]`" — the precise content of the trusted-base sentence "every platform's choice is
    rejected by AsID". -/
def FloatConv.Benign (P : FloatConv) : Prop :=
  (∀ b, fitsInt64 (f64Trunc b) = false → ¬ (1 ≤ (P.oor64 b).toInt ∧ (P.oor64 b).toInt ≤ 2 ^ 53)) ∧
  (∀ b, fitsInt64 (f32Trunc b) = false → ¬ (1 ≤ (P.oor32 b).toInt ∧ (P.oor32 b).toInt ≤ 2 ^ 53))

theorem truncToInt64P_amd64 (t : Option Int) : truncToInt64P intIndefinite t = truncToInt64 t := by
  cases t <;> rfl

theorem truncToInt64P_fits (oor : Int64) (t : Option Int) (h : fitsInt64 t = true) :
    truncToInt64P oor t = truncToInt64 t := by
  cases t with
  | none => simp [fitsInt64] at h
  | some t =>
    have h' : -(2 ^ 63 : Int) ≤ t ∧ t < 2 ^ 63 := by simpa [fitsInt64] using h
    simp only [truncToInt64P, truncToInt64, if_pos h']

theorem truncToInt64P_oor (oor : Int64) (t : Option Int) (h : fitsInt64 t = false) :
    truncToInt64P oor t = oor := by
  cases t with
  | none => rfl
  | some t =>
    have h' : ¬ (-(2 ^ 63 : Int) ≤ t ∧ t < 2 ^ 63) := by simpa [fitsInt64] using h
    simp only [truncToInt64P, if_neg h']

theorem truncToInt64_oor (t : Option Int) (h : fitsInt64 t = false) :
    truncToInt64 t = intIndefinite := by
  rw [← truncToInt64P_amd64, truncToInt64P_oor _ _ h]

theorem intIndefinite_rejected : asIDOfInt64 intIndefinite = none := by decide

/-- The three values real conversion instructions yield are all outside `[1, 2^53]`. -/
theorem known_values_outside (v : Int64) (h : v = 0 ∨ v = Int64.minValue ∨ v = Int64.maxValue) :
    ¬ (1 ≤ v.toInt ∧ v.toInt ≤ 2 ^ 53) := by
  rcases h with rfl | rfl | rfl
  · have : (0 : Int64).toInt = 0 := rfl
    omega
  · rw [Int64.toInt_minValue]; omega
  · have : Int64.maxValue.toInt = 2 ^ 63 - 1 := by decide
    omega

theorem amd64_benign : amd64.Benign :=
  ⟨fun _ _ => known_values_outside _ (Or.inr (Or.inl rfl)),
   fun _ _ => known_values_outside _ (Or.inr (Or.inl rfl))⟩

theorem arm64_benign : arm64.Benign := by
  constructor <;> intro b _ <;> apply known_values_outside <;> simp only [arm64]
  all_goals
    split
    · exact Or.inl rfl
    · split
      · exact Or.inr (Or.inl rfl)
      · exact Or.inr (Or.inr rfl)

theorem asIDP_eq_asID (P : FloatConv) (hP : P.Benign) (n : GoNum) : asIDP P n = asID n := by
  have key : ∀ (oor : Int64) (t : Option Int),
      (fitsInt64 t = false → ¬ (1 ≤ oor.toInt ∧ oor.toInt ≤ 2 ^ 53)) →
      asIDOfInt64 (truncToInt64P oor t) = asIDOfInt64 (truncToInt64 t) := by
    intro oor t h
    cases hf : fitsInt64 t with
    | true => rw [truncToInt64P_fits _ _ hf]
    | false =>
      rw [truncToInt64P_oor _ _ hf, truncToInt64_oor _ hf, intIndefinite_rejected]
      exact (asIDOfInt64_none_iff _).mpr (h hf)
  cases n with
  | float64 b => exact key _ _ (hP.1 b)
  | float32 b => exact key _ _ (hP.2 b)
  | _ => rfl

theorem asIDP_amd64 (n : GoNum) : asIDP amd64 n = asID n := asIDP_eq_asID _ amd64_benign n

/-- A Go value as `AsInt64`'s type switch sees it: one of the nine numeric representations, or
    anything else (int8/int16/uint8/uint16, string, nil, json.Number, bool, list, map, …). -/
inductive GoVal where
  | num (n : GoNum)
  | other
  deriving Repr

/-- `wamp.AsInt64` on any value: `(value, ok)`; the fall-through of the switch is `0, false`. -/
def asInt64Any : GoVal → Int64 × Bool
  | .num n => (asInt64 n, true)
  | .other => (0, false)

/-- `wamp.AsID` on any value: `if i64, ok := AsInt64(v); ok { if in range { return ID(i64), true } };
    return 0, false`. -/
def asIDAny (v : GoVal) : Option UInt64 :=
  let r := asInt64Any v
  if r.2 then asIDOfInt64 r.1 else none

end Nexus.Ids.WpD
