/-
  The arithmetic content of the generated id functions (C19): Go's integer conversions on the fixed-width
  types, `IDGen.Next` and `IsNewRecvID` in natural numbers, the counter after `k` calls of `Next` in closed
  form, the least number of `Next` steps between two ids, and the link between `nextIter` (iteration from an
  arbitrary counter) and `idGenState` (iteration from the fresh generator).
-/
import Nexus.Ids.Model

namespace Nexus.Ids
open Nexus.Gen

theorem toInt_toInt64 (u : UInt64) :
    u.toInt64.toInt = if u.toNat < 2 ^ 63 then (u.toNat : Int) else (u.toNat : Int) - 2 ^ 64 := by
  have h : u.toInt64.toInt = u.toBitVec.toInt := rfl
  rw [h, BitVec.toInt_eq_toNat_cond]
  simp only [UInt64.toNat_toBitVec]
  split <;> split <;> omega

theorem toNat_toUInt64 (i : Int64) :
    (i.toUInt64.toNat : Int) = if 0 ≤ i.toInt then i.toInt else i.toInt + 2 ^ 64 := by
  have h₁ : i.toInt = i.toBitVec.toInt := rfl
  have h₂ : i.toUInt64.toNat = i.toBitVec.toNat := rfl
  have h₃ := i.toBitVec.isLt
  rw [h₁, h₂, BitVec.toInt_eq_toNat_cond]
  split <;> split <;> omega

theorem maxID_u64_toNat : MaxID_u64.toNat = 2 ^ 53 := by decide
theorem maxID_i64_toInt : MaxID_i64.toInt = 2 ^ 53 := by decide
theorem deltaID_u64_toNat : deltaID_u64.toNat = 500 := by decide
theorem maxID_eq : MaxID = 2 ^ 53 := by decide
theorem deltaID_eq : deltaID = 500 := by decide

/-- `Next` stores the id it returns. -/
theorem idGenNext_fst (s : UInt64) : (idGenNext s).1 = (idGenNext s).2 := rfl

theorem idGenSeq_eq_idGenState (n : Nat) : idGenSeq n = idGenState (n + 1) := rfl

theorem idGenNext_toNat (s : UInt64) :
    (idGenNext s).2.toNat = if (s.toNat + 1) % 2 ^ 64 > 2 ^ 53 then 1 else (s.toNat + 1) % 2 ^ 64 := by
  simp only [idGenNext]
  by_cases h : s + 1 > MaxID_u64
  · have h' := UInt64.lt_iff_toNat_lt.mp h
    rw [maxID_u64_toNat, UInt64.toNat_add] at h'
    simp only [h, decide_true, if_true]
    have : (1 : UInt64).toNat = 1 := rfl
    simp at h' ⊢
    omega
  · have h' : ¬ (MaxID_u64.toNat < (s + 1).toNat) := fun hh => h (UInt64.lt_iff_toNat_lt.mpr hh)
    rw [maxID_u64_toNat, UInt64.toNat_add] at h'
    simp only [h, decide_false]
    simp at h' ⊢
    omega

theorem isNewRecvID_iff (last id : UInt64) (hlast : last.toNat ≤ 2 ^ 53) :
    isNewRecvID last id = true ↔
      (1 ≤ id.toNat ∧ id.toNat ≤ 2 ^ 53) ∧
      (last.toNat = 0 ∨ id.toNat > last.toNat ∨
        (id.toNat < last.toNat ∧ 2 ^ 53 - (last.toNat - id.toNat) < 500)) := by
  have hsub : id.toNat < last.toNat →
      (MaxID_u64 - (last - id)).toNat = 2 ^ 53 - (last.toNat - id.toNat) := by
    intro hlt
    have h1 : (last - id).toNat = last.toNat - id.toNat :=
      UInt64.toNat_sub_of_le _ _ (UInt64.le_iff_toNat_le.mpr (by omega))
    have h2 : (last - id) ≤ MaxID_u64 := UInt64.le_iff_toNat_le.mpr (by rw [h1, maxID_u64_toNat]; omega)
    rw [UInt64.toNat_sub_of_le _ _ h2, h1, maxID_u64_toNat]
  have h0 : (0 : UInt64).toNat = 0 := rfl
  simp only [isNewRecvID, Bool.or_eq_true, beq_iff_eq, decide_eq_true_eq, ← UInt64.toNat_inj,
    UInt64.lt_iff_toNat_lt, GT.gt, maxID_u64_toNat, deltaID_u64_toNat, h0]
  split
  · simp only [Bool.false_eq_true, false_iff]; omega
  · split
    · simp only [true_iff]; omega
    · split
      · simp only [true_iff]; omega
      · split
        · simp only [Bool.false_eq_true, false_iff]; omega
        · rw [decide_eq_true_eq, hsub (by omega)]; omega

theorem updateLastRecvID_eq (last id : UInt64) :
    updateLastRecvID last id = (if isNewRecvID last id then id else last, isNewRecvID last id) := by
  simp only [updateLastRecvID]
  split <;> simp_all

theorem asIDInRange_iff (v : Int64) : asIDInRange v = true ↔ 1 ≤ v.toInt ∧ v.toInt ≤ 2 ^ 53 := by
  simp only [asIDInRange, Bool.and_eq_true, decide_eq_true_eq, GT.gt, Int64.lt_iff_toInt_lt,
    Int64.le_iff_toInt_le, maxID_i64_toInt]
  have : (0 : Int64).toInt = 0 := rfl
  rw [this]; omega

theorem asIDOfInt64_iff (v : Int64) (id : UInt64) :
    asIDOfInt64 v = some id ↔ (1 ≤ v.toInt ∧ v.toInt ≤ 2 ^ 53) ∧ (id.toNat : Int) = v.toInt := by
  simp only [asIDOfInt64]
  by_cases h : asIDInRange v = true
  · have hr := (asIDInRange_iff v).mp h
    simp only [h, if_true, Option.some.injEq]
    have hc := toNat_toUInt64 v
    rw [if_pos (by omega)] at hc
    constructor
    · rintro rfl; exact ⟨hr, hc⟩
    · rintro ⟨_, hid⟩
      apply UInt64.toNat_inj.mp
      omega
  · have hr : ¬ (1 ≤ v.toInt ∧ v.toInt ≤ 2 ^ 53) := fun hh => h ((asIDInRange_iff v).mpr hh)
    simp [h]; omega

theorem asIDOfInt64_none_iff (v : Int64) :
    asIDOfInt64 v = none ↔ ¬ (1 ≤ v.toInt ∧ v.toInt ≤ 2 ^ 53) := by
  simp only [asIDOfInt64, ← asIDInRange_iff]
  split <;> simp_all

theorem truncToInt64_toInt (t : Option Int) :
    (truncToInt64 t).toInt =
      match t with
      | none => -2 ^ 63
      | some t => if -(2 ^ 63 : Int) ≤ t ∧ t < 2 ^ 63 then t else -2 ^ 63 := by
  cases t with
  | none => exact Int64.toInt_minValue
  | some t =>
    simp only [truncToInt64]
    split
    · rename_i h; exact Int64.toInt_ofInt_of_le h.1 h.2
    · exact Int64.toInt_minValue

theorem recvRun_append (s : UInt64) (a b : List UInt64) :
    recvRun s (a ++ b) = ((recvRun s a).1 ++ (recvRun (recvRun s a).2 b).1, (recvRun (recvRun s a).2 b).2) := by
  induction a generalizing s with
  | nil => rfl
  | cons x a ih => simp only [List.cons_append, recvRun, ih]

end Nexus.Ids

namespace Nexus.Ids.WpD
open Nexus.Gen Nexus.Ids

theorem next_fst_toNat (s : UInt64) (hs : s.toNat ≤ 2 ^ 53) :
    (idGenNext s).1.toNat = if s.toNat = 2 ^ 53 then 1 else s.toNat + 1 := by
  rw [idGenNext_fst, idGenNext_toNat]
  have : (s.toNat + 1) % 2 ^ 64 = s.toNat + 1 := Nat.mod_eq_of_lt (by omega)
  rw [this]
  split <;> split <;> omega

theorem nextIter_succ' (k : Nat) (s : UInt64) :
    nextIter (k + 1) s = (idGenNext (nextIter k s)).1 := by
  induction k generalizing s with
  | zero => rfl
  | succ k ih =>
    show nextIter (k + 1) (idGenNext s).1 = _
    rw [ih]; rfl

theorem nextIter_add (j k : Nat) (s : UInt64) : nextIter (j + k) s = nextIter k (nextIter j s) := by
  induction j generalizing s with
  | zero => simp [nextIter]
  | succ j ih =>
    have : j + 1 + k = (j + k) + 1 := by omega
    rw [this]
    show nextIter (j + k) (idGenNext s).1 = nextIter k (nextIter j (idGenNext s).1)
    exact ih _

theorem nextIter_closed (k : Nat) (s : UInt64) (h1 : 1 ≤ s.toNat) (h2 : s.toNat ≤ 2 ^ 53) :
    (nextIter k s).toNat = (s.toNat - 1 + k) % 2 ^ 53 + 1 := by
  induction k generalizing s with
  | zero => simp only [nextIter]; omega
  | succ k ih =>
    have e := next_fst_toNat s h2
    have hr : 1 ≤ (idGenNext s).1.toNat ∧ (idGenNext s).1.toNat ≤ 2 ^ 53 := by
      rw [e]; split <;> omega
    simp only [nextIter]
    rw [ih _ hr.1 hr.2, e]
    split <;> omega

/-- Closed form from the fresh generator (counter 0, whose first call yields 1): after `k + 1` calls the
    counter is `k mod 2^53 + 1`. -/
theorem nextIter_fresh (k : Nat) : (nextIter (k + 1) 0).toNat = k % 2 ^ 53 + 1 := by
  show (nextIter k (idGenNext 0).1).toNat = _
  rw [show (idGenNext 0).1 = 1 by decide, nextIter_closed k 1 (by decide) (by decide)]
  simp [show (1 : UInt64).toNat = 1 from rfl]

theorem nextIter_range (k : Nat) (s : UInt64) (h2 : s.toNat ≤ 2 ^ 53) (hk : 1 ≤ k ∨ 1 ≤ s.toNat) :
    1 ≤ (nextIter k s).toNat ∧ (nextIter k s).toNat ≤ 2 ^ 53 := by
  by_cases h1 : 1 ≤ s.toNat
  · rw [nextIter_closed k s h1 h2]; omega
  · have hs0 : s = 0 := UInt64.toNat_inj.mp (by
      have : (0 : UInt64).toNat = 0 := rfl
      omega)
    subst hs0
    obtain ⟨j, rfl⟩ : ∃ j, k = j + 1 := ⟨k - 1, by omega⟩
    rw [nextIter_fresh]; omega

theorem idGenState_eq_nextIter (n : Nat) : idGenState n = nextIter n 0 := by
  induction n with
  | zero => rfl
  | succ n ih => rw [nextIter_succ', ← ih]; rfl

theorem idGenSeq_eq_nextIter (n : Nat) : idGenSeq n = nextIter (n + 1) 0 := by
  rw [nextIter_succ', ← idGenState_eq_nextIter, idGenSeq_eq_idGenState]; rfl

/-- The number of `Next` steps that lead from the id `last` to the id `id`, as a residue:
    `(id − last) mod 2^53` (`0` when they are equal). -/
def stepsTo (last id : Nat) : Nat := (id + 2 ^ 53 - last) % 2 ^ 53

/-- Exactly which step counts lead from `last` to `id` (both issued ids): those congruent to
    `stepsTo last id` modulo the cycle length `2^53`. -/
theorem nextIter_eq_iff (k : Nat) (last id : UInt64)
    (h1 : 1 ≤ last.toNat) (hl : last.toNat ≤ 2 ^ 53)
    (hi1 : 1 ≤ id.toNat) (hi2 : id.toNat ≤ 2 ^ 53) :
    nextIter k last = id ↔ k % 2 ^ 53 = stepsTo last.toNat id.toNat := by
  rw [← UInt64.toNat_inj, nextIter_closed k last h1 hl]
  unfold stepsTo
  omega

end Nexus.Ids.WpD
