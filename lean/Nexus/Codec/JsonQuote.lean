/-
  What ugorji/go/codec v1.3.1 really writes for a JSON string.

  `Json.enc` copies every byte ≥ 0x80 of a string raw.  The codec's `quoteStr`
  (json.go:399-470) does that only for bytes that belong to a valid UTF-8 encoding: at a byte
  ≥ 0x80 it calls `utf8.DecodeRuneInString`, and when that answers `(RuneError, 1)` it writes the
  six characters `\uFFFD` and advances by one byte (json.go:445-452); a valid encoding is copied
  raw (U+2028 / U+2029 as `\u2028` / `\u2029`, json.go:457-465) and skipped as a whole.

  `encReal` = `enc` with exactly that substitution, for strings and for dict keys.  It agrees
  with `enc` on the fragment `okB` (`encReal_eq_enc_of_okB`), so every round-trip theorem about
  `enc` is a theorem about `encReal` there; outside it does not round-trip
  (`dec_encReal_a80b`: "a\x80b" comes back as "a\uFFFDb").  Replayed on the implementation
  (JSONSerializer.SerializeDataItem("a\x80b") = `"a\uFFFDb"`).

  The codec's JSON *decoder* does not look at UTF-8 at all: `jsonReadAsisChars` (reader.go:777)
  copies everything up to the next `"` or `\`, and `ValidateUnicode` (off in the repo's handle,
  jsonserializer.go:16) only concerns `\u` escapes.  `Json.step` (`.chunk [b] r`) is faithful
  there: `dec_raw_a80b`.
-/
import Nexus.Codec.JsonProofs

namespace Nexus.Codec.Json

/-- `quoteStr` on the bytes of a Go string, after the opening quote. -/
def encStrBodyReal : Bytes → Bytes
  | [] => []
  | b0 :: r =>
    if b0.toNat < 0x80 then escByte b0 ++ encStrBodyReal r
    else
      match runeLen (b0 :: r), r with
      | 2, b1 :: r' => b0 :: b1 :: encStrBodyReal r'
      | 3, b1 :: b2 :: r' =>
        if b0.toNat = 0xe2 ∧ b1.toNat = 0x80 ∧ b2.toNat = 0xa8 then
          [0x5c, 0x75, 0x32, 0x30, 0x32, 0x38] ++ encStrBodyReal r'
        else if b0.toNat = 0xe2 ∧ b1.toNat = 0x80 ∧ b2.toNat = 0xa9 then
          [0x5c, 0x75, 0x32, 0x30, 0x32, 0x39] ++ encStrBodyReal r'
        else b0 :: b1 :: b2 :: encStrBodyReal r'
      | 4, b1 :: b2 :: b3 :: r' => b0 :: b1 :: b2 :: b3 :: encStrBodyReal r'
      -- `c == utf8.RuneError && size == 1`: write `\uFFFD`, advance one byte
      | _, r => [0x5c, 0x75, 0x46, 0x46, 0x46, 0x44] ++ encStrBodyReal r

def encStrReal (s : Bytes) : Bytes := 0x22 :: (encStrBodyReal s ++ [0x22])

mutual
  /-- `Json.enc` with the codec's real string writer. -/
  def encReal : CVal → Bytes
    | .null => [0x6e, 0x75, 0x6c, 0x6c]
    | .bool true => [0x74, 0x72, 0x75, 0x65]
    | .bool false => [0x66, 0x61, 0x6c, 0x73, 0x65]
    | .int i => encInt i
    | .float _ => [0x6e, 0x75, 0x6c, 0x6c]
    | .str s => encStrReal s
    | .bin _ => [0x6e, 0x75, 0x6c, 0x6c]
    | .list [] => [0x5b, 0x5d]
    | .list (v :: vs) => 0x5b :: (encReal v ++ encTailReal vs)
    | .dict [] => [0x7b, 0x7d]
    | .dict ((k, v) :: r) => 0x7b :: (encStrReal k ++ (0x3a :: (encReal v ++ encMembersReal r)))
  def encTailReal : List CVal → Bytes
    | [] => [0x5d]
    | v :: vs => 0x2c :: (encReal v ++ encTailReal vs)
  def encMembersReal : List (Bytes × CVal) → Bytes
    | [] => [0x7d]
    | (k, v) :: r => 0x2c :: (encStrReal k ++ (0x3a :: (encReal v ++ encMembersReal r)))
end

namespace WpD

theorem escByte_hi {b : UInt8} (h : 0x80 ≤ b.toNat) : escByte b = [b] :=
  escByte_plain (by omega) (by simp only [List.mem_cons, List.not_mem_nil, or_false]; omega)

/-- `encStrBody` looks ahead only at `E2`, the lead byte of U+2028 / U+2029. -/
theorem encStrBody_cons_ne {b : UInt8} (r : Bytes) (h : b.toNat ≠ 0xe2) :
    encStrBody (b :: r) = escByte b ++ encStrBody r := by
  match r with
  | [] => simp [encStrBody]
  | [c] => simp [encStrBody]
  | c :: d :: r' => rw [encStrBody, if_neg (fun hh => h hh.1), if_neg (fun hh => h hh.1)]

theorem encStrBody_cont {b : UInt8} (r : Bytes) (h : isCont b = true) :
    encStrBody (b :: r) = b :: encStrBody r := by
  simp [isCont] at h
  rw [encStrBody_cons_ne r (by omega), escByte_hi h.1]; rfl

theorem isCont_of_acc {c : Nat} {b : UInt8} (h1 : accLo c ≤ b.toNat) (h2 : b.toNat ≤ accHi c) :
    isCont b = true := by
  simp only [accLo, accHi] at h1 h2
  simp only [isCont, Bool.and_eq_true, decide_eq_true_eq]
  repeat' split at h1
  all_goals repeat' split at h2
  all_goals omega

/-- The shapes `runeLen` distinguishes at a lead byte `b0` ≥ 0x80 followed by `r`: the length of a
    valid encoding together with what it knows of its bytes, or `0`. -/
inductive RuneAt (b0 : UInt8) : Bytes → Nat → Prop
  | bad {r} : RuneAt b0 r 0
  | two {b1 r} : b0.toNat ≠ 0xe2 → isCont b1 = true → RuneAt b0 (b1 :: r) 2
  | three {b1 b2 r} : isCont b1 = true → isCont b2 = true → RuneAt b0 (b1 :: b2 :: r) 3
  | four {b1 b2 b3 r} : b0.toNat ≠ 0xe2 → isCont b1 = true → isCont b2 = true → isCont b3 = true →
      RuneAt b0 (b1 :: b2 :: b3 :: r) 4

theorem runeAt (b0 : UInt8) (r : Bytes) (hlo : ¬ b0.toNat < 0x80) : RuneAt b0 r (runeLen (b0 :: r)) := by
  unfold runeLen
  refine iteInduction (fun h => absurd h hlo) fun _ => iteInduction (fun _ => .bad) fun _ =>
    iteInduction (fun _ => ?_) fun _ => iteInduction (fun _ => ?_) fun _ => iteInduction (fun _ => ?_) fun _ => .bad
  · match r with
    | [] => exact .bad
    | b1 :: r' => exact iteInduction (fun hc => .two (by omega) hc) fun _ => .bad
  · match r with
    | [] | [_] => exact .bad
    | b1 :: b2 :: r' => exact iteInduction (fun hc => .three (isCont_of_acc hc.1 hc.2.1) hc.2.2) fun _ => .bad
  · match r with
    | [] | [_] | [_, _] => exact .bad
    | b1 :: b2 :: b3 :: r' =>
      exact iteInduction (fun hc => .four (by omega) (isCont_of_acc hc.1 hc.2.1) hc.2.2.1 hc.2.2.2) fun _ => .bad

/-- Induction along the way `utf8.DecodeRune` walks a byte string: an ASCII byte, a valid two-,
    three- or four-byte encoding, or one invalid byte at a time. -/
theorem rune_ind {P : Bytes → Prop} (nil : P [])
    (ascii : ∀ b r, b.toNat < 0x80 → runeLen (b :: r) = 1 → P r → P (b :: r))
    (two : ∀ b0 b1 r, ¬ b0.toNat < 0x80 → runeLen (b0 :: b1 :: r) = 2 → b0.toNat ≠ 0xe2 →
      isCont b1 = true → P r → P (b0 :: b1 :: r))
    (three : ∀ b0 b1 b2 r, ¬ b0.toNat < 0x80 → runeLen (b0 :: b1 :: b2 :: r) = 3 →
      isCont b1 = true → isCont b2 = true → P r → P (b0 :: b1 :: b2 :: r))
    (four : ∀ b0 b1 b2 b3 r, ¬ b0.toNat < 0x80 → runeLen (b0 :: b1 :: b2 :: b3 :: r) = 4 → b0.toNat ≠ 0xe2 →
      isCont b1 = true → isCont b2 = true → isCont b3 = true → P r → P (b0 :: b1 :: b2 :: b3 :: r))
    (bad : ∀ b r, ¬ b.toNat < 0x80 → runeLen (b :: r) = 0 → P r → P (b :: r)) :
    ∀ s, P s := by
  intro s
  generalize hn : s.length = n
  induction n using Nat.strongRecOn generalizing s with
  | _ n ih =>
    subst hn
    have ih : ∀ t : Bytes, t.length < s.length → P t := fun t h => ih _ h t rfl
    match s with
    | [] => exact nil
    | b0 :: r =>
      by_cases hlo : b0.toNat < 0x80
      · exact ascii b0 r hlo (by simp [runeLen, hlo]) (ih r (by simp))
      · have h := runeAt b0 r hlo
        generalize hk : runeLen (b0 :: r) = k at h
        cases h with
        | bad => exact bad b0 r hlo hk (ih r (by simp))
        | two hne h1 => exact two b0 _ _ hlo hk hne h1 (ih _ (by simp; omega))
        | three h1 h2 => exact three b0 _ _ _ hlo hk h1 h2 (ih _ (by simp; omega))
        | four hne h1 h2 h3 => exact four b0 _ _ _ _ hlo hk hne h1 h2 h3 (ih _ (by simp; omega))

theorem utf8OkB_0 {b : UInt8} {r : Bytes} (h : runeLen (b :: r) = 0) : utf8OkB (b :: r) = false := by
  rw [utf8OkB.eq_def]
  simp only []
  split <;> first | omega | rfl

theorem encStrBodyReal_1 {b : UInt8} {r : Bytes} (h : b.toNat < 0x80) :
    encStrBodyReal (b :: r) = escByte b ++ encStrBodyReal r := by
  rw [encStrBodyReal.eq_def]; simp only [if_pos h]

theorem encStrBodyReal_0 {b : UInt8} {r : Bytes} (hlo : ¬ b.toNat < 0x80) (h : runeLen (b :: r) = 0) :
    encStrBodyReal (b :: r) = [0x5c, 0x75, 0x46, 0x46, 0x46, 0x44] ++ encStrBodyReal r := by
  rw [encStrBodyReal.eq_def]
  simp only [if_neg hlo]
  split <;> first | omega | rfl

end WpD

open WpD in
theorem encStrBodyReal_eq_of_utf8 (s : Bytes) : utf8OkB s = true → encStrBodyReal s = encStrBody s := by
  induction s using rune_ind with
  | nil => intro _; simp [encStrBodyReal, encStrBody]
  | ascii b r hlo h1 ih =>
    intro hu
    simp only [utf8OkB, h1] at hu
    rw [encStrBodyReal_1 hlo, encStrBody_cons_ne r (by omega), ih hu]
  | two b0 b1 r hlo h2 hne hc1 ih =>
    intro hu
    simp only [utf8OkB, h2] at hu
    simp only [encStrBodyReal, if_neg hlo, h2]
    rw [encStrBody_cons_ne _ hne, escByte_hi (by omega), encStrBody_cont _ hc1, ih hu]
    rfl
  | three b0 b1 b2 r hlo h3 hc1 hc2 ih =>
    intro hu
    simp only [utf8OkB, h3] at hu
    simp only [encStrBodyReal, if_neg hlo, h3]
    rw [encStrBody, escByte_hi (by omega), encStrBody_cont _ hc1, encStrBody_cont _ hc2, ih hu]
    rfl
  | four b0 b1 b2 b3 r hlo h4 hne hc1 hc2 hc3 ih =>
    intro hu
    simp only [utf8OkB, h4] at hu
    simp only [encStrBodyReal, if_neg hlo, h4]
    rw [encStrBody_cons_ne _ hne, escByte_hi (by omega), encStrBody_cont _ hc1, encStrBody_cont _ hc2,
      encStrBody_cont _ hc3, ih hu]
    rfl
  | bad b r _ h0 _ => intro hu; rw [utf8OkB_0 h0] at hu; cases hu

theorem encStrReal_eq_of_utf8 (s : Bytes) (h : utf8OkB s = true) : encStrReal s = encStr s := by
  simp [encStrReal, encStr, encStrBodyReal_eq_of_utf8 s h]

mutual
  /-- **The model's encoder is the codec's on the fragment**: for every value in `okB` (strings and
      keys valid UTF-8) `encReal` — the bytes with the codec's U+FFFD substitution — equals `enc`.
      Hence `dec_enc` is a theorem about the real bytes there. -/
  theorem encReal_eq_enc_of_okB : ∀ (v : CVal), okB v = true → encReal v = enc v
    | .null, _ | .bool true, _ | .bool false, _ | .int _, _ | .float _, _ | .bin _, _ | .list [], _
    | .dict [], _ => rfl
    | .str s, h => by
        simp only [okB] at h
        simp [encReal, enc, encStrReal_eq_of_utf8 s h]
    | .list (v :: vs), h => by
        simp [okB, okListB] at h
        simp [encReal, enc, encReal_eq_enc_of_okB v h.1, encTailReal_eq vs h.2]
    | .dict ((k, v) :: r), h => by
        simp [okB, okDictB] at h
        simp [encReal, enc, encStrReal_eq_of_utf8 k h.2.1.1, encReal_eq_enc_of_okB v h.2.1.2,
          encMembersReal_eq r h.2.2]
  theorem encTailReal_eq : ∀ (vs : List CVal), okListB vs = true → encTailReal vs = encTail vs
    | [], _ => rfl
    | v :: vs, h => by
        simp [okListB] at h
        simp [encTailReal, encTail, encReal_eq_enc_of_okB v h.1, encTailReal_eq vs h.2]
  theorem encMembersReal_eq : ∀ (d : List (Bytes × CVal)), okDictB d = true → encMembersReal d = encMembers d
    | [], _ => rfl
    | (k, v) :: r, h => by
        simp [okDictB] at h
        simp [encMembersReal, encMembers, encStrReal_eq_of_utf8 k h.1.1, encReal_eq_enc_of_okB v h.1.2,
          encMembersReal_eq r h.2]
end

theorem dec_encReal (v : CVal) (rest : Bytes) (hv : okB v = true) (hr : NumSafe rest) :
    dec (encReal v ++ rest) = .ok (v, rest) := by
  rw [encReal_eq_enc_of_okB v hv]; exact dec_enc v rest hv hr

/-- The string JSON hands back for the Go string `s`: every byte that does not start a valid
    UTF-8 encoding replaced by U+FFFD (EF BF BD), valid encodings kept — Go's
    `string([]rune(s))`. -/
def sanitize : Bytes → Bytes
  | [] => []
  | b0 :: r =>
    match runeLen (b0 :: r), r with
    | 1, r => b0 :: sanitize r
    | 2, b1 :: r' => b0 :: b1 :: sanitize r'
    | 3, b1 :: b2 :: r' => b0 :: b1 :: b2 :: sanitize r'
    | 4, b1 :: b2 :: b3 :: r' => b0 :: b1 :: b2 :: b3 :: sanitize r'
    | _, r => 0xEF :: 0xBF :: 0xBD :: sanitize r

namespace WpD

theorem sanitize_0 {b : UInt8} {r : Bytes} (h : runeLen (b :: r) = 0) :
    sanitize (b :: r) = 0xEF :: 0xBF :: 0xBD :: sanitize r := by
  rw [sanitize.eq_def]
  simp only []
  split <;> first | omega | rfl

theorem reads_hi {b : UInt8} (h : 0x80 ≤ b.toNat) : Reads [b] [b] :=
  Reads.step (List.cons_ne_nil _ _) fun tail => by
    simp only [List.cons_append, List.nil_append, step]
    rw [if_neg (by omega), if_neg (by omega)]

theorem step_fffd (tail : Bytes) :
    step ([0x5c, 0x75, 0x46, 0x46, 0x46, 0x44] ++ tail) = .chunk [0xEF, 0xBF, 0xBD] tail := by
  simp [step, hexVal, utf8Enc]

theorem isCont_hi {b : UInt8} (h : isCont b = true) : 0x80 ≤ b.toNat := by
  simp [isCont] at h; exact h.1

end WpD

open WpD in
theorem reads_encStrBodyReal (s : Bytes) : Reads (encStrBodyReal s) (sanitize s) := by
  induction s using rune_ind with
  | nil => simp only [encStrBodyReal, sanitize]; exact Reads.nil
  | ascii b r hlo h1 ih =>
    rw [encStrBodyReal_1 hlo]
    simp only [sanitize, h1]
    exact (reads_escByte b).append ih
  | two b0 b1 r hlo h2 _ hc1 ih =>
    simp only [encStrBodyReal, sanitize, if_neg hlo, h2]
    exact (reads_hi (by omega)).append ((reads_hi (isCont_hi hc1)).append ih)
  | three b0 b1 b2 r hlo h3 hc1 hc2 ih =>
    simp only [encStrBodyReal, sanitize, if_neg hlo, h3]
    split
    · next h =>
      rw [eq_of_toNat h.1, eq_of_toNat h.2.1, eq_of_toNat h.2.2]
      exact (Reads.step (List.cons_ne_nil _ _) step_2028).append ih
    split
    · next h =>
      rw [eq_of_toNat h.1, eq_of_toNat h.2.1, eq_of_toNat h.2.2]
      exact (Reads.step (List.cons_ne_nil _ _) step_2029).append ih
    · exact (reads_hi (by omega)).append ((reads_hi (isCont_hi hc1)).append ((reads_hi (isCont_hi hc2)).append ih))
  | four b0 b1 b2 b3 r hlo h4 _ hc1 hc2 hc3 ih =>
    simp only [encStrBodyReal, sanitize, if_neg hlo, h4]
    exact (reads_hi (by omega)).append ((reads_hi (isCont_hi hc1)).append
      ((reads_hi (isCont_hi hc2)).append ((reads_hi (isCont_hi hc3)).append ih)))
  | bad b r hlo h0 ih =>
    rw [encStrBodyReal_0 hlo h0, sanitize_0 h0]
    exact (Reads.step (List.cons_ne_nil _ _) step_fffd).append ih

/-- **The real JSON round trip of a string, for every Go string**: what comes back is
    `sanitize s`. -/
theorem dec_encReal_str (s rest : Bytes) :
    dec (encReal (.str s) ++ rest) = .ok (.str (sanitize s), rest) := by
  rw [dec_eq_decVG]; exact decVG_quoted (reads_encStrBodyReal s) rest

open WpD in
theorem sanitize_length_ge : ∀ (s : Bytes), s.length ≤ (sanitize s).length := by
  intro s
  induction s using rune_ind with
  | nil => simp [sanitize]
  | ascii b r _ h1 ih => simp [sanitize, h1]; omega
  | two b0 b1 r _ h2 _ _ ih => simp [sanitize, h2]; omega
  | three b0 b1 b2 r _ h3 _ _ ih => simp [sanitize, h3]; omega
  | four b0 b1 b2 b3 r _ h4 _ _ _ _ ih => simp [sanitize, h4]; omega
  | bad b r _ h0 ih => rw [sanitize_0 h0]; simp; omega

open WpD in
theorem sanitize_eq_self_iff : ∀ (s : Bytes), sanitize s = s ↔ utf8OkB s = true := by
  intro s
  induction s using rune_ind with
  | nil => simp [sanitize, utf8OkB]
  | ascii b r _ h1 ih => simp [sanitize, utf8OkB, h1, ← ih]
  | two b0 b1 r _ h2 _ _ ih => simp [sanitize, utf8OkB, h2, ← ih]
  | three b0 b1 b2 r _ h3 _ _ ih => simp [sanitize, utf8OkB, h3, ← ih]
  | four b0 b1 b2 b3 r _ h4 _ _ _ _ ih => simp [sanitize, utf8OkB, h4, ← ih]
  | bad b r _ h0 _ =>
    rw [sanitize_0 h0, utf8OkB_0 h0]
    constructor
    · intro h
      have := congrArg List.length h
      have := sanitize_length_ge r
      simp at *; omega
    · intro h; cases h

/-- **Exactly the valid UTF-8 strings survive the codec's JSON**: the condition `utf8OkB` in
    `okB` is necessary, not only sufficient. -/
theorem dec_encReal_str_iff (s : Bytes) :
    dec (encReal (.str s)) = .ok (.str s, []) ↔ utf8OkB s = true := by
  have h := dec_encReal_str s []
  rw [List.append_nil] at h
  rw [h, ← sanitize_eq_self_iff]
  constructor
  · intro h1
    injection h1 with h1
    injection h1 with h1 _
    injection h1
  · intro h1; rw [h1]

/-- What the codec writes for the Go string "a\x80b": `"a\uFFFDb"` (replayed on the
    implementation: 22 61 5c 75 46 46 46 44 62 22). -/
theorem encReal_a80b :
    encReal (.str [0x61, 0x80, 0x62]) = [0x22, 0x61, 0x5c, 0x75, 0x46, 0x46, 0x46, 0x44, 0x62, 0x22] := by
  decide

/-- **Witness**: "a\x80b" does not survive JSON — it comes back as "a\uFFFDb"
    (61 EF BF BD 62). -/
theorem dec_encReal_a80b :
    dec (encReal (.str [0x61, 0x80, 0x62])) = .ok (.str [0x61, 0xEF, 0xBF, 0xBD, 0x62], []) := by
  rw [encReal_a80b]; rfl

/-- The decoder is not the culprit: it hands raw invalid bytes through, as the codec's does
    (`DeserializeDataItem("\"a\x80b\"")` gives the Go string "a\x80b"). -/
theorem dec_raw_a80b :
    dec [0x22, 0x61, 0x80, 0x62, 0x22] = .ok (.str [0x61, 0x80, 0x62], []) := by
  rfl

/-- "a\x80b" is outside the fragment, "aé" (61 C3 A9) is inside. -/
example : okB (.str [0x61, 0x80, 0x62]) = false ∧ okB (.str [0x61, 0xC3, 0xA9]) = true := by decide

end Nexus.Codec.Json
