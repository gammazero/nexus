/-
  JSON with floats and binaries.

  `Json.enc` / `Json.dec` stop at the fragment null / bool / integer / string / list / dict.
  This file adds what the real codec does with the two remaining kinds of value:

  * `[]byte` → `"` ++ base64 ++ `"` (ugorji json.go:278-323, `EncodeStringBytesRaw`;
    `Nexus/Codec/Base64.lean`); a JSON string comes back as a Go string, so a binary does not
    round-trip: `.bin b ↦ .str (B64.enc b)` (`binView`).  (A nil `[]byte` is written `null`;
    `CVal` has `.null` for that.)

  * floats, through an oracle (`FloatOrc`).  Printing and parsing decimal floats is Go's
    `strconv` (plus ugorji's own fast path) and is not modelled:
      - `fmt bits` = what `EncodeFloat64` writes for a finite float (json.go:203-210 with
        `jsonFloatStrconvFmtPrec64`, json.base.go:473-486): `strconv.AppendFloat(f, 'f', 1, 64)`
        when f is 0, ±1 or has no fraction and |f| < 2^52 (`3.0`, `-0.0`), `'e', -1` when
        |f| < 1e-6 or |f| ≥ 1e21 (`1e-07`, `1e+21`), `'f', -1` otherwise (`0.5`,
        `100000000000000000000`).  NaN and ±Inf are written `null` by the model itself.
      - `parse tok` = ugorji's `parseFloat64_custom` (decimal.go:235-247; falls back to
        `strconv.ParseFloat`) on a number token that `parseNumber` (decimal.go:336-374) does not
        read as an integer; `none` = the decode error.
    What the real functions are assumed to satisfy is the predicate `FloatOrc.Faithful`, stated
    per float as the decidable `faithfulAt` so that the codec family can evaluate it on sampled
    floats (driver request `jorc`).

  The lossy cases, modelled faithfully:
      - NaN, ±Inf → `null` → nil;
      - an integral float with 2^52 ≤ |f| < 2^64 is printed by `'f', -1` without a decimal point
        (`noFrac64` only looks below 2^52) as the shortest digits padded with zeros
        (2^63 → `9223372036854776000`), and comes back as an integer (uint64 / int64) — or, when
        negative and beyond -2^63, as a decode error (`-1e19` → `-10000000000000000000`:
        "strconv.ParseInt ... invalid syntax"; known finding);
      - from 2^64 up (still without a point below 1e21) the integer path overflows and the
        token is parsed as a float again: lossless.

  `decVG num` is `Json.decV` with the number-token function as a parameter
  (`decV_eq_decVG`: `decV = decVG decNumTok`); `decO orc = decVG (decNumTokO orc)`.
-/
import Nexus.Codec.Json
import Nexus.Codec.Base64

namespace Nexus.Codec.Json

/-- Decimal printing / parsing of binary64, as the codec calls Go's `strconv`. -/
structure FloatOrc where
  /-- bytes `EncodeFloat64` writes for a finite float (bit pattern) -/
  fmt : UInt64 → Bytes
  /-- `parseFloat64_custom` on a number token; `none` = error -/
  parse : Bytes → Option UInt64

/-- Neither NaN nor ±Inf: exponent field below 2047. -/
def isFinite (b : UInt64) : Bool := (b.toNat / 2 ^ 52) % 2048 != 2047

/-- Bit pattern of |f|. -/
def absBits (b : UInt64) : Nat := b.toNat % 2 ^ 63

/-- 2^52 ≤ |f| < 2^64 (for finite floats the bit patterns of |f| are ordered like the values;
    2^52 = 0x4330000000000000, 2^64 = 0x43F0000000000000): the floats that come back from JSON as
    integers. -/
def lossyIntegral (b : UInt64) : Bool :=
  decide (0x4330000000000000 ≤ absBits b) && decide (absBits b < 0x43F0000000000000)

/-- `-?(0|[1-9][0-9]*)` with magnitude below 2^64: the tokens `parseNumber` reads as an integer
    (`parseUint64_simple` succeeds). -/
def smallIntTok : Bytes → Bool
  | [] => false
  | b :: ds =>
    if b.toNat == 45 then plainDigits ds && decide (decNat ds < 18446744073709551616)
    else plainDigits (b :: ds) && decide (decNat (b :: ds) < 18446744073709551616)

/-- The oracle's answers for one float are what the real functions give: the printed form is a
    non-empty run of number characters with at least one digit (so the decoder's tokenizer reads
    it back whole), it is an integer token below 2^64 exactly for the floats in `lossyIntegral`,
    and for the others parsing it gives the float back.  (The real functions give the float back
    for every finite float; the family checks that too, the theorems do not need it.) -/
def FloatOrc.faithfulAt (orc : FloatOrc) (b : UInt64) : Bool :=
  (orc.fmt b).any isDigit && (orc.fmt b).all isNumChar
    && (lossyIntegral b || orc.parse (orc.fmt b) == some b)
    && (smallIntTok (orc.fmt b) == lossyIntegral b)

/-- What the codec's float printing and parsing are assumed to satisfy (sampled by the codec
    family on every run). -/
def FloatOrc.Faithful (orc : FloatOrc) : Prop := ∀ b, isFinite b = true → orc.faithfulAt b = true

def parseTok (orc : FloatOrc) (tok : Bytes) : DRes CVal :=
  match orc.parse tok with
  | some f => .ok (.float f)
  | none => .error .malformed

/-- `decNumTok` with the float path: `parseNumber` (decimal.go:336-374).  Still outside the value
    model: `-` and `-0` (an int64 zero, which the head check of `Deserialize` tells from the
    uint64 zero of `0`). -/
def decNumTokO (orc : FloatOrc) (tok : Bytes) : DRes CVal :=
  match tok with
  | [] => .error .malformed
  | b :: ds =>
    if b.toNat == 45 then
      if ds.isEmpty then .error .unsupported             -- "-": `parseUint64_simple("")` is 0, ok
      else if plainDigits ds then
        (if decNat ds = 0 then .error .unsupported
         else if decNat ds ≤ 9223372036854775808 then .ok (.int (-(decNat ds : Int)))
         else if decNat ds < 18446744073709551616 then .error .malformed   -- ParseInt overflows
         else parseTok orc tok)
      else parseTok orc tok
    else if plainDigits (b :: ds) then
      (if decNat (b :: ds) < 18446744073709551616 then .ok (.int (decNat (b :: ds))) else parseTok orc tok)
    else parseTok orc tok

/-- `Json.decV` over an arbitrary reading `num` of number tokens. -/
def decVG (num : Bytes → DRes CVal) : Nat → Bytes → DRes (CVal × Bytes)
  | 0, _ => .error .malformed
  | fuel + 1, bs =>
    match skipWs bs with
    | [] => .error .malformed
    | b :: r =>
      let c := b.toNat
      if c = 0x5b then
        match skipWs r with
        | [] => .error .malformed
        | d :: r' =>
          if d.toNat = 0x5d then .ok (.list [], r')
          else
            match decVG num fuel (d :: r') with
            | .error e => .error e
            | .ok (v, r'') =>
              match decTail (decVG num fuel) r''.length.succ r'' with
              | .ok (vs, r3) => .ok (.list (v :: vs), r3)
              | .error e => .error e
      else if c = 0x7b then
        match skipWs r with
        | [] => .error .malformed
        | d :: r' =>
          if d.toNat = 0x7d then .ok (.dict [], r')
          else
            match decMember (decVG num fuel) [] (d :: r') with
            | .error e => .error e
            | .ok (kv, r'') =>
              match decMembers (decVG num fuel) r''.length.succ [kv.1] r'' with
              | .ok (ps, r3) => .ok (.dict (kv :: ps), r3)
              | .error e => .error e
      else if c = 0x22 then
        match strBody (r.length + 1) r with
        | .ok (s, r') => .ok (.str s, r')
        | .error e => .error e
      else if c = 0x6e then lit [0x75, 0x6c, 0x6c] .null r
      else if c = 0x74 then lit [0x72, 0x75, 0x65] (.bool true) r
      else if c = 0x66 then lit [0x61, 0x6c, 0x73, 0x65] (.bool false) r
      else
        let tok := (b :: r).takeWhile isNumChar
        match num tok with
        | .ok v => .ok (v, (b :: r).dropWhile isNumChar)
        | .error e => .error e

theorem decV_eq_decVG : ∀ (fuel : Nat), decV fuel = decVG decNumTok fuel
  | 0 => by funext bs; simp [decV, decVG]
  | fuel + 1 => by
      funext bs
      simp only [decV, decVG, decV_eq_decVG fuel]
      rfl

/-- The JSON decoder with floats: `Json.dec` with `decNumTokO orc` for `decNumTok`. -/
def decO (orc : FloatOrc) (bs : Bytes) : DRes (CVal × Bytes) := decVG (decNumTokO orc) (bs.length + 1) bs

theorem dec_eq_decVG (bs : Bytes) : dec bs = decVG decNumTok (bs.length + 1) bs := by
  unfold dec; rw [decV_eq_decVG]

def nullLit : Bytes := [0x6e, 0x75, 0x6c, 0x6c]

/-- `EncodeFloat64`: NaN / ±Inf → `null`, everything else through `strconv`. -/
def encFloat (orc : FloatOrc) (b : UInt64) : Bytes := if isFinite b then orc.fmt b else nullLit

/-- `EncodeStringBytesRaw` for a non-nil `[]byte`. -/
def encBin (b : Bytes) : Bytes := 0x22 :: (B64.enc b ++ [0x22])

mutual
  /-- `Json.enc` with floats (oracle) and binaries (base64). -/
  def encO (orc : FloatOrc) : CVal → Bytes
    | .null => [0x6e, 0x75, 0x6c, 0x6c]
    | .bool true => [0x74, 0x72, 0x75, 0x65]
    | .bool false => [0x66, 0x61, 0x6c, 0x73, 0x65]
    | .int i => encInt i
    | .float b => encFloat orc b
    | .str s => encStr s
    | .bin b => encBin b
    | .list [] => [0x5b, 0x5d]
    | .list (v :: vs) => 0x5b :: (encO orc v ++ encTailO orc vs)
    | .dict [] => [0x7b, 0x7d]
    | .dict ((k, v) :: r) => 0x7b :: (encStr k ++ (0x3a :: (encO orc v ++ encMembersO orc r)))
  def encTailO (orc : FloatOrc) : List CVal → Bytes
    | [] => [0x5d]
    | v :: vs => 0x2c :: (encO orc v ++ encTailO orc vs)
  def encMembersO (orc : FloatOrc) : List (Bytes × CVal) → Bytes
    | [] => [0x7d]
    | (k, v) :: r => 0x2c :: (encStr k ++ (0x3a :: (encO orc v ++ encMembersO orc r)))
end

mutual
  /-- `okB` plus binaries (any) and the floats that come back as themselves: finite and not an
      integer of magnitude in [2^52, 2^64). -/
  def okFB : CVal → Bool
    | .null => true
    | .bool _ => true
    | .int i => decide (-(9223372036854775808 : Int) ≤ i) && decide (i < (18446744073709551616 : Int))
    | .float b => isFinite b && !lossyIntegral b
    | .str s => utf8OkB s
    | .bin _ => true
    | .list l => okFListB l
    | .dict d => noDupFrom [] d && okFDictB d
  def okFListB : List CVal → Bool
    | [] => true
    | v :: vs => okFB v && okFListB vs
  def okFDictB : List (Bytes × CVal) → Bool
    | [] => true
    | (k, v) :: r => utf8OkB k && okFB v && okFDictB r
end

mutual
  /-- No binary anywhere. -/
  def noBinB : CVal → Bool
    | .bin _ => false
    | .list l => noBinListB l
    | .dict d => noBinDictB d
    | _ => true
  def noBinListB : List CVal → Bool
    | [] => true
    | v :: vs => noBinB v && noBinListB vs
  def noBinDictB : List (Bytes × CVal) → Bool
    | [] => true
    | (_, v) :: r => noBinB v && noBinDictB r
end

mutual
  /-- What a value looks like after a JSON round trip, as far as binaries are concerned:
      `[]byte` has become the string of its base64 text. -/
  def binView : CVal → CVal
    | .bin b => .str (B64.enc b)
    | .list l => .list (binViewList l)
    | .dict d => .dict (binViewDict d)
    | v => v
  def binViewList : List CVal → List CVal
    | [] => []
    | v :: vs => binView v :: binViewList vs
  def binViewDict : List (Bytes × CVal) → List (Bytes × CVal)
    | [] => []
    | (k, v) :: r => (k, binView v) :: binViewDict r
end

end Nexus.Codec.Json
