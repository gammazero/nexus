/-
  Model of `msgToList` / `listToMsg` (transport/serialize/serializer.go) and of
  the head check each `Deserialize` performs, GENERIC over the schema that
  `gen` extracts from wamp/message.go (`Nexus.Gen.structs`, `Nexus.Gen.newMessage`).

  A Go message value `*wamp.T` is a `Msg`: the struct's schema and one `CVal`
  per field, where a nil `Dict`/`List` is `.null` and an empty non-nil one is
  `.dict []` / `.list []`.

  Go panics are a separate outcome (`Res.panic`), never totalised away:
    * `reflect.Value.Len` on a field that is neither string, map nor slice
      (`msgToList`, reached only for an `omitempty` field of such a type);
    * the explicit `panic("internal message field %d not recognized")` at the
      end of the `listToMsg` loop;
    * an index out of range if field list and value list disagree in length
      (impossible for a Go struct; kept so that the model is total without a
      silent default).
  `Nexus.C14` proves all three unreachable for the generated schema.
-/
import Nexus.Gen.Schema
import Nexus.Codec.GoConv

namespace Nexus.Codec

open Nexus.Gen

inductive Err where
  /-- "invalid message": the decoded list is empty -/
  | invalidMessage
  /-- "unsupported message format": the head is not an acceptable integer -/
  | unsupportedFormat
  /-- "unsupported message type": `wamp.NewMessage` returned nil -/
  | unsupportedType
  /-- "field %d not recognized, has %s, want %s" (index in the list, 1-based for fields) -/
  | fieldNotRecognized (i : Nat)
  /-- "invalid message: not a list": `decodeList` got something that is not a `[]any` -/
  | notAList
  /-- the codec itself rejected the bytes -/
  | decode
  deriving DecidableEq, Repr, Inhabited

inductive Res (α : Type) where
  | ok (a : α)
  | error (e : Err)
  | panic (site : String)
  deriving Repr, Inhabited

namespace Res
def isPanic {α} : Res α → Bool
  | .panic _ => true
  | _ => false
def isOk {α} : Res α → Bool
  | .ok _ => true
  | _ => false
def map {α β} (f : α → β) : Res α → Res β
  | .ok a => .ok (f a)
  | .error e => .error e
  | .panic s => .panic s
end Res

structure Msg where
  schema : MsgSchema
  fields : List CVal
  deriving Repr, Inhabited

/-- Zero value of a field type. -/
def zeroOf : GoKind → CVal
  | .uint64 => .int 0
  | .int => .int 0
  | .string => .str []
  | .mapStringAny => .null
  | .sliceAny => .null

/-- Initial value of field `f` in the struct `NewMessage` allocates for case `c`. -/
def initOf (c : NewCase) (f : FieldSchema) : CVal :=
  match c.inits.lookup f.name with
  | some .code => .int c.code
  | some .emptyDict => .dict []
  | none => zeroOf f.kind

/-- `wamp.NewMessage(t)`: `none` is Go's `nil`. -/
def newMessage (t : Int) : Option Msg :=
  match Gen.newMessage.find? (fun c => (c.code : Int) == t) with
  | none => none
  | some c =>
    match Gen.structs.find? (fun s => s.name == c.struct) with
    | none => none  -- gen refuses such a table; `Nexus.C14.C14_newMessage_complete` re-checks
    | some s => some { schema := s, fields := s.fields.map (initOf c) }

/-! ### msgToList -/

/-- `val.Field(i).Len()`. -/
def fieldLen : GoKind → CVal → Res Nat
  | .string, .str s => .ok s.length
  | .mapStringAny, .dict d => .ok d.length
  | .mapStringAny, .null => .ok 0
  | .sliceAny, .list l => .ok l.length
  | .sliceAny, .null => .ok 0
  | .uint64, _ => .panic "reflect: call of reflect.Value.Len on uint64 Value"
  | .int, _ => .panic "reflect: call of reflect.Value.Len on int Value"
  | _, _ => .panic "field value does not have the field's static type"

/-- The backwards loop of `msgToList`:
    `for ; last > 0; last-- { if !omitempty(last) || Field(last).Len() > 0 { break } }`.
    Field 0 is never inspected. -/
def findLast (fs : List FieldSchema) (vals : List CVal) : Nat → Res Nat
  | 0 => .ok 0
  | last + 1 =>
    match fs[last + 1]?, vals[last + 1]? with
    | some f, some v =>
      if !f.omitempty then .ok (last + 1)
      else
        match fieldLen f.kind v with
        | .ok n => if n > 0 then .ok (last + 1) else findLast fs vals last
        | .error e => .error e
        | .panic s => .panic s
    | _, _ => .panic "index out of range"

/-- `msgToList(msg)`: the type code followed by fields `0..last`. -/
def msgToList (m : Msg) : Res (List CVal) :=
  match m.schema.fields.length with
  | 0 => .ok [.int m.schema.code]                -- last = -1: `make([]any, 1)`
  | n + 1 =>
    match findLast m.schema.fields m.fields n with
    | .ok last => .ok (.int m.schema.code :: m.fields.take (last + 1))
    | .error e => .error e
    | .panic s => .panic s

/-! ### listToMsg -/

/-- `AssignableTo`, or `ConvertibleTo` together with the guard the source puts on the conversion
    (`Gen.convertGuard`, regenerated from listToMsg), and the value stored, for a non-nil list item. -/
def convertTo : GoKind → CVal → Option CVal
  -- wamp.ID (uint64): integers wrap, floats truncate
  | .uint64, .int i => some (.int (wrapU64 i))
  | .uint64, .float b => some (.int (f2u b))
  -- wamp.MessageType (int)
  | .int, .int i => some (.int (wrapI64 i))
  | .int, .float b => some (.int (f2i b))
  -- string / wamp.URI: strings.  Go can also convert an integer (to a one-rune string) and a
  -- []byte: taken only when the conversion is not guarded by
  -- `f.Kind() != reflect.String || arg.Kind() == reflect.String`
  | .string, .str s => some (.str s)
  | .string, .int i =>
    (match Gen.convertGuard with
     | .unguarded => some (.str (intToString i))
     | .stringFromStringOnly => none)
  | .string, .bin b =>
    (match Gen.convertGuard with
     | .unguarded => some (.str b)
     | .stringFromStringOnly => none)
  -- wamp.Dict: map[string]any is assignable
  | .mapStringAny, .dict d => some (.dict d)
  -- wamp.List: []any is assignable
  | .sliceAny, .list l => some (.list l)
  | _, _ => none

/-- `arg.Type().Kind() == f.Type().Kind()` (over-approximated on integers, where
    `convertTo` has already succeeded). -/
def sameKind : GoKind → CVal → Bool
  | .uint64, .int _ => true
  | .int, .int _ => true
  | .string, .str _ => true
  | .mapStringAny, .dict _ => true
  | .sliceAny, .list _ => true
  | .sliceAny, .bin _ => true
  | _, _ => false

/-- One iteration of the `listToMsg` loop for a non-nil item (`i` = index in the list). -/
def assignField (i : Nat) (k : GoKind) (v : CVal) : Res CVal :=
  match convertTo k v with
  | some r => .ok r
  | none =>
    if !sameKind k v then .error (.fieldNotRecognized i)
    else
      match k, v with
      -- assignMap: only reachable with a map that is not map[string]any; `CVal` has none
      | .mapStringAny, .dict d => .ok (.dict d)
      -- assignSlice: []byte into wamp.List, element by element (uint8 is assignable to any)
      | .sliceAny, .bin b => .ok (.list (b.map fun x => .int x.toNat))
      | .sliceAny, .list l => .ok (.list l)
      | _, _ => .panic "internal message field not recognized"

/-- The loop `for i := 0; i < NumField && i < len(vlist)-1; i++`, walking field schemas,
    current field values and the list items (after the head) in parallel. -/
def fill : Nat → List FieldSchema → List CVal → List CVal → Res (List CVal)
  | _, [], _, _ => .ok []
  | _, _ :: _, [], _ => .panic "index out of range"
  | _, _ :: _, z :: zs, [] => .ok (z :: zs)
  | i, f :: fs, z :: zs, it :: its =>
    if it.isNull then (fill (i + 1) fs zs its).map (z :: ·)      -- `continue`: field keeps its value
    else
      match assignField i f.kind it with
      | .ok v => (fill (i + 1) fs zs its).map (v :: ·)
      | .error e => .error e
      | .panic s => .panic s

/-- `listToMsg(msgType, vlist)`; `vlist[0]` is not looked at. -/
def listToMsg (t : Int) (vlist : List CVal) : Res Msg :=
  match newMessage t with
  | none => .error .unsupportedType
  | some m => (fill 1 m.schema.fields m.fields vlist.tail).map fun fs => { m with fields := fs }

/-! ### The head check in `Deserialize` -/

inductive Format where
  | json | msgpack | cbor
  deriving DecidableEq, Repr, Inhabited

/-- `v[0].(uint64)` / `v[0].(int64)` and the conversion to `wamp.MessageType`.
    JSON and CBOR decode non-negative integers to `uint64` and negative ones to `int64`;
    MessagePack decodes the signed families and positive fixints to `int64`, the unsigned
    families to `uint64`: an integer above MaxInt64 is necessarily a `uint64`. -/
def headType (fmt : Format) (v0 : CVal) : Res Int :=
  match fmt, v0 with
  | .msgpack, .int i => if i < two63 then .ok i else .error .unsupportedFormat
  | _, .int i => if 0 ≤ i then .ok (wrapI64 i) else .error .unsupportedFormat
  | _, _ => .error .unsupportedFormat

/-- `Deserialize` after the codec has produced the `[]any`. -/
def fromList (fmt : Format) (v : List CVal) : Res Msg :=
  match v with
  | [] => .error .invalidMessage
  | v0 :: _ =>
    match headType fmt v0 with
    | .ok t => listToMsg t v
    | .error e => .error e
    | .panic s => .panic s

end Nexus.Codec
