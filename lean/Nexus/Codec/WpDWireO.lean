/-
  `JSONSerializer.Deserialize` over the JSON decoder with floats (`Json.decO`): `Wire.deserialize
  .json` with `Json.decO orc` in the place of `Json.dec`.  Kept apart from Wire.lean so that the
  oracle-free `Wire.deserialize` and its theorems stay as they are.
-/
import Nexus.Codec.Wire
import Nexus.Codec.JsonFloat

namespace Nexus.Codec.Wire

open Nexus.Codec

/-- `JSONSerializer.Deserialize(data)` with number tokens read through the oracle. -/
def deserializeJsonO (orc : Json.FloatOrc) (b : Bytes) : DRes (Res Msg) :=
  match Json.decO orc b with
  | .error e => .error e
  | .ok (.list l, _) => .ok (fromList .json l)
  | .ok (_, _) =>
    match topDecodeOf .json with
    | .listChecked => .ok (.error .notAList)
    | .intoSlice => .error .unsupported

end Nexus.Codec.Wire
