/-
  What comes out of the binary decoders is encodable: every value returned by `MsgPack.dec` or
  `CBOR.dec`, whatever the bytes, satisfies `validB maxLen` — all integers in `int64 ∪ uint64`,
  every string / binary / list / dict length below the format's bound, dict keys pairwise
  distinct, at every depth (`dec_valid`, from `Levels.sound`).  So the hypothesis
  `validB maxLen v` of the round-trip theorems (`MsgPack.dec_enc`, `CBOR.dec_enc`,
  `C14_msgpack_roundtrip`, `C14_cbor_roundtrip`, `C14_wire_roundtrip`) is met by anything that came
  off the wire, and re-encoding a decoded value gives bytes that decode to the same value
  (`dec_reencode`): the decoders are idempotent up to the encoders' canonical form.

  Read off it, the range lemmas: the integer at the head of a decoded list
  (`dec_list_head_range`) and every integer anywhere inside a decoded value, at any nesting depth,
  in lists and as dict values (`CVal.ints`, `dec_ints_range`: `validB` checks every one of them,
  `ints_of_valid`) is one Go can hold.  So the conversions of `Msg.lean` that wrap (`wrapI64`)
  never see an out-of-range input that came off the wire in a binary format.
-/
import Nexus.Codec.DecoderTotal

namespace Nexus.Codec

mutual
  /-- All integers occurring in a value, left to right. -/
  def CVal.ints : CVal → List Int
    | .int i => [i]
    | .list l => CVal.intsList l
    | .dict d => CVal.intsDict d
    | _ => []
  def CVal.intsList : List CVal → List Int
    | [] => []
    | v :: vs => CVal.ints v ++ CVal.intsList vs
  def CVal.intsDict : List (Bytes × CVal) → List Int
    | [] => []
    | (_, v) :: r => CVal.ints v ++ CVal.intsDict r
end

def IntsInRange (v : CVal) : Prop := ∀ i ∈ v.ints, IntRange i

namespace WpD

theorem range_of_valid_head {L : Nat} {i : Int} {l : List CVal}
    (h : validB L (.list (.int i :: l)) = true) : IntRange i := by
  simp only [validB, validListB, Bool.and_eq_true, decide_eq_true_eq] at h
  exact h.2.1

theorem ints_null : CVal.ints .null = [] := by simp [CVal.ints]
theorem ints_bool (b : Bool) : CVal.ints (.bool b) = [] := by simp [CVal.ints]
theorem ints_float (b : UInt64) : CVal.ints (.float b) = [] := by simp [CVal.ints]
theorem ints_str (s : Bytes) : CVal.ints (.str s) = [] := by simp [CVal.ints]
theorem ints_bin (s : Bytes) : CVal.ints (.bin s) = [] := by simp [CVal.ints]

theorem inRange_of_nil {v : CVal} (h : v.ints = []) : IntsInRange v := by
  intro i hi; rw [h] at hi; cases hi

theorem inRange_int {i : Int} (h : IntRange i) : IntsInRange (.int i) := by
  intro j hj
  simp [CVal.ints] at hj
  subst hj; exact h


mutual
  theorem ints_of_valid {L : Nat} : ∀ (v : CVal), validB L v = true → IntsInRange v
    | .null, _ => inRange_of_nil ints_null
    | .bool b, _ => inRange_of_nil (ints_bool b)
    | .float b, _ => inRange_of_nil (ints_float b)
    | .str s, _ => inRange_of_nil (ints_str s)
    | .bin s, _ => inRange_of_nil (ints_bin s)
    | .int i, h => by simp [validB] at h; exact inRange_int h
    | .list l, h => by simp [validB] at h; exact intsList_of_valid l h.2
    | .dict d, h => by simp [validB] at h; exact intsDict_of_valid d h.2
  theorem intsList_of_valid {L : Nat} : ∀ (l : List CVal), validListB L l = true → ∀ i ∈ CVal.intsList l, IntRange i
    | [], _, i, hi => by simp [CVal.intsList] at hi
    | v :: vs, h, i, hi => by
        simp [validListB] at h
        simp only [CVal.intsList, List.mem_append] at hi
        exact hi.elim (ints_of_valid v h.1 i) (intsList_of_valid vs h.2 i)
  theorem intsDict_of_valid {L : Nat} : ∀ (d : List (Bytes × CVal)), validDictB L d = true →
      ∀ i ∈ CVal.intsDict d, IntRange i
    | [], _, i, hi => by simp [CVal.intsDict] at hi
    | (_, v) :: r, h, i, hi => by
        simp [validDictB] at h
        simp only [CVal.intsDict, List.mem_append] at hi
        exact hi.elim (ints_of_valid v h.1.2 i) (intsDict_of_valid r h.2 i)
end

end WpD

namespace MsgPack

open WpD

/-- **Whatever `MsgPack.dec` returns is encodable**: integers in `int64 ∪ uint64`, lengths below
    2^32, dict keys distinct — at every depth, whatever the bytes. -/
theorem dec_valid {bs : Bytes} {v : CVal} {rest : Bytes} (h : dec bs = .ok (v, rest)) :
    validB maxLen v = true :=
  (decF_levels.sound decKey_sound _ bs v rest h).1

theorem dec_list_head_range {bs : Bytes} {i : Int} {l : List CVal} {rest : Bytes}
    (h : dec bs = .ok (.list (.int i :: l), rest)) : IntRange i :=
  range_of_valid_head (dec_valid h)

theorem dec_reencode {bs : Bytes} {v : CVal} {rest : Bytes} (h : dec bs = .ok (v, rest)) (rest' : Bytes) :
    dec (enc v ++ rest') = .ok (v, rest') :=
  dec_enc v rest' (dec_valid h)

/-- Satisfiable, with non-canonical input: `dc 00 01 cd 00 05` (array 16 of length 1 holding a
    uint 16 for 5) decodes to [5], whose canonical encoding is `91 05`.  Plain `rfl` exceeds the
    recursion limit on `MsgPack.decF` at a container head (its match on thirty literal tags), so
    `count_hdr` takes the head off first; `CBOR.decF` has no such match and evaluates as it is. -/
example : dec [0xdc, 0x00, 0x01, 0xcd, 0x00, 0x05] = .ok (.list [.int 5], [])
    ∧ enc (.list [.int 5]) = [0x91, 0x05] :=
  ⟨(count_hdr (w := 2) (n := 1) (fun _ => rfl) (by decide) _).trans rfl, by decide⟩

/-- **Every integer inside a MessagePack-decoded value is an `int64` or a `uint64`**, at any
    depth, whatever the bytes. -/
theorem dec_ints_range {bs : Bytes} {v : CVal} {rest : Bytes} (h : dec bs = .ok (v, rest)) :
    IntsInRange v :=
  ints_of_valid v (dec_valid h)

/-- Satisfiable: `92 cf ff×8 81 a1 61 d3 80 00×7` = [2^64-1, {"a": -2^63}], both extremes, nested. -/
example : dec [0x92, 0xcf, 0xff, 0xff, 0xff, 0xff, 0xff, 0xff, 0xff, 0xff,
               0x81, 0xa1, 0x61, 0xd3, 0x80, 0, 0, 0, 0, 0, 0, 0]
    = .ok (.list [.int 18446744073709551615, .dict [([0x61], .int (-9223372036854775808))]], []) := by
  simp [dec, decF, classify, mapV, decItems, decPairs, decKey, readBE, takeN, beNat, toSigned]

end MsgPack

namespace CBOR

open WpD

/-- **Whatever `CBOR.dec` returns is encodable**: integers in `int64 ∪ uint64`, lengths below
    2^63, dict keys distinct — at every depth, whatever the bytes. -/
theorem dec_valid {bs : Bytes} {v : CVal} {rest : Bytes} (h : dec bs = .ok (v, rest)) :
    validB maxLen v = true :=
  (decF_levels.sound decKey_sound _ bs v rest h).1

theorem dec_list_head_range {bs : Bytes} {i : Int} {l : List CVal} {rest : Bytes}
    (h : dec bs = .ok (.list (.int i :: l), rest)) : IntRange i :=
  range_of_valid_head (dec_valid h)

theorem dec_reencode {bs : Bytes} {v : CVal} {rest : Bytes} (h : dec bs = .ok (v, rest)) (rest' : Bytes) :
    dec (enc v ++ rest') = .ok (v, rest') :=
  dec_enc v rest' (dec_valid h)

/-- Satisfiable, with non-canonical input: `98 01 19 00 05` (array with a one-byte length 1 holding
    5 in two bytes) decodes to [5], whose canonical encoding is `81 05`. -/
example : dec [0x98, 0x01, 0x19, 0x00, 0x05] = .ok (.list [.int 5], [])
    ∧ enc (.list [.int 5]) = [0x81, 0x05] := by
  constructor
  · rfl
  · decide

/-- **Every integer inside a CBOR-decoded value is an `int64` or a `uint64`**, at any depth,
    whatever the bytes. -/
theorem dec_ints_range {bs : Bytes} {v : CVal} {rest : Bytes} (h : dec bs = .ok (v, rest)) :
    IntsInRange v :=
  ints_of_valid v (dec_valid h)

/-- Satisfiable: `82 1b ff×8 a1 61 61 3b 7f ff×7` = [2^64-1, {"a": -2^63}]. -/
example : dec [0x82, 0x1b, 0xff, 0xff, 0xff, 0xff, 0xff, 0xff, 0xff, 0xff,
               0xa1, 0x61, 0x61, 0x3b, 0x7f, 0xff, 0xff, 0xff, 0xff, 0xff, 0xff, 0xff]
    = .ok (.list [.int 18446744073709551615, .dict [([0x61], .int (-9223372036854775808))]], []) := by
  simp [dec, decF, readArg, decBody, maxLen, mapV, decItems, decPairs, decKey, readBE, takeN, beNat]

end CBOR

/-- The hypotheses of the `dec_list_head_range` lemmas are met: `[33]` in each format. -/
example : Json.dec [0x5b, 0x33, 0x33, 0x5d] = .ok (.list [.int 33], [])
    ∧ CBOR.dec [0x81, 0x18, 0x21] = .ok (.list [.int 33], [])
    ∧ MsgPack.dec [0x91, 0x21] = .ok (.list [.int 33], []) :=
  ⟨rfl, rfl, (MsgPack.dec_arrHdr _ 1 _ (by decide)).trans rfl⟩

end Nexus.Codec

namespace Nexus.C14

open Nexus.Codec

/-- **Anything a binary decoder hands on is a value of the round-trip theorems**:
    whatever the bytes, a value decoded from MessagePack or CBOR satisfies `validB` for its
    format, and encoding it again in the same format yields bytes that decode to the same value. -/
theorem C14_decoded_valid_bin (fmt : Format) (hf : fmt ∈ [Format.msgpack, Format.cbor])
    (b : Bytes) (v : CVal) (rest : Bytes) (h : Wire.decode fmt b = .ok (v, rest)) :
    ∃ e, Wire.encode fmt v = some e ∧ ∀ rest', Wire.decode fmt (e ++ rest') = .ok (v, rest') := by
  cases fmt with
  | json => simp at hf
  | msgpack =>
    have hv := MsgPack.dec_valid h
    exact ⟨MsgPack.enc v, by simp [Wire.encode, MsgPack.encode, hv], fun r => MsgPack.dec_reencode h r⟩
  | cbor =>
    have hv := CBOR.dec_valid h
    exact ⟨CBOR.enc v, by simp [Wire.encode, CBOR.encode, hv], fun r => CBOR.dec_reencode h r⟩

/-- **No out-of-range integer comes off the wire in a binary format**:
    whatever the bytes, every integer anywhere inside the value the MessagePack or CBOR decoder
    hands to `listToMsg` is an `int64` or a `uint64`. -/
theorem C14_decoded_ints_in_range_bin (fmt : Format) (hf : fmt ∈ [Format.msgpack, Format.cbor])
    (b : Bytes) (v : CVal) (rest : Bytes) (h : Wire.decode fmt b = .ok (v, rest)) : IntsInRange v := by
  cases fmt with
  | json => simp at hf
  | msgpack => exact MsgPack.dec_ints_range h
  | cbor => exact CBOR.dec_ints_range h

end Nexus.C14
