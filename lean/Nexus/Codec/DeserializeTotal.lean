/-
  `C14_deserialize_total`, all three formats.

  For every byte string `Deserialize` of the model answers one of: a result that is not a panic /
  the codec's error (`malformed`) / `unsupported` — the inputs on which the model makes no claim and
  the family only requires "no panic" of the implementation.  For MessagePack and CBOR the
  `unsupported` inputs are characterised (`C14_deserialize_total_bin`, Nexus/Codec/DecoderTotal.lean:
  a located ext / tag / indefinite length / non-string key / repeated key / out-of-range negative /
  huge length).  For JSON the corresponding characterisation is stated, not proved
  (`C14_deserialize_total_json_cause`, a `def … : Prop`).

  The JSON statement (`Json.dec_unsupported_cause_stmt`): `decVG num` answers
  `.error .unsupported` only when, at some position of the input (a suffix `rest`), one of four
  local causes holds (`Json.UnsupportedAt`):
    * `\u` escape with a non-hex digit or a surrogate code point (`step rest = .err .unsupported`;
      the codec substitutes U+FFFD / joins surrogate pairs);
    * where a member key is expected, something that is not a string (the codec tolerates some);
    * where a member key is expected, a string key (the decoder reports it when the same key was
      read earlier in this object; the codec merges the two values);
    * a number token that `num` refuses as unsupported: for `Json.dec` every token that is not a
      plain integer in range; for `Json.decO` only `-` and `-0` (`decNumTokO_unsupported_iff`).
  It is a necessary condition, stated position by position; the third cause does not record the
  earlier occurrence of the key.
-/
import Nexus.Props.C14
import Nexus.Codec.DecoderTotal

namespace Nexus.Codec.Json

open Nexus.Codec

/-- With the float oracle the only number tokens left outside the model are `-` and `-0…`
    (exactly: `-` followed by nothing or by the plain digit string `0`). -/
theorem decNumTokO_unsupported_iff (orc : FloatOrc) (tok : Bytes) :
    decNumTokO orc tok = .error .unsupported ↔
      ∃ ds, tok = 45 :: ds ∧ (ds = [] ∨ (plainDigits ds = true ∧ decNat ds = 0)) := by
  have hp : ∀ t, parseTok orc t ≠ .error .unsupported := by
    intro t; unfold parseTok; split <;> simp
  constructor
  · intro h
    cases tok with
    | nil => cases h
    | cons b ds =>
      simp only [decNumTokO] at h
      by_cases hb : (b.toNat == 45) = true
      · refine ⟨ds, by rw [eq_of_toNat (x := b) (by simpa using hb)]; rfl, ?_⟩
        rw [if_pos hb] at h
        by_cases he : ds.isEmpty = true
        · exact .inl (List.isEmpty_iff.mp he)
        rw [if_neg he] at h
        by_cases hpd : plainDigits ds = true
        · rw [if_pos hpd] at h
          refine .inr ⟨hpd, Decidable.byContradiction fun h0 => ?_⟩
          rw [if_neg h0] at h
          split at h
          · cases h
          split at h
          · cases h
          · exact hp _ h
        · rw [if_neg hpd] at h
          exact absurd h (hp _)
      · rw [if_neg hb] at h
        split at h
        · split at h
          · cases h
          · exact absurd h (hp _)
        · exact absurd h (hp _)
  · rintro ⟨ds, rfl, h⟩
    rcases h with rfl | ⟨hpd, h0⟩
    · simp [decNumTokO]
    · have he : ds.isEmpty = false := by
        cases ds with
        | nil => simp [plainDigits] at hpd
        | cons _ _ => rfl
      simp [decNumTokO, he, hpd, h0]

/-- The local causes of `unsupported`, at the head of `rest`. -/
inductive UnsupportedAt (num : Bytes → DRes CVal) (rest : Bytes) : Prop where
  /-- `\uXXXX` with a non-hex digit or a surrogate code point -/
  | escape (h : step rest = .err .unsupported)
  /-- a member key is expected and the next token does not start with `"` -/
  | nonStringKey (q : UInt8) (r : Bytes) (h : skipWs rest = q :: r) (hq : q.toNat ≠ 0x22)
  /-- a member key is expected and read (`k`); it repeats a key of the same object -/
  | dupKey (k r : Bytes) (h : decMemberKey rest = .ok (k, r))
  /-- a number token outside the model -/
  | number (h : num (rest.takeWhile isNumChar) = .error .unsupported)

/-- Not proved: it needs "every sub-decoder returns a suffix of its input" for `step`, `strBody`,
    `decTail`, `decMembers`, `decVG`.  The family counts the causes on generated bytes
    (`bytes.modelO-unsupported.json.num` / `.other`). -/
def dec_unsupported_cause_stmt (num : Bytes → DRes CVal) : Prop :=
  ∀ (fuel : Nat) (b : Bytes), decVG num fuel b = .error .unsupported →
    ∃ pre rest, b = pre ++ rest ∧ UnsupportedAt num rest

end Nexus.Codec.Json

namespace Nexus.C14
open Nexus.Codec

/-- **Totality.**  Every byte string, every format: `Deserialize` gives a message or a clean
    error (never a panic), or the codec's decode error, or the model declines (`unsupported`). -/
theorem C14_deserialize_total (fmt : Format) (b : Bytes) :
    (∃ r, Wire.deserialize fmt b = .ok r ∧ r.isPanic = false)
    ∨ Wire.deserialize fmt b = .error .malformed
    ∨ Wire.deserialize fmt b = .error .unsupported := by
  cases h : Wire.deserialize fmt b with
  | ok r => exact Or.inl ⟨r, rfl, C14_deserialize_no_panic fmt b r h⟩
  | error e =>
    cases e with
    | malformed => exact Or.inr (Or.inl rfl)
    | unsupported => exact Or.inr (Or.inr rfl)

-- all three outcomes occur (JSON): a message, the codec's error, a declined input
example : (∃ r, Wire.deserialize .json [0x5b, 0x33, 0x33, 0x2c, 0x31, 0x2c, 0x32, 0x5d] = .ok r) ∧
    Wire.deserialize .json [0x5b] = .error .malformed ∧
    Wire.deserialize .json [0x5b, 0x2d, 0x30, 0x5d] = .error .unsupported := by
  refine ⟨⟨_, rfl⟩, rfl, rfl⟩

/-- … where, for the two binary formats, `unsupported` is located and explained. -/
theorem C14_deserialize_total_located_bin (fmt : Format) (hf : fmt ∈ [Format.msgpack, Format.cbor]) (b : Bytes) :
    (∃ r, Wire.deserialize fmt b = .ok r ∧ r.isPanic = false)
    ∨ Wire.deserialize fmt b = .error .malformed
    ∨ (Wire.deserialize fmt b = .error .unsupported ∧
        ((∃ pre rest, b = pre ++ rest ∧ BinUnsupportedAt fmt pre rest)
         ∨ (Wire.topDecodeOf fmt = .intoSlice ∧
            ∃ v rest, Wire.decode fmt b = .ok (v, rest) ∧ ∀ l, v ≠ .list l))) :=
  C14_deserialize_total_bin fmt hf b

/-- Open (stated, not proved): the JSON counterpart, for either number reader (`Json.decNumTok`,
    `Json.decNumTokO orc`). -/
def C14_deserialize_total_json_cause : Prop :=
  ∀ num : Bytes → DRes CVal, Json.dec_unsupported_cause_stmt num

end Nexus.C14
