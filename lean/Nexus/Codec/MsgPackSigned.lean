/-
  The bytes the codec really writes for Go's signed integers and for `float32`.

  `CVal.int` erases the Go integer type, and `MsgPack.encInt` writes a non-negative integer the
  way ugorji/go/codec v1.3.1 writes a `uint64` (`EncodeUint`, msgpack.go:83-102: positive fixint,
  cc, cd, ce, cf).  A Go `int`/`int64`/`int32` (and `wamp.MessageType`, an `int`) goes through
  `EncodeInt` (msgpack.go:49-81) instead; the repo's handle leaves `PositiveIntUnsigned` and
  `NoFixedNum` false (transport/serialize/msgpackserializer.go:24-26 sets only `WriteExt` and
  `MapType`), so:

      i > 127 (math.MaxInt8)     d1 (≤ 32767) / d2 (≤ 2^31-1) / d3       msgpack.go:52-62
      -32 ≤ i ≤ 127              one byte `byte(i)`: positive / negative fixint   :63-68
      -128 ≤ i < -32             d0 byte(i)                              :69-70
      -32768 ≤ i < -128          d1 uint16(i)                            :71-73
      -2^31 ≤ i < -32768         d2 uint32(i)                            :74-76
      otherwise                  d3 uint64(i)                            :77-80

  i.e. never cc..cf, and never d0 for a non-negative value: 128 is `d1 00 80`, not `cc 80`.
  `encIntSigned` is that function; it coincides with the unsigned family exactly below 128.
  `encSigned` is `enc` with every integer of the int64 range written as a signed Go integer
  (what the codec emits for a payload built from `int`/`int64` values).

  CBOR needs no second family: `EncodeInt` (cbor.go:89-95) writes a non-negative `int64` with
  `encUint(uint64(v), cborBaseUint)`, exactly what `EncodeUint` (cbor.go:97-99) writes
  (`CBOR.encIntSigned_eq`).

  `float32`: the MessagePack encoder writes `ca` + 4 bytes (msgpack.go:112-115), the CBOR encoder
  `fa` + 4 bytes (cbor.go:48-59, `OptimumSize` is false).  Both model decoders read these and
  widen to binary64 with `f32to64` (BytesLemmas.lean), so a Go `float32` comes back as the
  `float64` of the same real value (`float64(f)`).
-/
import Nexus.Codec.MsgPackProofs
import Nexus.Codec.CBORProofs
import Nexus.Codec.Wire

namespace Nexus.Codec

namespace MsgPack

/-- What `msgpackEncDriver.EncodeInt(i)` writes (handle flags as in the repo).  Meaningful for
    -2^63 ≤ i < 2^63 (the argument is an `int64`). -/
def encIntSigned (i : Int) : Bytes :=
  if 127 < i then
    if i ≤ 32767 then UInt8.ofNat 0xd1 :: beBytes 2 i.toNat
    else if i ≤ 2147483647 then UInt8.ofNat 0xd2 :: beBytes 4 i.toNat
    else UInt8.ofNat 0xd3 :: beBytes 8 i.toNat
  else if 0 ≤ i then [UInt8.ofNat i.toNat]
  else if -32 ≤ i then [UInt8.ofNat (256 + i).toNat]
  else if -128 ≤ i then UInt8.ofNat 0xd0 :: beBytes 1 (256 + i).toNat
  else if -32768 ≤ i then UInt8.ofNat 0xd1 :: beBytes 2 (65536 + i).toNat
  else if -2147483648 ≤ i then UInt8.ofNat 0xd2 :: beBytes 4 (4294967296 + i).toNat
  else UInt8.ofNat 0xd3 :: beBytes 8 (18446744073709551616 + i).toNat

/-- 128 → `d1 00 80`, 255 → `d1 00 ff`, 65536 → `d2 00 01 00 00`, 2^31 → `d3 …`, 127 → `7f`,
    -1 → `ff`, -33 → `d0 df`. -/
example : encIntSigned 128 = [0xd1, 0x00, 0x80] ∧ encIntSigned 255 = [0xd1, 0x00, 0xff]
    ∧ encIntSigned 65536 = [0xd2, 0x00, 0x01, 0x00, 0x00]
    ∧ encIntSigned 2147483648 = [0xd3, 0, 0, 0, 0, 0x80, 0, 0, 0]
    ∧ encIntSigned 127 = [0x7f] ∧ encIntSigned (-1) = [0xff] ∧ encIntSigned (-33) = [0xd0, 0xdf] := by
  decide

theorem encIntSigned_eq_encInt {i : Int} (h : i < 128) : encIntSigned i = encInt i := by
  unfold encIntSigned encInt
  rw [if_neg (by omega)]
  by_cases hpos : 0 ≤ i
  · simp only [if_pos hpos, if_pos (show i.toNat < 128 by omega)]
  · rw [if_neg hpos, if_neg hpos]

theorem dec_intSigned (fuel : Nat) (i : Int) (rest : Bytes)
    (h0 : -(9223372036854775808 : Int) ≤ i) (h1 : i < (9223372036854775808 : Int)) :
    decF (fuel + 1) (encIntSigned i ++ rest) = .ok (.int i, rest) := by
  by_cases hs : i < 128
  · rw [encIntSigned_eq_encInt hs]
    exact dec_int fuel i rest h0 (by omega)
  let P : Bytes → Prop := fun o => decF (fuel + 1) (o ++ rest) = .ok (.int i, rest)
  have e := fun w h => (congrArg CVal.int (toSigned_nonneg (w := w) (n := i.toNat) h)).trans
    (congrArg CVal.int (Int.toNat_of_nonneg (by omega)))
  show P (encIntSigned i)
  unfold encIntSigned
  rw [if_pos (by omega)]
  exact iteInduction (fun _ => decF_num (fun _ => rfl) (by omega) (e 2 (by omega)) rest) fun _ =>
    iteInduction (fun _ => decF_num (fun _ => rfl) (by omega) (e 4 (by omega)) rest) fun _ =>
      decF_num (fun _ => rfl) (by omega) (e 8 (by omega)) rest

/-- **The decoder reads the signed families back**: for every `int64` value, the
    bytes the codec writes for a Go `int`/`int64`, followed by anything, decode to that integer and
    leave the rest. -/
theorem dec_encIntSigned (i : Int) (rest : Bytes)
    (h0 : -(2:Int) ^ 63 ≤ i) (h1 : i < (2:Int) ^ 63) :
    dec (encIntSigned i ++ rest) = .ok (.int i, rest) := by
  unfold dec
  exact dec_intSigned _ i rest (by simpa using h0) (by simpa using h1)

/-- The hypotheses of `dec_encIntSigned` are satisfiable: 128, written `d1 00 80`. -/
example : dec ([0xd1, 0x00, 0x80] ++ [0x2a]) = .ok (.int 128, [0x2a]) :=
  dec_encIntSigned 128 [0x2a] (by decide) (by decide)

/-- From 128 on they differ, in the first byte: d1/d2/d3 against cc/cd/ce/cf. -/
theorem encIntSigned_ne_encInt {i : Int} (h : 128 ≤ i) : encIntSigned i ≠ encInt i := by
  let Head (lo hi : Nat) (o : Bytes) : Prop := ∃ t r, o = UInt8.ofNat t :: r ∧ lo ≤ t ∧ t ≤ hi
  have signed : Head 0xd1 0xd3 (encIntSigned i) := by
    unfold encIntSigned
    rw [if_pos (by omega)]
    exact iteInduction (fun _ => ⟨_, _, rfl, by decide⟩) fun _ =>
      iteInduction (fun _ => ⟨_, _, rfl, by decide⟩) fun _ => ⟨_, _, rfl, by decide⟩
  have unsigned : Head 0xcc 0xcf (encInt i) := by
    unfold encInt
    simp only [if_pos (show 0 ≤ i by omega), if_neg (show ¬ i.toNat < 128 by omega)]
    exact iteInduction (fun _ => ⟨_, _, rfl, by decide⟩) fun _ =>
      iteInduction (fun _ => ⟨_, _, rfl, by decide⟩) fun _ =>
      iteInduction (fun _ => ⟨_, _, rfl, by decide⟩) fun _ => ⟨_, _, rfl, by decide⟩
  obtain ⟨t, _, e, ht⟩ := signed
  obtain ⟨t', _, e', ht'⟩ := unsigned
  rw [e, e']
  intro he
  have := congrArg UInt8.toNat (List.cons.inj he).1
  rw [u8_toNat (by omega), u8_toNat (by omega)] at this
  omega

/-- The two writers coincide exactly below 128: the round trip proved for `enc` covers the
    codec's bytes for a signed Go integer only there. -/
theorem encIntSigned_eq_encInt_iff (i : Int) : encIntSigned i = encInt i ↔ i < 128 := by
  constructor
  · intro h
    by_cases hi : i < 128
    · exact hi
    · exact absurd h (encIntSigned_ne_encInt (by omega))
  · exact encIntSigned_eq_encInt

def inInt64 (i : Int) : Bool := decide (-(9223372036854775808 : Int) ≤ i) && decide (i < (9223372036854775808 : Int))

mutual
  /-- The codec's bytes for a value all of whose integers in the int64 range are Go `int`/`int64`
      (larger ones can only be `uint64`). -/
  def encSigned : CVal → Bytes
    | .null => [UInt8.ofNat 0xc0]
    | .bool false => [UInt8.ofNat 0xc2]
    | .bool true => [UInt8.ofNat 0xc3]
    | .int i => if inInt64 i then encIntSigned i else encInt i
    | .float b => UInt8.ofNat 0xcb :: beBytes 8 b.toNat
    | .str s => strHdr s.length ++ s
    | .bin b => binHdr b.length ++ b
    | .list l => arrHdr l.length ++ encSignedList l
    | .dict d => mapHdr d.length ++ encSignedDict d
  def encSignedList : List CVal → Bytes
    | [] => []
    | v :: vs => encSigned v ++ encSignedList vs
  def encSignedDict : List (Bytes × CVal) → Bytes
    | [] => []
    | (k, v) :: r => (strHdr k.length ++ k) ++ (encSigned v ++ encSignedDict r)
end

theorem encSigned_writer : Writer maxLen decF decKey encSigned encSignedList encSignedDict encKey arrHdr mapHdr :=
  { reader with
    leaf := fun v fuel rest h0 hv => by
      cases v with
      | int i =>
        simp only [validB, Bool.and_eq_true, decide_eq_true_eq] at hv
        unfold encSigned
        split
        · rename_i hin
          simp only [inInt64, Bool.and_eq_true, decide_eq_true_eq] at hin
          exact dec_intSigned fuel i rest hin.1 hin.2
        · exact dec_int fuel i rest hv.1 hv.2
      | null => rfl
      | bool b => cases b <;> rfl
      | float b => exact dec_leaf (.float b) fuel rest h0 hv
      | str s => exact dec_leaf (.str s) fuel rest h0 hv
      | bin s => exact dec_leaf (.bin s) fuel rest h0 hv
      | list _ | dict _ => cases h0
    list := fun _ => by rw [encSigned]
    dict := fun _ => by rw [encSigned]
    nil := by rw [encSignedList]
    cons := fun _ _ => by rw [encSignedList]
    dnil := by rw [encSignedDict]
    dcons := fun _ _ _ => by rw [encSignedDict] }

theorem decItems_encSigned : ∀ (l : List CVal) (fuel : Nat) (rest : Bytes), validListB maxLen l = true →
    depthList l < fuel → decItems (decF fuel) l.length (encSignedList l ++ rest) = .ok (l, rest) :=
  encSigned_writer.roundTripItems

theorem decPairs_encSigned : ∀ (d : List (Bytes × CVal)) (seen : List Bytes) (fuel : Nat) (rest : Bytes),
    validDictB maxLen d = true → noDupFrom seen d = true →
    depthDict d < fuel →
    decPairs decKey (decF fuel) d.length seen (encSignedDict d ++ rest) = .ok (d, rest) :=
  encSigned_writer.roundTripPairs

theorem depthList_le_signed : ∀ (l : List CVal), depthList l ≤ (encSignedList l).length :=
  encSigned_writer.depthList_le

theorem depthDict_le_signed : ∀ (d : List (Bytes × CVal)), depthDict d ≤ (encSignedDict d).length :=
  encSigned_writer.depthDict_le

/-- **MessagePack round trip on the codec's bytes for signed Go integers**: as `dec_enc`, with
    every integer of the int64 range written by `EncodeInt`. -/
theorem dec_encSigned (v : CVal) (rest : Bytes) (hv : validB maxLen v = true) :
    dec (encSigned v ++ rest) = .ok (v, rest) :=
  encSigned_writer.top v rest hv

/-- The hypothesis is satisfiable, and the bytes differ from `enc`'s: `[200, {"a": 70000}]`. -/
example : validB maxLen (.list [.int 200, .dict [([0x61], .int 70000)]]) = true
    ∧ encSigned (.list [.int 200, .dict [([0x61], .int 70000)]])
        = [0x92, 0xd1, 0x00, 0xc8, 0x81, 0xa1, 0x61, 0xd2, 0x00, 0x01, 0x11, 0x70]
    ∧ enc (.list [.int 200, .dict [([0x61], .int 70000)]])
        = [0x92, 0xcc, 0xc8, 0x81, 0xa1, 0x61, 0xce, 0x00, 0x01, 0x11, 0x70] := by
  decide

/-- What `EncodeFloat32` writes for the binary32 bit pattern `w` (msgpack.go:112-115). -/
def encFloat32 (w : Nat) : Bytes := UInt8.ofNat 0xca :: beBytes 4 w

/-- A Go `float32` on the wire (`ca`) is read as a float: the binary64 pattern of the same value,
    `f32to64 w` (Go: `float64(math.Float32frombits(w))`). -/
theorem dec_float32 (w : Nat) (hw : w < 4294967296) (rest : Bytes) :
    dec (encFloat32 w ++ rest) = .ok (.float (UInt64.ofNat (f32to64 w)), rest) := by
  have hlt : w < 256 ^ 4 := by omega
  simp [dec, encFloat32, decF, classify, mapV, readBE_append hlt]

/-- `ca 3f 80 00 00` = 1.0f → 1.0 (3ff0000000000000). -/
example : dec ([0xca, 0x3f, 0x80, 0x00, 0x00] ++ []) = .ok (.float 0x3ff0000000000000, []) :=
  dec_float32 0x3f800000 (by decide) []

end MsgPack

/-- Spot checks of the widening: 1.0, -2.5, +Inf, the smallest subnormal 2^-149, the largest
    subnormal, a signalling NaN (quieted), -0. -/
example : f32to64 0x3f800000 = 0x3ff0000000000000 ∧ f32to64 0xc0200000 = 0xc004000000000000
    ∧ f32to64 0x7f800000 = 0x7ff0000000000000 ∧ f32to64 0x00000001 = 0x36a0000000000000
    ∧ f32to64 0x007fffff = 0x380fffffc0000000 ∧ f32to64 0x7f800001 = 0x7ff8000020000000
    ∧ f32to64 0x80000000 = 0x8000000000000000 := by
  decide

namespace CBOR

/-- CBOR has one integer writer: `EncodeInt` (cbor.go:89-95) sends a non-negative `int64` through
    `encUint(uint64(v), cborBaseUint)`, which is all `EncodeUint` (cbor.go:97-99) does; a negative
    one through `encUint(uint64(-1-v), cborBaseNegInt)`.  This is `CBOR.encInt` verbatim. -/
def encIntSigned (i : Int) : Bytes :=
  if i < 0 then encHead 1 (-1 - i).toNat else encHead 0 i.toNat

theorem encIntSigned_eq (i : Int) : encIntSigned i = encInt i := by
  unfold encIntSigned encInt
  by_cases h : 0 ≤ i
  · have : ¬ i < 0 := by omega
    simp [h, this]
  · have : i < 0 := by omega
    simp [h, this]

/-- What `EncodeFloat32` writes with the repo's handle (`OptimumSize` false; cbor.go:48-59). -/
def encFloat32 (w : Nat) : Bytes := UInt8.ofNat 0xfa :: beBytes 4 w

/-- A Go `float32` on the wire (`fa`) is read as the binary64 pattern of the same value. -/
theorem dec_float32 (w : Nat) (hw : w < 4294967296) (rest : Bytes) :
    dec (encFloat32 w ++ rest) = .ok (.float (UInt64.ofNat (f32to64 w)), rest) := by
  have hlt : w < 256 ^ 4 := by omega
  simp [dec, encFloat32, decF, decSimple, mapV, readBE_append hlt]

/-- `fa c0 20 00 00` = -2.5f → -2.5. -/
example : dec ([0xfa, 0xc0, 0x20, 0x00, 0x00] ++ []) = .ok (.float 0xc004000000000000, []) :=
  dec_float32 0xc0200000 (by decide) []

end CBOR

end Nexus.Codec

namespace Nexus.C14

open Nexus.Codec

/-- **MessagePack round trip, signed Go integers**: `C14_msgpack_roundtrip` speaks
    of `MsgPack.enc`, which writes non-negative integers the way the codec writes a `uint64`.
    This is the same statement for the bytes the codec writes when the integers are Go
    `int`/`int64` values (d1..d3 from 128 on): every encodable value, at any depth, followed by
    arbitrary bytes, decodes to itself and leaves those bytes. -/
theorem C14_msgpack_signed_roundtrip (v : CVal) (rest : Bytes) (hv : validB MsgPack.maxLen v = true) :
    Wire.decode .msgpack (MsgPack.encSigned v ++ rest) = .ok (v, rest) :=
  MsgPack.dec_encSigned v rest hv

/-- Satisfiable, non-trivially: a PUBLISH-like list with a request id ≥ 128. -/
example : Wire.decode .msgpack (MsgPack.encSigned (.list [.int 16, .int 300, .dict [], .str [0x74]]) ++ [])
    = .ok (.list [.int 16, .int 300, .dict [], .str [0x74]], []) :=
  C14_msgpack_signed_roundtrip _ _ (by decide)

end Nexus.C14
