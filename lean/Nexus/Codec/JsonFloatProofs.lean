/-
  Proofs for `Nexus/Codec/JsonFloat.lean`: what comes back from JSON for values with floats (under
  the oracle hypotheses `FloatOrc.Faithful`) and binaries; and for `Nexus/Codec/WpDBinaryData.lean`:
  wire form and round trip of `BinaryData`, regression for C14-F3.
-/
import Nexus.Codec.JsonQuote
import Nexus.Codec.WpDBinaryData

namespace Nexus.Codec.Json

theorem decNumTokO_of_ok {orc : FloatOrc} {tok : Bytes} {v : CVal} (h : decNumTok tok = .ok v) :
    decNumTokO orc tok = .ok v := by
  cases tok with
  | nil => cases h
  | cons b ds =>
    simp only [decNumTok] at h
    simp only [decNumTokO]
    by_cases hb : (b.toNat == 45) = true
    · rw [if_pos hb] at h ⊢
      by_cases hp : plainDigits ds = true
      · rw [if_pos hp] at h
        rw [if_neg (by simp only [plainDigits, Bool.and_eq_true] at hp; simpa using hp.1.1), if_pos hp]
        by_cases h0 : decNat ds = 0
        · rw [if_pos h0] at h; cases h
        · rw [if_neg h0] at h ⊢
          by_cases h63 : decNat ds ≤ 9223372036854775808
          · rw [if_pos h63] at h ⊢; exact h
          · rw [if_neg h63] at h; split at h <;> cases h
      · rw [if_neg hp] at h; cases h
    · rw [if_neg hb] at h ⊢
      by_cases hp : plainDigits (b :: ds) = true
      · rw [if_pos hp] at h ⊢
        by_cases h64 : decNat (b :: ds) < 18446744073709551616
        · rw [if_pos h64] at h ⊢; exact h
        · rw [if_neg h64] at h; cases h
      · rw [if_neg hp] at h; cases h

theorem decNumTokO_nonInt (orc : FloatOrc) (tok : Bytes) (h1 : smallIntTok tok = false)
    (h2 : tok.any isDigit = true) : decNumTokO orc tok = parseTok orc tok := by
  cases tok with
  | nil => simp at h2
  | cons b ds =>
    unfold decNumTokO
    by_cases hb : b.toNat = 45
    · have hbd : isDigit b = false := by simp [isDigit, hb]
      have he : ds.isEmpty = false := by
        cases ds with
        | nil => simp [hbd] at h2
        | cons _ _ => rfl
      by_cases hp : plainDigits ds = true
      · have h64 : ¬ decNat ds < 18446744073709551616 := by
          simpa [smallIntTok, hb, hp] using h1
        have e0 : ¬ decNat ds = 0 := by omega
        have e1 : ¬ decNat ds ≤ 9223372036854775808 := by omega
        simp [hb, he, hp, e0, e1, h64]
      · simp [hb, he, hp]
    · by_cases hp : plainDigits (b :: ds) = true
      · have h64 : ¬ decNat (b :: ds) < 18446744073709551616 := by
          simpa [smallIntTok, hb, hp] using h1
        simp [hb, hp, h64]
      · simp [hb, hp]

theorem decNumTokO_smallInt (orc : FloatOrc) (tok : Bytes) (h : smallIntTok tok = true) :
    (∃ i, decNumTokO orc tok = .ok (.int i)) ∨ (∃ e, decNumTokO orc tok = .error e) := by
  cases tok with
  | nil => simp [smallIntTok] at h
  | cons b ds =>
    unfold decNumTokO
    by_cases hb : b.toNat = 45
    · have h' : plainDigits ds = true ∧ decNat ds < 18446744073709551616 := by
        simpa [smallIntTok, hb] using h
      by_cases he : ds.isEmpty = true
      · right; exact ⟨.unsupported, by simp [hb, he]⟩
      · by_cases h0 : decNat ds = 0
        · right; exact ⟨.unsupported, by simp [hb, he, h'.1, h0]⟩
        · by_cases h63 : decNat ds ≤ 9223372036854775808
          · left; exact ⟨-(decNat ds : Int), by simp [hb, he, h'.1, h0, h63]⟩
          · right; exact ⟨.malformed, by simp [hb, he, h'.1, h0, h63, h'.2]⟩
    · have h' : plainDigits (b :: ds) = true ∧ decNat (b :: ds) < 18446744073709551616 := by
        simpa [smallIntTok, hb] using h
      left
      exact ⟨(decNat (b :: ds) : Int), by simp [hb, h'.1, h'.2]⟩

theorem faithfulAt_parts {orc : FloatOrc} {b : UInt64} (h : orc.faithfulAt b = true) :
    NumTok (orc.fmt b) ∧ (orc.fmt b).any isDigit = true
      ∧ (lossyIntegral b = false → orc.parse (orc.fmt b) = some b)
      ∧ smallIntTok (orc.fmt b) = lossyIntegral b := by
  simp only [FloatOrc.faithfulAt, Bool.and_eq_true, Bool.or_eq_true, beq_iff_eq, List.all_eq_true] at h
  refine ⟨⟨fun he => ?_, h.1.1.2⟩, h.1.1.1, fun hl => ?_, h.2⟩
  · have := h.1.1.1
    rw [he] at this
    cases this
  · rcases h.1.2 with h' | h'
    · rw [hl] at h'; cases h'
    · exact h'

theorem decNumTokO_float (orc : FloatOrc) (b : UInt64) (h : orc.faithfulAt b = true)
    (hl : lossyIntegral b = false) : decNumTokO orc (orc.fmt b) = .ok (.float b) := by
  obtain ⟨_, h1, h3, h4⟩ := faithfulAt_parts h
  rw [decNumTokO_nonInt orc _ (by rw [h4, hl]) h1]
  simp [parseTok, h3 hl]

theorem encStrBody_plain : ∀ (s : Bytes), (∀ c ∈ s, B64.plainB c = true) → encStrBody s = s
  | [], _ => rfl
  | c :: r, h => by
      have hc := h c List.mem_cons_self
      have ih := encStrBody_plain r (fun x hx => h x (List.mem_cons_of_mem _ hx))
      have hc' : 0x20 ≤ c.toNat ∧ c.toNat < 0x7f ∧ c.toNat ≠ 0x22 ∧ c.toNat ≠ 0x5c ∧ c.toNat ≠ 0x26
          ∧ c.toNat ≠ 0x3c ∧ c.toNat ≠ 0x3e := by
        simp [B64.plainB] at hc; omega
      have he : escByte c = [c] :=
        escByte_plain hc'.1 (by simp only [List.mem_cons, List.not_mem_nil, or_false]; omega)
      rw [WpD.encStrBody_cons_ne r (by omega), he, ih]
      rfl

theorem encBin_eq (b : Bytes) : encBin b = encStr (B64.enc b) := by
  unfold encBin encStr
  rw [encStrBody_plain _ (B64.enc_plain b)]

mutual
  theorem depth_binView : ∀ (v : CVal), depth (binView v) = depth v
    | .null | .bool _ | .int _ | .float _ | .str _ | .bin _ => rfl
    | .list l => by simp only [binView, depth, depthList_binView l]
    | .dict d => by simp only [binView, depth, depthDict_binView d]
  theorem depthList_binView : ∀ (l : List CVal), depthList (binViewList l) = depthList l
    | [] => rfl
    | v :: vs => by simp only [binViewList, depthList, depth_binView v, depthList_binView vs]
  theorem depthDict_binView : ∀ (d : List (Bytes × CVal)), depthDict (binViewDict d) = depthDict d
    | [] => rfl
    | (k, v) :: r => by simp only [binViewDict, depthDict, depth_binView v, depthDict_binView r]
end

theorem length_binViewList : ∀ (l : List CVal), (binViewList l).length = l.length
  | [] => rfl
  | _ :: vs => by simp only [binViewList, List.length_cons, length_binViewList vs]

theorem length_binViewDict : ∀ (d : List (Bytes × CVal)), (binViewDict d).length = d.length
  | [] => rfl
  | (_, _) :: r => by simp only [binViewDict, List.length_cons, length_binViewDict r]

theorem noDupFrom_binViewDict : ∀ (seen : List Bytes) (d : List (Bytes × CVal)),
    noDupFrom seen (binViewDict d) = noDupFrom seen d
  | _, [] => rfl
  | seen, (k, _) :: r => by simp only [binViewDict, noDupFrom, noDupFrom_binViewDict (k :: seen) r]

mutual
  theorem readsAs_encO (orc : FloatOrc) (hF : orc.Faithful) : ∀ (v : CVal), okFB v = true →
      ReadsAs (decNumTokO orc) (encO orc v) (binView v)
    | .null, _ => .null
    | .bool true, _ => .litTrue
    | .bool false, _ => .litFalse
    | .int i, h => by
        simp only [okFB, Bool.and_eq_true, decide_eq_true_eq] at h
        exact .tok (numTok_encInt i) (decNumTokO_of_ok (decNumTok_encInt i h.1 h.2))
    | .float b, h => by
        simp only [okFB, Bool.and_eq_true, Bool.not_eq_true'] at h
        rw [encO, encFloat, if_pos h.1]
        exact .tok (faithfulAt_parts (hF b h.1)).1 (decNumTokO_float orc b (hF b h.1) h.2)
    | .bin b, _ => by rw [encO, encBin_eq]; exact .quoted (reads_encStrBody _)
    | .str s, _ => .quoted (reads_encStrBody s)
    | .list [], _ => .list_nil
    | .list (v :: vs), h => by
        simp only [okFB, okFListB, Bool.and_eq_true] at h
        exact .list_cons (readsAs_encO orc hF v h.1) (readsTail_encO orc hF vs h.2)
    | .dict [], _ => .dict_nil
    | .dict ((k, v) :: r), h => by
        simp only [okFB, okFDictB, noDupFrom, Bool.and_eq_true] at h
        exact .dict_cons k (noDupFrom_binViewDict _ r ▸ h.1.2) (readsAs_encO orc hF v h.2.1.2)
          (readsMembers_encO orc hF r h.2.2)
  theorem readsTail_encO (orc : FloatOrc) (hF : orc.Faithful) : ∀ (vs : List CVal), okFListB vs = true →
      ReadsTail (decNumTokO orc) (encTailO orc vs) (binViewList vs)
    | [], _ => .nil
    | v :: vs, h => by
        simp only [okFListB, Bool.and_eq_true] at h
        exact .cons (readsAs_encO orc hF v h.1) (readsTail_encO orc hF vs h.2)
  theorem readsMembers_encO (orc : FloatOrc) (hF : orc.Faithful) : ∀ (d : List (Bytes × CVal)), okFDictB d = true →
      ReadsMembers (decNumTokO orc) (encMembersO orc d) (binViewDict d)
    | [], _ => .nil
    | (k, v) :: r, h => by
        simp only [okFDictB, Bool.and_eq_true] at h
        exact .cons k (readsAs_encO orc hF v h.1.2) (readsMembers_encO orc hF r h.2)
end

theorem decTail_encO (orc : FloatOrc) (hF : orc.Faithful) : ∀ (vs : List CVal) (fuel lf : Nat) (rest : Bytes),
      okFListB vs = true → depthList vs < fuel → vs.length < lf →
      decTail (decVG (decNumTokO orc) fuel) lf (encTailO orc vs ++ rest) = .ok (binViewList vs, rest) :=
  fun vs fuel lf rest hv hd hl => (readsTail_encO orc hF vs hv).dec fuel lf rest
    (depthList_binView vs ▸ hd) (length_binViewList vs ▸ hl)

theorem decMembers_encO (orc : FloatOrc) (hF : orc.Faithful) : ∀ (d : List (Bytes × CVal)) (seen : List Bytes)
      (fuel lf : Nat) (rest : Bytes), okFDictB d = true → noDupFrom seen d = true →
      depthDict d < fuel → d.length < lf →
      decMembers (decVG (decNumTokO orc) fuel) lf seen (encMembersO orc d ++ rest) = .ok (binViewDict d, rest) :=
  fun d seen fuel lf rest hv hn hd hl => (readsMembers_encO orc hF d hv).dec seen fuel lf rest
    (noDupFrom_binViewDict seen d ▸ hn) (depthDict_binView d ▸ hd) (length_binViewDict d ▸ hl)

mutual
  theorem depth_leO (orc : FloatOrc) : ∀ (v : CVal), depth v ≤ (encO orc v).length
    | .null | .bool _ | .int _ | .float _ | .str _ | .bin _ => Nat.zero_le _
    | .list [] => by simp [depth, depthList, encO]
    | .list (v :: vs) => by
        have := depth_leO orc v; have := depthTail_leO orc vs
        simp [depth, depthList, encO]; omega
    | .dict [] => by simp [depth, depthDict, encO]
    | .dict ((k, v) :: r) => by
        have := depth_leO orc v; have := depthMembers_leO orc r
        simp [depth, depthDict, encO]; omega
  theorem depthTail_leO (orc : FloatOrc) : ∀ (l : List CVal), depthList l ≤ (encTailO orc l).length
    | [] => by simp [depthList]
    | v :: vs => by
        have := depth_leO orc v; have := depthTail_leO orc vs
        simp [depthList, encTailO]; omega
  theorem depthMembers_leO (orc : FloatOrc) : ∀ (d : List (Bytes × CVal)), depthDict d ≤ (encMembersO orc d).length
    | [] => by simp [depthDict]
    | (k, v) :: r => by
        have := depth_leO orc v; have := depthMembers_leO orc r
        simp [depthDict, encMembersO]; omega
end

/-- **JSON round trip with floats and binaries** under the oracle hypotheses: what comes back is
    the value with every `[]byte` replaced by the string of its base64 text. -/
theorem decO_encO (orc : FloatOrc) (hF : orc.Faithful) (v : CVal) (rest : Bytes) (hv : okFB v = true)
    (hr : NumSafe rest) : decO orc (encO orc v ++ rest) = .ok (binView v, rest) := by
  unfold decO
  apply (readsAs_encO orc hF v hv).dec _ rest _ hr
  have := depth_leO orc v
  rw [depth_binView]
  simp; omega

mutual
  theorem binView_noBin : ∀ (v : CVal), noBinB v = true → binView v = v
    | .null, _ | .bool _, _ | .int _, _ | .float _, _ | .str _, _ => rfl
    | .bin _, h => by simp [noBinB] at h
    | .list l, h => by simp [noBinB] at h; simp [binView, binViewList_noBin l h]
    | .dict d, h => by simp [noBinB] at h; simp [binView, binViewDict_noBin d h]
  theorem binViewList_noBin : ∀ (l : List CVal), noBinListB l = true → binViewList l = l
    | [], _ => rfl
    | v :: vs, h => by
        simp [noBinListB] at h
        simp [binViewList, binView_noBin v h.1, binViewList_noBin vs h.2]
  theorem binViewDict_noBin : ∀ (d : List (Bytes × CVal)), noBinDictB d = true → binViewDict d = d
    | [], _ => rfl
    | (k, v) :: r, h => by
        simp [noBinDictB] at h
        simp [binViewDict, binView_noBin v h.1, binViewDict_noBin r h.2]
end

/-- NaN and ±Inf are written `null` and come back as nil, whatever the oracle. -/
theorem decO_encO_nonFinite (orc : FloatOrc) (b : UInt64) (hb : isFinite b = false) (rest : Bytes) :
    encO orc (.float b) = nullLit ∧ decO orc (encO orc (.float b) ++ rest) = .ok (.null, rest) := by
  have h : encO orc (.float b) = nullLit := by simp [encO, encFloat, hb]
  refine ⟨h, ?_⟩
  rw [h]
  simp [decO, nullLit, decVG, skipWs, isWs, lit]

/-- An integral float with 2^52 ≤ |f| < 2^64 never comes back as a float: it is printed as an
    integer token, which is read as an integer, or refused (negative beyond -2^63). -/
theorem decO_encO_lossyIntegral (orc : FloatOrc) (hF : orc.Faithful) (b : UInt64) (hb : isFinite b = true)
    (hl : lossyIntegral b = true) (rest : Bytes) (hr : NumSafe rest) :
    (∃ i, decO orc (encO orc (.float b) ++ rest) = .ok (.int i, rest))
      ∨ (∃ e, decO orc (encO orc (.float b) ++ rest) = .error e) := by
  obtain ⟨htok, _, _, h4⟩ := faithfulAt_parts (hF b hb)
  have henc : encO orc (.float b) = orc.fmt b := by simp [encO, encFloat, hb]
  rw [henc, decO, decVG_tok htok hr]
  rcases decNumTokO_smallInt orc (orc.fmt b) (by rw [h4, hl]) with ⟨i, hi⟩ | ⟨e, he⟩
  · exact .inl ⟨i, by rw [hi]⟩
  · exact .inr ⟨e, by rw [he]⟩

mutual
  theorem encO_eq_enc_of_okB (orc : FloatOrc) : ∀ (v : CVal), okB v = true → encO orc v = enc v
    | .null, _ | .bool true, _ | .bool false, _ | .int _, _ | .str _, _ | .list [], _ | .dict [], _ => rfl
    | .float _, h | .bin _, h => by simp [okB] at h
    | .list (v :: vs), h => by
        simp [okB, okListB] at h
        simp [encO, enc, encO_eq_enc_of_okB orc v h.1, encTailO_eq orc vs h.2]
    | .dict ((k, v) :: r), h => by
        simp [okB, okDictB] at h
        simp [encO, enc, encO_eq_enc_of_okB orc v h.2.1.2, encMembersO_eq orc r h.2.2]
  theorem encTailO_eq (orc : FloatOrc) : ∀ (vs : List CVal), okListB vs = true → encTailO orc vs = encTail vs
    | [], _ => rfl
    | v :: vs, h => by
        simp [okListB] at h
        simp [encTailO, encTail, encO_eq_enc_of_okB orc v h.1, encTailO_eq orc vs h.2]
  theorem encMembersO_eq (orc : FloatOrc) : ∀ (d : List (Bytes × CVal)), okDictB d = true →
      encMembersO orc d = encMembers d
    | [], _ => rfl
    | (k, v) :: r, h => by
        simp [okDictB] at h
        simp [encMembersO, encMembers, encO_eq_enc_of_okB orc v h.1.2, encMembersO_eq orc r h.2]
end

/-- A toy oracle that satisfies `Faithful` (not Go's printing: `0.<bit pattern in decimal>` for
    the floats that must come back, the truncated integer value for the `lossyIntegral` ones). -/
def toyOrc : FloatOrc where
  fmt b :=
    if lossyIntegral b then
      (if b.toNat < 2 ^ 63 then [] else [UInt8.ofNat 45]) ++ natDigits (((f64Trunc b).getD 0).natAbs % 2 ^ 64)
    else 48 :: 46 :: natDigits b.toNat
  parse tok :=
    match tok with
    | 48 :: 46 :: ds => some (UInt64.ofNat (decNat ds))
    | _ => none

theorem smallIntTok_natDigits {n : Nat} (h : n < 18446744073709551616) :
    smallIntTok (natDigits n) = true ∧ smallIntTok (45 :: natDigits n) = true := by
  refine ⟨?_, by simp [smallIntTok, plainDigits_natDigits, decNat_natDigits, h]⟩
  have hp := plainDigits_natDigits n
  have hv := decNat_natDigits n
  obtain ⟨d, t, hnd, hd⟩ := natDigits_head n
  rw [hnd] at hp hv ⊢
  have hd45 : (d.toNat == 45) = false := by simp [isDigit] at hd; simp; omega
  simp [smallIntTok, hd45, hp, hv, h]

theorem natDigits_numChars (n : Nat) : (natDigits n).all isNumChar = true :=
  List.all_eq_true.mpr fun d hd => isNumChar_of_digit (natDigits_all n d hd)

theorem natDigits_any (n : Nat) : (natDigits n).any isDigit = true := by
  obtain ⟨d, t, h, hd⟩ := natDigits_head n
  simp [h, hd]

theorem toyOrc_faithful : toyOrc.Faithful := by
  intro b _
  simp only [FloatOrc.faithfulAt, toyOrc]
  split
  · next hl =>
    have hsm := smallIntTok_natDigits (Nat.mod_lt ((f64Trunc b).getD 0).natAbs (by decide : 0 < 2 ^ 64))
    split
    · simp [hl, natDigits_any, natDigits_numChars, hsm.1]
    · simp [hl, natDigits_any, natDigits_numChars, hsm.2, (by decide : isNumChar 45 = true)]
  · next hl =>
    have hsm : smallIntTok (48 :: 46 :: natDigits b.toNat) = false := by simp [smallIntTok, plainDigits, isDigit]
    simp [hl, hsm, decNat_natDigits, natDigits_numChars, (by decide : isDigit 48 = true),
      (by decide : isNumChar 48 = true), (by decide : isNumChar 46 = true)]

/-- The wire form: `"\u0000` ++ base64 ++ `"`. -/
theorem marshalBD_bytes (b : Bytes) :
    marshalBD b = [0x22, 0x5c, 0x75, 0x30, 0x30, 0x30, 0x30] ++ B64.enc b ++ [0x22] := by
  unfold marshalBD encStr
  rw [WpD.encStrBody_cons_ne _ (by decide), encStrBody_plain _ (B64.enc_plain b)]
  rfl

/-- **BinaryData round trip**: `UnmarshalJSON(MarshalJSON(b)) = b`, whatever follows. -/
theorem unmarshalBD_marshalBD (b rest : Bytes) : unmarshalBD (marshalBD b ++ rest) = .ok b := by
  have h : decStringTyped (marshalBD b ++ rest) = .ok (0 :: B64.enc b) := by
    unfold decStringTyped marshalBD encStr
    simp only [List.cons_append, List.append_assoc, List.nil_append,
      skipWs_cons (show isWs 0x22 = false by decide)]
    rw [if_pos (by decide), (reads_encStrBody (0 :: B64.enc b)).closed rest _ (by simp; omega)]
  unfold unmarshalBD
  rw [h]
  simp [B64.dec_enc]

/-- Regression (C14-F3): the pre-fix code panics exactly on the inputs that decode to the empty
    string — `""`, `null`, `[1]`, `{}`, ... -/
theorem unmarshalBDPre_panics_iff (v : Bytes) :
    (unmarshalBDPre v).isPanic = true ↔ decStringTyped v = .ok [] := by
  unfold unmarshalBDPre
  cases decStringTyped v with
  | error e => cases e <;> exact ⟨nofun, nofun⟩
  | ok s =>
    cases s with
    | nil => exact ⟨fun _ => rfl, fun _ => rfl⟩
    | cons c t =>
      -- `s[0]` exists: no branch panics
      refine ⟨?_, nofun⟩
      show (if c.toNat ≠ 0 then BDRes.error else _).isPanic = true → _
      split
      · exact nofun
      · cases B64.dec t <;> exact nofun

theorem unmarshalBDPre_witness :
    (unmarshalBDPre [0x22, 0x22]).isPanic = true ∧ (unmarshalBDPre [0x6e, 0x75, 0x6c, 0x6c]).isPanic = true
    ∧ (unmarshalBDPre [0x5b, 0x31, 0x5d]).isPanic = true
    ∧ unmarshalBD [0x22, 0x22] = .error ∧ unmarshalBD [0x6e, 0x75, 0x6c, 0x6c] = .error
    ∧ unmarshalBD [0x5b, 0x31, 0x5d] = .error := by decide

/-- Where the pre-fix code does not panic, the fix changed nothing: the two differ in the branch
    of the empty string only. -/
theorem unmarshalBD_eq_pre (v : Bytes) (h : (unmarshalBDPre v).isPanic = false) :
    unmarshalBD v = unmarshalBDPre v := by
  unfold unmarshalBD unmarshalBDPre at *
  revert h
  cases decStringTyped v with
  | error e => cases e <;> exact fun _ => rfl
  | ok s =>
    cases s with
    | nil => exact nofun
    | cons c t => exact fun _ => rfl

end Nexus.Codec.Json
