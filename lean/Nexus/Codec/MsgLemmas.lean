/-
  What the theorems of C14 about `msgToList` / `listToMsg` (layer a, `Nexus/Props/C14.lean`) are
  stated with: `Typed` (a field value has the Go static type of its field) and `norm` (the message
  a list round trip yields); and what the loops `findLast` and `fill` compute on typed messages.
-/
import Nexus.Codec.Msg

namespace Nexus.Codec

open Nexus.Gen

/-- A field value has the Go static type of its field. -/
def Typed : GoKind → CVal → Prop
  | .uint64, .int i => 0 ≤ i ∧ i < two64
  | .int, .int i => -two63 ≤ i ∧ i < two63
  | .string, .str _ => True
  | .mapStringAny, .null => True
  | .mapStringAny, .dict _ => True
  | .sliceAny, .null => True
  | .sliceAny, .list _ => True
  | _, _ => False

def TypedFields : List FieldSchema → List CVal → Prop
  | [], [] => True
  | f :: fs, v :: vs => Typed f.kind v ∧ TypedFields fs vs
  | _, _ => False

/-- `Len() == 0` for a Dict/List/string field value. -/
def emptyVal : CVal → Bool
  | .null => true
  | .list [] => true
  | .dict [] => true
  | .str [] => true
  | _ => false

/-- The case of the `NewMessage` switch for type code `t`, and the struct it allocates. -/
def newCase? (t : Int) : Option NewCase := Gen.newMessage.find? (fun c => (c.code : Int) == t)
def structOf? (c : NewCase) : Option MsgSchema := Gen.structs.find? (fun s => s.name == c.struct)

theorem newMessage_eq (t : Int) :
    newMessage t = (match newCase? t with
      | none => none
      | some c => match structOf? c with
        | none => none
        | some s => some { schema := s, fields := s.fields.map (initOf c) }) := rfl

/-- Initial field values of the struct `NewMessage(s.code)` returns (zero values when
    there is no such case). -/
def initFields (s : MsgSchema) : List CVal :=
  match newCase? s.code with
  | some c => s.fields.map (initOf c)
  | none => s.fields.map (fun f => zeroOf f.kind)

theorem initFields_length (s : MsgSchema) : (initFields s).length = s.fields.length := by
  unfold initFields; split <;> simp

/-- What `fill` computes from the first `keep` field values: a nil (or dropped) item leaves
    the initial value, anything else is stored. -/
def normAux : Nat → List CVal → List CVal → List CVal
  | _, [], _ => []
  | _, z :: zs, [] => z :: zs
  | 0, z :: zs, _ :: _ => z :: zs
  | k + 1, z :: zs, v :: vs => (if v.isNull then z else v) :: normAux k zs vs

theorem normAux_length (k : Nat) (zs vs : List CVal) : (normAux k zs vs).length = zs.length := by
  induction k, zs, vs using normAux.induct <;> simp [normAux, *]

theorem normAux_getElem? (k : Nat) (zs vs : List CVal) (i : Nat) (v z : CVal) (hv : vs[i]? = some v)
    (hz : zs[i]? = some z) : (normAux k zs vs)[i]? = some (if i < k ∧ v.isNull = false then v else z) := by
  induction k, zs, vs using normAux.induct generalizing i with
  | case1 => simp at hz
  | case2 => simp at hv
  | case3 => simp [normAux, hz]
  | case4 k z0 zs v0 vs ih =>
    cases i with
    | zero =>
      simp at hv hz; subst hv hz
      cases hn : v0.isNull <;> simp [normAux, hn]
    | succ i => simp at hv hz; simp [normAux, ih i hv hz]

/-- Index of the last field `msgToList` emits (0 when the loop panics, which `WellTyped`
    excludes). -/
def lastIdx (m : Msg) : Nat :=
  match findLast m.schema.fields m.fields (m.schema.fields.length - 1) with
  | .ok l => l
  | _ => 0

/-- The message a list round trip yields. -/
def norm (m : Msg) : Msg :=
  { m with fields := normAux (lastIdx m + 1) (initFields m.schema) m.fields }

theorem TypedFields.length_eq : ∀ {fs : List FieldSchema} {vs : List CVal}, TypedFields fs vs → fs.length = vs.length
  | [], [], _ => rfl
  | _ :: fs, _ :: vs, h => by simp [TypedFields.length_eq (fs := fs) (vs := vs) h.2]
  | [], _ :: _, h => h.elim
  | _ :: _, [], h => h.elim

theorem TypedFields.get : ∀ {fs : List FieldSchema} {vs : List CVal}, TypedFields fs vs →
    ∀ (i : Nat) (f : FieldSchema) (v : CVal), fs[i]? = some f → vs[i]? = some v → Typed f.kind v
  | _ :: _, _ :: _, h, 0, f, v, hf, hv => by
      simp at hf hv; subst hf; subst hv; exact h.1
  | _ :: fs, _ :: vs, h, i + 1, f, v, hf, hv => by
      simp at hf hv; exact TypedFields.get (fs := fs) (vs := vs) h.2 i f v hf hv
  | [], [], _, _, _, _, hf, _ => by simp at hf
  | [], _ :: _, h, _, _, _, _, _ => h.elim
  | _ :: _, [], h, _, _, _, _, _ => h.elim

theorem wrapU64_id {i : Int} (h0 : 0 ≤ i) (h1 : i < two64) : wrapU64 i = i := by
  unfold wrapU64 two64 at *; omega

theorem wrapI64_id {i : Int} (h0 : -two63 ≤ i) (h1 : i < two63) : wrapI64 i = i := by
  unfold wrapI64 two63 two64 at *; omega

theorem assignField_typed {k : GoKind} {v : CVal} (i : Nat) (h : Typed k v) (hn : v.isNull = false) :
    assignField i k v = .ok v := by
  cases k <;> cases v <;> simp [Typed] at h <;> simp [CVal.isNull] at hn <;>
    simp [assignField, convertTo, wrapU64_id, wrapI64_id, h]

theorem fill_take : ∀ (fs : List FieldSchema) (zs vals : List CVal) (keep i : Nat),
    TypedFields fs vals → zs.length = fs.length →
    fill i fs zs (vals.take keep) = .ok (normAux keep zs vals)
  | [], zs, vals, keep, i, _, hz => by
      cases zs with
      | nil => simp [fill, normAux]
      | cons _ _ => simp at hz
  | f :: fs, [], _, _, _, _, hz => by simp at hz
  | f :: fs, z :: zs, [], _, _, ht, _ => ht.elim
  | f :: fs, z :: zs, v :: vs, 0, i, _, _ => by simp [fill, normAux]
  | f :: fs, z :: zs, v :: vs, k + 1, i, ht, hz => by
      have ih := fill_take fs zs vs k (i + 1) ht.2 (by simpa using hz)
      cases hv : v.isNull with
      | true => simp [fill, normAux, hv, ih, Res.map]
      | false => simp [fill, normAux, hv, ih, Res.map, assignField_typed i ht.1 hv]

theorem fieldLen_typed {k : GoKind} {v : CVal} (h : Typed k v)
    (hk : k = .mapStringAny ∨ k = .sliceAny ∨ k = .string) :
    ∃ n, fieldLen k v = .ok n ∧ (n > 0 ↔ emptyVal v = false) := by
  rcases hk with rfl | rfl | rfl <;> cases v <;> simp [Typed] at h <;>
    simp [fieldLen, emptyVal] <;> (rename_i x; cases x <;> simp)

/-- Every `omitempty` field of `fs` has a kind on which `Len()` is defined. -/
def OmitKindsOk (fs : List FieldSchema) : Prop :=
  ∀ f ∈ fs, f.omitempty = true → (f.kind = .mapStringAny ∨ f.kind = .sliceAny ∨ f.kind = .string)

theorem findLast_spec (fs : List FieldSchema) (vals : List CVal) (ht : TypedFields fs vals)
    (hk : OmitKindsOk fs) : ∀ n, n < fs.length →
    ∃ last, findLast fs vals n = .ok last ∧ last ≤ n ∧
      (∀ i f v, last < i → i ≤ n → fs[i]? = some f → vals[i]? = some v →
          f.omitempty = true ∧ emptyVal v = true) ∧
      (last = 0 ∨ ∃ f v, fs[last]? = some f ∧ vals[last]? = some v ∧
          (f.omitempty = false ∨ emptyVal v = false))
  | 0, _ => ⟨0, rfl, Nat.le_refl _, by intro i f v h1 h2; omega, Or.inl rfl⟩
  | n + 1, hn => by
      have hlen := ht.length_eq
      have hf : fs[n + 1]? = some fs[n + 1] := List.getElem?_eq_getElem hn
      have hv : vals[n + 1]? = some (vals[n + 1]'(by omega)) := List.getElem?_eq_getElem (by omega)
      cases ho : (fs[n + 1]).omitempty with
      | false =>
        refine ⟨n + 1, ?_, Nat.le_refl _, ?_, Or.inr ⟨_, _, hf, hv, Or.inl ho⟩⟩
        · rw [findLast, hf, hv]; simp [ho]
        · intro i f v h1 h2; omega
      | true =>
        have hty := ht.get (n + 1) _ _ hf hv
        obtain ⟨len, hl, hpos⟩ := fieldLen_typed hty (hk _ (List.getElem_mem hn) ho)
        cases he : emptyVal (vals[n + 1]'(by omega)) with
        | false =>
          refine ⟨n + 1, ?_, Nat.le_refl _, ?_, Or.inr ⟨_, _, hf, hv, Or.inr he⟩⟩
          · have : len > 0 := hpos.mpr he
            rw [findLast, hf, hv]; simp [ho, hl, this]
          · intro i f v h1 h2; omega
        | true =>
          have hz : ¬ len > 0 := by
            intro h; have := hpos.mp h; simp [he] at this
          obtain ⟨last, h1, h2, h3, h4⟩ := findLast_spec fs vals ht hk n (by omega)
          refine ⟨last, ?_, by omega, ?_, h4⟩
          · rw [findLast, hf, hv]; simp [ho, hl, hz, h1]
          · intro i f v hi1 hi2 hfi hvi
            by_cases hin : i ≤ n
            · exact h3 i f v hi1 hin hfi hvi
            · have : i = n + 1 := by omega
              subst this
              rw [hf] at hfi; rw [hv] at hvi
              cases hfi; cases hvi
              exact ⟨ho, he⟩

theorem assignField_no_panic (i : Nat) (k : GoKind) (v : CVal) : (assignField i k v).isPanic = false := by
  cases k <;> cases v <;> simp [assignField, convertTo, sameKind, Res.isPanic] <;>
    cases Gen.convertGuard <;> simp

theorem fill_no_panic : ∀ (fs : List FieldSchema) (zs its : List CVal) (i : Nat),
    zs.length = fs.length → (fill i fs zs its).isPanic = false
  | [], _, _, _, _ => by simp [fill, Res.isPanic]
  | _ :: _, [], _, _, h => by simp at h
  | _ :: _, _ :: _, [], _, _ => by simp [fill, Res.isPanic]
  | f :: fs, z :: zs, it :: its, i, h => by
      have ih := fill_no_panic fs zs its (i + 1) (by simpa using h)
      have ha := assignField_no_panic i f.kind it
      unfold fill
      split
      · cases hr : fill (i + 1) fs zs its <;> simp_all [Res.map, Res.isPanic]
      · cases hq : assignField i f.kind it with
        | ok v => cases hr : fill (i + 1) fs zs its <;> simp_all [Res.map, Res.isPanic]
        | error e => simp [Res.isPanic]
        | panic s => simp [hq, Res.isPanic] at ha

theorem newMessage_length {t : Int} {m : Msg} (h : newMessage t = some m) :
    m.fields.length = m.schema.fields.length := by
  rw [newMessage_eq] at h
  split at h
  · cases h
  · split at h
    · cases h
    · cases h; simp

theorem listToMsg_no_panic (t : Int) (vlist : List CVal) : (listToMsg t vlist).isPanic = false := by
  unfold listToMsg
  cases hn : newMessage t with
  | none => simp [Res.isPanic]
  | some m =>
    have := fill_no_panic m.schema.fields m.fields vlist.tail 1 (newMessage_length hn)
    cases hr : fill 1 m.schema.fields m.fields vlist.tail <;> simp_all [Res.map, Res.isPanic]

theorem newCase_struct_code : ∀ c ∈ Gen.newMessage, ∀ s, structOf? c = some s → s.code = c.code := by
  have h : ∀ c ∈ Gen.newMessage, (structOf? c).all (fun s => s.code == c.code) = true := by decide +kernel
  intro c hc s hs
  simpa [hs] using h c hc

theorem newMessage_known {t : Int} {m0 : Msg} (h : newMessage t = some m0) :
    m0.schema ∈ Gen.structs ∧ t = (m0.schema.code : Int) := by
  rw [newMessage_eq] at h
  cases hc : newCase? t with
  | none => simp [hc] at h
  | some c =>
    cases hs : structOf? c with
    | none => simp [hc, hs] at h
    | some s =>
      simp [hc, hs] at h
      subst h
      have hcm : c ∈ Gen.newMessage := List.mem_of_find?_eq_some hc
      have hct : ((c.code : Int) == t) = true := by
        have := List.find?_some hc
        simpa using this
      have hsm : s ∈ Gen.structs := List.mem_of_find?_eq_some hs
      have := newCase_struct_code c hcm s hs
      refine ⟨hsm, ?_⟩
      simp only []
      rw [this]
      exact (eq_of_beq hct).symm

theorem fill_extra : ∀ (fs : List FieldSchema) (zs its extra : List CVal) (i : Nat),
    fs.length ≤ its.length → fill i fs zs (its ++ extra) = fill i fs zs its
  | [], _, _, _, _, _ => by simp [fill]
  | _ :: _, [], _, _, _, _ => by simp [fill]
  | _ :: _, _ :: _, [], _, _, h => by simp at h
  | f :: fs, z :: zs, it :: its, extra, i, h => by
      have ih := fill_extra fs zs its extra (i + 1) (by simpa using h)
      simp only [List.cons_append, fill, ih]

theorem headType_ne_panic (fmt : Format) (v0 : CVal) (r : String) : headType fmt v0 ≠ .panic r := by
  unfold headType; split <;> (try split) <;> simp

theorem headType_code (fmt : Format) {n : Nat} (h : n < 256) : headType fmt (.int n) = .ok n := by
  have h1 : (n : Int) < two63 := by unfold two63; omega
  have h2 : wrapI64 (n : Int) = n := wrapI64_id (by unfold two63; omega) h1
  cases fmt <;> simp [headType, h1, h2]

/-- The head the format's check lets through is literally the code, provided an integer head is
    below 2^64 (which the decoders guarantee: `dec_list_head_range`; MessagePack's check does not
    convert and needs no such fact): `wrapI64` of a larger one could be a code as well. -/
theorem headType_ok_int {fmt : Format} {v0 : CVal} {code : Nat}
    (h : headType fmt v0 = .ok (code : Int))
    (hr : fmt ≠ .msgpack → ∀ i, v0 = .int i → i < two64) : v0 = .int code := by
  cases v0 with
  | int i =>
    cases fmt with
    | msgpack =>
      simp only [headType] at h
      split at h
      · cases h; rfl
      · cases h
    | json | cbor =>
      have hi := hr (by decide) i rfl
      simp only [headType] at h
      split at h
      · injection h with h
        unfold wrapI64 two63 two64 at h
        unfold two64 at hi
        congr 1; omega
      · cases h
  | _ => cases fmt <;> simp [headType] at h

theorem fromList_ok {fmt : Format} {v0 : CVal} {items : List CVal} {m : Msg}
    (h : fromList fmt (v0 :: items) = .ok m) :
    ∃ t m0 fs, headType fmt v0 = .ok t ∧ newMessage t = some m0 ∧
      fill 1 m0.schema.fields m0.fields items = .ok fs ∧ m = { m0 with fields := fs } := by
  simp only [fromList] at h
  cases hh : headType fmt v0 with
  | error e => simp [hh] at h
  | panic s => simp [hh] at h
  | ok t =>
    simp only [hh, listToMsg, List.tail_cons] at h
    cases hn : newMessage t with
    | none => simp [hn] at h
    | some m0 =>
      simp only [hn] at h
      cases hf : fill 1 m0.schema.fields m0.fields items with
      | ok fs => simp [hf, Res.map] at h; exact ⟨t, m0, fs, rfl, hn, hf, h.symm⟩
      | error e => simp [hf, Res.map] at h
      | panic s => simp [hf, Res.map] at h

theorem fromList_no_panic (fmt : Format) (v : List CVal) : (fromList fmt v).isPanic = false := by
  unfold fromList
  cases v with
  | nil => simp [Res.isPanic]
  | cons v0 vs =>
    cases hh : headType fmt v0 with
    | ok t => simpa [hh] using listToMsg_no_panic t (v0 :: vs)
    | error e => simp [hh, Res.isPanic]
    | panic s => exact absurd hh (headType_ne_panic fmt v0 s)

end Nexus.Codec
