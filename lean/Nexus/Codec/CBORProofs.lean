/-
  The CBOR round trip: `decF_head` reads back any head that `encHead` writes; `reader` and
  `enc_writer` hand that to `Writer.roundTrip`.
-/
import Nexus.Codec.CBOR
import Nexus.Codec.Writer

namespace Nexus.Codec.CBOR

open Nexus.Codec

theorem head_div {major info : Nat} (h1 : major < 8) (h2 : info < 32) :
    (major * 32 + info) % 256 / 32 = major ∧ (major * 32 + info) % 256 % 32 = info := by
  omega

theorem readHead_enc (major n : Nat) (hm : major < 8) (hn : n < argMax) (body : Bytes) :
    ∃ b info rest, encHead major n ++ body = b :: rest ∧ b.toNat / 32 = major ∧ b.toNat % 32 = info ∧
      readArg info rest = .ok (n, body) := by
  unfold argMax at hn
  let P : Bytes → Prop := fun o => ∃ b info rest, o ++ body = b :: rest ∧ b.toNat / 32 = major ∧
    b.toNat % 32 = info ∧ readArg info rest = .ok (n, body)
  -- the head byte `major * 32 + info`, then whatever `readArg info` reads `n` from
  have head : ∀ (info : Nat) (arg : Bytes), info < 32 → readArg info (arg ++ body) = .ok (n, body) →
      P (UInt8.ofNat (major * 32 + info) :: arg) :=
    fun info arg hi hr => ⟨_, info, _, rfl, UInt8.toNat_ofNat' ▸ (head_div hm hi).1, UInt8.toNat_ofNat' ▸ (head_div hm hi).2, hr⟩
  have wide : ∀ (info w : Nat), info < 32 → n < 256 ^ w → (∀ rest, readArg info rest = readBE w rest) →
      P (UInt8.ofNat (major * 32 + info) :: beBytes w n) :=
    fun info w hi hw hr => head info _ hi ((hr _).trans (readBE_append hw body))
  show P (encHead major n)
  unfold encHead
  exact iteInduction (fun h => head n [] (by omega) (if_pos h)) fun _ =>
    iteInduction (fun h => wide 24 1 (by decide) (by omega) (fun _ => rfl)) fun _ =>
    iteInduction (fun h => wide 25 2 (by decide) (by omega) (fun _ => rfl)) fun _ =>
    iteInduction (fun h => wide 26 4 (by decide) (by omega) (fun _ => rfl)) fun _ => wide 27 8 (by decide) (by omega) (fun _ => rfl)

theorem decF_head (fuel major n : Nat) (hm : major < 7) (hn : n < argMax) (body : Bytes) :
    decF (fuel + 1) (encHead major n ++ body) = decBody (decF fuel) major n body := by
  obtain ⟨b, info, rest, he, h1, h2, h3⟩ := readHead_enc major n (by omega) hn body
  rw [he]
  simp only [decF]
  rw [if_neg (by omega), h2, h3, h1]

theorem lt_argMax {n : Nat} (h : n < maxLen) : n < argMax := by
  unfold maxLen at h; unfold argMax; omega

theorem decKey_enc (k rest : Bytes) (h : k.length < maxLen) :
    decKey ((encHead 3 k.length ++ k) ++ rest) = .ok (k, rest) := by
  have hnot : ¬ (maxLen ≤ k.length) := by omega
  obtain ⟨b, info, r, he, h1, h2, h3⟩ := readHead_enc 3 k.length (by omega) (lt_argMax h) (k ++ rest)
  rw [List.append_assoc, he]
  simp [decKey, h1, h2, h3, takeN_append, hnot]

theorem dec_int (fuel : Nat) (i : Int) (rest : Bytes)
    (h0 : -(9223372036854775808 : Int) ≤ i) (h1 : i < (18446744073709551616 : Int)) :
    decF (fuel + 1) (encInt i ++ rest) = .ok (.int i, rest) := by
  unfold encInt
  split
  · rename_i hpos
    rw [decF_head fuel 0 _ (by omega) (by unfold argMax; omega)]
    simp [decBody, Int.toNat_of_nonneg hpos]
  · rename_i hneg
    rw [decF_head fuel 1 _ (by omega) (by unfold argMax; omega)]
    have e : (((-1 - i).toNat : Nat) : Int) = -1 - i := Int.toNat_of_nonneg (by omega)
    have hlt : (-1 - i).toNat < 9223372036854775808 := by omega
    simp [decBody, hlt, e]
    omega

theorem encHead_pos (major n : Nat) : 0 < (encHead major n).length := by
  unfold encHead; split <;> (try split) <;> (try split) <;> (try split) <;> simp

/-- A map key as written: a definite-length text string. -/
abbrev encKey (k : Bytes) : Bytes := encHead 3 k.length ++ k

theorem dec_leaf : ∀ (v : CVal) (fuel : Nat) (rest : Bytes), depth v = 0 → validB maxLen v = true →
    decF (fuel + 1) (enc v ++ rest) = .ok (v, rest)
  | .null, _, _, _, _ | .bool true, _, _, _, _ | .bool false, _, _, _, _ => rfl
  | .int i, fuel, rest, _, hv => by
      simp only [validB, Bool.and_eq_true, decide_eq_true_eq] at hv
      exact dec_int fuel i rest hv.1 hv.2
  | .float b, _, _, _, _ => by
      have hb : b.toNat < 256 ^ 8 := by have := b.toNat_lt; omega
      simp [enc, decF, decSimple, mapV, readBE_append hb]
  | .str s, fuel, _, _, hv => by
      have hv := of_decide_eq_true hv
      rw [enc, List.append_assoc, decF_head fuel 3 _ (by omega) (lt_argMax hv)]
      simp [decBody, mapV, takeN_append, Nat.not_le.mpr hv]
  | .bin s, fuel, _, _, hv => by
      have hv := of_decide_eq_true hv
      rw [enc, List.append_assoc, decF_head fuel 2 _ (by omega) (lt_argMax hv)]
      simp [decBody, mapV, takeN_append, Nat.not_le.mpr hv]

theorem reader : Reader maxLen decF decKey encKey (encHead 4) (encHead 5) where
  key := decKey_enc
  items fuel n body h := by
    rw [decF_head _ 4 _ (by omega) (lt_argMax h)]
    simp only [decBody, Nat.not_le.mpr h, if_false, Nat.reduceEqDiff, if_true]
    cases decItems (decF fuel) n body <;> rfl
  pairs fuel n body h := by
    rw [decF_head _ 5 _ (by omega) (lt_argMax h)]
    simp only [decBody, Nat.not_le.mpr h, if_false, Nat.reduceEqDiff]
    cases decPairs decKey (decF fuel) n [] body <;> rfl
  lpos := encHead_pos 4
  dpos := encHead_pos 5

theorem enc_writer : Writer maxLen decF decKey enc encList encDict encKey (encHead 4) (encHead 5) :=
  { reader with
    leaf := dec_leaf
    list := fun _ => by rw [enc]
    dict := fun _ => by rw [enc]
    nil := by rw [encList]
    cons := fun _ _ => by rw [encList]
    dnil := by rw [encDict]
    dcons := fun _ _ _ => by rw [encDict] }

theorem decItems_enc : ∀ (l : List CVal) (fuel : Nat) (rest : Bytes), validListB maxLen l = true →
    depthList l < fuel → decItems (decF fuel) l.length (encList l ++ rest) = .ok (l, rest) :=
  enc_writer.roundTripItems

theorem decPairs_enc : ∀ (d : List (Bytes × CVal)) (seen : List Bytes) (fuel : Nat) (rest : Bytes),
    validDictB maxLen d = true → noDupFrom seen d = true →
    depthDict d < fuel → decPairs decKey (decF fuel) d.length seen (encDict d ++ rest) = .ok (d, rest) :=
  enc_writer.roundTripPairs

theorem depthList_le : ∀ (l : List CVal), depthList l ≤ (encList l).length := enc_writer.depthList_le

theorem depthDict_le : ∀ (d : List (Bytes × CVal)), depthDict d ≤ (encDict d).length := enc_writer.depthDict_le

/-- **CBOR round trip**: for every encodable value of any nesting depth, decoding its encoding
    followed by arbitrary bytes returns the value and exactly those bytes. -/
theorem dec_enc (v : CVal) (rest : Bytes) (hv : validB maxLen v = true) :
    dec (enc v ++ rest) = .ok (v, rest) :=
  enc_writer.top v rest hv

end Nexus.Codec.CBOR
