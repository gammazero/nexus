/-
  Round-trip proofs for the JSON fragment.  Values go through the relation `ReadsAs num bs w`: the
  value decoder `decVG num` (`decV` is `decVG decNumTok`, the decoder with floats
  `decVG (decNumTokO orc)`) reads the bytes `bs` as the value `w`, whatever follows.  It is closed
  under the ways a JSON text is put together (a literal, a number token, a quoted string, `[`…`]`,
  `{`…`}`), so the round trip of an encoder is a recursion over the encoder that names the closure
  lemma for each case (`readsAs_enc`; `readsAs_encO` for the encoder with floats and binaries).
-/
import Nexus.Codec.JsonFloat

namespace Nexus.Codec.Json

/-- Value of a least-significant-first digit string. -/
def valLE : Bytes → Nat
  | [] => 0
  | d :: t => (d.toNat - 48) + 10 * valLE t

theorem digit_toNat {k : Nat} (h : k < 10) : (48 + k) % 256 = 48 + k := by omega

theorem valLE_digitsRev : ∀ (f n : Nat), n < f → valLE (digitsRev f n) = n
  | 0, _, h => by omega
  | f + 1, n, h => by
      unfold digitsRev
      split
      · rename_i h10
        simp [valLE, digit_toNat h10]
      · rename_i h10
        have ih := valLE_digitsRev f (n / 10) (by omega)
        simp [valLE, digit_toNat (Nat.mod_lt n (by decide : 0 < 10)), ih]
        omega

theorem digitsRev_all : ∀ (f n : Nat), ∀ d ∈ digitsRev f n, isDigit d = true
  | 0, _, d, h => by simp [digitsRev] at h
  | f + 1, n, d, h => by
      unfold digitsRev at h
      split at h
      · rename_i h10
        simp at h; subst h
        simp [isDigit, digit_toNat h10]; omega
      · simp at h
        rcases h with h | h
        · subst h
          have := Nat.mod_lt n (by decide : 0 < 10)
          simp [isDigit, digit_toNat this]; omega
        · exact digitsRev_all f (n / 10) d h

theorem decNat_reverse : ∀ (l : Bytes), decNat l.reverse = valLE l
  | [] => rfl
  | d :: t => by
      have : decNat (t.reverse ++ [d]) = decNat t.reverse * 10 + (d.toNat - 48) := by
        simp [decNat, List.foldl_append]
      rw [List.reverse_cons, this, decNat_reverse t]
      simp [valLE]; omega

theorem decNat_natDigits (n : Nat) : decNat (natDigits n) = n := by
  unfold natDigits
  rw [decNat_reverse, valLE_digitsRev _ _ (by omega)]

theorem natDigits_all (n : Nat) : ∀ d ∈ natDigits n, isDigit d = true := by
  intro d hd
  unfold natDigits at hd
  exact digitsRev_all _ _ d (List.mem_reverse.mp hd)

theorem natDigits_ne_nil (n : Nat) : natDigits n ≠ [] := by
  unfold natDigits digitsRev
  split <;> simp

theorem plainDigits_natDigits (n : Nat) : plainDigits (natDigits n) = true := by
  unfold plainDigits
  have h1 : (natDigits n).isEmpty = false := by
    cases h : natDigits n with
    | nil => exact absurd h (natDigits_ne_nil n)
    | cons _ _ => rfl
  have h2 : (natDigits n).all isDigit = true := List.all_eq_true.mpr (natDigits_all n)
  simp [h1, h2, decNat_natDigits]

theorem isNumChar_of_digit {d : UInt8} (h : isDigit d = true) : isNumChar d = true := by
  simp [isNumChar, h]

theorem natDigits_head (n : Nat) : ∃ b t, natDigits n = b :: t ∧ isDigit b = true := by
  cases h : natDigits n with
  | nil => exact absurd h (natDigits_ne_nil n)
  | cons b t => exact ⟨b, t, rfl, natDigits_all n b (h ▸ List.mem_cons_self)⟩

theorem decNumTok_encInt (i : Int) (h0 : -(9223372036854775808 : Int) ≤ i) (h1 : i < (18446744073709551616 : Int)) :
    decNumTok (encInt i) = .ok (.int i) := by
  unfold encInt
  split
  · have h : (-i).toNat ≤ 9223372036854775808 := by omega
    have hne : ¬ (-i).toNat = 0 := by omega
    simp [decNumTok, plainDigits_natDigits, decNat_natDigits, h, hne]
    omega
  · have hp := plainDigits_natDigits i.toNat
    have hv := decNat_natDigits i.toNat
    obtain ⟨b, ds, hnd, hb⟩ := natDigits_head i.toNat
    rw [hnd] at hp hv ⊢
    have hb45 : ¬ b.toNat = 45 := by simp [isDigit] at hb; omega
    have h : i.toNat < 18446744073709551616 := by omega
    simp [decNumTok, hb45, hp, hv, h]
    omega

def NumTok (tok : Bytes) : Prop := tok ≠ [] ∧ ∀ d ∈ tok, isNumChar d = true

theorem numTok_encInt (i : Int) : NumTok (encInt i) := by
  have hd : ∀ n, ∀ d ∈ natDigits n, isNumChar d = true := fun n d hd => isNumChar_of_digit (natDigits_all n d hd)
  unfold encInt
  split
  · exact ⟨List.cons_ne_nil _ _, List.forall_mem_cons.mpr ⟨by decide, hd _⟩⟩
  · exact ⟨natDigits_ne_nil _, hd _⟩

/-- `rest` does not continue a number token. -/
def NumSafe (rest : Bytes) : Prop := ∀ b r, rest = b :: r → isNumChar b = false

theorem numSafe_nil : NumSafe [] := by intro b r h; cases h

theorem numSafe_cons {b : UInt8} (h : isNumChar b = false) (r : Bytes) : NumSafe (b :: r) := by
  intro b' r' he; cases he; exact h

theorem takeWhile_tok (tok rest : Bytes) (ht : ∀ d ∈ tok, isNumChar d = true) (hr : NumSafe rest) :
    (tok ++ rest).takeWhile isNumChar = tok ∧ (tok ++ rest).dropWhile isNumChar = rest := by
  induction tok with
  | nil =>
    cases rest with
    | nil => simp
    | cons b r => simp [hr b r rfl]
  | cons d t ih =>
    have hd := ht d (List.mem_cons_self)
    have := ih (fun x hx => ht x (List.mem_cons_of_mem _ hx))
    simp [hd, this]

theorem hexVal_hexDigit : ∀ x < 16, hexVal (hexDigit x) = some x := by decide

/-- `escByte` by cases: the seven two-character escapes, the `\u00XX` form, the byte itself. -/
theorem escByte_cases {P : Bytes → Prop} (b : UInt8)
    (h22 : b.toNat = 0x22 → P [0x5c, 0x22]) (h5c : b.toNat = 0x5c → P [0x5c, 0x5c])
    (h08 : b.toNat = 0x08 → P [0x5c, 0x62]) (h0c : b.toNat = 0x0c → P [0x5c, 0x66])
    (h0a : b.toNat = 0x0a → P [0x5c, 0x6e]) (h0d : b.toNat = 0x0d → P [0x5c, 0x72])
    (h09 : b.toNat = 0x09 → P [0x5c, 0x74])
    (hex : b.toNat < 0x20 ∨ b.toNat = 0x26 ∨ b.toNat = 0x3c ∨ b.toNat = 0x3e →
      P [0x5c, 0x75, 0x30, 0x30, hexDigit (b.toNat / 16), hexDigit (b.toNat % 16)])
    (plain : 0x20 ≤ b.toNat → b.toNat ∉ [0x22, 0x5c, 0x26, 0x3c, 0x3e] → P [b]) : P (escByte b) :=
  iteInduction h22 fun n22 => iteInduction h5c fun n5c => iteInduction h08 fun _ => iteInduction h0c fun _ =>
    iteInduction h0a fun _ => iteInduction h0d fun _ => iteInduction h09 fun _ => iteInduction hex fun n =>
    plain (by omega) (by simp only [List.mem_cons, List.not_mem_nil, or_false]; omega)

theorem escByte_plain {b : UInt8} (h : 0x20 ≤ b.toNat) (hs : b.toNat ∉ [0x22, 0x5c, 0x26, 0x3c, 0x3e]) :
    escByte b = [b] := by
  simp only [List.mem_cons, List.not_mem_nil, or_false] at hs
  exact escByte_cases (P := fun o => o = [b]) b (fun _ => by omega) (fun _ => by omega) (fun _ => by omega)
    (fun _ => by omega) (fun _ => by omega) (fun _ => by omega) (fun _ => by omega) (fun _ => by omega)
    (fun _ _ => rfl)

/-- The string-body decoder reads `u` as `o`: whatever it makes of `tail` with fuel above `n`, it
    makes of `u ++ tail` with fuel above `n + u.length`, with `o` in front. -/
def Reads (u o : Bytes) : Prop :=
  ∀ (tail s r : Bytes) (n : Nat), (∀ f, n < f → strBody f tail = .ok (s, r)) →
    ∀ f, n + u.length < f → strBody f (u ++ tail) = .ok (o ++ s, r)

theorem Reads.nil : Reads [] [] := fun _ _ _ _ ht f hf => ht f hf

theorem Reads.append {u o u' o' : Bytes} (h : Reads u o) (h' : Reads u' o') : Reads (u ++ u') (o ++ o') := by
  intro tail s r n ht f hf
  rw [List.append_assoc, List.append_assoc]
  exact h _ _ _ _ (h' _ _ _ _ ht) f (by rw [List.length_append] at hf; omega)

/-- One unit of the decoder (`step`) is read with one unit of fuel. -/
theorem Reads.step {u o : Bytes} (hu : u ≠ []) (h : ∀ tail, step (u ++ tail) = .chunk o tail) : Reads u o := by
  intro tail s r n ht f hf
  have := List.length_pos_iff.mpr hu
  obtain ⟨f, rfl⟩ : ∃ f', f = f' + 1 := ⟨f - 1, by omega⟩
  simp only [strBody, h, ht f (by omega)]

theorem reads_escByte (b : UInt8) : Reads (escByte b) [b] := by
  have two : ∀ {t : Nat} {c : UInt8}, (∀ tail, step (0x5c :: c :: tail) = .chunk [UInt8.ofNat t] tail) → b.toNat = t →
      Reads [0x5c, c] [b] := fun {_ c} hs h => eq_of_toNat h ▸ Reads.step (u := [0x5c, c]) (List.cons_ne_nil _ _) hs
  refine escByte_cases (P := fun o => Reads o [b]) b (two fun _ => rfl) (two fun _ => rfl) (two fun _ => rfl)
    (two fun _ => rfl) (two fun _ => rfl) (two fun _ => rfl) (two fun _ => rfl) (fun h => ?_) (fun h hs => ?_)
  · refine Reads.step (List.cons_ne_nil _ _) fun tail => ?_
    have hb := b.toNat_lt
    have h1 := hexVal_hexDigit (b.toNat / 16) (by omega)
    have h2 := hexVal_hexDigit (b.toNat % 16) (by omega)
    have h0 : hexVal 0x30 = some 0 := by decide
    have hu : utf8Enc b.toNat = [b] := by simp [utf8Enc, show b.toNat < 128 by omega]
    have hcp : b.toNat / 16 * 16 + b.toNat % 16 = b.toNat := by omega
    simp [step, h0, h1, h2, hcp, hu]
    omega
  · refine Reads.step (List.cons_ne_nil _ _) fun tail => ?_
    simp only [List.mem_cons, List.not_mem_nil, or_false] at hs
    simp [step, show b.toNat ≠ 0x22 by omega, show b.toNat ≠ 0x5c by omega]

theorem step_2028 (tail : Bytes) :
    step ([0x5c, 0x75, 0x32, 0x30, 0x32, 0x38] ++ tail) = .chunk [0xe2, 0x80, 0xa8] tail := by
  simp [step, hexVal, utf8Enc]

theorem step_2029 (tail : Bytes) :
    step ([0x5c, 0x75, 0x32, 0x30, 0x32, 0x39] ++ tail) = .chunk [0xe2, 0x80, 0xa9] tail := by
  simp [step, hexVal, utf8Enc]

theorem reads_encStrBody : ∀ (s : Bytes), Reads (encStrBody s) s
  | [] => Reads.nil
  | [b] => reads_escByte b
  | [b, c] => (reads_escByte b).append (reads_escByte c)
  | b :: c :: d :: r' => by
      have ih := reads_encStrBody r'
      unfold encStrBody
      split
      · next h =>
        rw [eq_of_toNat h.1, eq_of_toNat h.2.1, eq_of_toNat h.2.2]
        exact (Reads.step (List.cons_ne_nil _ _) step_2028).append ih
      · split
        · next h =>
          rw [eq_of_toNat h.1, eq_of_toNat h.2.1, eq_of_toNat h.2.2]
          exact (Reads.step (List.cons_ne_nil _ _) step_2029).append ih
        · exact (reads_escByte b).append (reads_encStrBody (c :: d :: r'))

theorem strBody_close (rest : Bytes) : ∀ f, 0 < f → strBody f (0x22 :: rest) = .ok ([], rest)
  | f + 1, _ => by simp [strBody, step]

theorem Reads.closed {u o : Bytes} (h : Reads u o) (rest : Bytes) (fuel : Nat) (hf : u.length < fuel) :
    strBody fuel (u ++ 0x22 :: rest) = .ok (o, rest) := by
  simpa using h _ _ _ 0 (strBody_close rest) fuel (by omega)

theorem encStr_dec (s rest : Bytes) (fuel : Nat) (hf : (encStrBody s).length < fuel) :
    strBody fuel (encStrBody s ++ ([0x22] ++ rest)) = .ok (s, rest) :=
  (reads_encStrBody s).closed rest fuel hf

theorem isWs_false {b : UInt8} (h : b.toNat > 0x20) : isWs b = false := by
  simp [isWs]; omega

theorem skipWs_cons {b : UInt8} (h : isWs b = false) (r : Bytes) : skipWs (b :: r) = b :: r := by
  simp [skipWs, h]

theorem isNumChar_head {b : UInt8} (h : isNumChar b = true) :
    b.toNat > 0x20 ∧ b.toNat ≠ 0x5d ∧ b.toNat ≠ 0x5b ∧ b.toNat ≠ 0x7b ∧ b.toNat ≠ 0x22 ∧ b.toNat ≠ 0x6e
      ∧ b.toNat ≠ 0x74 ∧ b.toNat ≠ 0x66 := by
  simp [isNumChar, isDigit] at h
  omega

/-- What the list decoder needs of the bytes of an element: they start with a byte that is neither
    whitespace nor the closing bracket. -/
def ValHead (bs : Bytes) : Prop := ∃ b t, bs = b :: t ∧ b.toNat > 0x20 ∧ b.toNat ≠ 0x5d

theorem NumTok.head {tok : Bytes} (h : NumTok tok) : ValHead tok := by
  cases tok with
  | nil => exact absurd rfl h.1
  | cons b t => have := isNumChar_head (h.2 b List.mem_cons_self); exact ⟨b, t, rfl, this.1, this.2.1⟩

/-- The value decoder reads `bs` as `w`: from the front of `bs ++ rest` it returns `w` and leaves
    `rest`, for any fuel above the depth of `w` and any `rest` that does not continue a number
    token. -/
structure ReadsAs (num : Bytes → DRes CVal) (bs : Bytes) (w : CVal) : Prop where
  head : ValHead bs
  dec : ∀ fuel rest, depth w < fuel → NumSafe rest → decVG num fuel (bs ++ rest) = .ok (w, rest)

/-- `bs` (of the form `,v,v...]`) is read as the remaining elements `ws` of a list.  `decV` gives
    `decTail` the length of what is left, plus one, as list fuel `lf`; `len` is what makes that
    enough (every element costs at least its comma), and `safe` what the element before needs of
    what follows it. -/
structure ReadsTail (num : Bytes → DRes CVal) (bs : Bytes) (ws : List CVal) : Prop where
  safe : ∀ rest, NumSafe (bs ++ rest)
  len : ws.length < bs.length
  dec : ∀ fuel lf rest, depthList ws < fuel → ws.length < lf →
    decTail (decVG num fuel) lf (bs ++ rest) = .ok (ws, rest)

/-- `bs` (of the form `,"k":v,...}`) is read as the remaining members `ws` of a dict, none of their
    keys among those seen. -/
structure ReadsMembers (num : Bytes → DRes CVal) (bs : Bytes) (ws : List (Bytes × CVal)) : Prop where
  safe : ∀ rest, NumSafe (bs ++ rest)
  len : ws.length < bs.length
  dec : ∀ seen fuel lf rest, noDupFrom seen ws = true → depthDict ws < fuel → ws.length < lf →
    decMembers (decVG num fuel) lf seen (bs ++ rest) = .ok (ws, rest)

section
variable {num : Bytes → DRes CVal} {fuel : Nat} {bs tl : Bytes} {w : CVal}

theorem decVG_tok {tok rest : Bytes} (ht : NumTok tok) (hr : NumSafe rest) :
    decVG num (fuel + 1) (tok ++ rest) =
      (match num tok with
       | .ok v => .ok (v, rest)
       | .error e => .error e) := by
  obtain ⟨htk, hdr⟩ := takeWhile_tok tok rest ht.2 hr
  cases tok with
  | nil => exact absurd rfl ht.1
  | cons b t =>
    obtain ⟨h20, _, h1, h2, h3, h4, h5, h6⟩ := isNumChar_head (ht.2 b List.mem_cons_self)
    simp only [List.cons_append] at htk hdr ⊢
    simp only [decVG, skipWs_cons (isWs_false h20)]
    rw [if_neg h1, if_neg h2, if_neg h3, if_neg h4, if_neg h5, if_neg h6]
    simp only [htk, hdr]
    cases num (b :: t) <;> rfl

theorem decVG_quoted {u o : Bytes} (h : Reads u o) (rest : Bytes) :
    decVG num (fuel + 1) (0x22 :: (u ++ [0x22]) ++ rest) = .ok (.str o, rest) := by
  simp only [List.cons_append, List.append_assoc, List.nil_append, decVG, skipWs_cons (show isWs 0x22 = false by decide)]
  rw [if_neg (by decide), if_neg (by decide), if_pos (by decide), h.closed rest _ (by simp; omega)]

theorem decMember_enc {f : Bytes → DRes (CVal × Bytes)} {seen : List Bytes} {k more : Bytes}
    (hs : seen.contains k = false) (hf : f bs = .ok (w, more)) :
    decMember f seen (0x22 :: (encStrBody k ++ 0x22 :: 0x3a :: bs)) = .ok ((k, w), more) := by
  have hk : decMemberKey (0x22 :: (encStrBody k ++ 0x22 :: 0x3a :: bs)) = .ok (k, bs) := by
    simp only [decMemberKey, skipWs_cons (show isWs 0x22 = false by decide)]
    rw [if_pos (by decide), (reads_encStrBody k).closed _ _ (by simp; omega)]
    simp only [skipWs_cons (show isWs 0x3a = false by decide)]
    rw [if_pos (by decide)]
  simp only [decMember, hk, hs, hf]
  rfl

namespace ReadsTail

theorem nil : ReadsTail num [0x5d] [] :=
  ⟨fun _ => numSafe_cons (by decide) _, by decide, fun
    | _, 0, _, _, hl => absurd hl (Nat.not_lt_zero _)
    | _, _ + 1, _, _, _ => by simp [decTail, skipWs, isWs]⟩

theorem cons {ws : List CVal} (h : ReadsAs num bs w) (t : ReadsTail num tl ws) :
    ReadsTail num (0x2c :: (bs ++ tl)) (w :: ws) :=
  ⟨fun _ => numSafe_cons (by decide) _, by have := t.len; simp; omega, fun
    | _, 0, _, _, hl => absurd hl (Nat.not_lt_zero _)
    | fuel, lf + 1, rest, hd, hl => by
      simp only [depthList, List.length_cons] at hd hl
      simp only [List.cons_append, List.append_assoc, decTail, skipWs_cons (show isWs 0x2c = false by decide)]
      rw [if_neg (by decide), if_pos (by decide), h.dec fuel _ (by omega) (t.safe rest)]
      simp only [t.dec fuel lf rest (by omega) (by omega)]⟩

end ReadsTail

namespace ReadsMembers

theorem nil : ReadsMembers num [0x7d] [] :=
  ⟨fun _ => numSafe_cons (by decide) _, by decide, fun
    | _, _, 0, _, _, _, hl => absurd hl (Nat.not_lt_zero _)
    | _, _, _ + 1, _, _, _, _ => by simp [decMembers, skipWs, isWs]⟩

theorem cons {ws : List (Bytes × CVal)} (k : Bytes) (h : ReadsAs num bs w) (t : ReadsMembers num tl ws) :
    ReadsMembers num (0x2c :: (encStr k ++ (0x3a :: (bs ++ tl)))) ((k, w) :: ws) :=
  ⟨fun _ => numSafe_cons (by decide) _, by have := t.len; simp; omega, fun
    | _, _, 0, _, _, _, hl => absurd hl (Nat.not_lt_zero _)
    | seen, fuel, lf + 1, rest, hn, hd, hl => by
      simp only [depthDict, List.length_cons, noDupFrom, Bool.and_eq_true, Bool.not_eq_true'] at hn hd hl
      simp only [encStr, List.cons_append, List.append_assoc, List.nil_append, decMembers,
        skipWs_cons (show isWs 0x2c = false by decide)]
      rw [if_neg (by decide), if_pos (by decide), decMember_enc hn.1 (h.dec fuel _ (by omega) (t.safe rest))]
      simp only [t.dec (k :: seen) fuel lf rest hn.2 (by omega) (by omega)]⟩

end ReadsMembers

namespace ReadsAs

/-- Nothing is asked at fuel `0`: it is enough to read `bs` with fuel `fuel + 1`. -/
theorem of_succ (hh : ValHead bs)
    (h : ∀ fuel rest, depth w ≤ fuel → NumSafe rest → decVG num (fuel + 1) (bs ++ rest) = .ok (w, rest)) :
    ReadsAs num bs w :=
  ⟨hh, fun
    | 0, _, hf, _ => absurd hf (Nat.not_lt_zero _)
    | fuel + 1, rest, hf, hr => h fuel rest (Nat.le_of_lt_succ hf) hr⟩

theorem null : ReadsAs num [0x6e, 0x75, 0x6c, 0x6c] .null :=
  .of_succ ⟨_, _, rfl, by decide⟩ fun _ _ _ _ => by simp [decVG, skipWs, isWs, lit]

theorem litTrue : ReadsAs num [0x74, 0x72, 0x75, 0x65] (.bool true) :=
  .of_succ ⟨_, _, rfl, by decide⟩ fun _ _ _ _ => by simp [decVG, skipWs, isWs, lit]

theorem litFalse : ReadsAs num [0x66, 0x61, 0x6c, 0x73, 0x65] (.bool false) :=
  .of_succ ⟨_, _, rfl, by decide⟩ fun _ _ _ _ => by simp [decVG, skipWs, isWs, lit]

theorem list_nil : ReadsAs num [0x5b, 0x5d] (.list []) :=
  .of_succ ⟨_, _, rfl, by decide⟩ fun _ _ _ _ => by simp [decVG, skipWs, isWs]

theorem dict_nil : ReadsAs num [0x7b, 0x7d] (.dict []) :=
  .of_succ ⟨_, _, rfl, by decide⟩ fun _ _ _ _ => by simp [decVG, skipWs, isWs]

theorem tok {tok : Bytes} (ht : NumTok tok) (hn : num tok = .ok w) : ReadsAs num tok w :=
  .of_succ ht.head fun _ _ _ hr => by rw [decVG_tok ht hr, hn]

theorem quoted {u o : Bytes} (h : Reads u o) : ReadsAs num (0x22 :: (u ++ [0x22])) (.str o) :=
  .of_succ ⟨_, _, rfl, by decide⟩ fun _ rest _ _ => decVG_quoted h rest

/-- `[` element tail: the element is read with one unit of fuel less, the tail with more list fuel
    than it has elements. -/
theorem list_cons {ws : List CVal} (h : ReadsAs num bs w) (t : ReadsTail num tl ws) :
    ReadsAs num (0x5b :: (bs ++ tl)) (.list (w :: ws)) :=
  .of_succ ⟨_, _, rfl, by decide⟩ fun fuel rest hd _ => by
    simp only [depth, depthList] at hd
    have := t.len
    obtain ⟨b, r, rfl, hb, hb'⟩ := h.head
    have hv := h.dec fuel _ (by omega) (t.safe rest)
    simp only [List.cons_append, List.append_assoc] at hv ⊢
    simp only [decVG, skipWs_cons (show isWs 0x5b = false by decide), skipWs_cons (isWs_false hb)]
    rw [if_pos (by decide), if_neg hb', hv]
    simp only [t.dec fuel (tl ++ rest).length.succ rest (by omega) (by simp; omega)]

theorem dict_cons {ws : List (Bytes × CVal)} (k : Bytes) (hn : noDupFrom [k] ws = true) (h : ReadsAs num bs w)
    (t : ReadsMembers num tl ws) :
    ReadsAs num (0x7b :: (encStr k ++ (0x3a :: (bs ++ tl)))) (.dict ((k, w) :: ws)) :=
  .of_succ ⟨_, _, rfl, by decide⟩ fun fuel rest hd _ => by
    simp only [depth, depthDict] at hd
    have := t.len
    simp only [encStr, List.cons_append, List.append_assoc, List.nil_append, decVG,
      skipWs_cons (show isWs 0x7b = false by decide), skipWs_cons (show isWs 0x22 = false by decide)]
    rw [if_neg (by decide), if_pos (by decide), if_neg (by decide),
      decMember_enc rfl (h.dec fuel _ (by omega) (t.safe rest))]
    simp only [t.dec [k] fuel (tl ++ rest).length.succ rest hn (by omega) (by simp; omega)]

end ReadsAs

end

mutual
  theorem readsAs_enc : ∀ (v : CVal), okB v = true → ReadsAs decNumTok (enc v) v
    | .null, _ => .null
    | .bool true, _ => .litTrue
    | .bool false, _ => .litFalse
    | .int i, h => by
        simp only [okB, Bool.and_eq_true, decide_eq_true_eq] at h
        exact .tok (numTok_encInt i) (decNumTok_encInt i h.1 h.2)
    | .float _, h | .bin _, h => by simp [okB] at h
    | .str s, _ => .quoted (reads_encStrBody s)
    | .list [], _ => .list_nil
    | .list (v :: vs), h => by
        simp only [okB, okListB, Bool.and_eq_true] at h
        exact .list_cons (readsAs_enc v h.1) (readsTail_enc vs h.2)
    | .dict [], _ => .dict_nil
    | .dict ((k, v) :: r), h => by
        simp only [okB, okDictB, noDupFrom, Bool.and_eq_true] at h
        exact .dict_cons k h.1.2 (readsAs_enc v h.2.1.2) (readsMembers_enc r h.2.2)
  theorem readsTail_enc : ∀ (vs : List CVal), okListB vs = true → ReadsTail decNumTok (encTail vs) vs
    | [], _ => .nil
    | v :: vs, h => by
        simp only [okListB, Bool.and_eq_true] at h
        exact .cons (readsAs_enc v h.1) (readsTail_enc vs h.2)
  theorem readsMembers_enc : ∀ (d : List (Bytes × CVal)), okDictB d = true → ReadsMembers decNumTok (encMembers d) d
    | [], _ => .nil
    | (k, v) :: r, h => by
        simp only [okDictB, Bool.and_eq_true] at h
        exact .cons k (readsAs_enc v h.1.2) (readsMembers_enc r h.2)
end

theorem decTail_enc : ∀ (vs : List CVal) (fuel lf : Nat) (rest : Bytes), okListB vs = true →
      depthList vs < fuel → vs.length < lf → decTail (decV fuel) lf (encTail vs ++ rest) = .ok (vs, rest) :=
  fun vs fuel lf rest hv => decV_eq_decVG fuel ▸ (readsTail_enc vs hv).dec fuel lf rest

theorem decMembers_enc : ∀ (d : List (Bytes × CVal)) (seen : List Bytes) (fuel lf : Nat) (rest : Bytes),
      okDictB d = true → noDupFrom seen d = true →
      depthDict d < fuel → d.length < lf → decMembers (decV fuel) lf seen (encMembers d ++ rest) = .ok (d, rest) :=
  fun d seen fuel lf rest hv => decV_eq_decVG fuel ▸ (readsMembers_enc d hv).dec seen fuel lf rest

mutual
  theorem depth_le : ∀ (v : CVal), depth v ≤ (enc v).length
    | .null | .bool _ | .int _ | .float _ | .str _ | .bin _ => Nat.zero_le _
    | .list [] => by simp [depth, depthList, enc]
    | .list (v :: vs) => by
        have := depth_le v; have := depthTail_le vs
        simp [depth, depthList, enc]; omega
    | .dict [] => by simp [depth, depthDict, enc]
    | .dict ((k, v) :: r) => by
        have := depth_le v; have := depthMembers_le r
        simp [depth, depthDict, enc]; omega
  theorem depthTail_le : ∀ (l : List CVal), depthList l ≤ (encTail l).length
    | [] => by simp [depthList]
    | v :: vs => by
        have := depth_le v; have := depthTail_le vs
        simp [depthList, encTail]; omega
  theorem depthMembers_le : ∀ (d : List (Bytes × CVal)), depthDict d ≤ (encMembers d).length
    | [] => by simp [depthDict]
    | (k, v) :: r => by
        have := depth_le v; have := depthMembers_le r
        simp [depthDict, encMembers]; omega
end

/-- **JSON round trip** (fragment null/bool/integer/string/list/dict): decoding the encoding of a
    value, followed by bytes that do not continue a number token, returns the value and those
    bytes. -/
theorem dec_enc (v : CVal) (rest : Bytes) (hv : okB v = true) (hr : NumSafe rest) :
    dec (enc v ++ rest) = .ok (v, rest) := by
  rw [dec_eq_decVG]
  apply (readsAs_enc v hv).dec _ rest _ hr
  have := depth_le v
  simp; omega

end Nexus.Codec.Json
