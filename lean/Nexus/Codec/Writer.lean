/-
  The round trip of the two binary formats, proved once.  MessagePack and CBOR write a list as a
  header carrying the number of items and then the items, a dict as a header carrying the number
  of pairs and then keys and values in turn, and both decoders hand what follows such a header to
  `decItems`, `decPairs` one level of the nesting budget down.  `Reader` says that much of a
  decoder, `Writer` of what is written for it; scalars and header bytes are left to the format.
-/
import Nexus.Codec.BytesLemmas

namespace Nexus.Codec

/-- `D` reads a key written by `EK` back with `K`; after a count header `HL n`, `HD n` it answers
    with what `decItems`, `decPairs` make of the rest, one level down. -/
structure Reader (L : Nat) (D : Nat → Bytes → DRes (CVal × Bytes)) (K : Bytes → DRes (Bytes × Bytes))
    (EK : Bytes → Bytes) (HL HD : Nat → Bytes) : Prop where
  key : ∀ k rest, k.length < L → K (EK k ++ rest) = .ok (k, rest)
  items : ∀ fuel n body, n < L → D (fuel + 1) (HL n ++ body) =
    match decItems (D fuel) n body with
    | .ok (l, r) => .ok (.list l, r)
    | .error e => .error e
  pairs : ∀ fuel n body, n < L → D (fuel + 1) (HD n ++ body) =
    match decPairs K (D fuel) n [] body with
    | .ok (d, r) => .ok (.dict d, r)
    | .error e => .error e
  lpos : ∀ n, 0 < (HL n).length
  dpos : ∀ n, 0 < (HD n).length

/-- `E` writes scalars so that `D` reads them back, a list as its header and then the items
    (`EL`), a dict as its header and then keys and values in turn (`ED`). -/
structure Writer (L : Nat) (D : Nat → Bytes → DRes (CVal × Bytes)) (K : Bytes → DRes (Bytes × Bytes))
    (E : CVal → Bytes) (EL : List CVal → Bytes) (ED : CDict → Bytes) (EK : Bytes → Bytes) (HL HD : Nat → Bytes) : Prop
    extends Reader L D K EK HL HD where
  leaf : ∀ v fuel rest, depth v = 0 → validB L v = true → D (fuel + 1) (E v ++ rest) = .ok (v, rest)
  list : ∀ l, E (.list l) = HL l.length ++ EL l
  dict : ∀ d, E (.dict d) = HD d.length ++ ED d
  nil : EL [] = []
  cons : ∀ v vs, EL (v :: vs) = E v ++ EL vs
  dnil : ED [] = []
  dcons : ∀ k v r, ED ((k, v) :: r) = EK k ++ (E v ++ ED r)

variable {L : Nat} {D : Nat → Bytes → DRes (CVal × Bytes)} {K : Bytes → DRes (Bytes × Bytes)} {E : CVal → Bytes}
  {EL : List CVal → Bytes} {ED : CDict → Bytes} {EK : Bytes → Bytes} {HL HD : Nat → Bytes}

theorem Reader.badKey (R : Reader L D K EK HL HD) {fuel n : Nat} {bs : Bytes} {e : DErr} (hn : n + 1 < L)
    (h : K bs = .error e) : D (fuel + 1) (HD (n + 1) ++ bs) = .error e := by
  rw [R.pairs _ _ _ hn, decPairs, h]

namespace Writer

variable (W : Writer L D K E EL ED EK HL HD)
include W

mutual
  theorem roundTrip : ∀ (v : CVal) (fuel : Nat) (rest : Bytes), validB L v = true → depth v < fuel →
      D fuel (E v ++ rest) = .ok (v, rest)
    | _, 0, _, _, hd => absurd hd (Nat.not_lt_zero _)
    | .list l, fuel + 1, rest, hv, hd => by
        simp only [validB, Bool.and_eq_true, decide_eq_true_eq] at hv
        rw [W.list, List.append_assoc, W.items _ _ _ hv.1, roundTripItems l fuel rest hv.2 (Nat.lt_of_succ_lt_succ hd)]
    | .dict d, fuel + 1, rest, hv, hd => by
        simp only [validB, Bool.and_eq_true, decide_eq_true_eq] at hv
        rw [W.dict, List.append_assoc, W.pairs _ _ _ hv.1.1,
          roundTripPairs d [] fuel rest hv.2 hv.1.2 (Nat.lt_of_succ_lt_succ hd)]
    | .null, fuel + 1, rest, hv, _ | .bool _, fuel + 1, rest, hv, _ | .int _, fuel + 1, rest, hv, _
    | .float _, fuel + 1, rest, hv, _ | .str _, fuel + 1, rest, hv, _ | .bin _, fuel + 1, rest, hv, _ =>
        W.leaf _ fuel rest rfl hv
  theorem roundTripItems : ∀ (l : List CVal) (fuel : Nat) (rest : Bytes), validListB L l = true →
      depthList l < fuel → decItems (D fuel) l.length (EL l ++ rest) = .ok (l, rest)
    | [], _, _, _, _ => by rw [W.nil]; rfl
    | v :: vs, fuel, rest, hv, hd => by
        rw [validListB, Bool.and_eq_true] at hv
        rw [depthList, Nat.max_lt] at hd
        rw [W.cons, List.append_assoc, List.length_cons, decItems, roundTrip v fuel _ hv.1 hd.1]
        simp only [roundTripItems vs fuel rest hv.2 hd.2]
  theorem roundTripPairs : ∀ (d : CDict) (seen : List Bytes) (fuel : Nat) (rest : Bytes),
      validDictB L d = true → noDupFrom seen d = true →
      depthDict d < fuel → decPairs K (D fuel) d.length seen (ED d ++ rest) = .ok (d, rest)
    | [], _, _, _, _, _, _ => by rw [W.dnil]; rfl
    | (k, v) :: r, seen, fuel, rest, hv, hn, hd => by
        simp only [validDictB, Bool.and_eq_true, decide_eq_true_eq] at hv
        rw [noDupFrom, Bool.and_eq_true, Bool.not_eq_true'] at hn
        rw [depthDict, Nat.max_lt] at hd
        rw [W.dcons, List.append_assoc, List.append_assoc, List.length_cons, decPairs, W.key k _ hv.1.1]
        simp only [hn.1, roundTrip v fuel _ hv.1.2 hd.1, roundTripPairs r (k :: seen) fuel rest hv.2 hn.2 hd.2]
        rfl
end

mutual
  /-- Every level of nesting costs a header byte, so the length of what was written is budget
      enough to read it back. -/
  theorem depth_le : ∀ (v : CVal), depth v ≤ (E v).length
    | .list l => by
        have := depthList_le l; have := W.lpos l.length
        rw [depth, W.list, List.length_append]; omega
    | .dict d => by
        have := depthDict_le d; have := W.dpos d.length
        rw [depth, W.dict, List.length_append]; omega
    | .null | .bool _ | .int _ | .float _ | .str _ | .bin _ => Nat.zero_le _
  theorem depthList_le : ∀ (l : List CVal), depthList l ≤ (EL l).length
    | [] => Nat.zero_le _
    | v :: vs => by
        have := depth_le v; have := depthList_le vs
        rw [depthList, W.cons, List.length_append]; omega
  theorem depthDict_le : ∀ (d : CDict), depthDict d ≤ (ED d).length
    | [] => Nat.zero_le _
    | (k, v) :: r => by
        have := depth_le v; have := depthDict_le r
        rw [depthDict, W.dcons, List.length_append, List.length_append]; omega
end

theorem top (v : CVal) (rest : Bytes) (hv : validB L v = true) :
    D ((E v ++ rest).length + 1) (E v ++ rest) = .ok (v, rest) :=
  W.roundTrip v _ rest hv (by have := W.depth_le v; rw [List.length_append]; omega)

theorem dupKey {n : Nat} (hn : n + 2 < L) {k : Bytes} (hk : k.length < L) {v : CVal} (hv : validB L v = true)
    (r : Bytes) : D ((HD (n + 2) ++ (EK k ++ (E v ++ (EK k ++ r)))).length + 1)
      (HD (n + 2) ++ (EK k ++ (E v ++ (EK k ++ r)))) = .error .unsupported := by
  have hf : depth v < (HD (n + 2) ++ (EK k ++ (E v ++ (EK k ++ r)))).length := by
    have := W.depth_le v; have := W.dpos (n + 2)
    simp only [List.length_append]; omega
  rw [W.pairs _ _ _ hn, decPairs, W.key k _ hk]
  simp only [List.contains_nil, W.roundTrip v _ _ hv hf, decPairs, W.key k _ hk, List.contains_cons, BEq.rfl,
    Bool.true_or, Bool.false_eq_true, if_false, if_true]

end Writer

end Nexus.Codec
