/-
  `serialize.BinaryData` (transport/serialize/jsonserializer.go:62-89; audit items C14-a1, a3, the
  panic site of finding C14-F3), statement by statement.

    func (b BinaryData) MarshalJSON() ([]byte, error) {
        s := base64.StdEncoding.EncodeToString([]byte(b))
        var out []byte
        return out, codec.NewEncoderBytes(&out, jh).Encode("\x00" + s)
    }
    func (b *BinaryData) UnmarshalJSON(v []byte) error {
        var s string
        err := codec.NewDecoderBytes(v, jh).Decode(&s)
        if err != nil { return err }
        if len(s) == 0 || s[0] != '\x00' { return errors.New("binary string does not start with NUL") }
        *b, err = base64.StdEncoding.DecodeString(s[1:])
        return err
    }

  `Encode(string)` is `quoteStr`: the NUL is written as the six characters `\u0000`
  (`marshalBD_bytes`; replayed: `"\u0000AQID"` for {1,2,3}).  ugorji calls `MarshalJSON` for a
  `BinaryData` inside any value it encodes as JSON.

  `Decode(&s)` with a string target is `DecodeStringAsBytes` (json.go:935-965): a JSON string is
  unescaped; `null` gives "", `true` / `false` their text, and anything else is read as a number
  token and taken as text (`[1]`, `{}` give "").  Bytes after the value are ignored.

  Before the fix of C14-F3 (commit 80d0460) the condition was `s[0] != '\x00'` alone: an index
  out of range for every input that decodes to the empty string (`unmarshalBDPre`).

  Not modelled: on a base64 error Go still assigns the bytes decoded so far to `*b`; strings with
  surrogate or non-hex `\u` escapes (`unsupported`, as in `Json.dec`).
-/
import Nexus.Codec.JsonFloat

namespace Nexus.Codec.Json

open Nexus.Codec

/-- `BinaryData.MarshalJSON`. -/
def marshalBD (b : Bytes) : Bytes := encStr (0 :: B64.enc b)

/-- `codec.NewDecoderBytes(v, jh).Decode(&s)` for `var s string`. -/
def decStringTyped (v : Bytes) : DRes Bytes :=
  match skipWs v with
  | [] => .error .malformed                                 -- EOF
  | q :: r =>
    if q.toNat = 0x22 then
      match strBody (r.length + 1) r with
      | .ok (s, _) => .ok s
      | .error e => .error e
    else if q.toNat = 0x6e then
      match lit [0x75, 0x6c, 0x6c] .null r with
      | .ok _ => .ok []
      | .error e => .error e
    else if q.toNat = 0x66 then
      match lit [0x61, 0x6c, 0x73, 0x65] .null r with
      | .ok _ => .ok [0x66, 0x61, 0x6c, 0x73, 0x65]
      | .error e => .error e
    else if q.toNat = 0x74 then
      match lit [0x72, 0x75, 0x65] .null r with
      | .ok _ => .ok [0x74, 0x72, 0x75, 0x65]
      | .error e => .error e
    else .ok ((q :: r).takeWhile isNumChar)                  -- `jsonReadNum`, possibly empty

inductive BDRes where
  | ok (b : Bytes)
  /-- `UnmarshalJSON` returns an error -/
  | error
  /-- outside the string model -/
  | unsupported
  | panic (site : String)
  deriving Repr, DecidableEq, Inhabited

def BDRes.isPanic : BDRes → Bool
  | .panic _ => true
  | _ => false

/-- `BinaryData.UnmarshalJSON` as it is now. -/
def unmarshalBD (v : Bytes) : BDRes :=
  match decStringTyped v with
  | .error .malformed => .error                    -- `if err != nil { return err }`
  | .error .unsupported => .unsupported
  | .ok s =>
    match s with
    | [] => .error                                 -- `len(s) == 0`
    | c :: t =>
      if c.toNat ≠ 0 then .error                   -- `s[0] != '\x00'`
      else
        match B64.dec t with                       -- `DecodeString(s[1:])`
        | some b => .ok b
        | none => .error

/-- `BinaryData.UnmarshalJSON` before commit 80d0460: `if s[0] != '\x00'`. -/
def unmarshalBDPre (v : Bytes) : BDRes :=
  match decStringTyped v with
  | .error .malformed => .error
  | .error .unsupported => .unsupported
  | .ok s =>
    match s with
    | [] => .panic "BinaryData.UnmarshalJSON: s[0]: index out of range [0] with length 0"
    | c :: t =>
      if c.toNat ≠ 0 then .error
      else
        match B64.dec t with
        | some b => .ok b
        | none => .error

end Nexus.Codec.Json
