/-
  `Level` and `Levels` describe a binary decoder level by level, with the lemmas that tell the
  `Level` of a branch from its shape.  `MsgPack.decF_levels` and `CBOR.decF_levels`
  (`DecoderTotal.lean`) take the two decoders apart, there and nowhere else; what is proved of
  either decoder is proved of any decoder with `Levels`: `Levels.sound` here (what it returns is
  encodable, `DecoderValid.lean`, and the rest is a proper suffix of the input) and
  `Levels.locates` (`DecoderTotal.lean`), which needs the second half of it.

  Last, `Json.dec_list_head_range`: the integer at the head of a list that `Json.dec` returns is
  one Go can hold, so that `headType`'s conversion with `wrapI64` is the identity on every accepted
  head (`Nexus.C14.C14_accept_known_code`); the binary formats get the same from `dec_valid`
  (`DecoderValid.lean`).
-/
import Nexus.Codec.Wire

namespace Nexus.Codec

/-- Go's `int64 ∪ uint64`, with literals. -/
def IntRange (i : Int) : Prop := -(9223372036854775808 : Int) ≤ i ∧ i < (18446744073709551616 : Int)

theorem beNat_foldl_lt : ∀ (bs : Bytes) (a : Nat),
    bs.foldl (fun a b => a * 256 + b.toNat) a + 1 ≤ (a + 1) * 256 ^ bs.length
  | [], a => by simp
  | b :: t, a => by
      have ih := beNat_foldl_lt t (a * 256 + b.toNat)
      have hb := b.toNat_lt
      have h1 : (a * 256 + b.toNat + 1) * 256 ^ t.length ≤ ((a + 1) * 256) * 256 ^ t.length :=
        Nat.mul_le_mul_right _ (by omega)
      simp only [List.foldl_cons, List.length_cons, Nat.pow_succ]
      calc _ ≤ (a * 256 + b.toNat + 1) * 256 ^ t.length := ih
        _ ≤ ((a + 1) * 256) * 256 ^ t.length := h1
        _ = (a + 1) * (256 ^ t.length * 256) := by rw [Nat.mul_assoc, Nat.mul_comm 256]

theorem beNat_lt (bs : Bytes) : beNat bs < 256 ^ bs.length := by
  have := beNat_foldl_lt bs 0
  simp only [Nat.zero_add, Nat.one_mul] at this
  exact this

theorem takeN_ok {k : Nat} {bs a r : Bytes} (h : takeN k bs = .ok (a, r)) : a.length = k ∧ bs = a ++ r := by
  unfold takeN at h
  split at h
  · rename_i hk
    cases h
    exact ⟨by rw [List.length_take, Nat.min_eq_left hk], (List.take_append_drop k bs).symm⟩
  · cases h

theorem takeN_err {k : Nat} {bs : Bytes} {e : DErr} (h : takeN k bs = .error e) : e = .malformed := by
  unfold takeN at h
  split at h <;> cases h
  rfl

theorem readBE_ok {k : Nat} {bs : Bytes} {n : Nat} {r : Bytes} (h : readBE k bs = .ok (n, r)) :
    n < 256 ^ k ∧ ∃ c, bs = c ++ r := by
  unfold readBE at h
  split at h
  · rename_i a r' ht
    cases h
    obtain ⟨hl, e⟩ := takeN_ok ht
    exact ⟨hl ▸ beNat_lt a, a, e⟩
  · cases h

theorem readBE_err {k : Nat} {bs : Bytes} {e : DErr} (h : readBE k bs = .error e) : e = .malformed := by
  unfold readBE at h
  split at h
  · cases h
  · rename_i ht; cases h; exact takeN_err ht

theorem decItems_succ_ok {f : Bytes → DRes (CVal × Bytes)} {n : Nat} {bs : Bytes} {vs : List CVal} {r : Bytes}
    (h : decItems f (n + 1) bs = .ok (vs, r)) :
    ∃ v r1 vs', f bs = .ok (v, r1) ∧ decItems f n r1 = .ok (vs', r) ∧ vs = v :: vs' := by
  unfold decItems at h
  split at h
  · cases h
  · rename_i v r1 h1
    split at h
    · cases h
    · rename_i vs' _ h2
      cases h
      exact ⟨v, r1, vs', h1, h2, rfl⟩

theorem decPairs_succ_ok {k : Bytes → DRes (Bytes × Bytes)} {f : Bytes → DRes (CVal × Bytes)} {n : Nat}
    {seen : List Bytes} {bs : Bytes} {ps : List (Bytes × CVal)} {r : Bytes}
    (h : decPairs k f (n + 1) seen bs = .ok (ps, r)) :
    ∃ key r0 v r1 ps', k bs = .ok (key, r0) ∧ seen.contains key = false ∧ f r0 = .ok (v, r1) ∧
      decPairs k f n (key :: seen) r1 = .ok (ps', r) ∧ ps = (key, v) :: ps' := by
  unfold decPairs at h
  split at h
  · cases h
  · rename_i key r0 h0
    split at h
    · cases h
    · rename_i hseen
      split at h
      · cases h
      · rename_i v r1 h1
        split at h
        · cases h
        · rename_i ps' _ h2
          cases h
          exact ⟨key, r0, v, r1, ps', h0, by simpa using hseen, h1, h2, rfl⟩

/-! The MessagePack and CBOR decoders have the same shape: `D (fuel + 1)` reads a head and then
  answers with a value that has no parts, or hands the rest to `decItems (D fuel)` or
  `decPairs k (D fuel)`, or refuses.  `Level` says so once, with the head `c` that was consumed
  made explicit. -/

/-- A value without parts as a decoder may return it: strings shorter than `L`, integers that
    Go can hold. -/
def Leaf (L : Nat) : CVal → Prop
  | .int i => IntRange i
  | .str s => s.length < L
  | .bin s => s.length < L
  | .list _ => False
  | .dict _ => False
  | _ => True

/-- What a decoder with key reader `k` and item decoder `f` may answer on `bs`; `U` is what holds
    of `bs` when it is refused on sight.  The answers `.ok` record what soundness needs (a
    non-empty head `c`, the count below `L`); `listErr` and `dictErr` are bare on purpose: of an
    error inside a loop only where the loop started is ever used (`Levels.locates`). -/
inductive Level (L : Nat) (U : Prop) (k : Bytes → DRes (Bytes × Bytes)) (f : Bytes → DRes (CVal × Bytes))
    (bs : Bytes) : DRes (CVal × Bytes) → Prop
  | malformed : Level L U k f bs (.error .malformed)
  | refused (h : U) : Level L U k f bs (.error .unsupported)
  | leaf (v : CVal) (hv : Leaf L v) (c r : Bytes) (hc : c ≠ []) (e : bs = c ++ r) : Level L U k f bs (.ok (v, r))
  | list (c r' : Bytes) (n : Nat) (vs : List CVal) (r : Bytes) (hc : c ≠ []) (e : bs = c ++ r') (hn : n < L)
      (h : decItems f n r' = .ok (vs, r)) : Level L U k f bs (.ok (.list vs, r))
  | listErr (c r' : Bytes) (n : Nat) (err : DErr) (e : bs = c ++ r')
      (h : decItems f n r' = .error err) : Level L U k f bs (.error err)
  | dict (c r' : Bytes) (n : Nat) (ps : List (Bytes × CVal)) (r : Bytes) (hc : c ≠ []) (e : bs = c ++ r')
      (hn : n < L) (h : decPairs k f n [] r' = .ok (ps, r)) : Level L U k f bs (.ok (.dict ps, r))
  | dictErr (c r' : Bytes) (n : Nat) (err : DErr) (e : bs = c ++ r')
      (h : decPairs k f n [] r' = .error err) : Level L U k f bs (.error err)

/-- `D`, indexed by its nesting budget, answers at every level as `Level` allows, with the level
    below as item decoder.  `U bs` is what the format can say of an input it refuses on sight:
    `Levels.sound` ignores it, `Levels.locates` instantiates it with "a cause sits at the head of
    `bs`" (`UnsupportedAt []`). -/
structure Levels (L : Nat) (U : Bytes → Prop) (k : Bytes → DRes (Bytes × Bytes))
    (D : Nat → Bytes → DRes (CVal × Bytes)) : Prop where
  zero : ∀ bs, D 0 bs = .error .malformed
  succ : ∀ fuel bs, Level L (U bs) k (D fuel) bs (D (fuel + 1) bs)

variable {L : Nat} {k : Bytes → DRes (Bytes × Bytes)}

/-! The `Level` of a branch from its shape.  The two formats each define `mapV`; the lemmas are
  stated with MessagePack's (`CBOR.mapV_eq`). -/

open MsgPack (mapV)

variable {u : Prop} {f : Bytes → DRes (CVal × Bytes)} {bs : Bytes}

theorem Level.here {v : CVal} {b : UInt8} {rest : Bytes} (hv : Leaf L v) :
    Level L u k f (b :: rest) (.ok (v, rest)) :=
  .leaf v hv [b] rest (List.cons_ne_nil _ _) rfl

theorem Level.ofMap {α} {g : α → CVal} {x : DRes (α × Bytes)}
    (hx : ∀ a r, x = .ok (a, r) → Leaf L (g a) ∧ ∃ c, c ≠ [] ∧ bs = c ++ r)
    (he : ∀ e, x = .error e → e = .malformed) : Level L u k f bs (mapV g x) := by
  match x with
  | .ok (a, r) => obtain ⟨hl, c, hc, e⟩ := hx a r rfl; exact .leaf _ hl c r hc e
  | .error e => cases he e rfl; exact .malformed

theorem Level.ofReadBE {g : Nat → CVal} {w : Nat} {b : UInt8} {rest : Bytes}
    (hg : ∀ n, n < 256 ^ w → Leaf L (g n)) : Level L u k f (b :: rest) (mapV g (readBE w rest)) :=
  .ofMap (fun _ _ h => let ⟨hn, c, e⟩ := readBE_ok h; ⟨hg _ hn, b :: c, List.cons_ne_nil _ _, by rw [e]; rfl⟩)
    (fun _ => readBE_err)

theorem Level.ofTakeN {C : Bytes → CVal} (hC : ∀ s, s.length < L → Leaf L (C s)) {n : Nat} (hn : n < L)
    {c r' : Bytes} (hc : c ≠ []) (e : bs = c ++ r') : Level L u k f bs (mapV C (takeN n r')) :=
  .ofMap (fun a _ h => let ⟨hl, e'⟩ := takeN_ok h; ⟨hC a (hl ▸ hn), c ++ a, by simp [hc], by rw [e, e', List.append_assoc]⟩)
    (fun _ => takeN_err)

theorem Level.ofItems {n : Nat} (hn : n < L) {c r' : Bytes} (hc : c ≠ []) (e : bs = c ++ r') :
    Level L u k f bs (mapV .list (decItems f n r')) := by
  match h : decItems f n r' with
  | .ok (vs, r) => exact .list c r' n vs r hc e hn h
  | .error err => exact .listErr c r' n err e h

theorem Level.ofPairs {n : Nat} (hn : n < L) {c r' : Bytes} (hc : c ≠ []) (e : bs = c ++ r') :
    Level L u k f bs (mapV .dict (decPairs k f n [] r')) := by
  match h : decPairs k f n [] r' with
  | .ok (ps, r) => exact .dict c r' n ps r hc e hn h
  | .error err => exact .dictErr c r' n err e h

/-! One walk over the answers `.ok`: the value is encodable (`validB`, the hypothesis of the
  round-trip theorems) and the rest is a proper suffix of the input (what locating a cause of
  `unsupported` needs, `DecoderTotal.lean`). -/

def Sound (L : Nat) (f : Bytes → DRes (CVal × Bytes)) : Prop :=
  ∀ bs v r, f bs = .ok (v, r) → validB L v = true ∧ ∃ c, c ≠ [] ∧ bs = c ++ r

def KeySound (L : Nat) (k : Bytes → DRes (Bytes × Bytes)) : Prop :=
  ∀ bs key r, k bs = .ok (key, r) → key.length < L ∧ ∃ c, c ≠ [] ∧ bs = c ++ r

theorem valid_leaf : ∀ {v : CVal}, Leaf L v → validB L v = true
  | .int i, (h : IntRange i) => by simp [validB, h.1, h.2]
  | .null, _ => rfl
  | .bool _, _ => rfl
  | .float _, _ => rfl
  | .str s, (h : s.length < L) => by simp [validB, h]
  | .bin s, (h : s.length < L) => by simp [validB, h]

theorem decItems_sound (hf : Sound L f) :
    ∀ (n : Nat) (bs : Bytes) (vs : List CVal) (r : Bytes), decItems f n bs = .ok (vs, r) →
      (vs.length = n ∧ validListB L vs = true) ∧ ∃ c, bs = c ++ r
  | 0, bs, vs, r, h => by
      simp [decItems] at h
      rw [h.1, h.2]; exact ⟨⟨rfl, by simp [validListB]⟩, [], rfl⟩
  | n + 1, bs, vs, r, h => by
      obtain ⟨_, _, _, h1, h2, rfl⟩ := decItems_succ_ok h
      obtain ⟨a, c1, _, e1⟩ := hf _ _ _ h1
      obtain ⟨b, c2, e2⟩ := decItems_sound hf n _ _ _ h2
      exact ⟨⟨by simp [b.1], by simp [validListB, a, b.2]⟩, c1 ++ c2, by rw [e1, e2, List.append_assoc]⟩

theorem decPairs_sound (hk : KeySound L k) (hf : Sound L f) :
    ∀ (n : Nat) (seen : List Bytes) (bs : Bytes) (ps : List (Bytes × CVal)) (r : Bytes),
      decPairs k f n seen bs = .ok (ps, r) →
      (ps.length = n ∧ noDupFrom seen ps = true ∧ validDictB L ps = true) ∧ ∃ c, bs = c ++ r
  | 0, seen, bs, ps, r, h => by
      simp [decPairs] at h
      rw [h.1, h.2]; exact ⟨⟨rfl, by simp [noDupFrom], by simp [validDictB]⟩, [], rfl⟩
  | n + 1, seen, bs, ps, r, h => by
      obtain ⟨_, _, _, _, _, h0, hseen, h1, h2, rfl⟩ := decPairs_succ_ok h
      obtain ⟨kl, c0, _, e0⟩ := hk _ _ _ h0
      obtain ⟨a, c1, _, e1⟩ := hf _ _ _ h1
      obtain ⟨b, c2, e2⟩ := decPairs_sound hk hf n _ _ _ _ h2
      exact ⟨⟨by simp [b.1], by simpa [noDupFrom, b.2.1] using hseen, by simp [validDictB, a, b.2.2, kl]⟩,
        c0 ++ (c1 ++ c2), by rw [e0, e1, e2]; simp⟩

theorem Levels.sound {U : Bytes → Prop} {D : Nat → Bytes → DRes (CVal × Bytes)} (hD : Levels L U k D)
    (hk : KeySound L k) : ∀ (fuel : Nat), Sound L (D fuel)
  | 0 => fun bs v r h => by rw [hD.zero] at h; cases h
  | fuel + 1 => fun bs v r h => by
    have ih := Levels.sound hD hk fuel
    have hs := hD.succ fuel bs
    rw [h] at hs
    have more : ∀ {c r' : Bytes}, c ≠ [] → bs = c ++ r' → (∃ c', r' = c' ++ r) → ∃ c, c ≠ [] ∧ bs = c ++ r :=
      fun {c _} hc e ⟨c', e'⟩ => ⟨c ++ c', by simp [hc], by rw [e, e', List.append_assoc]⟩
    cases hs with
    | leaf _ hv c _ hc e => exact ⟨valid_leaf hv, c, hc, e⟩
    | list _ _ n _ _ hc e hn hi =>
      obtain ⟨this, hr⟩ := decItems_sound ih n _ _ _ hi
      exact ⟨by simp [validB, this.1, this.2, hn], more hc e hr⟩
    | dict _ _ n _ _ hc e hn hi =>
      obtain ⟨this, hr⟩ := decPairs_sound hk ih n _ _ _ _ hi
      exact ⟨by simp [validB, this.1, this.2.1, this.2.2, hn], more hc e hr⟩

namespace CBOR

theorem mapV_eq : @mapV = @MsgPack.mapV := by
  funext α β g x
  rcases x with _ | ⟨a, r⟩ <;> rfl

theorem readArg_cases {P : DRes (Nat × Bytes) → Prop} (info : Nat) (rest : Bytes)
    (short : info < 24 → P (.ok (info, rest))) (wide : ∀ w, w ≤ 8 → P (readBE w rest))
    (indef : info = 31 → P (.error .unsupported)) (bad : P (.error .malformed)) : P (readArg info rest) :=
  iteInduction short fun _ => iteInduction (fun _ => wide 1 (by decide)) fun _ =>
    iteInduction (fun _ => wide 2 (by decide)) fun _ => iteInduction (fun _ => wide 4 (by decide)) fun _ =>
    iteInduction (fun _ => wide 8 (by decide)) fun _ => iteInduction indef fun _ => bad

theorem readArg_ok {info : Nat} {rest : Bytes} {n : Nat} {r : Bytes}
    (h : readArg info rest = .ok (n, r)) : n < 18446744073709551616 ∧ ∃ c, rest = c ++ r :=
  readArg_cases (P := fun x => x = .ok (n, r) → n < 18446744073709551616 ∧ ∃ c, rest = c ++ r) info rest
    (fun _ h => by cases h; exact ⟨by omega, [], rfl⟩)
    (fun _ hw h => ⟨Nat.lt_of_lt_of_le (readBE_ok h).1 (Nat.pow_le_pow_right (by decide) hw), (readBE_ok h).2⟩)
    (fun _ h => nomatch h) (fun h => nomatch h) h

theorem readArg_unsup {info : Nat} {rest : Bytes} (h : readArg info rest = .error .unsupported) :
    info = 31 :=
  readArg_cases (P := fun x => x = .error .unsupported → info = 31) info rest (fun _ h => nomatch h)
    (fun _ _ h => nomatch readBE_err h) (fun h _ => h) (fun h => nomatch h) h

variable {L : Nat} {u : Prop} {k : Bytes → DRes (Bytes × Bytes)} {f : Bytes → DRes (CVal × Bytes)}

theorem decSimple_step (b : UInt8) (info : Nat) (rest : Bytes) :
    Level L u k f (b :: rest) (decSimple info rest) := by
  have float : ∀ (g : Nat → UInt64) w, Level L u k f (b :: rest) (MsgPack.mapV (fun n => .float (g n)) (readBE w rest)) :=
    fun _ _ => .ofReadBE fun _ _ => trivial
  unfold decSimple
  rw [mapV_eq]
  exact iteInduction (fun _ => .here trivial) fun _ => iteInduction (fun _ => .here trivial) fun _ =>
    iteInduction (fun _ => .here trivial) fun _ => iteInduction (fun _ => .here trivial) fun _ =>
    iteInduction (fun _ => float _ 2) fun _ => iteInduction (fun _ => float _ 4) fun _ =>
    iteInduction (fun _ => float _ 8) fun _ => .malformed

end CBOR

namespace MsgPack

/-- What `classify t = h` says of `t` and of the argument of `h`. -/
def HeadOf (t : Nat) : Head → Prop
  | .posfix n => n = t ∧ t < 0x80
  | .fixmap n => n = t - 0x80 ∧ 0x80 ≤ t ∧ t < 0x90
  | .fixarr n => n = t - 0x90 ∧ 0x90 ≤ t ∧ t < 0xa0
  | .fixstr n => n = t - 0xa0 ∧ 0xa0 ≤ t ∧ t < 0xc0
  | .negfix n => n = t ∧ 0xe0 ≤ t
  | .tag n => n = t ∧ 0xc0 ≤ t ∧ t < 0xe0

theorem classify_inv {t : Nat} {h : Head} (hc : classify t = h) : HeadOf t h :=
  hc ▸ iteInduction (fun h => ⟨rfl, h⟩) fun h1 =>
    iteInduction (fun h => ⟨rfl, Nat.le_of_not_lt h1, h⟩) fun h2 =>
    iteInduction (fun h => ⟨rfl, Nat.le_of_not_lt h2, h⟩) fun h3 =>
    iteInduction (fun h => ⟨rfl, Nat.le_of_not_lt h3, h⟩) fun h4 =>
    iteInduction (fun h => ⟨rfl, h⟩) fun h5 => ⟨rfl, Nat.le_of_not_lt h4, Nat.lt_of_not_le h5⟩

theorem toSigned_range {w n : Nat} (hw : w ≤ 8) (hn : n < 256 ^ w) : IntRange (toSigned w n) := by
  have := Nat.pow_le_pow_right (n := 256) (by decide) hw
  unfold IntRange toSigned
  split <;> omega

theorem nat_range {w n : Nat} (hw : w ≤ 8) (hn : n < 256 ^ w) : IntRange (n : Int) := by
  have := Nat.pow_le_pow_right (n := 256) (by decide) hw
  unfold IntRange
  omega

variable {u : Prop} {k : Bytes → DRes (Bytes × Bytes)} {f : Bytes → DRes (CVal × Bytes)} {b : UInt8} {rest : Bytes}

theorem lt_maxLen {w n : Nat} (hw : w ≤ 4) (hn : n < 256 ^ w) : n < maxLen :=
  Nat.lt_of_lt_of_le hn (Nat.pow_le_pow_right (by decide) hw)

theorem step_hdr {w : Nat} (hw : w ≤ 4) {g : Nat → Bytes → DRes (CVal × Bytes)}
    (hg : ∀ n c r, n < maxLen → b :: rest = (b :: c) ++ r → Level maxLen u k f (b :: rest) (g n r)) :
    Level maxLen u k f (b :: rest) (match readBE w rest with
      | .ok (n, r) => g n r
      | .error e => .error e) := by
  split
  · rename_i n r hr
    obtain ⟨hn, c, e⟩ := readBE_ok hr
    exact hg n c r (lt_maxLen hw hn) (by rw [e]; rfl)
  · rename_i e he
    cases readBE_err he
    exact .malformed

theorem step_sized {C : Bytes → CVal} (hC : ∀ s, s.length < maxLen → Leaf maxLen (C s)) {w : Nat} (hw : w ≤ 4) :
    Level maxLen u k f (b :: rest) (mapV C (sized w rest)) := by
  unfold sized
  split
  · rename_i n r hr
    obtain ⟨hn, c, e⟩ := readBE_ok hr
    exact .ofTakeN hC (lt_maxLen hw hn) (c := b :: c) (List.cons_ne_nil _ _) (by rw [e]; rfl)
  · rename_i e he
    cases readBE_err he
    exact .malformed

end MsgPack

namespace Json

theorem decNumTok_ok {tok : Bytes} {v : CVal} (h : decNumTok tok = .ok v) : ∃ i, v = .int i ∧ IntRange i := by
  let P : DRes CVal → Prop := fun x => x = .ok v → ∃ i, v = .int i ∧ IntRange i
  have no : ∀ e, P (.error e) := fun _ h => nomatch h
  have yes : ∀ i, IntRange i → P (.ok (.int i)) := fun i hi h => by cases h; exact ⟨i, rfl, hi⟩
  suffices P (decNumTok tok) from this h
  unfold decNumTok
  split
  · exact no _
  · exact iteInduction
      (fun _ => iteInduction
        (fun _ => iteInduction (fun _ => no _) fun _ =>
          iteInduction (fun _ => yes _ (by unfold IntRange; omega)) fun _ => iteInduction (fun _ => no _) fun _ => no _)
        fun _ => no _)
      fun _ => iteInduction (fun _ => iteInduction (fun _ => yes _ (by unfold IntRange; omega)) fun _ => no _) fun _ => no _

/-- What `decV` returns, as far as the range lemma needs it. -/
def DecVRet : DRes (CVal × Bytes) → Prop
  | .ok (.int i, _) => IntRange i
  | .ok (.list (x :: _), _) => ∃ fuel bs r, decV fuel bs = .ok (x, r)
  | _ => True

theorem lit_ret (w : Bytes) {v : CVal} (hv : ∀ r, DecVRet (.ok (v, r))) (r : Bytes) : DecVRet (lit w v r) :=
  iteInduction (fun _ => trivial) fun _ => iteInduction (fun _ => hv _) fun _ => trivial

theorem decV_ret : ∀ (fuel : Nat) (bs : Bytes), DecVRet (decV fuel bs)
  | 0, _ => trivial
  | fuel + 1, bs => by
    unfold decV
    split
    · trivial
    · -- beta-reduces the `let c := b.toNat` that `split` leaves around the chain of `if`s
      simp only []
      refine iteInduction (fun _ => ?_) fun _ => iteInduction (fun _ => ?_) fun _ => iteInduction (fun _ => ?_) fun _ =>
        iteInduction (fun _ => lit_ret _ (fun _ => by trivial) _) fun _ =>
        iteInduction (fun _ => lit_ret _ (fun _ => by trivial) _) fun _ =>
        iteInduction (fun _ => lit_ret _ (fun _ => by trivial) _) fun _ => ?_
      · split
        · trivial
        · refine iteInduction (fun _ => trivial) fun _ => ?_
          split
          · trivial
          · rename_i hv
            split
            · exact ⟨_, _, _, hv⟩
            · trivial
      · split
        · trivial
        · refine iteInduction (fun _ => trivial) fun _ => ?_
          split
          · trivial
          · split <;> trivial
      · split <;> trivial
      · split
        · rename_i v hv
          obtain ⟨i, rfl, hi⟩ := decNumTok_ok hv
          exact hi
        · trivial

theorem dec_list_head_range {bs : Bytes} {i : Int} {l : List CVal} {rest : Bytes}
    (h : dec bs = .ok (.list (.int i :: l), rest)) : IntRange i := by
  have h1 := decV_ret (bs.length + 1) bs
  rw [show decV _ bs = _ from h] at h1
  obtain ⟨fuel, bs', r, hv⟩ := h1
  have h2 := decV_ret fuel bs'
  rwa [hv] at h2

end Json

end Nexus.Codec
