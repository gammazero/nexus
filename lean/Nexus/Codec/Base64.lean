/-
  Base64 as `encoding/base64.StdEncoding` does it.

  The JSON side of the serializers uses it twice:
    * ugorji's `EncodeStringBytesRaw` (json.go:278-323) writes a `[]byte` as
      `"` ++ StdEncoding.Encode(v) ++ `"` (no escaping: the alphabet needs none);
    * `BinaryData.MarshalJSON` / `UnmarshalJSON` (transport/serialize/jsonserializer.go:70-89)
      call `StdEncoding.EncodeToString` / `StdEncoding.DecodeString`.

  `enc` = `EncodeToString`: 3 bytes → 4 symbols of `A-Za-z0-9+/`, the last quantum padded with `=`.

  `dec` = `DecodeString` (encoding/base64 `decodeQuantum`), non-strict mode (`Strict()` is not
  called anywhere in the repo):
    * `\r` and `\n` are skipped wherever they stand (before, inside and after the padding);
    * symbols are read four at a time; a quantum may end in `==` (one byte) or `=` (two bytes)
      only if nothing but newlines follows; one, two or three symbols left over are an error
      (padding is mandatory), any other byte is an error;
    * the bits of the last symbol that do not belong to a byte are ignored (`"AR=="` decodes
      like `"AQ=="`): `dec` is not injective.
  On error Go returns the bytes decoded so far together with the error; `dec` keeps only the
  verdict (`none`).
-/
import Nexus.Codec.BytesLemmas

namespace Nexus.Codec.B64

/-- The alphabet `A-Za-z0-9+/`. -/
def ch (n : Nat) : UInt8 :=
  if n < 26 then UInt8.ofNat (65 + n)
  else if n < 52 then UInt8.ofNat (71 + n)
  else if n < 62 then UInt8.ofNat (n - 4)
  else if n = 62 then 43 else 47

/-- `decodeMap`: index of a symbol, `none` for every other byte (Go: 0xff). -/
def val (c : UInt8) : Option Nat :=
  let k := c.toNat
  if 65 ≤ k ∧ k ≤ 90 then some (k - 65)
  else if 97 ≤ k ∧ k ≤ 122 then some (k - 71)
  else if 48 ≤ k ∧ k ≤ 57 then some (k + 4)
  else if k = 43 then some 62
  else if k = 47 then some 63
  else none

/-- `StdEncoding.EncodeToString`. -/
def enc : Bytes → Bytes
  | [] => []
  | [a] => [ch (a.toNat / 4), ch (a.toNat % 4 * 16), 61, 61]
  | [a, b] => [ch (a.toNat / 4), ch (a.toNat % 4 * 16 + b.toNat / 16), ch (b.toNat % 16 * 4), 61]
  | a :: b :: c :: r =>
    ch (a.toNat / 4) :: ch (a.toNat % 4 * 16 + b.toNat / 16) :: ch (b.toNat % 16 * 4 + c.toNat / 64)
      :: ch (c.toNat % 64) :: enc r

/-- `decodeQuantum` repeated, on input without `\r` / `\n`. -/
def decQ : Bytes → Option Bytes
  | [] => some []
  | a :: b :: c :: d :: r =>
    match val a, val b with
    | some w, some x =>
      match val c with
      | some y =>
        match val d with
        | some z =>
          (decQ r).map fun t =>
            UInt8.ofNat (w * 4 + x / 16) :: UInt8.ofNat (x % 16 * 16 + y / 4) :: UInt8.ofNat (y % 4 * 64 + z) :: t
        | none =>
          -- `xxx=`: two bytes, then only the end of input
          if d.toNat = 61 ∧ r.isEmpty = true then
            some [UInt8.ofNat (w * 4 + x / 16), UInt8.ofNat (x % 16 * 16 + y / 4)]
          else none
      | none =>
        -- `xx==`: one byte, then only the end of input
        if c.toNat = 61 ∧ d.toNat = 61 ∧ r.isEmpty = true then some [UInt8.ofNat (w * 4 + x / 16)] else none
    | _, _ => none
  | _ => none

def isNl (c : UInt8) : Bool := c.toNat == 10 || c.toNat == 13

/-- `StdEncoding.DecodeString`: `none` = `CorruptInputError`. -/
def dec (s : Bytes) : Option Bytes := decQ (s.filter fun c => !isNl c)

theorem val_ch : ∀ n < 64, val (ch n) = some n := by decide

theorem val_pad : val 61 = none := by decide

/-- What a JSON string writer copies unescaped and what `dec` does not skip: printable ASCII
    other than `"` `\` `&` `<` `>`. -/
def plainB (c : UInt8) : Bool :=
  0x20 ≤ c.toNat && c.toNat < 0x7f && c.toNat != 0x22 && c.toNat != 0x5c && c.toNat != 0x26 && c.toNat != 0x3c
    && c.toNat != 0x3e

theorem ch_plain : ∀ n < 64, plainB (ch n) = true := by decide

/-- Three bytes cut into four sextets and put together again (`a`, `b`, `c` as numbers).  A padded
    group starts like the full group of `a, 0, 0` or `a, b, 0`. -/
theorem sextets {a b c : Nat} (ha : a < 256) (hb : b < 256) (hc : c < 256) :
    (a / 4 < 64 ∧ a % 4 * 16 + b / 16 < 64 ∧ b % 16 * 4 + c / 64 < 64 ∧ c % 64 < 64)
    ∧ a = a / 4 * 4 + (a % 4 * 16 + b / 16) / 16
    ∧ b = (a % 4 * 16 + b / 16) % 16 * 16 + (b % 16 * 4 + c / 64) / 4
    ∧ c = (b % 16 * 4 + c / 64) % 4 * 64 + c % 64 := by omega

theorem enc_plain : ∀ (b : Bytes), ∀ c ∈ enc b, plainB c = true
  | [] => nofun
  | [a] => by
    obtain ⟨⟨h1, h2, _⟩, _⟩ := sextets a.toNat_lt (Nat.zero_lt_succ 255) (Nat.zero_lt_succ 255)
    simp only [enc, List.forall_mem_cons]
    exact ⟨ch_plain _ h1, ch_plain _ h2, by decide, by decide, nofun⟩
  | [a, b] => by
    obtain ⟨⟨h1, h2, h3, _⟩, _⟩ := sextets a.toNat_lt b.toNat_lt (Nat.zero_lt_succ 255)
    simp only [enc, List.forall_mem_cons]
    exact ⟨ch_plain _ h1, ch_plain _ h2, ch_plain _ h3, by decide, nofun⟩
  | a :: b :: c :: r => by
    obtain ⟨⟨h1, h2, h3, h4⟩, _⟩ := sextets a.toNat_lt b.toNat_lt c.toNat_lt
    simp only [enc, List.forall_mem_cons]
    exact ⟨ch_plain _ h1, ch_plain _ h2, ch_plain _ h3, ch_plain _ h4, enc_plain r⟩

theorem filter_enc (b : Bytes) : (enc b).filter (fun c => !isNl c) = enc b := by
  apply List.filter_eq_self.mpr
  intro c hc
  have h := enc_plain b c hc
  simp [plainB] at h
  simp [isNl]
  omega

theorem decQ_group (a b c : UInt8) (r : Bytes) :
    decQ (ch (a.toNat / 4) :: ch (a.toNat % 4 * 16 + b.toNat / 16) :: ch (b.toNat % 16 * 4 + c.toNat / 64)
      :: ch (c.toNat % 64) :: r) = (decQ r).map (a :: b :: c :: ·) := by
  obtain ⟨⟨h1, h2, h3, h4⟩, ea, eb, ec⟩ := sextets a.toNat_lt b.toNat_lt c.toNat_lt
  simp only [decQ, val_ch _ h1, val_ch _ h2, val_ch _ h3, val_ch _ h4, ← eq_of_toNat ea, ← eq_of_toNat eb,
    ← eq_of_toNat ec]

theorem decQ_enc : ∀ (b : Bytes), decQ (enc b) = some b
  | [] => rfl
  | [a] => by
    obtain ⟨⟨h1, h2, _⟩, ea, _⟩ := sextets a.toNat_lt (Nat.zero_lt_succ 255) (Nat.zero_lt_succ 255)
    simp only [Nat.zero_div, Nat.add_zero] at h2 ea
    simp only [enc, decQ, val_ch _ h1, val_ch _ h2, val_pad, ← eq_of_toNat ea]
    rfl
  | [a, b] => by
    obtain ⟨⟨h1, h2, h3, _⟩, ea, eb, _⟩ := sextets a.toNat_lt b.toNat_lt (Nat.zero_lt_succ 255)
    simp only [Nat.zero_div, Nat.add_zero] at h3 eb
    simp only [enc, decQ, val_ch _ h1, val_ch _ h2, val_ch _ h3, val_pad, ← eq_of_toNat ea, ← eq_of_toNat eb]
    rfl
  | a :: b :: c :: r => by rw [enc, decQ_group, decQ_enc r]; rfl

/-- **Base64 round trip**: `DecodeString(EncodeToString(b)) = b`. -/
theorem dec_enc (b : Bytes) : dec (enc b) = some b := by
  unfold dec
  rw [filter_enc, decQ_enc]

/-- The decoder is not injective: the unused bits of the last symbol are ignored (non-strict
    mode), and newlines are skipped. -/
theorem dec_lenient :
    dec [65, 82, 61, 61] = some [1] ∧ dec [65, 81, 61, 61] = some [1]
    ∧ dec [65, 10, 81, 61, 13, 61] = some [1] := by decide

/-- Padding is mandatory and final. -/
theorem dec_strict_padding :
    dec [65, 81] = none ∧ dec [65, 81, 61] = none ∧ dec [65, 81, 61, 61, 65] = none
    ∧ dec [65, 81, 73] = none ∧ dec [65] = none ∧ dec [65, 81, 73, 61, 61] = none := by decide

end Nexus.Codec.B64
