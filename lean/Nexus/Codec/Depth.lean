/-
  Nesting depth.

  ugorji/go/codec v1.3.1 counts the containers (arrays and maps) it is inside of while decoding and
  gives up with "maximum decoding depth exceeded" when the counter reaches `decDefMaxDepth = 1024`
  (decode.base.go:92, `depthIncr` :729-733: `d.depth++; if d.depth >= d.maxdepth { halt… }`; the
  repo's handles leave `MaxDepth` at 0, so the default applies; the error is returned by
  `Deserialize`, it is not a panic).  The encoder has no such limit.  Replayed on the real
  serializers: a PUBLISH whose `Arguments` hold 1021 nested lists (1023 containers with the message
  list and the argument list) comes back from all three formats; with 1022 (1024 containers) all
  three serialize it and none deserializes it.  `deepPublish` below nests once more (1025
  containers, `deepPublish_depth`).

  The decoders of the model (`MsgPack.dec`, `CBOR.dec`, `Json.dec`) have no depth limit.
  `Wire.deserializeCapped` puts the codec's limit on top of them, and the round-trip theorems are
  restated for it: they hold exactly for values nested less than 1024 deep.
-/
import Nexus.Props.C14

namespace Nexus.Codec

-- `Nexus.Codec.depth` (BytesLemmas.lean): number of containers (lists, dicts) on the deepest path

/-- `decDefMaxDepth` of ugorji/go/codec (decode.base.go:92) -/
def maxDepth : Nat := 1024

/-- `n` lists around `v` -/
def nest : Nat → CVal → CVal
  | 0, v => v
  | n + 1, v => .list [nest n v]

theorem depth_nest (n : Nat) (v : CVal) : depth (nest n v) = n + depth v := by
  induction n with
  | zero => simp [nest]
  | succ n ih =>
    simp only [nest, depth, depthList, ih]
    omega

namespace Wire

/-- `Deserialize` with the codec's depth limit: a value whose decoding would enter 1024 nested
    containers is refused with the codec's error. -/
def deserializeCapped (fmt : Format) (b : Bytes) : DRes (Res Msg) :=
  match decode fmt b with
  | .ok (v, _) => if depth v < maxDepth then deserialize fmt b else .error .malformed
  | .error e => .error e

end Wire
end Nexus.Codec

namespace Nexus.C14
open Nexus.Codec

theorem C14_deserialize_capped_eq (fmt : Format) (b : Bytes) (v : CVal) (rest : Bytes)
    (hd : Wire.decode fmt b = .ok (v, rest)) (h : depth v < maxDepth) :
    Wire.deserializeCapped fmt b = Wire.deserialize fmt b := by
  unfold Wire.deserializeCapped
  rw [hd]
  simp [h]

theorem C14_deserialize_capped_deep (fmt : Format) (b : Bytes) (v : CVal) (rest : Bytes)
    (hd : Wire.decode fmt b = .ok (v, rest)) (h : maxDepth ≤ depth v) :
    Wire.deserializeCapped fmt b = .error .malformed := by
  unfold Wire.deserializeCapped
  rw [hd]
  simp [Nat.not_lt.mpr h]

/-- The capped `Deserialize` never panics either. -/
theorem C14_deserialize_capped_no_panic (fmt : Format) (b : Bytes) (r : Res Msg)
    (h : Wire.deserializeCapped fmt b = .ok r) : r.isPanic = false := by
  unfold Wire.deserializeCapped at h
  split at h
  · split at h
    · exact C14_deserialize_no_panic fmt b r h
    · cases h
  · cases h

/-- **Message round trip with the codec's depth limit** (`C14_wire_roundtrip` restated for
    `deserializeCapped`): for every well-typed message whose emitted list is encodable and nested
    less than 1024 containers deep (the message list and the `Arguments` / `ArgumentsKw` / details
    containers count), `Deserialize(Serialize(m)) = norm m` in all three formats. -/
theorem C14_wire_roundtrip_capped (m : Msg) (h : WellTyped m) :
    ∃ l, msgToList m = .ok l
      ∧ (validB MsgPack.maxLen (.list l) = true → depth (CVal.list l) < maxDepth →
          Wire.deserializeCapped .msgpack (MsgPack.enc (.list l)) = .ok (.ok (norm m)))
      ∧ (validB CBOR.maxLen (.list l) = true → depth (CVal.list l) < maxDepth →
          Wire.deserializeCapped .cbor (CBOR.enc (.list l)) = .ok (.ok (norm m)))
      ∧ (Json.okB (.list l) = true → depth (CVal.list l) < maxDepth →
          Wire.deserializeCapped .json (Json.enc (.list l)) = .ok (.ok (norm m))) := by
  obtain ⟨l, h1, hm, hc, hj⟩ := C14_wire_roundtrip m h
  exact ⟨l, h1,
    fun hv hd => (C14_deserialize_capped_eq .msgpack _ _ _ (Wire.decode_encode (if_pos hv)) hd).trans (hm hv),
    fun hv hd => (C14_deserialize_capped_eq .cbor _ _ _ (Wire.decode_encode (if_pos hv)) hd).trans (hc hv),
    fun hv hd => (C14_deserialize_capped_eq .json _ _ _ (Wire.decode_encode (if_pos hv)) hd).trans (hj hv)⟩

/-- the literal reading of "serializers round-trip" for the capped (= real) decoder, without the
    depth condition -/
def C14_wire_roundtrip_anydepth : Prop :=
  ∀ (l : List CVal), validB MsgPack.maxLen (.list l) = true →
    ∃ r, Wire.deserializeCapped .msgpack (MsgPack.enc (.list l)) = .ok r

/-- **… and it fails at depth 1024** (true of the Go code: finding-grade observation, all three
    serializers): every encodable list nested 1024 or more containers deep is serialized — the
    encoder has no limit — and then refused by `Deserialize` of the same serializer with "maximum
    decoding depth exceeded".  Concretely `[16,1,{},"t",[ [[…1022 lists…]] ]]`. -/
theorem C14_deep_value_not_deserialized (l : List CVal) (hd : maxDepth ≤ depth (CVal.list l)) :
    (validB MsgPack.maxLen (.list l) = true →
      Wire.deserializeCapped .msgpack (MsgPack.enc (.list l)) = .error .malformed) ∧
    (validB CBOR.maxLen (.list l) = true →
      Wire.deserializeCapped .cbor (CBOR.enc (.list l)) = .error .malformed) ∧
    (Json.okB (.list l) = true →
      Wire.deserializeCapped .json (Json.enc (.list l)) = .error .malformed) := by
  exact ⟨fun hv => C14_deserialize_capped_deep .msgpack _ _ _ (Wire.decode_encode (if_pos hv)) hd,
    fun hv => C14_deserialize_capped_deep .cbor _ _ _ (Wire.decode_encode (if_pos hv)) hd,
    fun hv => C14_deserialize_capped_deep .json _ _ _ (Wire.decode_encode (if_pos hv)) hd⟩

/-- the deep PUBLISH of the replay: `[16, 1, {}, "t", [nest 1022 []]]` -/
def deepPublish : List CVal := [.int 16, .int 1, .dict [], .str [0x74], .list [nest 1022 (.list [])]]

theorem deepPublish_depth : depth (CVal.list deepPublish) = 1025 := by
  simp only [deepPublish, depth, depthList, depthDict, depth_nest]
  decide

theorem validB_nest (L : Nat) (hL : 1 < L) (n : Nat) (v : CVal) : validB L (nest n v) = validB L v := by
  induction n with
  | zero => rfl
  | succ n ih => simp [nest, validB, validListB, ih, hL]

/-- `_fails`: the deep PUBLISH is encodable and is not deserialized. -/
theorem C14_wire_roundtrip_anydepth_fails : ¬ C14_wire_roundtrip_anydepth := by
  intro h
  have hv : validB MsgPack.maxLen (.list deepPublish) = true := by
    simp only [deepPublish, validB, validListB, validDictB, validB_nest MsgPack.maxLen (by decide)]
    decide
  obtain ⟨r, hr⟩ := h deepPublish hv
  have hd : maxDepth ≤ depth (CVal.list deepPublish) := by rw [deepPublish_depth]; decide
  rw [(C14_deep_value_not_deserialized deepPublish hd).1 hv] at hr
  cases hr

end Nexus.C14
