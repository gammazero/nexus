/-
  The MessagePack round trip `dec (enc v ++ rest) = ok (v, rest)`, for every encodable value of
  any nesting depth: what `decF` does after each head that the encoder writes, gathered in `reader`
  and `enc_writer` for `Writer.roundTrip`.
-/
import Nexus.Codec.MsgPack
import Nexus.Codec.Writer

namespace Nexus.Codec.MsgPack

open Nexus.Codec

theorem classify_posfix {n : Nat} (h : n < 128) : classify n = .posfix n := by
  simp [classify, h]

theorem classify_fixmap {n : Nat} (h : n < 16) : classify (0x80 + n) = .fixmap n := by
  have h1 : ¬ (128 + n < 128) := by omega
  have h2 : 128 + n < 144 := by omega
  simp [classify, h1, h2]

theorem classify_fixarr {n : Nat} (h : n < 16) : classify (0x90 + n) = .fixarr n := by
  have h1 : ¬ (144 + n < 128) := by omega
  have h2 : ¬ (144 + n < 144) := by omega
  have h3 : 144 + n < 160 := by omega
  simp [classify, h1, h2, h3]

theorem classify_fixstr {n : Nat} (h : n < 32) : classify (0xa0 + n) = .fixstr n := by
  have h1 : ¬ (160 + n < 128) := by omega
  have h2 : ¬ (160 + n < 144) := by omega
  have h3 : ¬ (160 + n < 160) := by omega
  have h4 : 160 + n < 192 := by omega
  simp [classify, h1, h2, h3, h4]

theorem classify_negfix {t : Nat} (h : 224 ≤ t) : classify t = .negfix t := by
  have h1 : ¬ (t < 128) := by omega
  have h2 : ¬ (t < 144) := by omega
  have h3 : ¬ (t < 160) := by omega
  have h4 : ¬ (t < 192) := by omega
  simp [classify, h1, h2, h3, h4, h]

theorem p64 : 256 ^ 8 = 18446744073709551616 := by decide

theorem decF_num {fuel w n : Nat} {t : UInt8} {g : Nat → CVal} {v : CVal}
    (ht : ∀ bs, decF (fuel + 1) (t :: bs) = mapV g (readBE w bs)) (hn : n < 256 ^ w) (hv : g n = v)
    (rest : Bytes) : decF (fuel + 1) ((t :: beBytes w n) ++ rest) = .ok (v, rest) := by
  rw [List.cons_append, ht, readBE_append hn, ← hv]; rfl

theorem toSigned_neg {w : Nat} {i : Int} (hi : i < 0) (hlo : -((256 ^ w / 2 : Nat) : Int) ≤ i) :
    toSigned w (((256 ^ w : Nat) : Int) + i).toNat = i := by
  unfold toSigned
  split <;> omega

theorem toSigned_nonneg {w n : Nat} (h : n < 256 ^ w / 2) : toSigned w n = n := if_pos h

theorem dec_int (fuel : Nat) (i : Int) (rest : Bytes)
    (h0 : -(9223372036854775808 : Int) ≤ i) (h1 : i < (18446744073709551616 : Int)) :
    decF (fuel + 1) (encInt i ++ rest) = .ok (.int i, rest) := by
  let P : Bytes → Prop := fun o => decF (fuel + 1) (o ++ rest) = .ok (.int i, rest)
  show P (encInt i)
  unfold encInt
  refine iteInduction (fun hpos => ?_) fun hneg => ?_
  · have e := congrArg CVal.int (Int.toNat_of_nonneg hpos)
    refine iteInduction (fun h => ?_) fun _ => iteInduction (fun _ => decF_num (fun _ => rfl) (by omega) e rest) fun _ =>
      iteInduction (fun _ => decF_num (fun _ => rfl) (by omega) e rest) fun _ =>
      iteInduction (fun _ => decF_num (fun _ => rfl) (by omega) e rest) fun _ =>
        decF_num (fun _ => rfl) (by omega) e rest
    show decF _ _ = _
    simp [decF, u8_toNat (show i.toNat < 256 by omega), classify_posfix h, Int.toNat_of_nonneg hpos]
  · have e := fun w h => congrArg CVal.int (toSigned_neg (w := w) (i := i) (by omega) h)
    refine iteInduction (fun h => ?_) fun _ =>
      iteInduction (fun _ => decF_num (fun _ => rfl) (by omega) (e 1 (by omega)) rest) fun _ =>
      iteInduction (fun _ => decF_num (fun _ => rfl) (by omega) (e 2 (by omega)) rest) fun _ =>
      iteInduction (fun _ => decF_num (fun _ => rfl) (by omega) (e 4 (by omega)) rest) fun _ =>
        decF_num (fun _ => rfl) (by omega) (e 8 (by omega)) rest
    have hlt : (256 + i).toNat < 256 := by omega
    have hge : 224 ≤ (256 + i).toNat := by omega
    show decF _ _ = _
    simp [decF, u8_toNat hlt, classify_negfix hge]
    omega

theorem sized_append {k n : Nat} (h : n < 256 ^ k) (body rest : Bytes) (hb : body.length = n) :
    sized k (beBytes k n ++ (body ++ rest)) = .ok (body, rest) := by
  subst hb
  simp [sized, readBE_append h, takeN_append]

/-- After a head byte `t` that reads a `w`-byte length and then that many bytes (`F` is `decF` or
    `decKey`, `G` what it does with the bytes). -/
theorem sized_hdr {β} {F : Bytes → β} {G : DRes (Bytes × Bytes) → β} {t : UInt8} {w : Nat}
    (ht : ∀ bs, F (t :: bs) = G (sized w bs)) (s rest : Bytes) (hs : s.length < 256 ^ w) :
    F (((t :: beBytes w s.length) ++ s) ++ rest) = G (.ok (s, rest)) := by
  rw [List.append_assoc, List.cons_append, ht, sized_append hs s rest rfl]

theorem count_hdr {fuel w n : Nat} {t : UInt8} {g : Nat → Bytes → DRes (CVal × Bytes)}
    (ht : ∀ bs, decF (fuel + 1) (t :: bs) = match readBE w bs with
      | .ok (n, r) => g n r
      | .error e => .error e)
    (hn : n < 256 ^ w) (body : Bytes) : decF (fuel + 1) ((t :: beBytes w n) ++ body) = g n body := by
  rw [List.cons_append, ht, readBE_append hn]

theorem dec_str (fuel : Nat) (s rest : Bytes) (h : s.length < maxLen) :
    decF (fuel + 1) ((strHdr s.length ++ s) ++ rest) = .ok (.str s, rest) := by
  unfold maxLen at h
  let P : Bytes → Prop := fun o => decF (fuel + 1) ((o ++ s) ++ rest) = .ok (.str s, rest)
  have str := fun (w : Nat) (t : UInt8) (ht : ∀ bs, decF (fuel + 1) (t :: bs) = mapV .str (sized w bs)) =>
    sized_hdr (G := mapV CVal.str) ht s rest
  show P (strHdr s.length)
  unfold strHdr
  refine iteInduction (fun h32 => ?_) fun _ => iteInduction (fun _ => str 1 _ (fun _ => rfl) (by omega)) fun _ =>
    iteInduction (fun _ => str 2 _ (fun _ => rfl) (by omega)) fun _ => str 4 _ (fun _ => rfl) (by omega)
  have hm : (160 + s.length) % 256 = 160 + s.length := Nat.mod_eq_of_lt (by omega)
  show decF _ _ = _
  simp [decF, hm, classify_fixstr h32, mapV, takeN_append]

theorem decKey_str (s rest : Bytes) (h : s.length < maxLen) :
    decKey ((strHdr s.length ++ s) ++ rest) = .ok (s, rest) := by
  unfold maxLen at h
  let P : Bytes → Prop := fun o => decKey ((o ++ s) ++ rest) = .ok (s, rest)
  have str := fun (w : Nat) (t : UInt8) (ht : ∀ bs, decKey (t :: bs) = sized w bs) =>
    sized_hdr (G := id) ht s rest
  show P (strHdr s.length)
  unfold strHdr
  refine iteInduction (fun h32 => ?_) fun _ => iteInduction (fun _ => str 1 _ (fun _ => rfl) (by omega)) fun _ =>
    iteInduction (fun _ => str 2 _ (fun _ => rfl) (by omega)) fun _ => str 4 _ (fun _ => rfl) (by omega)
  have hm : (160 + s.length) % 256 = 160 + s.length := Nat.mod_eq_of_lt (by omega)
  show decKey _ = _
  simp [decKey, hm, classify_fixstr h32, takeN_append]

theorem dec_bin (fuel : Nat) (s rest : Bytes) (h : s.length < maxLen) :
    decF (fuel + 1) ((binHdr s.length ++ s) ++ rest) = .ok (.bin s, rest) := by
  unfold maxLen at h
  let P : Bytes → Prop := fun o => decF (fuel + 1) ((o ++ s) ++ rest) = .ok (.bin s, rest)
  have bin := fun (w : Nat) (t : UInt8) (ht : ∀ bs, decF (fuel + 1) (t :: bs) = mapV .bin (sized w bs)) =>
    sized_hdr (G := mapV CVal.bin) ht s rest
  show P (binHdr s.length)
  unfold binHdr
  exact iteInduction (fun _ => bin 1 _ (fun _ => rfl) (by omega)) fun _ =>
    iteInduction (fun _ => bin 2 _ (fun _ => rfl) (by omega)) fun _ => bin 4 _ (fun _ => rfl) (by omega)

theorem dec_arrHdr (fuel n : Nat) (body : Bytes) (h : n < maxLen) :
    decF (fuel + 1) (arrHdr n ++ body) = mapV .list (decItems (decF fuel) n body) := by
  unfold maxLen at h
  let P : Bytes → Prop := fun o => decF (fuel + 1) (o ++ body) = mapV .list (decItems (decF fuel) n body)
  show P (arrHdr n)
  unfold arrHdr
  refine iteInduction (fun h16 => ?_) fun _ =>
    iteInduction (fun _ => count_hdr (g := fun n r => mapV .list (decItems (decF fuel) n r)) (fun _ => rfl) (by omega) body)
      fun _ => count_hdr (g := fun n r => mapV .list (decItems (decF fuel) n r)) (fun _ => rfl) (by omega) body
  have hm : (144 + n) % 256 = 144 + n := Nat.mod_eq_of_lt (by omega)
  show decF _ _ = _
  simp [decF, hm, classify_fixarr h16]

theorem dec_mapHdr (fuel n : Nat) (body : Bytes) (h : n < maxLen) :
    decF (fuel + 1) (mapHdr n ++ body) = mapV .dict (decPairs decKey (decF fuel) n [] body) := by
  unfold maxLen at h
  let P : Bytes → Prop := fun o =>
    decF (fuel + 1) (o ++ body) = mapV .dict (decPairs decKey (decF fuel) n [] body)
  show P (mapHdr n)
  unfold mapHdr
  refine iteInduction (fun h16 => ?_) fun _ =>
    iteInduction (fun _ => count_hdr (g := fun n r => mapV .dict (decPairs decKey (decF fuel) n [] r)) (fun _ => rfl)
      (by omega) body)
      fun _ => count_hdr (g := fun n r => mapV .dict (decPairs decKey (decF fuel) n [] r)) (fun _ => rfl) (by omega) body
  have hm : (128 + n) % 256 = 128 + n := Nat.mod_eq_of_lt (by omega)
  show decF _ _ = _
  simp [decF, hm, classify_fixmap h16]

theorem arrHdr_pos (n : Nat) : 0 < (arrHdr n).length := by
  unfold arrHdr; split <;> (try split) <;> simp

theorem mapHdr_pos (n : Nat) : 0 < (mapHdr n).length := by
  unfold mapHdr; split <;> (try split) <;> simp

/-- A map key as written: any of the str forms. -/
abbrev encKey (k : Bytes) : Bytes := strHdr k.length ++ k

theorem reader : Reader maxLen decF decKey encKey arrHdr mapHdr :=
  ⟨decKey_str, fun fuel n body h => by rw [dec_arrHdr fuel n body h]; cases decItems (decF fuel) n body <;> rfl,
    fun fuel n body h => by rw [dec_mapHdr fuel n body h]; cases decPairs decKey (decF fuel) n [] body <;> rfl,
    arrHdr_pos, mapHdr_pos⟩

theorem dec_leaf : ∀ (v : CVal) (fuel : Nat) (rest : Bytes), depth v = 0 → validB maxLen v = true →
    decF (fuel + 1) (enc v ++ rest) = .ok (v, rest)
  | .null, _, _, _, _ | .bool true, _, _, _, _ | .bool false, _, _, _, _ => rfl
  | .int i, fuel, rest, _, hv => by
      simp only [validB, Bool.and_eq_true, decide_eq_true_eq] at hv
      exact dec_int fuel i rest hv.1 hv.2
  | .float b, _, rest, _, _ =>
      decF_num (fun _ => rfl) (by have := b.toNat_lt; omega) (congrArg CVal.float UInt64.ofNat_toNat) rest
  | .str s, fuel, rest, _, hv => dec_str fuel s rest (of_decide_eq_true hv)
  | .bin s, fuel, rest, _, hv => dec_bin fuel s rest (of_decide_eq_true hv)

theorem enc_writer : Writer maxLen decF decKey enc encList encDict encKey arrHdr mapHdr :=
  { reader with
    leaf := dec_leaf
    list := fun _ => by rw [enc]
    dict := fun _ => by rw [enc]
    nil := by rw [encList]
    cons := fun _ _ => by rw [encList]
    dnil := by rw [encDict]
    dcons := fun _ _ _ => by rw [encDict] }

theorem decItems_enc : ∀ (l : List CVal) (fuel : Nat) (rest : Bytes), validListB maxLen l = true →
    depthList l < fuel → decItems (decF fuel) l.length (encList l ++ rest) = .ok (l, rest) :=
  enc_writer.roundTripItems

theorem decPairs_enc : ∀ (d : List (Bytes × CVal)) (seen : List Bytes) (fuel : Nat) (rest : Bytes),
    validDictB maxLen d = true → noDupFrom seen d = true →
    depthDict d < fuel → decPairs decKey (decF fuel) d.length seen (encDict d ++ rest) = .ok (d, rest) :=
  enc_writer.roundTripPairs

theorem depthList_le : ∀ (l : List CVal), depthList l ≤ (encList l).length := enc_writer.depthList_le

theorem depthDict_le : ∀ (d : List (Bytes × CVal)), depthDict d ≤ (encDict d).length := enc_writer.depthDict_le

/-- **MessagePack round trip**: for every encodable value of any nesting depth, decoding its
    encoding followed by arbitrary bytes returns the value and exactly those bytes. -/
theorem dec_enc (v : CVal) (rest : Bytes) (hv : validB maxLen v = true) :
    dec (enc v ++ rest) = .ok (v, rest) :=
  enc_writer.top v rest hv

end Nexus.Codec.MsgPack
