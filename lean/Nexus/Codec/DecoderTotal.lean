/-
  What `unsupported` means, binary formats.

  `MsgPack.dec` and `CBOR.dec` are total by typing (`DRes`): every byte string gets a value, or
  `malformed`, or `unsupported`.  The byte-level theorems of C14 speak about the first two; this
  file says where the third one comes from.  Whenever a decoder answers `unsupported` there is a
  position in the input (`b = pre ++ rest`) at which one of a short list of local causes sits:

    MessagePack (`MsgPack.UnsupportedAt`)      CBOR (`CBOR.UnsupportedAt`)
    -----------------------------------------  -------------------------------------------------
    ext 8/16/32 (c7..c9), fixext (d4..d8)      a tag (major type 6)
    a map key that is not a str                an indefinite-length item (info 31, major ≠ 7)
    a map key the same map already had         a negative integer below -2^63
                                               a length of 2^63 or more (major 2..5)
                                               a map key that is not a text string
                                               a map key the same map already had

  (`MsgPack.dec_unsupported_cause`, `CBOR.dec_unsupported_cause`).  The statements are necessary
  conditions: the decoder stopped at `rest`, having consumed `pre`.  The converses at the top of
  the input (`…_top` lemmas) show that each cause does produce `unsupported` (or `malformed` when
  the item is cut short), with concrete byte strings as `example`s.

  `MsgPack.decF_levels` and `CBOR.decF_levels` say of every branch of the two decoders which
  `Level` it is (`DecoderLevels.lean`); where `unsupported` comes from is then proved of any decoder
  by levels (`Levels.locates`).

  `Nexus.C14.C14_deserialize_total_bin` is the property-level corollary for the two binary
  formats: `Deserialize` of arbitrary bytes answers without a panic, or the codec reports an
  error, or the bytes carry one of the causes above.
-/
import Nexus.Codec.Wire
import Nexus.Codec.MsgLemmas
import Nexus.Codec.DecoderLevels
import Nexus.Codec.MsgPackProofs
import Nexus.Codec.CBORProofs

namespace Nexus.Codec

/-! `P pre rest` is the format's list of causes ("having consumed `pre`, the decoder met one of the
  causes at the head of `rest`").  It must survive consuming more in front (`Mono`). -/

/-- `f` answers `unsupported` only where a cause sits. -/
def Locates {α} (P : Bytes → Bytes → Prop) (f : Bytes → DRes (α × Bytes)) : Prop :=
  ∀ bs, f bs = .error .unsupported → ∃ pre rest, bs = pre ++ rest ∧ P pre rest

/-- A cause found by an inner decoder, which saw only a suffix of the input, is still a cause for
    the outer one, which had consumed `x` before: what lets `Locates` pass through the loops. -/
def Mono (P : Bytes → Bytes → Prop) : Prop := ∀ x pre rest, P pre rest → P (x ++ pre) rest

namespace WpD

/-- The repeated-key cause, for the key reader `k`: a key starts at `rest`, and the same key was
    read at an earlier position (`pre = p ++ q`, `q` non-empty: the earlier key starts at `q`). -/
def DupKeyAt (k : Bytes → DRes (Bytes × Bytes)) (pre rest : Bytes) : Prop :=
  ∃ key r, k rest = .ok (key, r) ∧ ∃ p q r', pre = p ++ q ∧ q ≠ [] ∧ k (q ++ rest) = .ok (key, r')

theorem DupKeyAt.mono {k : Bytes → DRes (Bytes × Bytes)} : Mono (DupKeyAt k) := by
  intro x pre rest ⟨key, r, h, p, q, r', hp, hq, h'⟩
  exact ⟨key, r, h, x ++ p, q, r', by rw [hp, List.append_assoc], hq, h'⟩

end WpD

open WpD (DupKeyAt)

theorem lift_cause {P : Bytes → Bytes → Prop} (hP : Mono P) {bs c r : Bytes} (e : bs = c ++ r)
    (h : ∃ pre rest, r = pre ++ rest ∧ P pre rest) : ∃ pre rest, bs = pre ++ rest ∧ P pre rest := by
  obtain ⟨pre, rest, e', hp⟩ := h
  exact ⟨c ++ pre, rest, by rw [e, e', List.append_assoc], hP c pre rest hp⟩

variable {P : Bytes → Bytes → Prop} {k : Bytes → DRes (Bytes × Bytes)} {f : Bytes → DRes (CVal × Bytes)}
  {L : Nat} {U : Bytes → Prop} {D : Nat → Bytes → DRes (CVal × Bytes)}

theorem decItems_unsup (hP : Mono P) (hc : Sound L f) (hf : Locates P f) :
    ∀ (n : Nat), Locates P (decItems f n)
  | 0, bs, h => by simp [decItems] at h
  | n + 1, bs, h => by
      unfold decItems at h
      split at h
      · rename_i e he; cases h; exact hf bs he
      · rename_i v r1 h1
        split at h
        · rename_i e he
          cases h
          obtain ⟨_, c, _, e1⟩ := hc _ _ _ h1
          exact lift_cause hP e1 (decItems_unsup hP hc hf n r1 he)
        · cases h

/-- The pair loop, with its bookkeeping made explicit: `done` is what this map's loop consumed so
    far, and every key in `seen` was read at a position inside `done`. -/
theorem decPairs_unsup_aux (hP : Mono P) (hck : KeySound L k) (hcf : Sound L f) (hk : Locates P k) (hf : Locates P f)
    (hdup : ∀ pre rest, DupKeyAt k pre rest → P pre rest) :
    ∀ (n : Nat) (seen : List Bytes) (done bs : Bytes),
      (∀ key ∈ seen, ∃ p q r', done = p ++ q ∧ q ≠ [] ∧ k (q ++ bs) = .ok (key, r')) →
      decPairs k f n seen bs = .error .unsupported →
      ∃ pre rest, done ++ bs = pre ++ rest ∧ P pre rest
  | 0, seen, done, bs, _, h => by simp [decPairs] at h
  | n + 1, seen, done, bs, hs, h => by
      unfold decPairs at h
      split at h
      · rename_i e he; cases h
        exact lift_cause hP rfl (hk bs he)
      · rename_i key r0 h0
        obtain ⟨_, c0, hc0, e0⟩ := hck _ _ _ h0
        split at h
        · rename_i hseen
          have hmem : key ∈ seen := by simpa using hseen
          obtain ⟨p, q, r', hp, hq, hk'⟩ := hs key hmem
          exact ⟨done, bs, rfl, hdup _ _ ⟨key, r0, h0, p, q, r', hp, hq, hk'⟩⟩
        · split at h
          · rename_i e he; cases h
            have := lift_cause hP e0 (hf r0 he)
            exact lift_cause hP rfl this
          · rename_i v r1 h1
            obtain ⟨_, c1, _, e1⟩ := hcf _ _ _ h1
            split at h
            · rename_i e he; cases h
              have hs' : ∀ key' ∈ key :: seen, ∃ p q r', done ++ (c0 ++ c1) = p ++ q ∧ q ≠ [] ∧
                  k (q ++ r1) = .ok (key', r') := by
                intro key' hm
                rcases List.mem_cons.mp hm with rfl | hm
                · refine ⟨done, c0 ++ c1, r0, rfl, ?_, ?_⟩
                  · intro hnil
                    exact hc0 (List.append_eq_nil_iff.mp hnil).1
                  · rw [List.append_assoc, ← e1, ← e0]; exact h0
                · obtain ⟨p, q, r', hp, hq, hk'⟩ := hs key' hm
                  refine ⟨p, q ++ (c0 ++ c1), r', by rw [hp, List.append_assoc], ?_, ?_⟩
                  · intro hnil; exact hq (List.append_eq_nil_iff.mp hnil).1
                  · rw [List.append_assoc, List.append_assoc, ← e1, ← e0]; exact hk'
              have := decPairs_unsup_aux hP hck hcf hk hf hdup n (key :: seen) (done ++ (c0 ++ c1)) r1 hs' he
              rw [e0, e1]
              simpa [List.append_assoc] using this
            · cases h

theorem Levels.locates (hD : Levels L (P []) k D) (hP : Mono P) (hck : KeySound L k) (hk : Locates P k)
    (hdup : ∀ pre rest, DupKeyAt k pre rest → P pre rest) : ∀ (fuel : Nat), Locates P (D fuel)
  | 0 => fun bs h => by rw [hD.zero] at h; cases h
  | fuel + 1 => fun bs h => by
    have ih := Levels.locates hD hP hck hk hdup fuel
    have hc := hD.sound hck fuel
    have hs := hD.succ fuel bs
    rw [h] at hs
    cases hs with
    | refused hu => exact ⟨[], bs, rfl, hu⟩
    | listErr _ r' n _ e hi => exact lift_cause hP e (decItems_unsup hP hc ih n r' hi)
    | dictErr _ r' n _ e hi =>
      exact lift_cause hP e (by simpa using decPairs_unsup_aux hP hck hc hk ih hdup n [] [] r' (by simp) hi)

namespace MsgPack

open WpD

/-- The extension family: ext 8/16/32 and fixext 1/2/4/8/16. -/
def extBytes : List Nat := [0xc7, 0xc8, 0xc9, 0xd4, 0xd5, 0xd6, 0xd7, 0xd8]

/-- First bytes `decKey` reads as a string (fixstr, str 8/16/32), plus the reserved c1. -/
def keyByte (t : Nat) : Bool := (0xa0 ≤ t && t < 0xc0) || t == 0xd9 || t == 0xda || t == 0xdb || t == 0xc1

/-- The causes of `unsupported` in `MsgPack.dec`: having consumed `pre`, the decoder is at `rest`
    and finds an extension type where a value starts, or something other than a str where a map
    key starts, or a key that this map already had. -/
inductive UnsupportedAt (pre rest : Bytes) : Prop
  /-- ext 8/16/32 (c7 c8 c9) or fixext 1..16 (d4..d8) -/
  | ext (t : UInt8) (r : Bytes) (h : rest = t :: r) (ht : t.toNat ∈ extBytes)
  /-- a map key whose first byte is not one of the str family -/
  | nonStringKey (t : UInt8) (r : Bytes) (h : rest = t :: r) (ht : keyByte t.toNat = false)
  /-- a map key equal to an earlier key of the same map -/
  | dupKey (h : DupKeyAt decKey pre rest)

theorem UnsupportedAt.mono : Mono UnsupportedAt := by
  intro x pre rest h
  cases h with
  | ext t r h ht => exact .ext t r h ht
  | nonStringKey t r h ht => exact .nonStringKey t r h ht
  | dupKey h => exact .dupKey (DupKeyAt.mono x pre rest h)

theorem sized_ok {w : Nat} {bs a r : Bytes} (h : sized w bs = .ok (a, r)) :
    a.length < 256 ^ w ∧ ∃ c, bs = c ++ r := by
  unfold sized at h
  split at h
  · rename_i n r' hr
    obtain ⟨hn, c, e⟩ := readBE_ok hr
    obtain ⟨hl, e'⟩ := takeN_ok h
    exact ⟨hl ▸ hn, c ++ a, by rw [e, e', List.append_assoc]⟩
  · cases h

theorem sized_err {w : Nat} {bs : Bytes} {e : DErr} (h : sized w bs = .error e) : e = .malformed := by
  unfold sized at h
  split at h
  · exact takeN_err h
  · rename_i he; cases h; exact readBE_err he

theorem decKey_sound : KeySound maxLen decKey := by
  intro bs key r h
  cases bs with
  | nil => cases h
  | cons b rest =>
    have after : ∀ {n}, n ≤ maxLen → (key.length < n ∧ ∃ c, rest = c ++ r) →
        key.length < maxLen ∧ ∃ c, c ≠ [] ∧ b :: rest = c ++ r :=
      fun hn ⟨hl, c, e⟩ => ⟨Nat.lt_of_lt_of_le hl hn, b :: c, List.cons_ne_nil _ _, by rw [e]; rfl⟩
    simp only [decKey] at h
    split at h
    · rename_i n hc
      obtain ⟨hn, hc⟩ := classify_inv hc
      obtain ⟨hl, e⟩ := takeN_ok h
      exact ⟨by unfold maxLen; omega, b :: key, List.cons_ne_nil _ _, by rw [e]; rfl⟩
    · exact after (by decide) (sized_ok h)
    · exact after (by decide) (sized_ok h)
    · exact after (by decide) (sized_ok h)
    · cases h
    · cases h

theorem decKey_unsup_iff (b : UInt8) (rest : Bytes) :
    decKey (b :: rest) = .error .unsupported ↔ keyByte b.toNat = false := by
  have reads : ∀ {x : DRes (Bytes × Bytes)}, (∀ e, x = .error e → e = .malformed) → keyByte b.toNat = true →
      (x = .error .unsupported ↔ keyByte b.toNat = false) :=
    fun hx hk => ⟨fun h => (by cases hx _ h), fun h => by rw [hk] at h; cases h⟩
  simp only [decKey]
  split
  · rename_i n hc
    obtain ⟨_, hc⟩ := classify_inv hc
    exact reads (fun _ => takeN_err) (by simp [keyByte]; omega)
  · rename_i hc
    obtain ⟨hc, _⟩ := classify_inv hc
    exact reads (fun _ => sized_err) (by simp [keyByte, ← hc])
  · rename_i hc
    obtain ⟨hc, _⟩ := classify_inv hc
    exact reads (fun _ => sized_err) (by simp [keyByte, ← hc])
  · rename_i hc
    obtain ⟨hc, _⟩ := classify_inv hc
    exact reads (fun _ => sized_err) (by simp [keyByte, ← hc])
  · rename_i hc
    obtain ⟨hc, _⟩ := classify_inv hc
    exact reads (fun _ h => by cases h; rfl) (by simp [keyByte, ← hc])
  · rename_i h1 h2 h3 h4 h5
    refine ⟨fun _ => ?_, fun _ => rfl⟩
    cases hc : classify b.toNat with
    | fixstr n => exact (h1 n hc).elim
    | tag t =>
      obtain ⟨rfl, h⟩ := classify_inv hc
      have : b.toNat ≠ 0xd9 := fun e => h2 (by rw [hc, e])
      have : b.toNat ≠ 0xda := fun e => h3 (by rw [hc, e])
      have : b.toNat ≠ 0xdb := fun e => h4 (by rw [hc, e])
      have : b.toNat ≠ 0xc1 := fun e => h5 (by rw [hc, e])
      simp [keyByte]; omega
    | _ => obtain ⟨_, h⟩ := classify_inv hc; simp [keyByte]; omega

theorem decKey_locates : Locates UnsupportedAt decKey := by
  intro bs h
  cases bs with
  | nil => cases h
  | cons b rest => exact ⟨[], b :: rest, rfl, .nonStringKey b rest rfl ((decKey_unsup_iff b rest).mp h)⟩

theorem mem_extBytes {t : Nat} (h : (0xc7 ≤ t ∧ t ≤ 0xc9) ∨ (0xd4 ≤ t ∧ t ≤ 0xd8)) : t ∈ extBytes := by
  simp only [extBytes, List.mem_cons, List.not_mem_nil, or_false]
  omega

/-- The levels of `MsgPack.decF`; what it refuses on sight is an extension type. -/
theorem decF_levels : Levels maxLen (UnsupportedAt []) decKey decF where
  zero _ := rfl
  succ fuel bs := by
    cases bs with
    | nil => exact .malformed
    | cons b rest =>
      have hb := b.toNat_lt
      have hc : [b] ≠ [] := List.cons_ne_nil _ _
      unfold decF
      split
      · rename_i n h; obtain ⟨hn, h⟩ := classify_inv h
        exact .here (by unfold Leaf IntRange; omega)
      · rename_i n h; obtain ⟨hn, h⟩ := classify_inv h
        exact .here (by unfold Leaf IntRange; omega)
      · rename_i n h; obtain ⟨hn, h⟩ := classify_inv h
        exact .ofTakeN (fun _ h => h) (by unfold maxLen; omega) hc rfl
      · rename_i n h; obtain ⟨hn, h⟩ := classify_inv h
        exact .ofItems (by unfold maxLen; omega) hc rfl
      · rename_i n h; obtain ⟨hn, h⟩ := classify_inv h
        exact .ofPairs (by unfold maxLen; omega) hc rfl
      · exact .here trivial
      · exact .here trivial
      · exact .here trivial
      · exact step_sized (fun _ h => by exact h) (by decide)
      · exact step_sized (fun _ h => by exact h) (by decide)
      · exact step_sized (fun _ h => by exact h) (by decide)
      · exact .ofReadBE fun _ _ => trivial
      · exact .ofReadBE fun _ _ => trivial
      · exact .ofReadBE fun _ => nat_range (by decide)
      · exact .ofReadBE fun _ => nat_range (by decide)
      · exact .ofReadBE fun _ => nat_range (by decide)
      · exact .ofReadBE fun _ => nat_range (by decide)
      · exact .ofReadBE fun _ => toSigned_range (by decide)
      · exact .ofReadBE fun _ => toSigned_range (by decide)
      · exact .ofReadBE fun _ => toSigned_range (by decide)
      · exact .ofReadBE fun _ => toSigned_range (by decide)
      · exact step_sized (fun _ h => by exact h) (by decide)
      · exact step_sized (fun _ h => by exact h) (by decide)
      · exact step_sized (fun _ h => by exact h) (by decide)
      · exact step_hdr (by decide) fun _ _ _ hn e => .ofItems hn (List.cons_ne_nil _ _) e
      · exact step_hdr (by decide) fun _ _ _ hn e => .ofItems hn (List.cons_ne_nil _ _) e
      · exact step_hdr (by decide) fun _ _ _ hn e => .ofPairs hn (List.cons_ne_nil _ _) e
      · exact step_hdr (by decide) fun _ _ _ hn e => .ofPairs hn (List.cons_ne_nil _ _) e
      · exact .malformed
      · rename_i h
        obtain ⟨rfl, h⟩ := classify_inv h
        refine .refused (.ext b rest rfl (mem_extBytes ?_))
        -- every other tag between c0 and df has a branch of its own
        simp only [imp_false] at *
        omega

theorem decF_locates : ∀ (fuel : Nat), Locates UnsupportedAt (decF fuel) :=
  decF_levels.locates UnsupportedAt.mono decKey_sound decKey_locates
    (fun _ _ h => .dupKey h)

/-- **Where MessagePack `unsupported` comes from**.  If the decoder refuses a byte
    string as outside the value model, then at some position of it (`b = pre ++ rest`, the decoder
    having consumed `pre`) sits an extension type, or a map key that is not a str, or a map key
    that the same map already had. -/
theorem dec_unsupported_cause {b : Bytes} (h : dec b = .error .unsupported) :
    ∃ pre rest, b = pre ++ rest ∧ UnsupportedAt pre rest :=
  decF_locates _ b h

/-! Converses: each cause, at the top of the input, is refused. -/

/-- An extension type is refused whatever follows (even nothing: the type byte decides). -/
theorem dec_ext_top (t : UInt8) (r : Bytes) (ht : t.toNat ∈ extBytes) :
    dec (t :: r) = .error .unsupported := by
  simp only [extBytes, List.mem_cons, List.not_mem_nil, or_false] at ht
  rw [← UInt8.ofNat_toNat (x := t)]
  rcases ht with h | h | h | h | h | h | h | h <;> (rw [h]; rfl)

/-- A map whose first key does not start like a str is refused. -/
theorem dec_nonStringKey_top (n : Nat) (hn : n + 1 < maxLen) (t : UInt8) (r : Bytes)
    (ht : keyByte t.toNat = false) : dec (mapHdr (n + 1) ++ t :: r) = .error .unsupported :=
  reader.badKey hn ((decKey_unsup_iff t r).mpr ht)

/-- A map that repeats its first key right away is refused. -/
theorem dec_dupKey_top (n : Nat) (hn : n + 2 < maxLen) (k : Bytes) (hk : k.length < maxLen) (v : CVal)
    (hv : validB maxLen v = true) (r : Bytes) :
    dec (mapHdr (n + 2) ++ ((strHdr k.length ++ k) ++ (enc v ++ ((strHdr k.length ++ k) ++ r))))
      = .error .unsupported :=
  enc_writer.dupKey hn hk hv r

/-- `c7 00 00` (ext 8, empty), `d4 01 00` (fixext 1), `c9` alone (ext 32, cut short: the type byte
    decides before the length is looked at). -/
example : dec [0xc7, 0x00, 0x00] = .error .unsupported ∧ dec [0xd4, 0x01, 0x00] = .error .unsupported
    ∧ dec [0xc9] = .error .unsupported :=
  ⟨dec_ext_top _ _ (by decide), dec_ext_top _ _ (by decide), dec_ext_top _ _ (by decide)⟩

/-- `81 01 01` = {1: 1}: integer key. -/
example : dec [0x81, 0x01, 0x01] = .error .unsupported :=
  dec_nonStringKey_top 0 (by decide) 0x01 [0x01] (by decide)

/-- `82 a1 61 01 a1 61 02` = {"a": 1, "a": 2}. -/
example : dec [0x82, 0xa1, 0x61, 0x01, 0xa1, 0x61, 0x02] = .error .unsupported :=
  dec_dupKey_top 0 (by decide) [0x61] (by decide) (.int 1) (by decide) [0x02]

/-- Cut short before the cause is reached, the answer is `malformed`: `82 a1 61 01 a1` stops
    inside the second key. -/
example : dec [0x82, 0xa1, 0x61, 0x01, 0xa1] = .error .malformed :=
  (dec_mapHdr _ 2 _ (by decide)).trans rfl

/-- The hypothesis of `dec_unsupported_cause` is satisfiable, and the cause found for
    `91 c7 00 00` ([ext]) is the ext byte at offset 1. -/
example : dec [0x91, 0xc7, 0x00, 0x00] = .error .unsupported
    ∧ UnsupportedAt [0x91] [0xc7, 0x00, 0x00] :=
  ⟨(dec_arrHdr _ 1 _ (by decide)).trans rfl, .ext 0xc7 [0x00, 0x00] rfl (by decide)⟩

end MsgPack

namespace CBOR

open WpD

/-- The causes of `unsupported` in `CBOR.dec`: having consumed `pre`, the decoder is at `rest` and
    finds one of the items below where a value or a map key starts (the first four), or where a map
    key starts (the last two). -/
inductive UnsupportedAt (pre rest : Bytes) : Prop
  /-- additional information 31 on a major type other than 7: an indefinite-length string, array or
      map (for major types 0, 1, 6 the byte is not well-formed CBOR; the model files it here) -/
  | indefinite (t : UInt8) (r : Bytes) (h : rest = t :: r) (hm : t.toNat / 32 ≠ 7) (hi : t.toNat % 32 = 31)
  /-- a tag (major type 6) whose argument is complete -/
  | tag (t : UInt8) (r : Bytes) (h : rest = t :: r) (hm : t.toNat / 32 = 6) (n : Nat) (r' : Bytes)
      (ha : readArg (t.toNat % 32) r = .ok (n, r'))
  /-- a negative integer -1 - n with n ≥ 2^63, i.e. below -2^63: not an `int64` -/
  | negOverflow (t : UInt8) (r : Bytes) (h : rest = t :: r) (hm : t.toNat / 32 = 1) (n : Nat) (r' : Bytes)
      (ha : readArg (t.toNat % 32) r = .ok (n, r')) (hn : 9223372036854775808 ≤ n)
  /-- a byte string, text string, array or map whose length is 2^63 or more -/
  | hugeLength (t : UInt8) (r : Bytes) (h : rest = t :: r) (hm : 2 ≤ t.toNat / 32 ∧ t.toNat / 32 ≤ 5)
      (n : Nat) (r' : Bytes) (ha : readArg (t.toNat % 32) r = .ok (n, r')) (hn : maxLen ≤ n)
  /-- a map key that is not a text string (major type 3) -/
  | nonTextKey (t : UInt8) (r : Bytes) (h : rest = t :: r) (hm : t.toNat / 32 ≠ 3)
  /-- a map key equal to an earlier key of the same map -/
  | dupKey (h : DupKeyAt decKey pre rest)

theorem UnsupportedAt.mono : Mono UnsupportedAt := by
  intro x pre rest h
  cases h with
  | indefinite t r h hm hi => exact .indefinite t r h hm hi
  | tag t r h hm n r' ha => exact .tag t r h hm n r' ha
  | negOverflow t r h hm n r' ha hn => exact .negOverflow t r h hm n r' ha hn
  | hugeLength t r h hm n r' ha hn => exact .hugeLength t r h hm n r' ha hn
  | nonTextKey t r h hm => exact .nonTextKey t r h hm
  | dupKey h => exact .dupKey (DupKeyAt.mono x pre rest h)

theorem decKey_sound : KeySound maxLen decKey := by
  intro bs key r h
  cases bs with
  | nil => cases h
  | cons b rest =>
    simp only [decKey] at h
    split at h
    · split at h
      · rename_i n r' ha
        split at h
        · cases h
        · obtain ⟨_, c, e⟩ := readArg_ok ha
          obtain ⟨hl, e'⟩ := takeN_ok h
          exact ⟨by omega, b :: (c ++ key), List.cons_ne_nil _ _, by rw [e, e']; simp⟩
      · cases h
    · cases h

theorem decKey_locates : Locates UnsupportedAt decKey := by
  intro bs h
  cases bs with
  | nil => cases h
  | cons b rest =>
    refine ⟨[], b :: rest, rfl, ?_⟩
    simp only [decKey] at h
    split at h
    · rename_i hm
      split at h
      · rename_i n r' ha
        split at h
        · rename_i hn
          exact .hugeLength b rest rfl (by omega) n r' ha hn
        · cases takeN_err h
      · rename_i e he
        cases h
        exact .indefinite b rest rfl (by omega) (readArg_unsup he)
    · rename_i hm
      exact .nonTextKey b rest rfl hm

/-- The levels of `CBOR.decF`; what it refuses on sight is one of the first four causes. -/
theorem decF_levels : Levels maxLen (UnsupportedAt []) decKey decF where
  zero _ := rfl
  succ fuel bs := by
    cases bs with
    | nil => exact .malformed
    | cons b rest =>
      unfold decF
      refine iteInduction (fun _ => decSimple_step b _ rest) fun hm => ?_
      split
      · rename_i e he
        cases e with
        | malformed => exact .malformed
        | unsupported => exact .refused (.indefinite b rest rfl hm (readArg_unsup he))
      · rename_i n r ha
        have hlt : b.toNat / 32 < 8 := by have := b.toNat_lt; omega
        obtain ⟨hn, c, e⟩ := readArg_ok ha
        have hc : b :: c ≠ [] := List.cons_ne_nil _ _
        have e' : b :: rest = (b :: c) ++ r := by rw [e]; rfl
        unfold decBody
        rw [mapV_eq]
        refine iteInduction (fun _ => .leaf _ (by unfold Leaf IntRange; omega) _ r hc e') fun _ => ?_
        refine iteInduction (fun _ => iteInduction
          (fun _ => .leaf _ (by unfold Leaf IntRange; omega) _ r hc e') fun _ => .refused (.negOverflow b rest rfl ‹_› n r ha (by omega))) fun _ => ?_
        refine iteInduction (fun h6 => .refused (.tag b rest rfl h6 n r ha)) fun _ => ?_
        refine iteInduction (fun hn => .refused (.hugeLength b rest rfl (by omega) n r ha hn)) fun _ => ?_
        have hlen : n < maxLen := by omega
        exact iteInduction (fun _ => .ofTakeN (fun _ h => h) hlen hc e') fun _ =>
          iteInduction (fun _ => .ofTakeN (fun _ h => h) hlen hc e') fun _ =>
          iteInduction (fun _ => .ofItems hlen hc e') fun _ => .ofPairs hlen hc e'

theorem decF_locates : ∀ (fuel : Nat), Locates UnsupportedAt (decF fuel) :=
  decF_levels.locates UnsupportedAt.mono decKey_sound decKey_locates
    (fun _ _ h => .dupKey h)

/-- **Where CBOR `unsupported` comes from**.  If the decoder refuses a byte string as
    outside the value model, then at some position of it (`b = pre ++ rest`, the decoder having
    consumed `pre`) sits a tag, an indefinite-length item, a negative integer below -2^63, a
    length of 2^63 or more, a map key that is not a text string, or a map key that the same map
    already had. -/
theorem dec_unsupported_cause {b : Bytes} (h : dec b = .error .unsupported) :
    ∃ pre rest, b = pre ++ rest ∧ UnsupportedAt pre rest :=
  decF_locates _ b h

/-! Converses: each cause, at the top of the input, is refused. -/

/-- Additional information 31 on a major type other than 7 is refused whatever follows. -/
theorem dec_indefinite_top (t : UInt8) (r : Bytes) (hm : t.toNat / 32 ≠ 7) (hi : t.toNat % 32 = 31) :
    dec (t :: r) = .error .unsupported := by
  simp [dec, decF, hm, hi, readArg]

/-- A tag whose argument is complete is refused (the tagged item is not looked at). -/
theorem dec_tag_top (t : UInt8) (r : Bytes) (hm : t.toNat / 32 = 6) (n : Nat) (r' : Bytes)
    (ha : readArg (t.toNat % 32) r = .ok (n, r')) : dec (t :: r) = .error .unsupported := by
  simp [dec, decF, hm, ha, decBody]

/-- A tag is never accepted: `unsupported`, or `malformed` when its argument is cut short or uses a
    reserved width. -/
theorem dec_tag_never_ok (t : UInt8) (r : Bytes) (hm : t.toNat / 32 = 6) :
    dec (t :: r) = .error .unsupported ∨ dec (t :: r) = .error .malformed := by
  cases ha : readArg (t.toNat % 32) r with
  | ok x => left; exact dec_tag_top t r hm x.1 x.2 ha
  | error e =>
    cases e with
    | unsupported => left; simp [dec, decF, hm, ha]
    | malformed => right; simp [dec, decF, hm, ha]

/-- A negative integer below -2^63 is refused. -/
theorem dec_negOverflow_top (t : UInt8) (r : Bytes) (hm : t.toNat / 32 = 1) (n : Nat) (r' : Bytes)
    (ha : readArg (t.toNat % 32) r = .ok (n, r')) (hn : 9223372036854775808 ≤ n) :
    dec (t :: r) = .error .unsupported := by
  have : ¬ n < 9223372036854775808 := by omega
  simp [dec, decF, hm, ha, decBody, this]

/-- A string, array or map of length 2^63 or more is refused. -/
theorem dec_hugeLength_top (t : UInt8) (r : Bytes) (hm : 2 ≤ t.toNat / 32 ∧ t.toNat / 32 ≤ 5) (n : Nat)
    (r' : Bytes) (ha : readArg (t.toNat % 32) r = .ok (n, r')) (hn : maxLen ≤ n) :
    dec (t :: r) = .error .unsupported := by
  have h7 : t.toNat / 32 ≠ 7 := by omega
  have h0 : t.toNat / 32 ≠ 0 := by omega
  have h1 : t.toNat / 32 ≠ 1 := by omega
  have h6 : t.toNat / 32 ≠ 6 := by omega
  simp [dec, decF, h7, h0, h1, h6, ha, decBody, hn]

/-- A map whose first key is not a text string is refused. -/
theorem dec_nonTextKey_top (n : Nat) (hn : n + 1 < maxLen) (t : UInt8) (r : Bytes)
    (hm : t.toNat / 32 ≠ 3) : dec (encHead 5 (n + 1) ++ t :: r) = .error .unsupported :=
  reader.badKey hn (by rw [decKey, if_neg hm])

/-- A map that repeats its first key right away is refused. -/
theorem dec_dupKey_top (n : Nat) (hn : n + 2 < maxLen) (k : Bytes) (hk : k.length < maxLen) (v : CVal)
    (hv : validB maxLen v = true) (r : Bytes) :
    dec (encHead 5 (n + 2) ++ ((encHead 3 k.length ++ k) ++ (enc v ++ ((encHead 3 k.length ++ k) ++ r))))
      = .error .unsupported :=
  enc_writer.dupKey hn hk hv r

/-- `c0 00` (tag 0 on the integer 0), `c0` alone (the tag byte decides), `d8` alone (tag with a
    one-byte number that is missing: `malformed`). -/
example : dec [0xc0, 0x00] = .error .unsupported ∧ dec [0xc0] = .error .unsupported
    ∧ dec [0xd8] = .error .malformed :=
  ⟨dec_tag_top _ _ (by decide) 0 [0x00] rfl, dec_tag_top _ _ (by decide) 0 [] rfl, rfl⟩

/-- `9f ff` (indefinite-length array, empty), `5f` (indefinite-length byte string), `bf`. -/
example : dec [0x9f, 0xff] = .error .unsupported ∧ dec [0x5f] = .error .unsupported
    ∧ dec [0xbf, 0xff] = .error .unsupported :=
  ⟨dec_indefinite_top _ _ (by decide) (by decide), dec_indefinite_top _ _ (by decide) (by decide),
   dec_indefinite_top _ _ (by decide) (by decide)⟩

/-- `a1 01 01` = {1: 1}: integer key. -/
example : dec [0xa1, 0x01, 0x01] = .error .unsupported :=
  dec_nonTextKey_top 0 (by decide) 0x01 [0x01] (by decide)

/-- `a2 61 61 01 61 61 02` = {"a": 1, "a": 2}. -/
example : dec [0xa2, 0x61, 0x61, 0x01, 0x61, 0x61, 0x02] = .error .unsupported :=
  dec_dupKey_top 0 (by decide) [0x61] (by decide) (.int 1) (by decide) [0x02]

/-- `3b 80 00 00 00 00 00 00 00` = -1 - 2^63, one below `int64`; `3b 7f ff ff ff ff ff ff ff` = -2^63
    is still a value. -/
example : dec [0x3b, 0x80, 0, 0, 0, 0, 0, 0, 0] = .error .unsupported
    ∧ dec [0x3b, 0x7f, 0xff, 0xff, 0xff, 0xff, 0xff, 0xff, 0xff] = .ok (.int (-9223372036854775808), []) :=
  ⟨dec_negOverflow_top _ _ (by decide) 9223372036854775808 [] rfl (Nat.le_refl _),
   by simp [dec, decF, readArg, readBE, takeN, beNat, decBody]⟩

/-- `5b 80 00 00 00 00 00 00 00`: a byte string of 2^63 bytes. -/
example : dec [0x5b, 0x80, 0, 0, 0, 0, 0, 0, 0] = .error .unsupported :=
  dec_hugeLength_top _ _ (by decide) 9223372036854775808 [] rfl (Nat.le_refl _)

/-- The hypothesis of `dec_unsupported_cause` is satisfiable, and the cause found for `81 c0 00`
    ([tag 0 (0)]) is the tag byte at offset 1. -/
example : dec [0x81, 0xc0, 0x00] = .error .unsupported ∧ UnsupportedAt [0x81] [0xc0, 0x00] :=
  ⟨rfl, .tag 0xc0 [0x00] rfl (by decide) 0 [0x00] rfl⟩

end CBOR

end Nexus.Codec

namespace Nexus.C14

open Nexus.Gen Nexus.Codec

/-- The causes of `unsupported`, per binary format (`MsgPack.UnsupportedAt`, `CBOR.UnsupportedAt`).
    JSON has its own list (numbers outside the plain-integer fragment, ...): not covered here. -/
def BinUnsupportedAt : Format → Bytes → Bytes → Prop
  | .msgpack, pre, rest => MsgPack.UnsupportedAt pre rest
  | .cbor, pre, rest => CBOR.UnsupportedAt pre rest
  | .json, _, _ => False

/-- The codec's verdict `unsupported` on MessagePack or CBOR bytes points at a cause in the bytes. -/
theorem C14_decode_unsupported_cause_bin (fmt : Format) (hf : fmt ∈ [Format.msgpack, Format.cbor])
    (b : Bytes) (h : Wire.decode fmt b = .error .unsupported) :
    ∃ pre rest, b = pre ++ rest ∧ BinUnsupportedAt fmt pre rest := by
  cases fmt with
  | json => simp at hf
  | msgpack => exact MsgPack.dec_unsupported_cause h
  | cbor => exact CBOR.dec_unsupported_cause h

/-- **`Deserialize` is total on arbitrary MessagePack / CBOR bytes, and what the model leaves open
    is located**.  For every byte string: either the repo's code answers — with a
    message or an error, never a panic; or the codec reports an error (`malformed`); or the model
    has no opinion (`unsupported`), and then the bytes contain, at a position the decoder reached,
    one of the constructs listed in `MsgPack.UnsupportedAt` / `CBOR.UnsupportedAt` — or the
    top-level value is not a list and `Deserialize` decodes straight into a `[]any` (a mode no
    serializer uses: `C14_deserialize_total_bin_listChecked`). -/
theorem C14_deserialize_total_bin (fmt : Format) (hf : fmt ∈ [Format.msgpack, Format.cbor]) (b : Bytes) :
    (∃ r, Wire.deserialize fmt b = .ok r ∧ r.isPanic = false)
    ∨ Wire.deserialize fmt b = .error .malformed
    ∨ (Wire.deserialize fmt b = .error .unsupported ∧
        ((∃ pre rest, b = pre ++ rest ∧ BinUnsupportedAt fmt pre rest)
         ∨ (Wire.topDecodeOf fmt = .intoSlice ∧
            ∃ v rest, Wire.decode fmt b = .ok (v, rest) ∧ ∀ l, v ≠ .list l))) := by
  unfold Wire.deserialize
  split
  · rename_i e he
    cases e with
    | malformed => right; left; rfl
    | unsupported =>
      right; right
      exact ⟨rfl, Or.inl (C14_decode_unsupported_cause_bin fmt hf b he)⟩
  · left; exact ⟨_, rfl, fromList_no_panic fmt _⟩
  · rename_i v rest hnl hd
    split
    · left; exact ⟨_, rfl, rfl⟩
    · rename_i hts
      right; right
      refine ⟨rfl, Or.inr ⟨hts, v, rest, hd, ?_⟩⟩
      intro l hl
      exact hnl l hl

/-- The same with the regenerated fact that all three `Deserialize` functions go through
    `decodeList`: `unsupported` always points at a cause in the bytes. -/
theorem C14_deserialize_total_bin_listChecked (fmt : Format) (hf : fmt ∈ [Format.msgpack, Format.cbor])
    (b : Bytes) :
    (∃ r, Wire.deserialize fmt b = .ok r ∧ r.isPanic = false)
    ∨ Wire.deserialize fmt b = .error .malformed
    ∨ (Wire.deserialize fmt b = .error .unsupported ∧
        ∃ pre rest, b = pre ++ rest ∧ BinUnsupportedAt fmt pre rest) := by
  rcases C14_deserialize_total_bin fmt hf b with h | h | ⟨h, hc | ⟨hts, _⟩⟩
  · exact Or.inl h
  · exact Or.inr (Or.inl h)
  · exact Or.inr (Or.inr ⟨h, hc⟩)
  · have : Wire.topDecodeOf fmt = .listChecked := by cases fmt <;> decide
    rw [this] at hts; cases hts

/-- All three outcomes occur, in both formats: `[1]` is answered by the repo's code (HELLO with
    both fields left at their zero values), a lone array header is `malformed`, an array holding an
    extension type / a tag is `unsupported`. -/
example :
    (∃ r, Wire.deserialize .msgpack [0x91, 0x01] = .ok r) ∧ (∃ r, Wire.deserialize .cbor [0x81, 0x01] = .ok r)
    ∧ Wire.deserialize .msgpack [0x91] = .error .malformed ∧ Wire.deserialize .cbor [0x81] = .error .malformed
    ∧ Wire.deserialize .msgpack [0x91, 0xc7, 0x00, 0x00] = .error .unsupported
    ∧ Wire.deserialize .cbor [0x81, 0xc0, 0x00] = .error .unsupported := by
  have e1 : MsgPack.dec [0x91] = .error .malformed := (MsgPack.dec_arrHdr _ 1 _ (by decide)).trans rfl
  have e2 : MsgPack.dec [0x91, 0xc7, 0x00, 0x00] = .error .unsupported := (MsgPack.dec_arrHdr _ 1 _ (by decide)).trans rfl
  refine ⟨⟨_, rfl⟩, ⟨_, rfl⟩, ?_, rfl, ?_, rfl⟩
  · rw [Wire.deserialize, Wire.decode, e1]
  · rw [Wire.deserialize, Wire.decode, e2]

end Nexus.C14
