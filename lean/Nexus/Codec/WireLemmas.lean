/-
  `validB` is monotone in the length bound, and MessagePack's bound is below CBOR's: what
  MessagePack can carry, CBOR can (used where the formats are compared).  `Wire.decode_encode`
  is the round trip of the three formats as one statement about `Wire.encode` and `Wire.decode`.
-/
import Nexus.Codec.Wire
import Nexus.Codec.MsgPackProofs
import Nexus.Codec.CBORProofs
import Nexus.Codec.JsonProofs
import Nexus.Codec.MsgLemmas

namespace Nexus.Codec

mutual
  theorem validB_mono {L L' : Nat} (h : L ≤ L') : ∀ (v : CVal), validB L v = true → validB L' v = true
    | .null, _ => rfl
    | .bool _, _ => rfl
    | .float _, _ => rfl
    | .int _, hv => by simpa [validB] using hv
    | .str s, hv => by simp [validB] at hv ⊢; omega
    | .bin s, hv => by simp [validB] at hv ⊢; omega
    | .list l, hv => by
        simp [validB] at hv ⊢
        exact ⟨by omega, validListB_mono h l hv.2⟩
    | .dict d, hv => by
        simp [validB] at hv ⊢
        exact ⟨⟨by omega, hv.1.2⟩, validDictB_mono h d hv.2⟩
  theorem validListB_mono {L L' : Nat} (h : L ≤ L') : ∀ (l : List CVal), validListB L l = true → validListB L' l = true
    | [], _ => rfl
    | v :: vs, hv => by
        simp [validListB] at hv ⊢
        exact ⟨validB_mono h v hv.1, validListB_mono h vs hv.2⟩
  theorem validDictB_mono {L L' : Nat} (h : L ≤ L') : ∀ (d : List (Bytes × CVal)), validDictB L d = true → validDictB L' d = true
    | [], _ => rfl
    | (k, v) :: r, hv => by
        simp [validDictB] at hv ⊢
        exact ⟨⟨by omega, validB_mono h v hv.1.2⟩, validDictB_mono h r hv.2⟩
end

theorem maxLen_le : MsgPack.maxLen ≤ CBOR.maxLen := by decide

namespace Wire

/-- **Every serializer round-trips**: the bytes `encode` writes for a value, `decode` reads back
    to that value, with nothing left: `MsgPack.dec_enc`, `CBOR.dec_enc`, `Json.dec_enc`, each under
    the side condition its `encode` tests. -/
theorem decode_encode {fmt : Format} {v : CVal} {b : Bytes} (h : encode fmt v = some b) :
    decode fmt b = .ok (v, []) := by
  cases fmt <;> simp only [encode, Json.encode, MsgPack.encode, CBOR.encode] at h <;> split at h <;> cases h <;>
    rename_i hv
  · simpa [decode] using Json.dec_enc v [] hv Json.numSafe_nil
  · simpa [decode] using MsgPack.dec_enc v [] hv
  · simpa [decode] using CBOR.dec_enc v [] hv

theorem deserialize_encode {fmt : Format} {l : List CVal} {b : Bytes} (h : encode fmt (.list l) = some b) :
    deserialize fmt b = .ok (fromList fmt l) := by
  rw [deserialize, decode_encode h]

end Wire

end Nexus.Codec
