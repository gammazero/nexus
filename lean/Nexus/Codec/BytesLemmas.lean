/-
  Byte-level plumbing shared by the MessagePack and CBOR models: big-endian
  integers, taking `k` bytes, decoder result type, generic item loops, value
  validity (`validB`) and nesting depth.
-/
import Nexus.Codec.CVal

namespace Nexus.Codec

inductive DErr where
  /-- not a well-formed encoding (truncated, reserved byte, ...) -/
  | malformed
  /-- well-formed, but outside the value model (extension types, tags, non-string map keys, ...) -/
  | unsupported
  deriving DecidableEq, Repr, Inhabited

abbrev DRes (α : Type) := Except DErr α

/-- `k` bytes, big-endian, of `n` (mod 256^k). -/
def beBytes : Nat → Nat → Bytes
  | 0, _ => []
  | k + 1, n => beBytes k (n / 256) ++ [UInt8.ofNat (n % 256)]

def beNat (bs : Bytes) : Nat := bs.foldl (fun a b => a * 256 + b.toNat) 0

theorem u8_toNat {n : Nat} (h : n < 256) : (UInt8.ofNat n).toNat = n := by
  simp [UInt8.toNat_ofNat']
  omega

theorem eq_of_toNat {x : UInt8} {k : Nat} (h : x.toNat = k) : x = UInt8.ofNat k := by
  rw [← h]; exact UInt8.ofNat_toNat.symm

@[simp] theorem beBytes_length (k n : Nat) : (beBytes k n).length = k := by
  induction k generalizing n with
  | zero => rfl
  | succ k ih => simp [beBytes, ih]

theorem beNat_append_single (a : Bytes) (b : UInt8) : beNat (a ++ [b]) = beNat a * 256 + b.toNat := by
  simp [beNat, List.foldl_append]

theorem beNat_beBytes : ∀ (k n : Nat), n < 256 ^ k → beNat (beBytes k n) = n
  | 0, n, h => by simp at h; subst h; rfl
  | k + 1, n, h => by
      have h' : n / 256 < 256 ^ k := by
        rw [Nat.pow_succ] at h
        exact Nat.div_lt_of_lt_mul (by rw [Nat.mul_comm]; exact h)
      rw [beBytes, beNat_append_single, beNat_beBytes k _ h', u8_toNat (Nat.mod_lt _ (by decide))]
      omega

/-- The first `k` bytes and the rest; `malformed` when fewer are left. -/
def takeN (k : Nat) (bs : Bytes) : DRes (Bytes × Bytes) :=
  if k ≤ bs.length then .ok (bs.take k, bs.drop k) else .error .malformed

theorem takeN_append (a r : Bytes) : takeN a.length (a ++ r) = .ok (a, r) := by
  simp [takeN]

def readBE (k : Nat) (bs : Bytes) : DRes (Nat × Bytes) :=
  match takeN k bs with
  | .ok (a, r) => .ok (beNat a, r)
  | .error e => .error e

theorem readBE_append {k n : Nat} (h : n < 256 ^ k) (r : Bytes) :
    readBE k (beBytes k n ++ r) = .ok (n, r) := by
  have := takeN_append (beBytes k n) r
  rw [beBytes_length] at this
  simp [readBE, this, beNat_beBytes k n h]

/-- `n` items with the element decoder `f`. -/
def decItems (f : Bytes → DRes (CVal × Bytes)) : Nat → Bytes → DRes (List CVal × Bytes)
  | 0, bs => .ok ([], bs)
  | n + 1, bs =>
    match f bs with
    | .error e => .error e
    | .ok (v, r) =>
      match decItems f n r with
      | .error e => .error e
      | .ok (vs, r') => .ok (v :: vs, r')

/-- `n` key/value pairs; `k` decodes a key (a string), `f` a value.  A key that was already seen
    in this map is outside the value model: the codec then decodes the new value *into* the old
    one (lists are overwritten element-wise, maps merged, a number after a string becomes a
    string, ...). -/
def decPairs (k : Bytes → DRes (Bytes × Bytes)) (f : Bytes → DRes (CVal × Bytes)) :
    Nat → List Bytes → Bytes → DRes (List (Bytes × CVal) × Bytes)
  | 0, _, bs => .ok ([], bs)
  | n + 1, seen, bs =>
    match k bs with
    | .error e => .error e
    | .ok (key, r) =>
      if seen.contains key then .error .unsupported
      else
        match f r with
        | .error e => .error e
        | .ok (v, r') =>
          match decPairs k f n (key :: seen) r' with
          | .error e => .error e
          | .ok (ps, r'') => .ok ((key, v) :: ps, r'')

/-- No key of `d` occurs in `seen` or twice in `d`. -/
def noDupFrom : List Bytes → List (Bytes × CVal) → Bool
  | _, [] => true
  | seen, (k, _) :: r => !seen.contains k && noDupFrom (k :: seen) r

mutual
  /-- Encodable: integers in Go's int64 ∪ uint64, every length below `L`, dict keys distinct
      (as in any Go map). -/
  def validB (L : Nat) : CVal → Bool
    | .null => true
    | .bool _ => true
    | .float _ => true
    | .int i => decide (-(9223372036854775808 : Int) ≤ i) && decide (i < (18446744073709551616 : Int))
    | .str s => decide (s.length < L)
    | .bin b => decide (b.length < L)
    | .list l => decide (l.length < L) && validListB L l
    | .dict d => decide (d.length < L) && noDupFrom [] d && validDictB L d
  def validListB (L : Nat) : List CVal → Bool
    | [] => true
    | v :: vs => validB L v && validListB L vs
  def validDictB (L : Nat) : List (Bytes × CVal) → Bool
    | [] => true
    | (k, v) :: r => decide (k.length < L) && validB L v && validDictB L r
end

mutual
  def depth : CVal → Nat
    | .list l => depthList l + 1
    | .dict d => depthDict d + 1
    | _ => 0
  def depthList : List CVal → Nat
    | [] => 0
    | v :: vs => max (depth v) (depthList vs)
  def depthDict : List (Bytes × CVal) → Nat
    | [] => 0
    | (_, v) :: r => max (depth v) (depthDict r)
end

/-- Two's complement reading of a `k`-byte big-endian number. -/
def toSigned (k : Nat) (n : Nat) : Int :=
  if n < 256 ^ k / 2 then (n : Int) else (n : Int) - (256 ^ k : Nat)

/-! Float widening is for the decoders only; the encoders emit binary64. -/

/-- binary32 bits → binary64 bits (exact; NaNs are quieted as the amd64 conversion does). -/
def f32to64 (w : Nat) : Nat :=
  let s := w / 2 ^ 31
  let e := (w / 2 ^ 23) % 256
  let m := w % 2 ^ 23
  if e == 255 then
    s * 2 ^ 63 + 2047 * 2 ^ 52 + (if m == 0 then 0 else m * 2 ^ 29 ||| 2 ^ 51)
  else if e == 0 then
    if m == 0 then s * 2 ^ 63
    else
      let k := Nat.log2 m + 1
      s * 2 ^ 63 + (k + 873) * 2 ^ 52 + (m - 2 ^ (k - 1)) * 2 ^ (53 - k)
  else s * 2 ^ 63 + (e + 896) * 2 ^ 52 + m * 2 ^ 29

/-- binary16 bits → binary32 bits. -/
def f16to32 (h : Nat) : Nat :=
  let s := h / 2 ^ 15
  let e := (h / 2 ^ 10) % 32
  let m := h % 2 ^ 10
  if e == 31 then s * 2 ^ 31 + 255 * 2 ^ 23 + m * 2 ^ 13
  else if e == 0 then
    if m == 0 then s * 2 ^ 31
    else
      let k := Nat.log2 m + 1
      s * 2 ^ 31 + (k + 102) * 2 ^ 23 + (m - 2 ^ (k - 1)) * 2 ^ (24 - k)
  else s * 2 ^ 31 + (e + 112) * 2 ^ 23 + m * 2 ^ 13

end Nexus.Codec
