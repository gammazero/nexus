/-
  `RealmInv` — the invariant of the realm model carried by C04 and C05: the broker and dealer invariants; live
  references — whoever the broker, the dealer, the yield retry loop or the transport (`inbox`) refers to is an
  attached session (the meta session too, for the dealer and the loop), clause by clause at the structure; pending
  `metaMsg` tasks carry only YIELD/ERROR answers of the meta-procedure handler.

  Preserved by every `stepOp`, every `runTask`, every timed event, `drain`, `advance`,
  `flush` and `step`; established by `Realm.create`.  Under the invariant no function of the
  realm takes an explicit panic branch: the `panic` field changes only by the fuel markers of
  `drain` / `advance`.
-/
import Nexus.L2.Proofs.RealmWalk
import Nexus.L2.Proofs.RealmHandles
import Nexus.L2.Proofs.RealmRefsBroker
import Nexus.L2.Proofs.DealerRefs
import Nexus.L2.Proofs.DealerRealmRpc
import Nexus.L2.Proofs.LeaveEq

namespace Nexus.L2
open Gen.N

/-- answers of the meta-procedure handler -/
def Msg.isMetaAnswer : Msg → Bool
  | .yield .. => true
  | .error .. => true
  | _ => false

namespace Realm

def TaskOk : Task → Prop
  | .metaMsg m => m.isMetaAnswer = true
  | _ => True

/-- what waits in the transport (`inbox`) was sent by an attached session that is `buffered` and
    whose handler is (still) in the yield retry loop -/
def InboxOk (r : Realm) : Prop :=
  ∀ e ∈ r.inbox, (∃ c ∈ r.clients, c.key = e.1 ∧ c.buffered = true) ∧ r.busy e.1 = true

structure RealmInv (r : Realm) : Prop where
  binv : BrokerInv r.broker
  dinv : DealerInv r.ds
  /-- every subscriber is an attached session -/
  bmem : ∀ k, r.broker.mem k → r.isClient k
  /-- every callee, caller, invocation callee and callee-index key is attached (or the meta session) -/
  dref : ∀ k, r.ds.refs k → r.att k
  /-- every caller of a pending call is an attached session -/
  callers : ∀ c ∈ r.ds.d.calls, r.isClient c.sess
  /-- a handler in the yield retry loop belongs to an attached session -/
  retr : ∀ x ∈ r.retries, r.att x.callee
  tasks : ∀ t ∈ r.tasks, TaskOk t
  inb : InboxOk r
  metaKey : r.metaS.key = metaKey

theorem InboxOk.mono {r r' : Realm} (hc : r'.clients = r.clients) (hr : ∀ x ∈ r.retries, x ∈ r'.retries)
    (hi : r'.inbox = r.inbox) (h : InboxOk r) : InboxOk r' := by
  intro e he
  rw [hi] at he
  obtain ⟨hcl, hb⟩ := h e he
  exact ⟨hc ▸ hcl, busy_mono hr hb⟩

theorem InboxOk.congr {r r' : Realm} (hc : r'.clients = r.clients) (hr : r'.retries = r.retries)
    (hi : r'.inbox = r.inbox) (h : InboxOk r) : InboxOk r' :=
  h.mono hc (fun _ hx => hr ▸ hx) hi

theorem InboxOk.map_clients {r r' : Realm} (f : Session → Session) (hk : ∀ c, (f c).key = c.key)
    (hb : ∀ c, c.buffered = true → (f c).buffered = true) (hc : r'.clients = r.clients.map f)
    (hr : r'.retries = r.retries) (hi : r'.inbox = r.inbox) (h : InboxOk r) : InboxOk r' := by
  intro e he
  rw [hi] at he
  obtain ⟨⟨c, hcm, hck, hcb⟩, hbz⟩ := h e he
  exact ⟨⟨f c, by rw [hc]; exact List.mem_map.mpr ⟨c, hcm, rfl⟩, (hk c).trans hck, hb c hcb⟩,
    (busy_congr hr _).trans hbz⟩

theorem isClient_congr {r r' : Realm} (h : r'.clients.map (·.key) = r.clients.map (·.key)) (k : SessKey) :
    r'.isClient k ↔ r.isClient k := by
  have key : ∀ r : Realm, r.isClient k ↔ k ∈ r.clients.map (·.key) := by
    intro r
    unfold isClient
    simp only [List.mem_map]
  rw [key, key, h]

theorem att_congr {r r' : Realm} (h : r'.clients.map (·.key) = r.clients.map (·.key)) (k : SessKey) :
    r'.att k ↔ r.att k := by
  unfold att; rw [isClient_congr h]

/-- rebuild the invariant for a realm with the same client keys and meta session: who its tables
    and retries refer to may be checked against the clients of `r` -/
theorem RealmInv.of_parts {r r' : Realm} (hi : RealmInv r)
    (hcl : r'.clients.map (·.key) = r.clients.map (·.key))
    (hb : BrokerInv r'.broker) (hd : DealerInv r'.ds)
    (hbm : ∀ k, r'.broker.mem k → r.isClient k)
    (hdr : ∀ k, r'.ds.refs k → r.att k)
    (hca : ∀ c ∈ r'.ds.d.calls, r.isClient c.sess)
    (hre : ∀ x ∈ r'.retries, r.att x.callee)
    (hta : ∀ t ∈ r'.tasks, TaskOk t)
    (hin : InboxOk r')
    (hms : r'.metaS = r.metaS) : RealmInv r' :=
  ⟨hb, hd, fun k h => (isClient_congr hcl k).mpr (hbm k h), fun k h => (att_congr hcl k).mpr (hdr k h),
   fun c h => (isClient_congr hcl _).mpr (hca c h), fun x h => (att_congr hcl _).mpr (hre x h), hta, hin,
   hms ▸ hi.metaKey⟩

/-- the invariant reads `broker`, `ds`, `clients`, `retries`, `tasks`, `inbox` and `metaS` only -/
theorem RealmInv.same {r r' : Realm} (hi : RealmInv r) (hb : r'.broker = r.broker := by rfl) (hd : r'.ds = r.ds := by rfl)
    (hc : r'.clients = r.clients := by rfl) (hr : r'.retries = r.retries := by rfl) (ht : r'.tasks = r.tasks := by rfl)
    (hin : r'.inbox = r.inbox := by rfl) (hm : r'.metaS = r.metaS := by rfl) : RealmInv r' :=
  hi.of_parts (by rw [hc]) (hb ▸ hi.binv) (hd ▸ hi.dinv) (hb ▸ hi.bmem) (hd ▸ hi.dref) (hd ▸ hi.callers) (hr ▸ hi.retr)
    (ht ▸ hi.tasks) (hi.inb.congr hc hr hin) hm

/-- `r'` is `r` after some sends that found their peer: only the queues change, and invocations
    for the meta session have become `metaInvoke` tasks -/
structure Sent (r r' : Realm) : Prop where
  cfg : r'.cfg = r.cfg
  broker : r'.broker = r.broker
  ds : r'.ds = r.ds
  clients : r'.clients = r.clients
  ending : r'.ending = r.ending
  testaments : r'.testaments = r.testaments
  metaProcs : r'.metaProcs = r.metaProcs
  metaS : r'.metaS = r.metaS
  closedPeers : r'.closedPeers = r.closedPeers
  retries : r'.retries = r.retries
  deferred : r'.deferred = r.deferred
  inbox : r'.inbox = r.inbox
  ghosts : r'.ghosts = r.ghosts
  now : r'.now = r.now
  pubCount : r'.pubCount = r.pubCount
  rnd : r'.rnd = r.rnd
  panic : r'.panic = r.panic
  tasks : ∃ ts, r'.tasks = r.tasks ++ ts ∧ ∀ t ∈ ts, ∃ a b c d e, t = Task.metaInvoke a b c d e

theorem Sent.of_frame {r r' : Realm} (f : SendFrame r r') (hp : r'.panic = r.panic)
    (ht : ∃ ts, r'.tasks = r.tasks ++ ts ∧ ∀ t ∈ ts, ∃ a b c d e, t = Task.metaInvoke a b c d e) : Sent r r' :=
  ⟨f.cfg, f.broker, f.ds, f.clients, f.ending, f.testaments, f.metaProcs, f.metaS, f.closedPeers, f.retries, f.deferred,
    f.inbox, f.ghosts, f.now, f.pubCount, f.rnd, hp, ht⟩

theorem trySend_panic {r : Realm} {s : Send} (h : r.att s.to) : (r.trySend s).panic = r.panic := by
  by_cases hm : s.to = metaKey
  · exact (trySend_meta r s hm).2.2
  · cases hc : r.client? s.to with
    | none =>
      obtain ⟨c, hcm, hk⟩ := h.resolve_left hm
      simpa [hk] using List.find?_eq_none.mp hc c hcm
    | some c =>
      rw [trySend_client r s hm hc]
      split <;> rfl

theorem deliver_panic : ∀ (ss : List Send) {r : Realm}, (∀ x ∈ ss, r.att x.to) → (r.deliver ss).panic = r.panic
  | [], _, _ => rfl
  | s :: ss, r, h =>
    (deliver_panic ss fun x hx => (att_congr (congrArg _ (trySend_frame r s).clients) x.to).mpr
      (h x (List.mem_cons_of_mem _ hx))).trans (trySend_panic (h s (List.mem_cons_self ..)))

theorem applyD_panic {r : Realm} {o : DOut} (hs : ∀ x ∈ o.sends, r.att x.to) (hp : o.panic = none) :
    (r.applyD o).panic = r.panic := by
  rw [applyD_eq, hp, setPanic_none]
  exact deliver_panic o.sends (r := { r with ds := o.st }) hs

theorem RealmInv.with_tasks {r : Realm} (hi : RealmInv r) (ts : List Task) (en : List SessKey)
    (hts : ∀ t ∈ ts, TaskOk t) : RealmInv { r with tasks := r.tasks ++ ts, ending := en } :=
  hi.of_parts rfl hi.binv hi.dinv hi.bmem hi.dref hi.callers hi.retr
    (fun t ht => by
      rcases List.mem_append.mp ht with h | h
      · exact hi.tasks t h
      · exact hts t h) hi.inb rfl

theorem deliver_sent (ss : List Send) {r : Realm} (h : ∀ x ∈ ss, r.att x.to) : Sent r (r.deliver ss) :=
  .of_frame (deliver_frame ss r) (deliver_panic ss h) ⟨_, ddeliver_tasks ss r, fun _ => dmetaTasks_shape⟩

theorem RealmInv.sent {r r' : Realm} (hi : RealmInv r) (h : Sent r r') : RealmInv r' := by
  obtain ⟨ts, e, o⟩ := h.tasks
  exact (hi.with_tasks ts r.ending fun t ht => by
    obtain ⟨a, b, c, d, e, rfl⟩ := o t ht
    trivial).same h.broker h.ds h.clients h.retries e h.inbox h.metaS

/-! ### the handlers keep the invariant and never panic -/

/-- `r'` satisfies the invariant, with the panic flag and the client keys of `r`.  It is not reflexive by
    itself (`Good.refl` needs `RealmInv r`), which is why `leave_inv` does not go through `leave_walk`: the
    relation walked there has to hold of every move from any realm. -/
def Good (r r' : Realm) : Prop :=
  RealmInv r' ∧ r'.panic = r.panic ∧ r'.clients.map (·.key) = r.clients.map (·.key)

theorem Good.refl {r : Realm} (hi : RealmInv r) : Good r r := ⟨hi, rfl, rfl⟩

theorem Good.trans {a b c : Realm} (h1 : Good a b) (h2 : Good b c) : Good a c :=
  ⟨h2.1, h2.2.1.trans h1.2.1, h2.2.2.trans h1.2.2⟩

theorem Good.inv {a b : Realm} (h : Good a b) : RealmInv b ∧ b.panic = a.panic := ⟨h.1, h.2.1⟩
theorem Good.att {a b : Realm} (h : Good a b) (k : SessKey) : b.att k ↔ a.att k := att_congr h.2.2 k
theorem Good.isClient {a b : Realm} (h : Good a b) (k : SessKey) : b.isClient k ↔ a.isClient k :=
  isClient_congr h.2.2 k

theorem good_deliver {r : Realm} (hi : RealmInv r) {ss : List Send} (h : ∀ x ∈ ss, r.att x.to) : Good r (r.deliver ss) :=
  have hs := deliver_sent ss h
  ⟨hi.sent hs, hs.panic, by rw [hs.clients]⟩

theorem good_trySend {r : Realm} (hi : RealmInv r) {s : Send} (h : r.att s.to) : Good r (r.trySend s) :=
  good_deliver hi (ss := [s]) fun _ hx => List.mem_singleton.mp hx ▸ h

theorem good_tasks {r : Realm} (hi : RealmInv r) (ts : List Task) (en : List SessKey) (hts : ∀ t ∈ ts, TaskOk t) :
    Good r { r with tasks := r.tasks ++ ts, ending := en } := ⟨hi.with_tasks ts en hts, rfl, rfl⟩

theorem good_applyD {r : Realm} (hi : RealmInv r) {o : DOut}
    (hd : DealerInv o.st)
    (hrefs : ∀ k, o.st.refs k → r.ds.refs k ∨ r.att k)
    (hcalls : ∀ c ∈ o.st.d.calls, c ∈ r.ds.d.calls ∨ r.isClient c.sess)
    (hsends : ∀ x ∈ o.sends, r.ds.refs x.to ∨ r.att x.to)
    (hpanic : o.panic = none) : Good r (r.applyD o) := by
  rw [applyD_eq, hpanic, setPanic_none]
  have h1 : RealmInv ({ r with ds := o.st } : Realm) :=
    hi.of_parts rfl hi.binv hd hi.bmem
      (fun k hk => (hrefs k hk).elim (hi.dref k) id)
      (fun c hc => (hcalls c hc).elim (hi.callers c) id) hi.retr hi.tasks hi.inb rfl
  have hs := good_deliver h1 (ss := o.sends) fun x hx => (hsends x hx).elim (hi.dref x.to) id
  refine ⟨hs.1.with_tasks _ _ fun t ht => ?_, hs.2.1, hs.2.2⟩
  rcases List.mem_append.mp ht with h | h
  · obtain ⟨p, _, rfl⟩ := List.mem_map.mp h; trivial
  · obtain ⟨p, _, rfl⟩ := List.mem_map.mp h; trivial

theorem leaveTask_ok (k : SessKey) (mode : LeaveMode) : ∀ t ∈ [Task.leave k mode], TaskOk t :=
  fun t ht => by rw [List.mem_singleton.mp ht]; trivial

theorem good_brokerStep {r : Realm} (hi : RealmInv r) (b' : Broker) (sends : List Send) (n : Nat)
    (hb : BrokerInv b') (hmem : ∀ k, b'.mem k → r.isClient k) (hto : ∀ x ∈ sends, r.att x.to) :
    Good r (({ r with broker := b', pubCount := n } : Realm).deliver sends) := by
  have h1 : RealmInv ({ r with broker := b', pubCount := n } : Realm) :=
    hi.of_parts rfl hb hi.dinv hmem hi.dref hi.callers hi.retr hi.tasks hi.inb rfl
  exact good_deliver h1 hto

/-- a dealer action that only shrinks the tables (the CANCEL of a firing call timer, YIELD) -/
theorem good_shrink {r : Realm} (hi : RealmInv r) {o : DOut} (hd : DealerInv o.st) (hs : Shrinks r.ds o.st)
    (hsends : ∀ x ∈ o.sends, r.ds.refs x.to ∨ r.att x.to) (hpanic : o.panic = none) : Good r (r.applyD o) :=
  good_applyD hi hd (fun k hk => Or.inl (hs.refs k hk)) (fun c hc => Or.inl (hs.calls c hc)) hsends hpanic

theorem good_cancel {r : Realm} (hi : RealmInv r) (caller : SessKey) (req : Nat) (mode reason : String)
    (errArgs : List WVal) : Good r (r.applyD (syncCancel r.denv r.ds caller req mode reason errArgs)) :=
  good_shrink hi (syncCancel_inv hi.dinv _ _ _ _ _) (syncCancel_shrinks ..)
    (fun x hx => Or.inl (syncCancel_sends _ _ _ _ _ _ _ x hx).1) (syncCancel_panic ..)

theorem good_yield {r : Realm} (hi : RealmInv r) (callee : SessKey) (hs : r.att callee) (req : Nat) (opts : Dict)
    (args : List WVal) (kw : Dict) (progress canRetry : Bool) :
    Good r (r.applyD (syncYield r.denv r.ds callee req opts args kw progress canRetry)) :=
  good_shrink hi (syncYield_inv hi.dinv _ _ _ _ _ _ _) (syncYield_shrinks ..)
    (fun x hx => (syncYield_sends_to _ _ _ _ _ _ _ _ _ x hx).elim Or.inl (fun e => Or.inr (e ▸ hs)))
    (syncYield_panic ..)

theorem good_handleYield {r : Realm} (hi : RealmInv r) (s : Session) (hs : r.att s.key) (req : Nat) (opts : Dict)
    (args : List WVal) (kw : Dict) : Good r (handleYield r s req opts args kw) := by
  unfold handleYield
  extract_lets progress o r1
  have h1 : Good r r1 := good_yield hi s.key hs req opts args kw progress true
  split
  · refine h1.trans ⟨?_, rfl, rfl⟩
    refine h1.1.of_parts rfl h1.1.binv h1.1.dinv h1.1.bmem h1.1.dref h1.1.callers ?_ h1.1.tasks ?_ rfl
    intro x hx
    rcases List.mem_append.mp hx with hx | hx
    · exact h1.1.retr x hx
    · rw [List.mem_singleton.mp hx]
      exact (h1.att s.key).mpr hs
    · exact h1.1.inb.mono (r := r1) rfl (fun y hy => List.mem_append_left _ hy) rfl
  · exact h1

/-- the handler of an attached session (of a client, where the message puts its sender among callers or
    subscribers) keeps the invariant and never panics: whoever the dealer's or the broker's tables name afterwards
    was named before or is `k` itself (`DAct.owned`, `BAct.good`), and whoever is sent to was named before or is `k` -/
theorem Good.of_handles {k : SessKey} {m : Msg} {r r' : Realm} (hi : RealmInv r) (ha : r.att k)
    (hc : m.clientOnly = true → r.isClient k) (h : Handles k m r r') : Good r r' := by
  have own : ∀ {j}, j = k → r.att j := fun e => e ▸ ha
  cases h with
  | same => exact .refl hi
  | reply e => exact good_trySend hi ha
  | quit mode _ => exact good_tasks hi _ _ (leaveTask_ok _ _)
  | replyQuit e mode _ =>
    have h1 := good_trySend hi (s := ⟨k, e⟩) ha
    exact h1.trans (good_tasks h1.1 _ _ (leaveTask_ok _ _))
  | dealer st =>
    obtain ⟨h1, h2, h3⟩ := st.owned hi.dinv
    exact good_applyD hi (st.dstep.inv hi.dinv) (fun j hj => (h1 j hj).imp_right own)
      (fun c hc' => (h2 c hc').imp_right fun e : c.sess = k ∧ _ => e.1 ▸ hc e.2)
      (fun x hx => (h3 x hx).imp_right own) (st.dstep.no_panic hi.dinv)
  | yield s hs req opts args kw hm => exact good_handleYield hi s (hs ▸ ha) ..
  | @broker b' n ss st ack e =>
    obtain ⟨h1, h2, h3⟩ := st.good hi.binv
    have hb := good_brokerStep hi b' ss n h1 (fun j hj => (h2 j hj).elim (hi.bmem j) fun e => e.1 ▸ hc e.2)
      (fun x hx => (h3 x hx).elim (fun h => .inr (hi.bmem _ h)) own)
    split
    · exact hb.trans (good_trySend hb.1 ((hb.att k).mpr ha))
    · exact hb

/-- a client's handler, or the meta session's answering an invocation -/
theorem good_handleMsg {r : Realm} (hi : RealmInv r) (s : Session) (m : Msg)
    (h : r.isClient s.key ∨ (s.key = metaKey ∧ m.isMetaAnswer = true)) : Good r (handleMsg r s m) :=
  .of_handles hi (h.elim .inr fun h => .inl h.1)
    (fun e => h.resolve_right fun h' => by cases m <;> first | exact Bool.noConfusion h'.2 | cases e)
    (handleMsg_handles r s m)

theorem metaProc_answer (r : Realm) (proc : String) (req : Nat) (details : Dict) (args : List WVal) (kw : Dict) :
    (metaProc r proc req details args kw).1.isMetaAnswer = true := by
  have h := metaProc_step r proc req details args kw
  generalize metaProc r proc req details args kw = o at h ⊢
  cases h <;> rfl

/-- some sessions replaced by copies with the same key that stay buffered (`stall`, `resume`, `buffer`, `modify_details`) -/
theorem RealmInv.update_clients {r r' : Realm} (hi : RealmInv r) (k : SessKey) (g : Session → Session)
    (hk : ∀ c, (g c).key = c.key) (hb : ∀ c, c.buffered = true → (g c).buffered = true)
    (hc : r'.clients = r.clients.map fun c => if c.key == k then g c else c := by rfl)
    (hbr : r'.broker = r.broker := by rfl) (hd : r'.ds = r.ds := by rfl) (hr : r'.retries = r.retries := by rfl)
    (ht : r'.tasks = r.tasks := by rfl) (hin : r'.inbox = r.inbox := by rfl) (hm : r'.metaS = r.metaS := by rfl) :
    RealmInv r' :=
  hi.of_parts (hc ▸ map_update_keys k g hk _) (hbr ▸ hi.binv) (hd ▸ hi.dinv) (hbr ▸ hi.bmem) (hd ▸ hi.dref)
    (hd ▸ hi.callers) (hr ▸ hi.retr) (ht ▸ hi.tasks)
    (hi.inb.map_clients _ (fun c => by rw [apply_ite Session.key, hk, ite_self])
      (fun c h => by rw [apply_ite Session.buffered, hb c h, h, ite_self]) hc hr hin) hm

theorem RealmInv.metaEffect {r : Realm} {proc : String} {req : Nat} {o : Msg × Realm} (hi : RealmInv r)
    (e : MetaStep r proc req o) :
    RealmInv o.2 ∧ o.2.panic = r.panic ∧ o.2.clients.map (·.key) = r.clients.map (·.key) ∧ o.2.retries = r.retries := by
  cases e with
  | err | same => exact ⟨hi, rfl, rfl, rfl⟩
  | kill =>
    refine ⟨hi.with_tasks _ _ fun t ht => ?_, rfl, rfl, rfl⟩
    obtain ⟨c, _, rfl⟩ := List.mem_map.mp ht
    trivial
  | testaments => exact ⟨hi.same, rfl, rfl, rfl⟩
  | modify _ k d =>
    exact ⟨hi.update_clients k ({ · with details := d }) (fun _ => rfl) (fun _ h => h), rfl,
      map_update_keys k ({ · with details := d }) (fun _ => rfl) _, rfl⟩

/-- session `k` occurs nowhere in the broker and dealer tables -/
def Gone (r : Realm) (k : SessKey) : Prop :=
  ¬ r.broker.mem k ∧ (∀ e ∈ r.broker.index, e.1 ≠ k) ∧ ¬ r.ds.refs k

/-- under the invariant a departure sends to attached sessions only: the panic flag stays -/
theorem leave_panic {r : Realm} (hi : RealmInv r) {k : SessKey} {s : Session} (mode : LeaveMode)
    (hf : r.clients.find? (fun c => c.key == k) = some s) : (r.leave k mode).panic = r.panic := by
  rw [leave_some mode hf, leaveAnnounce_eq]
  have f := leaveSend_frame r k mode
  have h1 : (leaveSend r k mode).panic = r.panic :=
    leaveSend_cases (P := fun q => q.panic = r.panic) r k mode rfl fun _ => trySend_panic (.inr (isClient_of_find hf))
  show (leaveRemove ((leaveSend r k mode).takeTestaments k).2 k mode.isShutdown).panic = _
  rw [takeTestaments_eq]
  refine (leaveRemove_cases (P := fun q => q.panic = (leaveSend r k mode).panic) _ k _ (fun _ => ?_) fun _ ra e => ?_).trans h1
  · rw [(syncRemoveSession_inv (f.ds ▸ hi.dinv) k).2, setPanic_none]
  · have ha : ra.panic = (leaveSend r k mode).panic := e ▸ applyD_panic
      (fun x hx => (att_congr (congrArg _ f.clients) _).mpr
        (hi.dref _ (f.ds ▸ syncRemoveSession_sends_to (f.ds ▸ hi.dinv) k x hx)))
      (syncRemoveSession_inv (f.ds ▸ hi.dinv) k).2
    refine (deliver_panic _ fun x hx => .inr ?_).trans ha
    obtain ⟨_, _, _, hm⟩ := WpE.syncRemoveSession_event hx
    replace hm := hm.mem
    rw [e, (congrArg Realm.broker (applyD_fields _ _) :)] at hm
    exact (isClient_congr (by rw [e, dapplyD_clients]; exact congrArg _ f.clients) _).mpr (hi.bmem _ (f.broker ▸ hm))

/-- A session handler that is not in the yield retry loop exits (any mode): the invariant is kept, nothing
    panics, and — when `k` was attached — `k` is gone from the broker and dealer tables.
    Read off `leave_eq`: the tables are those of `syncRemoveSession`, which refer to nobody new and not to `k`;
    the client table loses `k` only (`leave_isClient`). -/
theorem leave_inv {r : Realm} (hi : RealmInv r) (k : SessKey) (mode : LeaveMode)
    (hnb : r.busy k = false) :
    RealmInv (r.leave k mode) ∧ (r.leave k mode).panic = r.panic ∧ (r.isClient k → Gone (r.leave k mode) k) := by
  cases hf : r.clients.find? (fun c => c.key == k) with
  | none =>
    rw [leave_none mode hf]
    exact ⟨hi, rfl, fun ⟨c, hc, hk⟩ => absurd hk (by simpa using List.find?_eq_none.mp hf c hc)⟩
  | some s =>
    have e := leave_eq mode hf
    have eb : (r.leave k mode).broker = (r.broker.syncRemoveSession k r.pubCount).1 := (congrArg Realm.broker e :)
    have ed : (r.leave k mode).ds = (syncRemoveSession (leaveSend r k mode).denv r.ds k).st := (congrArg Realm.ds e :)
    have lc := WpC.leave_ctl mode hf
    obtain ⟨ts, et, hts⟩ := lc.tasks
    have hd := syncRemoveSession_inv (env := (leaveSend r k mode).denv) hi.dinv k
    have hrefs := syncRemoveSession_refs_sub (env := (leaveSend r k mode).denv) hi.dinv k
    have hgone := syncRemoveSession_gone hi.binv k r.pubCount
    have hcl := leave_isClient r k mode
    have hatt : ∀ j, r.att j → j ≠ k → (r.leave k mode).att j := fun j h hne =>
      h.imp id fun h => (hcl j).mpr ⟨h, hne⟩
    refine ⟨⟨eb ▸ hi.binv.removeSession k r.pubCount, ed ▸ hd.1, fun j hj => ?_, fun j hj => ?_, fun c hc => ?_,
      fun x hx => hatt _ (hi.retr x (lc.retries ▸ hx)) (busy_false_iff.mp hnb x (lc.retries ▸ hx)), fun t ht => ?_, fun a ha => ?_, lc.metaS ▸ hi.metaKey⟩,
      leave_panic hi mode hf,
      fun _ => ⟨eb ▸ hgone.1, eb ▸ hgone.2, fun h => (hrefs k (ed ▸ h)).2 rfl⟩⟩
    · exact (hcl j).mpr ((syncRemoveSession_mem hi.binv (eb ▸ hj)).imp_left (hi.bmem j))
    · exact hatt j (hi.dref j (hrefs j (ed ▸ hj)).1) (hrefs j (ed ▸ hj)).2
    · have h := syncRemoveSession_calls hi.dinv k c (ed ▸ hc)
      exact (hcl _).mpr ⟨hi.callers c h.1, h.2.1⟩
    · rw [et] at ht
      rcases List.mem_append.mp ht with ht | ht
      · exact hi.tasks t ht
      · have := hts t ht
        cases t <;> first | trivial | exact this.elim
    · -- a sender in `inbox` is busy, so it is not the session that leaves
      obtain ⟨⟨c, hc, hck, hcb⟩, hbz⟩ := hi.inb a (lc.inbox ▸ ha)
      have hne : c.key ≠ k := fun e' => Bool.false_ne_true (hnb.symm.trans ((hck.symm.trans e') ▸ hbz))
      exact ⟨⟨c, lc.clients ▸ List.mem_filter.mpr ⟨hc, by simpa using hne⟩, hck, hcb⟩, (busy_congr lc.retries _).trans hbz⟩

/-! ### tasks, external inputs, timed events -/

/-- the handler reads a message (or cannot: the message of a busy buffered session joins `inbox`) -/
theorem good_recvMsg {r : Realm} (hi : RealmInv r) (k : SessKey) (m : Msg) : Good r (r.recvMsg k m) := by
  refine recvMsg_cases r k m (Good.refl hi) (fun s hs _ hb hbuf => ?_)
    (fun s hs _ _ => good_handleMsg hi s m (Or.inl ((find?_key hs).2 ▸ isClient_of_find hs)))
  refine ⟨hi.of_parts rfl hi.binv hi.dinv hi.bmem hi.dref hi.callers hi.retr hi.tasks ?_ rfl, rfl, rfl⟩
  intro e he
  rcases List.mem_append.mp he with he | he
  · exact hi.inb e he
  · rw [List.mem_singleton.mp he]
    exact ⟨⟨s, (find?_key hs).1, (find?_key hs).2, hbuf⟩, hb⟩

theorem runTask_inv {r : Realm} (hi : RealmInv r) (t : Task) (ht : TaskOk t) :
    RealmInv (r.runTask t) ∧ (r.runTask t).panic = r.panic := by
  refine runTask_cases (P := fun r' => RealmInv r' ∧ r'.panic = r.panic) r t (fun k m _ => (good_recvMsg hi k m).inv)
    (fun p _ => (Good.of_handles hi (.inl hi.metaKey) (fun h => Bool.noConfusion h)
      (handlePublish_handles r r.metaS 0 p.opts p.topic p.args p.kw)).inv)
    (fun m e => (good_handleMsg hi r.metaS m (Or.inr ⟨hi.metaKey, (e ▸ ht : TaskOk (.metaMsg m))⟩)).inv)
    (fun req reg d a kw _ => metaInvoke_cases (C := fun r' => RealmInv r' ∧ r'.panic = r.panic) r req reg d a kw
      ⟨hi.with_tasks [.metaMsg (mErr req ErrNoSuchProcedure)] r.ending (fun t ht => by
        rw [List.mem_singleton.mp ht]; rfl), rfl⟩ fun proc o e => ?_)
    (fun _ _ _ _ => ⟨hi.same, rfl⟩)
    fun k mode _ hb =>
      ⟨(leave_inv hi k mode hb).1, (leave_inv hi k mode hb).2.1⟩
  obtain ⟨h1, h2, _, _⟩ := hi.metaEffect e
  refine ⟨h1.with_tasks [.metaMsg o.1] _ ?_, h2⟩
  intro t ht
  rw [List.mem_singleton.mp ht]
  cases e <;> rfl

/-- sessions attach, nothing else the invariant reads changes (`join`) -/
theorem RealmInv.more_clients {r r' : Realm} (hi : RealmInv r) (hc : ∀ c ∈ r.clients, c ∈ r'.clients)
    (hb : r'.broker = r.broker := by rfl) (hd : r'.ds = r.ds := by rfl) (hr : r'.retries = r.retries := by rfl)
    (ht : r'.tasks = r.tasks := by rfl) (hin : r'.inbox = r.inbox := by rfl) (hm : r'.metaS = r.metaS := by rfl) :
    RealmInv r' := by
  have hcl : ∀ k, r.isClient k → r'.isClient k := fun k ⟨c, h, e⟩ => ⟨c, hc c h, e⟩
  have hatt : ∀ k, r.att k → r'.att k := fun k h => h.imp id (hcl k)
  refine ⟨hb ▸ hi.binv, hd ▸ hi.dinv, fun k h => hcl k (hi.bmem k (hb ▸ h)), fun k h => hatt k (hi.dref k (hd ▸ h)),
    fun c h => hcl _ (hi.callers c (hd ▸ h)), fun x h => hatt _ (hi.retr x (hr ▸ h)), ht ▸ hi.tasks, fun e he => ?_,
    hm ▸ hi.metaKey⟩
  obtain ⟨⟨c, h, e'⟩, hbz⟩ := hi.inb e (hin ▸ he)
  exact ⟨⟨c, hc c h, e'⟩, (busy_congr hr _).trans hbz⟩

theorem stepOp_inv {r : Realm} (hi : RealmInv r) (op : Op) :
    RealmInv (r.stepOp op) ∧ (r.stepOp op).panic = r.panic :=
  stepOp_cases (C := fun q => RealmInv q ∧ q.panic = r.panic) r op ⟨hi, rfl⟩
    (fun _ _ _ _ _ _ _ _ => ⟨(hi.more_clients fun c hc => List.mem_append_left _ hc).with_tasks _ _
      (fun t ht => by rw [List.mem_singleton.mp ht]; trivial), rfl⟩)
    (fun k m _ => (good_recvMsg hi k m).inv)
    (fun k g _ hg _ => ⟨hi.update_clients k g hg.key hg.buffered, rfl⟩)
    (fun _ _ _ => ⟨hi.with_tasks _ _ (leaveTask_ok _ _), rfl⟩) (fun _ => ⟨hi.same, rfl⟩)

theorem nextDue_retry {r : Realm} {limit : Nat} {x : Retry} (h : nextDue r limit = some (.retry x)) :
    x ∈ r.retries := by
  rcases List.mem_append.1 (nextDue_some h).1 with g1 | g1
  · rcases List.mem_map.1 g1 with ⟨_, _, he⟩; cases he
  · rcases List.mem_map.1 g1 with ⟨x', hx', he⟩
    cases he
    exact (List.mem_filter.1 hx').1

/-- One turn of the yield retry loop.  The dealer's answer applied with the callee's entries still in the table keeps
    the invariant (`good_yield`); the turn is that realm with the entries out (`applyD_retries`), where the callee's
    messages would wait in `inbox` for a handler that is not busy, and then either the entry is back and the handler
    busy again, or those messages have become `inMsg` tasks. -/
theorem retryDue_rinv {r : Realm} (hi : RealmInv r) (x : Retry) (hx : r.att x.callee) :
    RealmInv (r.retryDue x) ∧ (r.retryDue x).panic = r.panic := by
  have hg : Good r (r.applyD (retryOut r x)) := good_yield hi x.callee hx x.req x.opts x.args x.kw x.progress _
  have em : retryMid r x = { r.applyD (retryOut r x) with retries := r.retries.filter (fun y => y.callee != x.callee) } :=
    applyD_retries r _ _
  have hr : ∀ y ∈ r.retries.filter (fun y => y.callee != x.callee), (r.applyD (retryOut r x)).att y.callee := fun y hy =>
    (hg.att _).mpr (hi.retr y (List.mem_filter.mp hy).1)
  -- the entries of a session other than the callee stay
  have stays : ∀ {k}, (r.applyD (retryOut r x)).busy k = true → k ≠ x.callee →
      ∃ y ∈ r.retries.filter (fun y => y.callee != x.callee), y.callee = k := by
    intro k hb hne
    obtain ⟨y, hy, rfl⟩ := busy_iff.mp hb
    exact ⟨y, List.mem_filter.mpr ⟨dapplyD_retries r _ ▸ hy, by simpa using hne⟩, rfl⟩
  refine retryDue_cases (C := fun q => RealmInv q ∧ q.panic = r.panic) r x ?_ ?_ <;> rw [em]
  · refine ⟨hg.1.of_parts rfl hg.1.binv hg.1.dinv hg.1.bmem hg.1.dref hg.1.callers (fun y hy => ?_) hg.1.tasks
      (fun e he => ?_) rfl, hg.2.1⟩
    · rcases List.mem_append.mp hy with hy | hy
      · exact hr y hy
      · rw [List.mem_singleton.mp hy]
        exact (hg.att _).mpr hx
    · obtain ⟨hcl, hb⟩ := hg.1.inb e he
      refine ⟨hcl, busy_iff.mpr ?_⟩
      by_cases hc : e.1 = x.callee
      · exact ⟨_, List.mem_append_right _ (List.mem_singleton.mpr rfl), hc.symm⟩
      · obtain ⟨y, hy, e'⟩ := stays hb hc
        exact ⟨y, List.mem_append_left _ hy, e'⟩
  · refine ⟨hg.1.of_parts rfl hg.1.binv hg.1.dinv hg.1.bmem hg.1.dref hg.1.callers hr (fun t ht => ?_)
      (fun e he => ?_) rfl, hg.2.1⟩
    · rcases List.mem_append.mp ht with ht | ht
      · rcases List.mem_append.mp ht with ht | ht
        · exact hg.1.tasks t ht
        · obtain ⟨d, _, rfl⟩ := List.mem_map.mp ht; trivial
      · obtain ⟨d, _, rfl⟩ := List.mem_map.mp ht; trivial
    · obtain ⟨he0, hne⟩ := List.mem_filter.mp he
      obtain ⟨hcl, hb⟩ := hg.1.inb e he0
      exact ⟨hcl, busy_iff.mpr (stays hb (by simpa using hne))⟩

theorem refs_timers (s : DState) (ts : List Timer) (k : SessKey) : ({ s with timers := ts } : DState).refs k ↔ s.refs k :=
  Iff.rfl

theorem timerDue_rinv {r : Realm} (hi : RealmInv r) (t : Timer) :
    RealmInv (r.timerDue t) ∧ (r.timerDue t).panic = r.panic := by
  unfold timerDue
  extract_lets ds1 r1
  have hi1 : RealmInv r1 :=
    hi.of_parts rfl hi.binv (hi.dinv.filterTimers _) hi.bmem hi.dref hi.callers hi.retr hi.tasks hi.inb rfl
  exact (good_cancel hi1 t.caller t.req CancelModeKillNoWait ErrTimeout [.str "<text>"]).inv

/-- the panic flag holds at most a fuel marker of the model (`drain` / `advance` ran out of fuel) -/
def FuelOnly (p : Option String) : Prop :=
  p = none ∨ p = some "model: task fuel exhausted" ∨ p = some "model: timed-event fuel exhausted"

theorem FuelOnly.mark {p : Option String} {m : String} (hm : FuelMark m) (h : FuelOnly p) : FuelOnly (some (p.getD m)) := by
  cases p with
  | none => exact Or.inr (hm.imp (congrArg some) (congrArg some))
  | some x => exact h

theorem RealmInv.setPanic {r : Realm} (hi : RealmInv r) (p : Option String) : RealmInv (r.setPanic p) := by
  unfold Realm.setPanic
  split
  · exact hi.same
  · exact hi

/-- `runTask_inv`, `stepOp_inv`, `timerDue_rinv`, `retryDue_rinv` keep the invariant and leave the panic flag alone, hence
    keep what held of the flag -/
theorem RealmInv.with_panic {P : Option String → Prop} {r r' : Realm} (h : RealmInv r' ∧ r'.panic = r.panic)
    (hp : P r.panic) : RealmInv r' ∧ P r'.panic :=
  ⟨h.1, h.2 ▸ hp⟩

theorem RealmInv.tail {r : Realm} (hi : RealmInv r) {t : Task} {ts : List Task} (ht : r.tasks = t :: ts) :
    RealmInv ({ r with tasks := ts } : Realm) ∧ TaskOk t :=
  ⟨hi.of_parts rfl hi.binv hi.dinv hi.bmem hi.dref hi.callers hi.retr
    (fun t' ht' => hi.tasks t' (ht ▸ List.mem_cons_of_mem _ ht')) hi.inb rfl,
   hi.tasks t (ht ▸ List.mem_cons_self ..)⟩

theorem flush_inv {r : Realm} (hi : RealmInv r) : RealmInv r.flush.2 ∧ r.flush.2.panic = r.panic ∧ r.flush.1.panic = r.panic :=
  ⟨hi.same, rfl, rfl⟩

/-- Every atomic action but the fuel markers leaves the panic flag alone: the realm invariant is kept, and with it
    whatever holds of the flag and the markers keep (`FuelOnly`; "is set", `step_panic_mono`; nothing, `rinv_keeps`). -/
theorem RealmInv.keeps {P : Option String → Prop} (hP : ∀ {p m}, FuelMark m → P p → P (some (p.getD m))) :
    Keeps (fun _ => True) (fun r => RealmInv r ∧ P r.panic) where
  task ht _ h := RealmInv.with_panic (runTask_inv (h.1.tail ht).1 _ (h.1.tail ht).2) h.2
  timer _ _ h := RealmInv.with_panic (timerDue_rinv h.1 _) h.2
  retry hd _ h := RealmInv.with_panic (retryDue_rinv h.1 _ (h.1.retr _ (nextDue_retry hd))) h.2
  now _ _ h := ⟨h.1.same, h.2⟩
  fuel hm _ h := ⟨h.1.setPanic _, setPanic_panic _ _ ▸ hP hm h.2⟩
  flush _ h := ⟨(flush_inv h.1).1, (flush_inv h.1).2.1 ▸ h.2⟩

/-- the realm invariant, with a panic flag that holds at most a fuel marker: what every reachable realm satisfies
    and what the other invariants of the realm are stated relative to (`Keeps Sound J`) -/
def Sound (r : Realm) : Prop := RealmInv r ∧ FuelOnly r.panic

theorem Sound.keeps : Keeps (fun _ => True) Sound := RealmInv.keeps FuelOnly.mark

theorem rinv_keeps : Keeps (fun _ => True) RealmInv := by
  simpa using RealmInv.keeps (P := fun _ => True) fun _ _ => trivial

theorem Sound.stepOp {r : Realm} (h : Sound r) (op : Op) : Sound (r.stepOp op) := RealmInv.with_panic (stepOp_inv h.1 op) h.2

theorem Sound.step {J : Realm → Prop} (k : Keeps Sound J) {r : Realm} {op : Op} (hs : Sound r)
    (input : J (r.stepOp op)) : J (r.step op).2 :=
  ((Sound.keeps.over k).step ⟨hs.stepOp op, input⟩).2

theorem step_inv {r : Realm} (hi : RealmInv r) (hp : FuelOnly r.panic) (op : Op) :
    RealmInv (r.step op).2 ∧ FuelOnly (r.step op).2.panic ∧ FuelOnly (r.step op).1.panic := by
  have h := Sound.keeps.quiesce (Sound.stepOp ⟨hi, hp⟩ op)
  rw [step_eq]
  exact ⟨(flush_inv h.1).1, (flush_inv h.1).2.1 ▸ h.2, (flush_inv h.1).2.2 ▸ h.2⟩

/-! ### the initial realm -/

/-- a realm literal with empty tables, for the examples that show a hypothesis can be met (C04, C05, C06Realm) -/
theorem RealmInv.plain (cl : List Session) (qs : List (SessKey × List Msg)) (g cp : List SessKey) :
    RealmInv ({ clients := cl, queues := qs, ghosts := g, closedPeers := cp } : Realm) := by
  refine ⟨BrokerInv.empty false false, DealerInv.init false false, ?_, ?_, ?_, ?_, ?_, ?_, rfl⟩
  · rintro k ⟨s, hs, _⟩; cases hs
  · rintro k (⟨id, g, hg, _⟩ | ⟨c, hc, _⟩ | ⟨v, hv, _⟩ | ⟨e, he, _⟩)
    · cases hg
    · cases hc
    · cases hv
    · cases he
  · intro c hc; cases hc
  · intro x hx; cases hx
  · intro t ht; cases ht
  · intro e he; cases he

theorem preInit_mem : ∀ (cfg : List (String × String × Nat)) (b : Broker), (∀ k, ¬ b.mem k) →
    ∀ k, ¬ (b.preInit cfg).mem k
  | [], _, h => h
  | (topic, m, limit) :: rest, b, h => by
    unfold Broker.preInit
    split
    · exact preInit_mem rest _ (fun k hk => h k hk)
    · refine preInit_mem rest _ ?_
      rintro k ⟨s, hs, hk⟩
      rcases List.mem_append.mp hs with hs | hs
      · exact h k ⟨s, hs, hk⟩
      · rw [List.mem_singleton.mp hs] at hk
        cases hk

theorem registerMeta_refs : ∀ (ps : List String) (r : Realm), DealerInv r.ds →
    (∀ k, r.ds.refs k → k = metaKey) → r.ds.d.calls = [] →
    (∀ k, (registerMeta r ps).ds.refs k → k = metaKey) ∧ (registerMeta r ps).ds.d.calls = []
  | [], _, _, h1, h2 => ⟨h1, h2⟩
  | p :: ps, r, hd, h1, h2 => by
    unfold registerMeta
    extract_lets o id
    refine registerMeta_refs ps _ (syncRegister_inv hd _ _ _ _ _ _ _ _ (by decide)) ?_ ?_
    · intro k hk
      exact (syncRegister_refs_sub hd _ _ _ _ _ _ _ _ k hk).elim (h1 k) (fun e => e)
    · show o.st.d.calls = []
      rw [syncRegister_calls]; exact h2

/-- the realm `Realm.create cfg` builds: it satisfies the invariant, nobody is attached and nothing is pending; the
    broker is the pre-initialised one, clock and publication counter stand at 0.  (The dealer's two flags:
    `WpA.create_dflags`, BrokerEvolution.) -/
structure Created (cfg : Config) (r : Realm) : Prop where
  inv : RealmInv r
  panic : r.panic = none
  clients : r.clients = []
  queues : r.queues = []
  closedPeers : r.closedPeers = []
  testaments : r.testaments = []
  tasks : r.tasks = []
  retries : r.retries = []
  broker : r.broker = ({ strict := cfg.strict, allowDisclose := cfg.allowDisclose } : Broker).preInit cfg.history
  metaS : r.metaS = ({} : Realm).metaS
  now : r.now = 0
  pubCount : r.pubCount = 0
  cfg : r.cfg = cfg

theorem create_rinv {cfg : Config} {r : Realm} (h : Realm.create cfg = some r) : Created cfg r := by
  have hdi := Realm.create_inv h
  have hrefs := registerMeta_refs (metaProcNames cfg)
    { cfg := cfg, broker := Broker.preInit { strict := cfg.strict, allowDisclose := cfg.allowDisclose } cfg.history,
      ds := { d := { strict := cfg.strict, allowDisclose := cfg.allowDisclose } } }
    (DealerInv.init cfg.strict cfg.allowDisclose)
    (by
      rintro k (⟨id, r0, hr0, _⟩ | ⟨c, hc, _⟩ | ⟨v, hv, _⟩ | ⟨e, he, _⟩)
      · cases hr0
      · cases hc
      · cases hv
      · cases he) rfl
  obtain rfl := create_some h
  rw [registerMeta_eq]
  refine ⟨⟨BrokerInv.preInit _ _ _, hdi, fun k hk => ?_, fun k hk => Or.inl (hrefs.1 k hk), fun c hc => ?_,
    (fun _ hx => nomatch hx), (fun _ hx => nomatch hx), (fun _ he => nomatch he), rfl⟩,
    rfl, rfl, rfl, rfl, rfl, rfl, rfl, rfl, rfl, rfl, rfl, rfl⟩
  · exact absurd hk (preInit_mem cfg.history _ (by rintro k ⟨s, hs, _⟩; cases hs) k)
  · rw [show _ = [] from hrefs.2] at hc; cases hc

/-- realm states reachable from `Realm.create cfg` by external inputs, each run to quiescence -/
inductive Reachable (cfg : Config) : Realm → Prop
  | init {r : Realm} : Realm.create cfg = some r → Reachable cfg r
  | step {r : Realm} (op : Op) : Reachable cfg r → Reachable cfg (r.step op).2

theorem Sound.create {cfg : Config} {r : Realm} (h : Realm.create cfg = some r) : Sound r :=
  ⟨(create_rinv h).inv, Or.inl (create_rinv h).panic⟩

theorem Reachable.induct {J : Realm → Prop} {cfg : Config} (init : ∀ r, Realm.create cfg = some r → J r)
    (step : ∀ r op, Reachable cfg r → Sound r → J r → J (r.step op).2) {r : Realm} (h : Reachable cfg r) :
    Sound r ∧ J r := by
  induction h with
  | init h => exact ⟨Sound.create h, init _ h⟩
  | step op hr ih =>
    exact ⟨Sound.keeps.step (ih.1.stepOp op), step _ op hr ih.1 ih.2⟩

theorem Reachable.inv {cfg : Config} {r : Realm} (h : Reachable cfg r) : Sound r :=
  (h.induct (J := fun _ => True) (fun _ _ => trivial) fun _ _ _ _ _ => trivial).1

theorem Reachable.from_create {R : Realm → Realm → Prop} (refl : ∀ a, R a a) (trans : ∀ {a b c}, R a b → R b c → R a c)
    {cfg : Config} (step : ∀ r op, Reachable cfg r → R r (r.step op).2) {r : Realm} (h : Reachable cfg r) :
    ∃ r0, Realm.create cfg = some r0 ∧ R r0 r :=
  (h.induct (J := fun r => ∃ r0, Realm.create cfg = some r0 ∧ R r0 r) (fun r hc => ⟨r, hc, refl r⟩)
    fun r op hr _ ⟨r0, h0, hk⟩ => ⟨r0, h0, trans hk (step r op hr)⟩).2

theorem Sound.reachable {J : Realm → Prop} (k : Keeps Sound J) {cfg : Config}
    (init : ∀ r, Realm.create cfg = some r → J r) (input : ∀ r op, Sound r → J r → J (r.stepOp op)) {r : Realm}
    (h : Reachable cfg r) : J r :=
  (h.induct init fun r op _ hs hj => Sound.step k hs (input r op hs hj)).2

end Realm
end Nexus.L2
