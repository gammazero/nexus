/-
  C07 "stall isolation" at the level of the realm's handlers.  The broker half: the broker handlers take no "is the queue full"
  argument, so `EqOff x` is preserved by PUBLISH / SUBSCRIBE / UNSUBSCRIBE of every sender (also `x`
  itself), by the authorization gate and by the publications of the meta session.

  The dealer half: for a sender other than `x`,
  in a state where `x` is the callee of no registration, the caller of no pending call and the callee of
  no invocation (`DIdle x r.ds`), REGISTER / UNREGISTER / CALL / CANCEL / YIELD / ERROR preserve `EqOff x`;
  so does the whole message switch `handleMsg` (for the non-RPC messages: for every sender, also `x`).
-/
import Nexus.L2.Proofs.StallBase
import Nexus.L2.Proofs.RealmPublish
import Nexus.L2.Proofs.RealmAuthz
import Nexus.L2.Proofs.StallDealer

namespace Nexus.L2.WpC
open Nexus.L2.Realm Gen.N

variable {x : SessKey}

theorem pubEvent_congr {sess sess' : SessKey → Option Session} (hs : ∀ k, OSEq x (sess k) (sess' k))
    (b : Broker) (now : Nat) (p : Publication) (f : Filter) (sub : Sub) (st : Bool) :
    b.pubEvent sess' now p f sub st = b.pubEvent sess now p f sub st := by
  unfold Broker.pubEvent
  dsimp only
  congr 1
  refine congrArg (fun g => List.filterMap g sub.members) (funext fun k => ?_)
  rcases (hs k).cases with ⟨e1, e2⟩ | ⟨c, c', e1, e2, hc⟩
  · rw [e1, e2]
  · rw [e1, e2]
    have h1 : receives p f c' = receives p f c := by
      unfold receives; rw [hc.key, hc.details]
    have h2 : mkEvent p sub st (some c') = mkEvent p sub st (some c) := by
      unfold mkEvent eventDetails
      simp only [hc.hasFeature]
    simp only [h1, h2]

theorem pubEvents_congr {sess sess' : SessKey → Option Session} (hs : ∀ k, OSEq x (sess k) (sess' k))
    (now : Nat) (p : Publication) (f : Filter) : ∀ (l : List (Sub × Bool)) (b : Broker),
    b.pubEvents sess' now p f l = b.pubEvents sess now p f l
  | [], _ => rfl
  | (sub, st) :: rest, b => by
    unfold Broker.pubEvents
    rw [pubEvent_congr hs]
    simp only [pubEvents_congr hs now p f rest]

theorem eqoff_brokerStep {r r' : Realm} (h : EqOff x r r') (b : Broker) (n : Nat) (sends : List Send) :
    EqOff x (({ r with broker := b, pubCount := n } : Realm).deliver sends)
      (({ r' with broker := b, pubCount := n } : Realm).deliver sends) :=
  eqoff_deliver sends (r := { r with broker := b, pubCount := n }) (r' := { r' with broker := b, pubCount := n })
    { h with broker := rfl, pubCount := rfl }

theorem eqoff_handlePublish {r r' : Realm} (h : EqOff x r r') {s s' : Session} (hs : SEq x s s')
    (req : Nat) (opts : Dict) (topic : String) (args : List WVal) (kw : Dict) :
    EqOff x (handlePublish r s req opts topic args kw) (handlePublish r' s' req opts topic args kw) := by
  have e : r'.broker.syncPublish r'.session? r'.now (pubOf r' s' opts topic args kw) =
      r.broker.syncPublish r.session? r.now (pubOf r s opts topic args kw) := by
    unfold pubOf
    rw [h.broker, h.now, h.pubCount, hs.key, hs.details]
    exact pubEvents_congr (x := x) (fun k => h.session k) _ _ _ _ _
  rw [handlePublish_spec, handlePublish_spec, e]
  unfold pptRefused discloseRefused
  rw [h.broker, h.pubCount, hs.key, hs.hasFeature]
  exact eqoff_ite (fun _ => eqoff_deliver _ h) fun _ => eqoff_ite (fun _ => eqoff_end (eqoff_trySend h _) _ _) fun _ =>
    eqoff_ite (fun _ => eqoff_deliver _ h) fun _ => eqoff_brokerStep h _ _ _

theorem eqoff_authzGate {r r' : Realm} (h : EqOff x r r') {s s' : Session} (hs : SEq x s s') (m : Msg) :
    (authzGate r' s' m).1 = (authzGate r s m).1 ∧ EqOff x (authzGate r s m).2 (authzGate r' s' m).2 := by
  obtain ⟨b, o, hg⟩ := authzGate_shape r.cfg s.key s.isLocal m
  rw [hg r s rfl rfl rfl, hg r' s' h.cfg hs.key hs.isLocal]
  cases o with
  | none => exact ⟨rfl, h⟩
  | some e => exact ⟨rfl, eqoff_trySend h _⟩

theorem eqoff_applyD {r r' : Realm} (h : EqOff x r r') (o : DOut) : EqOff x (r.applyD o) (r'.applyD o) := by
  unfold Realm.applyD
  dsimp only
  apply eqoff_setPanic
  have h2 := eqoff_deliver o.sends (r := { r with ds := o.st }) (r' := { r' with ds := o.st }) { h with ds := rfl }
  have h3 := eqoff_addTasks (eqoff_addTasks h2 (o.metaPubs.map Task.metaPub))
    (o.aborts.map (fun k => Task.leave k .aborted))
  exact { h3 with ending := congrArg (· ++ o.aborts) h3.ending }

/-- the messages that reach the dealer -/
def isRpc : Msg → Bool
  | .call .. => true
  | .cancel .. => true
  | .yield .. => true
  | .register .. => true
  | .unregister .. => true
  | .error .. => true
  | _ => false

/-- behind the gate.  CALL: the INVOCATION goes to a callee of a registration (or of a stored invocation), never
    to `x`; CANCEL: the INTERRUPT goes to the callee of an invocation; YIELD of a session other than `x`: the RESULT
    goes to the caller of a pending call. -/
theorem eqoff_dispatch {r r' : Realm} (h : EqOff x r r') {s s' : Session} (hs : SEq x s s') (m : Msg)
    (hm : isRpc m = false ∨ (s.key ≠ x ∧ DIdle x r.ds)) :
    EqOff x (Realm.dispatch r s m) (Realm.dispatch r' s' m) := by
  have rpc : isRpc m = true → s' = s ∧ s.key ≠ x ∧ DIdle x r.ds := fun e =>
    hm.elim (fun e' => by rw [e] at e'; cases e') (fun ⟨hk, hd⟩ => ⟨hs.eq_of_ne hk, hk, hd⟩)
  cases m
  case publish => exact eqoff_handlePublish h hs ..
  case subscribe req opts topic =>
    show EqOff x (handleSubscribe r s req opts topic) (handleSubscribe r' s' req opts topic)
    rw [handleSubscribe_eq, handleSubscribe_eq, hs.key, h.broker, h.pubCount]
    exact eqoff_ite (fun _ => eqoff_trySend h _) (fun _ => eqoff_brokerStep h _ _ _)
  case unsubscribe req sub =>
    show EqOff x (handleUnsubscribe r s req sub) (handleUnsubscribe r' s' req sub)
    rw [handleUnsubscribe_eq, handleUnsubscribe_eq, hs.key, h.broker, h.pubCount]
    exact eqoff_brokerStep h _ _ _
  case goodbye =>
    show EqOff x ({ (r.trySend _) with tasks := _, ending := _ } : Realm) ({ (r'.trySend _) with tasks := _, ending := _ } : Realm)
    rw [hs.key]
    exact eqoff_end (eqoff_trySend h ⟨s.key, .goodbye [] CloseGoodbyeAndOut⟩) _ _
  case yield req opts args kw =>
    obtain ⟨rfl, hk, hd⟩ := rpc rfl
    show EqOff x (handleYield r s' req opts args kw) (handleYield r' s' req opts args kw)
    rw [handleYield_eq, handleYield_eq]
    dsimp only
    rw [h.ds, syncYield_congr h.denv _ _ _ _ _ _ _ hk hd.calls hd.invs]
    have h1 := eqoff_applyD h (syncYield r.denv r.ds s'.key req opts args kw (opts.optFlag OptProgress) true)
    exact eqoff_ite (fun _ => { h1 with retries := by rw [h1.retries, h1.now] }) (fun _ => h1)
  case call req opts proc args kw =>
    obtain ⟨rfl, _, hd⟩ := rpc rfl
    show EqOff x (r.applyD _) (r'.applyD (syncCall r'.denv r'.ds s'.key req opts proc args kw r'.rnd))
    rw [h.ds, h.rnd, syncCall_congr h.denv _ _ _ _ _ _ _ _ hd.regs hd.invs]
    exact eqoff_applyD h _
  case cancel req opts =>
    obtain ⟨rfl, _, hd⟩ := rpc rfl
    show EqOff x (handleCancel r s' req opts) (handleCancel r' s' req opts)
    unfold handleCancel
    dsimp only
    refine eqoff_ite (fun _ => ?_) (fun _ => eqoff_trySend h _)
    rw [h.ds, syncCancel_congr h.denv _ _ _ _ _ _ (Or.inr hd.invs)]
    exact eqoff_applyD h _
  case register req opts proc =>
    obtain ⟨rfl, _, _⟩ := rpc rfl
    show EqOff x (handleRegister r s' req opts proc) (handleRegister r' s' req opts proc)
    unfold handleRegister
    dsimp only
    rw [h.ds]
    exact eqoff_ite (fun _ => eqoff_trySend h _) fun _ => eqoff_ite (fun _ => eqoff_trySend h _) fun _ =>
      eqoff_ite (fun _ => eqoff_trySend h _) fun _ => eqoff_ite (fun _ => eqoff_trySend h _) fun _ =>
        eqoff_applyD h _
  case unregister req reg =>
    obtain ⟨rfl, _, _⟩ := rpc rfl
    show EqOff x (r.applyD _) (r'.applyD (syncUnregister r'.ds s'.key req reg))
    rw [h.ds]
    exact eqoff_applyD h _
  case error typ req details err args kw =>
    obtain ⟨rfl, _, _⟩ := rpc rfl
    show EqOff x (if typ != tINVOCATION then _ else r.applyD _)
      (if typ != tINVOCATION then _ else r'.applyD (syncError r'.ds s'.key req details err args kw))
    split
    · exact eqoff_end h _ _
    · rw [h.ds]; exact eqoff_applyD h _
  all_goals
    show EqOff x ({ r with tasks := _, ending := _ } : Realm) ({ r' with tasks := _, ending := _ } : Realm)
    rw [hs.key]
    exact eqoff_end h _ _

theorem eqoff_handleMsg {r r' : Realm} (h : EqOff x r r') {s s' : Session} (hs : SEq x s s') (m : Msg)
    (hm : isRpc m = false ∨ (s.key ≠ x ∧ DIdle x r.ds)) :
    EqOff x (handleMsg r s m) (handleMsg r' s' m) := by
  rw [handleMsg_eq, handleMsg_eq]
  obtain ⟨g1, g2⟩ := eqoff_authzGate h hs m
  rw [g1]
  split
  · -- a message that passes the gate finds the realm as it was
    rename_i hg
    rw [authzGate_pass hg, authzGate_pass (g1 ▸ hg)]
    exact eqoff_dispatch h hs m hm
  · exact g2

end Nexus.L2.WpC
