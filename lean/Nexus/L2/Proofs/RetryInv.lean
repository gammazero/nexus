/-
  C07 (yield retry loop): who touches `Realm.retries` and `Realm.now`, and the invariant of the retry table.

  `RN r r'`: `r'` has the retry table and the clock of `r`.  Every function of the realm model
  except `handleYield` (appends one entry), `retryDue` (one turn of the loop) and `advance`
  (moves the clock) satisfies it: an `Eff` (ControlEffect.lean) that appends no retry.  `Enter k r r'` is
  what `handleMsg`, `recvMsg`, `runTask`, `stepOp` do: the clock is unchanged, and the table is unchanged
  or got one entry in phase 1 for `k`, appended by a YIELD of `k` whose RESULT met a full caller queue
  (the dealer answered "again").  For a handler it is read off its `Eff`, whose `Q` says so (`Enter.of_eff`).

  `RetryInv r` holds in every state `drain`/`advance` pass through (between atomic actions): every entry
  is in a phase `1 ≤ n ≤ 16`, is not overdue (`now ≤ next`), started in the past; two entries for the
  same callee exist only for the meta session.  `Strict r` (`now < next`) holds at quiescence; `advance`
  re-establishes it unless its fuel marker is set.

  `drain_retry`, `advance_retry`, `step_retry` walk through `drain`, `advance`, `step` by themselves and
  not through `Realm.Keeps` (RealmWalk.lean): `Keeps.now` asks that the invariant survive any value of the
  clock, whereas `RetryInv` survives only a jump forward to a time no entry has passed (`RetryInv.jump`).
  That is what `advance` does, since it moves the clock to the earliest due event (`RetryInv.due`); and
  `retryDue` keeps `RetryInv` only when the entry fires exactly at `now = next`.
-/
import Nexus.L2.Proofs.RealmInv
import Nexus.L2.Proofs.ControlActions
import Nexus.L2.Proofs.ControlInv

namespace Nexus.L2.WpC
open Nexus.L2.Realm Gen.N

/-- the relation of every function that leaves the retry loop alone; `RetryInv` and `Strict` go along it for
    nothing (`RetryInv.of_rn`, `Strict.of_rn`) -/
def RN (r r' : Realm) : Prop := r'.retries = r.retries ∧ r'.now = r.now

theorem RN.refl (r : Realm) : RN r r := ⟨rfl, rfl⟩

theorem RN.of_eff {P : SessKey → Prop} {Q : Retry → Prop} {r r' : Realm} (e : Eff P Q r r') (hq : ∀ x, ¬ Q x) :
    RN r r' :=
  ⟨(Grown.mono e.retries hq).eq_of_never, e.now⟩

theorem rn_setPanic (r : Realm) (p : Option String) : RN r (r.setPanic p) :=
  ⟨(setPanic_frame r p).retries, (setPanic_frame r p).now⟩

/-- the relation of the functions that can reach `handleYield` for session `k`.  It names the one entry they may
    append, so that `RetryInv.enter` has something to check (`freshRetry_ok`). -/
def Enter (k : SessKey) (r r' : Realm) : Prop :=
  r'.now = r.now ∧
  (r'.retries = r.retries ∨
    ∃ req opts args kw,
      (syncYield r.denv r.ds k req opts args kw (opts.optFlag OptProgress) true).again = true ∧
      r'.retries = r.retries ++ [freshRetry r.now k req opts args kw])

theorem Enter.of_rn {k : SessKey} {r r' : Realm} (h : RN r r') : Enter k r r' := ⟨h.2, Or.inl h.1⟩

theorem RN.enter {k : SessKey} {r r' : Realm} {C : Prop} (h : RN r r') :
    Enter k r r' ∧ (r'.retries ≠ r.retries → C) := ⟨Enter.of_rn h, fun hne => absurd h.1 hne⟩

/-- `Enter` is what the `Eff` of a handler says of the retry table -/
theorem Enter.of_eff {P : SessKey → Prop} {k : SessKey} {m : Msg} {r r' : Realm} (e : Eff P (YieldRetry r r' k m) r r') :
    Enter k r r' := by
  obtain ⟨xs, hxs, pxs⟩ := e.retries
  refine ⟨e.now, ?_⟩
  cases xs with
  | nil => exact Or.inl (hxs.trans (List.append_nil _))
  | cons x _ =>
    obtain ⟨req, opts, args, kw, _, rfl, ha, hr⟩ := pxs x (.head _)
    exact Or.inr ⟨req, opts, args, kw, ha, hr⟩

theorem handleMsg_enter (r : Realm) (s : Session) (m : Msg) : Enter s.key r (handleMsg r s m) :=
  .of_eff (eff_handleMsg r s m)

theorem recvMsg_enter (r : Realm) (k : SessKey) (m : Msg) :
    Enter k r (r.recvMsg k m) ∧ ((r.recvMsg k m).retries ≠ r.retries → r.busy k = false) :=
  recvMsg_cases (C := fun q => Enter k r q ∧ (q.retries ≠ r.retries → r.busy k = false)) r k m
    (RN.refl r).enter (fun _ _ _ _ _ => RN.enter ⟨rfl, rfl⟩)
    (fun s hs _ hb => ⟨(find?_key hs).2 ▸ handleMsg_enter r s m, fun _ => hb⟩)

theorem rn_leave (r : Realm) (k : SessKey) (mode : LeaveMode) : RN r (r.leave k mode) :=
  leave_cases r k mode (fun _ => RN.refl r) fun _ hf => ⟨(leave_ctl mode hf).retries, (leave_ctl mode hf).now⟩

/-- the session whose handler runs the task (for the tasks that can reach `handleYield`) -/
def taskKey (r : Realm) : Task → SessKey
  | .inMsg k _ => k
  | _ => r.metaS.key

theorem runTask_enter (r : Realm) (t : Task) :
    Enter (taskKey r t) r (r.runTask t) ∧
    ((r.runTask t).retries ≠ r.retries → (∃ m, t = .metaMsg m) ∨ ∃ k m, t = .inMsg k m ∧ r.busy k = false) := by
  cases t with
  | inMsg k m =>
    obtain ⟨h1, h2⟩ := recvMsg_enter r k m
    exact ⟨h1, fun h => Or.inr ⟨k, m, rfl, h2 h⟩⟩
  | metaPub p =>
    exact (RN.of_eff (P := fun _ => True) (Q := fun _ => False)
      (eff_handlePublish _ _ _ _ _ _ _ (fun _ => trivial)) (fun _ => id)).enter
  | metaInvoke req reg details args kw =>
    have e := metaInvoke_act r req reg details args kw
    exact RN.enter ⟨e.retries, e.now⟩
  | metaMsg m => exact ⟨handleMsg_enter r r.metaS m, fun _ => Or.inl ⟨m, rfl⟩⟩
  | leave k mode =>
    rw [runTask_leave]
    split
    · exact RN.enter ⟨rfl, rfl⟩
    · exact (rn_leave r k mode).enter

theorem stepOp_enter (r : Realm) (op : Op) :
    (∃ k, Enter k r (r.stepOp op) ∧ ((r.stepOp op).retries ≠ r.retries → r.busy k = false)) :=
  stepOp_cases (C := fun q => ∃ k, Enter k r q ∧ (q.retries ≠ r.retries → r.busy k = false)) r op
    ⟨0, (RN.refl r).enter⟩ (fun _ _ _ _ _ _ _ _ => ⟨0, RN.enter ⟨rfl, rfl⟩⟩) (fun k m _ => ⟨k, recvMsg_enter r k m⟩)
    (fun _ _ _ _ _ => ⟨0, RN.enter ⟨rfl, rfl⟩⟩) (fun _ _ _ => ⟨0, RN.enter ⟨rfl, rfl⟩⟩) (fun _ => ⟨0, RN.enter ⟨rfl, rfl⟩⟩)

theorem rn_timerDue (r : Realm) (t : Timer) : RN r (r.timerDue t) :=
  RN.of_eff (P := fun _ => True) (Q := fun _ => False) (eff_timerDue r t) (fun _ => id)

theorem rn_flush (r : Realm) : RN r r.flush.2 := ⟨rfl, rfl⟩

/-- one entry when the clock shows `now`.  The phase bound is why the loop ends (in phase 16 the dealer is asked
    with `canRetry = false`); `now ≤ next` is why `advance` finds the entry on time (`RetryInv.due`). -/
def EntryOk (now : Nat) (x : Retry) : Prop :=
  (∃ n, 1 ≤ n ∧ n ≤ 16 ∧ InPhase x n) ∧ now ≤ x.next ∧ x.start ≤ now

/-- two entries of one callee are entries of the meta session, whose YIELDs run as tasks whatever `busy` says; a
    client's input is held back while its handler is in the loop.  Gives `RetryInv.nodup`. -/
def Apart (a b : Retry) : Prop := a.callee = b.callee → a.callee = metaKey

/-- holds between any two atomic actions, also while `advance` has moved the clock onto an entry (`now = next`) -/
def RetryInv (r : Realm) : Prop :=
  (∀ x ∈ r.retries, EntryOk r.now x) ∧ r.retries.Pairwise Apart

/-- holds at quiescence only: `advance` has fired everything up to `now`.  It is what makes a later tick find each
    turn at its own time (C13, C07). -/
def Strict (r : Realm) : Prop := ∀ x ∈ r.retries, r.now < x.next

theorem EntryOk.arith {now : Nat} {x : Retry} (h : EntryOk now x) :
    x.next + 1 = x.start + 2 * x.delay ∧ x.next ≤ x.start + 65535 := by
  obtain ⟨⟨n, h1, hn, _, h2, h3⟩, _, _⟩ := h
  have e : 2 ^ n = 2 * 2 ^ (n - 1) := by
    rw [← Nat.pow_succ']; congr 1; omega
  have hle : 2 ^ n ≤ 2 ^ 16 := Nat.pow_le_pow_right (by omega) hn
  have h16 : (2 : Nat) ^ 16 = 65536 := by decide
  rw [h3]
  omega

theorem freshRetry_ok (now : Nat) (k : SessKey) (req : Nat) (opts : Dict) (args : List WVal) (kw : Dict) :
    EntryOk now (freshRetry now k req opts args kw) ∧ now < (freshRetry now k req opts args kw).next := by
  refine ⟨⟨⟨1, Nat.le_refl _, by omega, Nat.le_refl _, ?_, ?_⟩, ?_, Nat.le_refl _⟩, ?_⟩ <;>
    simp [freshRetry, yieldRetryDelayMs]

theorem RetryInv.of_rn {r r' : Realm} (h : RetryInv r) (e : RN r r') : RetryInv r' := by
  unfold RetryInv
  rw [e.1, e.2]; exact h

theorem Strict.of_rn {r r' : Realm} (h : Strict r) (e : RN r r') : Strict r' := by
  unfold Strict
  rw [e.1, e.2]; exact h

theorem RetryInv.enter {k : SessKey} {r r' : Realm} (h : RetryInv r) (e : Enter k r r')
    (hk : r'.retries ≠ r.retries → k = metaKey ∨ r.busy k = false) : RetryInv r' := by
  obtain ⟨hnow, hr | ⟨req, opts, args, kw, _, hr⟩⟩ := e
  · exact h.of_rn ⟨hr, hnow⟩
  · have hne : r'.retries ≠ r.retries := fun e => by simpa [hr] using congrArg List.length e
    unfold RetryInv
    rw [hr, hnow]
    refine ⟨?_, List.pairwise_append.mpr ⟨h.2, List.pairwise_singleton _ _, ?_⟩⟩
    · intro x hx
      rcases List.mem_append.mp hx with hx | hx
      · exact h.1 x hx
      · rw [List.mem_singleton.mp hx]; exact (freshRetry_ok r.now k req opts args kw).1
    · intro a ha b hb
      rw [List.mem_singleton.mp hb]
      intro hab
      have hab' : a.callee = k := hab
      rcases hk hne with hm | hb
      · exact hab'.trans hm
      · exact absurd hab' (busy_false_iff.mp hb a ha)

theorem Strict.enter {k : SessKey} {r r' : Realm} (h : Strict r) (e : Enter k r r') : Strict r' := by
  obtain ⟨hnow, hr | ⟨req, opts, args, kw, _, hr⟩⟩ := e
  · exact h.of_rn ⟨hr, hnow⟩
  · unfold Strict
    rw [hr, hnow]
    intro x hx
    rcases List.mem_append.mp hx with hx | hx
    · exact h x hx
    · rw [List.mem_singleton.mp hx]; exact (freshRetry_ok r.now k req opts args kw).2

theorem RetryInv.runTask {r : Realm} (hm : r.metaS.key = metaKey) (h : RetryInv r) (t : Task) :
    RetryInv (r.runTask t) := by
  obtain ⟨h1, h2⟩ := runTask_enter r t
  refine h.enter h1 (fun hne => ?_)
  rcases h2 hne with ⟨m, rfl⟩ | ⟨k, m, rfl, hb⟩
  · exact Or.inl hm
  · exact Or.inr hb

theorem Strict.runTask {r : Realm} (h : Strict r) (t : Task) : Strict (r.runTask t) :=
  h.enter (runTask_enter r t).1

theorem RetryInv.stepOp {r : Realm} (h : RetryInv r) (op : Op) : RetryInv (r.stepOp op) := by
  obtain ⟨k, h1, h2⟩ := stepOp_enter r op
  exact h.enter h1 (fun hne => Or.inr (h2 hne))

theorem Strict.stepOp {r : Realm} (h : Strict r) (op : Op) : Strict (r.stepOp op) := by
  obtain ⟨k, h1, _⟩ := stepOp_enter r op
  exact h.enter h1

theorem drain_now (fuel : Nat) (r : Realm) : (drain fuel r).now = r.now :=
  drain_keeps (I := fun q => q.now = r.now) (fun _ h => (rn_setPanic _ _).2.trans h)
    (fun q t ts _ h => (runTask_enter ({ q with tasks := ts } : Realm) t).1.1.trans h) fuel rfl

theorem drain_retry (fuel : Nat) {r : Realm} (hi : RealmInv r) (h : RetryInv r) :
    RetryInv (drain fuel r) ∧ (Strict r → Strict (drain fuel r)) :=
  (drain_keeps (I := fun q => RealmInv q ∧ RetryInv q ∧ (Strict r → Strict q))
    (fun _ ⟨a, b, d⟩ => ⟨a.setPanic _, b.of_rn (rn_setPanic _ _), fun hs => (d hs).of_rn (rn_setPanic _ _)⟩)
    (fun q t ts ht ⟨a, b, d⟩ =>
      ⟨(runTask_inv (a.tail ht).1 t (a.tail ht).2).1,
       RetryInv.runTask (r := { q with tasks := ts }) a.metaKey b t,
       fun hs => Strict.runTask (r := { q with tasks := ts }) (d hs) t⟩)
    fuel ⟨hi, h, id⟩).2

theorem RetryInv.jump {r : Realm} (h : RetryInv r) {t : Nat} (hle : r.now ≤ t) (hmin : ∀ x ∈ r.retries, t ≤ x.next) :
    RetryInv ({ r with now := t } : Realm) := by
  refine ⟨fun x hx => ?_, h.2⟩
  obtain ⟨hp, _, hs⟩ := h.1 x hx
  exact ⟨hp, hmin x hx, Nat.le_trans hs hle⟩

/-- the entry moves to the next phase (at most 16, because "again" is answered only up to phase 15) or
    disappears -/
theorem RetryInv.retryDue {r : Realm} (h : RetryInv r) {x : Retry} (hx : x ∈ r.retries) (hnow : r.now = x.next) :
    RetryInv (r.retryDue x) := by
  obtain ⟨e1, _, e3, _, _⟩ := retryDue_turn r x
  obtain ⟨⟨n, hn1, hn16, hp⟩, _, hs⟩ := h.1 x hx
  unfold RetryInv
  rw [e1, e3]
  refine ⟨fun y hy => ?_, List.pairwise_append.mpr ⟨h.2.filter _, ?_, fun a ha b hb hab => ?_⟩⟩
  · rcases List.mem_append.mp hy with hy | hy
    · exact h.1 y (List.mem_filter.mp hy).1
    · split at hy
      · rename_i ha
        obtain ⟨h15, hp'⟩ := (turn_on_time hp hnow).2.2.1 ha
        rw [List.mem_singleton.mp hy]
        exact ⟨⟨n + 1, by omega, by omega, hp'⟩, by show r.now ≤ r.now + x.delay * 2; omega, hs⟩
      · cases hy
  · split
    · exact List.pairwise_singleton _ _
    · exact List.Pairwise.nil
  · split at hb
    · rw [List.mem_singleton.mp hb] at hab
      have : a.callee ≠ x.callee := by simpa using (List.mem_filter.mp ha).2
      exact absurd hab this
    · cases hb

theorem nextDue_min {r : Realm} {limit : Nat} {d : Due} (h : nextDue r limit = some d) :
    d.time ≤ limit ∧ ∀ y ∈ r.retries, y.next ≤ limit → d.time ≤ y.next := by
  obtain ⟨g1, g3⟩ := nextDue_some h
  refine ⟨?_, fun y hy hle => g3 (.retry y) (List.mem_append_right _ (List.mem_map_of_mem
    (List.mem_filter.mpr ⟨hy, by simpa using hle⟩)))⟩
  rcases List.mem_append.1 g1 with g1 | g1
  · rcases List.mem_map.1 g1 with ⟨t', ht', rfl⟩
    have := (List.mem_filter.1 ht').2
    simp only [Bool.and_eq_true, decide_eq_true_eq] at this
    exact this.2
  · rcases List.mem_map.1 g1 with ⟨x, hx, rfl⟩
    have := (List.mem_filter.1 hx).2
    simpa [Due.time] using this

theorem RetryInv.due {r : Realm} (h : RetryInv r) {target : Nat} {d : Due} (hd : nextDue r target = some d) :
    d.time ≤ target ∧ RetryInv ({ r with now := max r.now d.time } : Realm) ∧
    ∀ x, d = .retry x → x ∈ r.retries ∧ r.now ≤ x.next ∧ max r.now d.time = x.next := by
  obtain ⟨hdle, hmin⟩ := nextDue_min hd
  refine ⟨hdle, h.jump (Nat.le_max_left _ _) fun x hx => Nat.max_le.mpr ⟨(h.1 x hx).2.1, ?_⟩, ?_⟩
  · by_cases hx' : x.next ≤ target
    · exact hmin x hx hx'
    · omega
  · rintro x rfl
    have hx := nextDue_retry hd
    exact ⟨hx, (h.1 x hx).2.1, Nat.max_eq_right (h.1 x hx).2.1⟩

theorem advance_now : ∀ (fuel : Nat) (r : Realm) (target : Nat), (advance fuel r target).now = target
  | 0, r, target => by
    unfold advance
    exact (rn_setPanic _ _).2
  | fuel + 1, r, target => by
    unfold advance
    split
    · rfl
    · exact advance_now fuel _ target

theorem fireDue_rinv {r : Realm} (hi : RealmInv r) {target : Nat} {d : Due} (hd : nextDue r target = some d) :
    RealmInv (fireDue r d) :=
  rinv_keeps.fireDue hd hi

theorem fireDue_retry {r : Realm} (hi : RealmInv r) (h : RetryInv r) {target : Nat} (hle : r.now ≤ target) {d : Due}
    (hd : nextDue r target = some d) : RetryInv (fireDue r d) ∧ (fireDue r d).now ≤ target := by
  obtain ⟨hdle, hj, hdx⟩ := h.due hd
  have hi1 : RealmInv ({ r with now := max r.now d.time } : Realm) := hi.same
  have key : ∀ q : Realm, RealmInv q → RetryInv q → q.now = max r.now d.time →
      RetryInv (drain taskFuel q) ∧ (drain taskFuel q).now ≤ target := fun q a b c =>
    ⟨(drain_retry taskFuel a b).1, by rw [drain_now, c]; exact Nat.max_le.mpr ⟨hle, hdle⟩⟩
  cases d with
  | timer t => exact key _ (timerDue_rinv hi1 t).1 (hj.of_rn (rn_timerDue _ t)) (rn_timerDue _ t).2
  | retry x =>
    obtain ⟨hx, _, hm⟩ := hdx x rfl
    exact key _ (retryDue_rinv hi1 x (hi.retr x hx)).1 (hj.retryDue hx hm) (retryDue_turn _ x).1

theorem advance_retry : ∀ (fuel : Nat) {r : Realm} (target : Nat), RealmInv r → RetryInv r → r.now ≤ target →
    (advance fuel r target).panic = none → RetryInv (advance fuel r target) ∧ Strict (advance fuel r target)
  | 0, r, target, _, _, _, hp => by
    unfold advance at hp
    exact absurd hp (setPanic_some_ne_none _ _)
  | fuel + 1, r, target, hi, h, hle, hp => by
    cases hd : nextDue r target with
    | none =>
      rw [advance_none hd]
      obtain ⟨_, hr⟩ := (nextDue_none_iff _ _).1 hd
      have hlt : ∀ x ∈ r.retries, target < x.next := by
        intro x hx
        apply Decidable.byContradiction
        intro hc
        have : x ∈ dueRetries r target := List.mem_filter.mpr ⟨hx, by simp; omega⟩
        rw [hr] at this; cases this
      exact ⟨h.jump hle (fun x hx => Nat.le_of_lt (hlt x hx)), hlt⟩
    | some d =>
      rw [advance_some hd] at hp ⊢
      obtain ⟨h4, h5⟩ := fireDue_retry hi h hle hd
      exact advance_retry fuel target (fireDue_rinv hi hd) h4 h5 hp

theorem step_retry {r : Realm} (hi : RealmInv r) (h : RetryInv r) (hs : Strict r) (op : Op)
    (hp : (r.step op).2.panic = none) : RetryInv (r.step op).2 ∧ Strict (r.step op).2 := by
  by_cases ht : ∃ ms, op = .tick ms
  · obtain ⟨ms, rfl⟩ := ht
    rw [step_tick] at hp ⊢
    rw [flush_panic] at hp
    obtain ⟨h1, h2⟩ := advance_retry 10000 (r.now + ms) hi h (Nat.le_add_right _ _) hp
    exact ⟨h1.of_rn (rn_flush _), h2.of_rn (rn_flush _)⟩
  · rw [step_of_not_tick r op (fun ms e => ht ⟨ms, e⟩)]
    obtain ⟨s1, _⟩ := stepOp_inv hi op
    obtain ⟨d1, d3⟩ := drain_retry taskFuel s1 (h.stepOp op)
    exact ⟨d1.of_rn (rn_flush _), (d3 (hs.stepOp op)).of_rn (rn_flush _)⟩

theorem step_now (r : Realm) (ms : Nat) : (r.step (.tick ms)).2.now = r.now + ms := by
  rw [step_tick, (rn_flush _).2, advance_now]

theorem reachable_retry {cfg : Config} {r : Realm} (h : Realm.Reachable cfg r) (hp : r.panic = none) :
    RetryInv r ∧ Strict r :=
  (h.induct (J := fun q => q.panic = none → RetryInv q ∧ Strict q)
    (fun q hc _ => by
      have hr := (create_rinv hc).retries
      unfold RetryInv Strict
      rw [hr]
      exact ⟨⟨fun x hx => (nomatch hx), List.Pairwise.nil⟩, fun x hx => (nomatch hx)⟩)
    (fun q op _ hs hj hq =>
      have h0 := hj (step_panic_mono hs.1 op hq)
      step_retry hs.1 h0.1 h0.2 op hq)).2 hp

theorem RetryInv.nodup {r : Realm} (h : RetryInv r) :
    ((r.retries.filter (fun x => x.callee != metaKey)).map (·.callee)).Nodup := by
  rw [List.nodup_iff_pairwise_ne, List.pairwise_map]
  refine List.Pairwise.imp_of_mem ?_ (h.2.filter _)
  intro a b ha _ hab e
  have : a.callee ≠ metaKey := by simpa using (List.mem_filter.mp ha).2
  exact this (hab e)

end Nexus.L2.WpC
