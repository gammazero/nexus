/-
  Two things C06 needs at the router level.  First: a closed router whose table is empty stays as it is up to the
  clock and answers nothing but refusals (`step_closed_empty`; that a reachable closed router has an empty table is
  `C06_closed_realms_empty`, proved there); a removed realm is gone from the table (joins are refused, operations of
  its former sessions and the clock do not touch it) until it is added again.

  Second: every realm of a router reachable by any history of well-formed operations (`Router.Reachable`) satisfies,
  besides the realm invariant `RealmInv` (with at most a fuel marker in `panic`), the control invariant `WpC.CtlInv` — no
  client is stored under the meta session's key, every session marked as ending is attached — and has
  pairwise distinct client keys: the per-realm facts of `Realm.Reachable.clients_wf`, lifted to the router
  (whose realms are not literally `Realm.Reachable`: a realm created by the router starts with an offset
  publication counter and — when created later — at the router's current time, and `.rnd` sets the oracle
  directly).
-/
import Nexus.L2.Proofs.RouterFrame
import Nexus.L2.Proofs.RealmKeys

namespace Nexus.L2.WpC
open Nexus.L2 Nexus.L2.Realm Nexus.L2.Router

/-- operations that attach something to the router: a session, or a realm -/
def isAttach : ROp → Bool
  | .join .. => true
  | .addRealm _ => true
  | _ => false

def runROps (rt : Router) (ops : List ROp) : Router := ops.foldl (fun rt op => (rt.step op).2) rt

theorem runROps_nil (rt : Router) : runROps rt [] = rt := rfl
theorem runROps_cons (rt : Router) (op : ROp) (ops : List ROp) :
    runROps rt (op :: ops) = runROps (rt.step op).2 ops := rfl

theorem realm?_append_new {rt : Router} {A : String} (h : rt.realm? A = none) (r : Realm) (c : Nat) :
    ({ rt with realms := rt.realms ++ [(A, r)], created := c } : Router).realm? A = some r :=
  assoc?_append_new r h

def elapsedAll (ops : List ROp) : Nat := (ops.map ROp.elapsed).sum

theorem elapsedAll_nil : elapsedAll [] = 0 := rfl
/-- a closed router with an empty table: no operation changes it — except that the clock goes on
    (`.tick ms` adds `ms` to `now`, `ROp.elapsed`) — or produces anything; attaching is refused -/
theorem step_closed_empty {rt : Router} (hc : rt.closed = true) (hr : rt.realms = []) (op : ROp) :
    (rt.step op).2 = { rt with now := rt.now + op.elapsed } ∧ (rt.step op).1.out = [] ∧ (rt.step op).1.closed = [] ∧
    (rt.step op).1.panic = none ∧ (rt.step op).1.refused = isAttach op := by
  -- the table empty and the flag set, every branch of `Router.step` computes (only the session map is unknown)
  cases rt
  subst hc hr
  cases op with
  | sess k op => rw [step_sess]; cases Router.realmOf _ k <;> exact ⟨rfl, rfl, rfl, rfl, rfl⟩
  | _ => exact ⟨rfl, rfl, rfl, rfl, rfl⟩

theorem runROps_closed_empty {rt : Router} (hc : rt.closed = true) (hr : rt.realms = []) :
    ∀ ops : List ROp, runROps rt ops = { rt with now := rt.now + elapsedAll ops }
  | [] => rfl
  | op :: ops => by
    rw [runROps_cons, (step_closed_empty hc hr op).1,
      runROps_closed_empty (rt := { rt with now := rt.now + op.elapsed }) hc hr ops,
      show elapsedAll (op :: ops) = op.elapsed + elapsedAll ops by simp [elapsedAll]]
    show ({ rt with now := rt.now + op.elapsed + elapsedAll ops } : Router) = _
    rw [Nat.add_assoc]

theorem realm?_removed (rt : Router) (A : String) :
    ({ rt with realms := rt.realms.filter (fun p => p.1 != A) } : Router).realm? A = none :=
  assoc?_filter_self A rt.realms

/-- the router after `RemoveRealm A` (whether or not `A` existed) -/
theorem remove_fields (rt : Router) (A : String) :
    (rt.step (.removeRealm A)).2.realm? A = none ∧ (rt.step (.removeRealm A)).2.realms = rt.others A ∧
    (rt.step (.removeRealm A)).2.sessRealm = rt.sessRealm ∧ (rt.step (.removeRealm A)).2.closed = rt.closed ∧
    (rt.step (.removeRealm A)).2.template = rt.template ∧ (rt.step (.removeRealm A)).2.created = rt.created ∧
    (rt.step (.removeRealm A)).2.now = rt.now := by
  cases hr : rt.realm? A with
  | none =>
    rw [step_remove_none hr]
    refine ⟨hr, ?_, rfl, rfl, rfl, rfl, rfl⟩
    unfold others
    symm
    apply List.filter_eq_self.mpr
    intro p hp
    simpa using realm?_none hr p hp
  | some r =>
    rw [step_remove_some hr]
    exact ⟨realm?_removed rt A, rfl, rfl, rfl, rfl, rfl, rfl⟩

theorem ensureRealm_no_template {rt : Router} (h : rt.template = none) (A : String) : rt.ensureRealm A = rt := by
  rcases ensureRealm_cases rt A with e | ⟨_, t, _, ht, _, _⟩
  · exact e
  · rw [h] at ht; cases ht

theorem ensureRealm_template {rt : Router} {A : String} {t : Config} {r0 : Realm} (hr : rt.realm? A = none)
    (ht : rt.template = some t) (hc : Realm.create { t with uri := A } = some r0) :
    rt.ensureRealm A =
      { rt with realms := rt.realms ++ [(A, { r0 with pubCount := rt.created * 1000000, now := rt.now })],
                created := rt.created + 1 } := by
  unfold ensureRealm
  rw [hr, ht]
  simp only [hc]

theorem step_join_absent {rt : Router} {A : String} (hr : rt.realm? A = none) (ht : rt.template = none)
    (k : SessKey) (l : Bool) (d : Dict) (ro : Roles) (c : Nat) :
    rt.step (.join A k l d ro c) = ({ refused := true }, rt) := by
  cases hc : (rt.closed || A == "") with
  | true => exact step_join_refused hc k l d ro c
  | false =>
    have he := ensureRealm_no_template ht A
    have := step_join_none hc (by rw [he]; exact hr) k l d ro c
    rw [he] at this
    exact this

/-- a realm that is absent stays absent under an operation that does not create it: every realm afterwards is one from
    before or one the operation creates -/
theorem realm?_none_step {rt : Router} {A : String} (hr : rt.realm? A = none) (op : ROp)
    (hno : ∀ cfg, ¬ Creates rt op A cfg) : (rt.step op).2.realm? A = none :=
  (realm?_none_iff _ A).mpr <|
    step_realms (Q := fun B _ => B ≠ A) (Q' := fun B _ => B ≠ A) op (realm?_none hr) (fun _ _ _ h => h)
      (fun _ _ _ _ h => h) (fun cfg _ _ hc _ e => hno cfg (e ▸ hc)) (fun _ _ _ _ h => h)

theorem absent_step {rt : Router} {A : String} (hr : rt.realm? A = none) (ht : rt.template = none) (op : ROp)
    (hop : ∀ cfg, op = .addRealm cfg → cfg.uri ≠ A) :
    (rt.step op).2.realm? A = none ∧ (rt.step op).2.template = none := by
  refine ⟨realm?_none_step hr op fun cfg hc => ?_, (step_fields rt op).template.trans ht⟩
  cases hc with
  | add => exact hop cfg rfl rfl
  | template h => rw [ht] at h; cases h

theorem absent_runROps {A : String} (ops : List ROp) {rt : Router} (hr : rt.realm? A = none) (ht : rt.template = none)
    (hop : ∀ op ∈ ops, ∀ cfg, op = .addRealm cfg → cfg.uri ≠ A) :
    (runROps rt ops).realm? A = none ∧ (runROps rt ops).template = none :=
  List.foldlRecOn (motive := fun rt : Router => rt.realm? A = none ∧ rt.template = none) ops _ ⟨hr, ht⟩
    fun _ h op ho => absent_step h.1 h.2 op (hop op ho)

end Nexus.L2.WpC

namespace Nexus.L2.Router
open Nexus.L2 Nexus.L2.Realm Nexus.L2.WpC Nexus.Gen.N

/-- What the shutdown theorems of C06 need of each realm of a reachable router. -/
def KeysOk (r : Realm) : Prop :=
  RealmInv r ∧ FuelOnly r.panic ∧ CtlInv r ∧ (r.clients.map (·.key)).Nodup

theorem KeysOk.step {r : Realm} (h : KeysOk r) (op : Realm.Op) : KeysOk (r.step op).2 := by
  obtain ⟨hi, hp, hc, hn⟩ := h
  have := step_inv hi hp op
  exact ⟨this.1, this.2.1, Sound.step CtlInv.keeps ⟨hi, hp⟩ (hc.stepOp' op), keys_nodup_step hi hp hc hn op⟩

theorem KeysOk.congr {r r' : Realm} (h : KeysOk r) (hi : RealmInv r') (hp : r'.panic = r.panic)
    (hcl : r'.clients = r.clients) (he : r'.ending = r.ending) (ht : r'.tasks = r.tasks) (hd : r'.deferred = r.deferred)
    (hr : r'.retries = r.retries) (hm : r'.metaS = r.metaS) : KeysOk r' := by
  obtain ⟨_, h2, hc, hn⟩ := h
  refine ⟨hi, by rw [hp]; exact h2, hc.congr ⟨?_, ?_, ?_, ?_, ?_, ?_, ?_⟩ he hcl hd hr, by rw [hcl]; exact hn⟩
  · rw [hcl]; exact hc.safe.noClient
  · rw [he]; exact hc.safe.ending
  · rw [ht]; exact hc.safe.tasks
  · rw [hd]; exact hc.safe.deferred
  · rw [hr]; exact hc.safe.retries
  · rw [hm]; exact hc.safe.mkey
  · rw [hm]; exact hc.safe.metaPPT

theorem keysOk_created_at {cfg : Config} {r : Realm} (h : Realm.create cfg = some r) (n t : Nat) :
    KeysOk ({ r with pubCount := n, now := t } : Realm) := by
  have hr : Realm.Reachable cfg r := .init h
  have h0 : KeysOk r := ⟨hr.inv.1, hr.inv.2, hr.ctl, hr.keys_nodup⟩
  exact h0.congr h0.1.same rfl rfl rfl rfl rfl rfl rfl

def RealmsKeysOk (rt : Router) : Prop := ∀ p ∈ rt.realms, KeysOk p.2

theorem realmsKeysOk_step {rt : Router} (h : RealmsKeysOk rt) (op : ROp) : RealmsKeysOk (rt.step op).2 :=
  step_realms (Q := fun _ => KeysOk) (Q' := fun _ => KeysOk) op h (fun _ _ _ hr => hr)
    (fun _ _ rop _ hr => hr.step rop) (fun _ _ _ _ hcr => keysOk_created_at hcr _ _)
    (fun _ _ r _ hr =>
      have hi : RealmInv r := hr.1
      hr.congr (hi.same)
        rfl rfl rfl rfl rfl rfl rfl)

theorem Reachable.realmsKeysOk {rt : Router} (h : Router.Reachable rt) : RealmsKeysOk rt := by
  induction h with
  | init t h =>
    intro p hp
    obtain ⟨cfg, r, n, hcr, e⟩ := (create_created h).realms p hp
    rw [e]
    exact keysOk_created_at hcr n r.now
  | step rop _ _ ih => exact realmsKeysOk_step ih rop

end Nexus.L2.Router
