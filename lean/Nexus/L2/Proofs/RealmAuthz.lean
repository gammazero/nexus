/-
  What lies behind the authorization gate (`authzMessage`).  `handleMsg` is the gate followed by `dispatch`
  (`handleMsg_eq`); `handleMsgG` is the same behind an arbitrary decision function
  `dec : SessKey → Msg → String`, and `handleMsgG_some` gives it as one `if`.  No handler behind the gate reads
  the configuration (`dispatch_withCfg`, where `withCfg c r` is r with another configuration), so "as without an
  Authorizer" can be stated as an equation between `handleMsg` of the realm and of the same realm with
  `cfg.authz := none`.  `enqueue` / `queueOfList`: `trySend` to an attached client as an operation on the queue
  table.
-/
import Nexus.L2.Proofs.RealmBase
import Nexus.L2.Proofs.DealerList

namespace Nexus.L2.Realm
open Nexus.Gen.N

/-- lets "the same realm under another configuration" be an equation: `f (withCfg c r) = withCfg c (f r)` says
    that `f` neither reads nor writes the configuration (`dispatch_withCfg`), and `cfg.authz := none` is the
    realm without Authorizer -/
def withCfg (c : Config) (r : Realm) : Realm := { r with cfg := c }

section proj
variable (c : Config) (r : Realm)
theorem withCfg_broker : (withCfg c r).broker = r.broker := rfl
theorem withCfg_ds : (withCfg c r).ds = r.ds := rfl
theorem withCfg_clients : (withCfg c r).clients = r.clients := rfl
theorem withCfg_ending : (withCfg c r).ending = r.ending := rfl
theorem withCfg_testaments : (withCfg c r).testaments = r.testaments := rfl
theorem withCfg_metaProcs : (withCfg c r).metaProcs = r.metaProcs := rfl
theorem withCfg_metaS : (withCfg c r).metaS = r.metaS := rfl
theorem withCfg_queues : (withCfg c r).queues = r.queues := rfl
theorem withCfg_closedPeers : (withCfg c r).closedPeers = r.closedPeers := rfl
theorem withCfg_tasks : (withCfg c r).tasks = r.tasks := rfl
theorem withCfg_retries : (withCfg c r).retries = r.retries := rfl
theorem withCfg_deferred : (withCfg c r).deferred = r.deferred := rfl
theorem withCfg_inbox : (withCfg c r).inbox = r.inbox := rfl
theorem withCfg_ghosts : (withCfg c r).ghosts = r.ghosts := rfl
theorem withCfg_now : (withCfg c r).now = r.now := rfl
theorem withCfg_pubCount : (withCfg c r).pubCount = r.pubCount := rfl
theorem withCfg_rnd : (withCfg c r).rnd = r.rnd := rfl
theorem withCfg_panic : (withCfg c r).panic = r.panic := rfl
theorem withCfg_session? : (withCfg c r).session? = r.session? := rfl
theorem withCfg_queueLen : (withCfg c r).queueLen = r.queueLen := rfl
theorem withCfg_isFull : (withCfg c r).isFull = r.isFull := rfl
theorem withCfg_denv : (withCfg c r).denv = r.denv := rfl
theorem withCfg_busy : (withCfg c r).busy = r.busy := rfl
theorem mk_withCfg (b d cl en ts mp ms q cp tk rt df ib gh nw pc rd pn) :
    Realm.mk (withCfg c r).cfg b d cl en ts mp ms q cp tk rt df ib gh nw pc rd pn =
      withCfg c (Realm.mk r.cfg b d cl en ts mp ms q cp tk rt df ib gh nw pc rd pn) := rfl
end proj

theorem withCfg_setPanic (c : Config) (r : Realm) (p) : (withCfg c r).setPanic p = withCfg c (r.setPanic p) := by
  unfold setPanic withCfg
  dsimp only
  repeat' split
  all_goals rfl

theorem withCfg_trySend (c : Config) (r : Realm) (s : Send) : (withCfg c r).trySend s = withCfg c (r.trySend s) := by
  unfold trySend
  simp only [withCfg_clients, withCfg_queueLen, withCfg_queues, withCfg_setPanic, withCfg_tasks]
  split
  · split <;> rfl
  cases r.clients.find? (fun c => c.key == s.to) with
  | none => rfl
  | some c' =>
    simp only [apply_ite (withCfg c)]
    rfl

theorem withCfg_deliver (c : Config) : ∀ (ss : List Send) (r : Realm), (withCfg c r).deliver ss = withCfg c (r.deliver ss)
  | [], _ => rfl
  | s :: ss, r => by
    show ((withCfg c r).trySend s).deliver ss = _
    rw [withCfg_trySend, withCfg_deliver c ss]; rfl

macro "cfg_simp" : tactic => `(tactic| simp only [withCfg_broker, withCfg_ds, withCfg_clients, withCfg_ending,
  withCfg_testaments, withCfg_metaProcs, withCfg_metaS, withCfg_queues, withCfg_closedPeers, withCfg_tasks,
  withCfg_retries, withCfg_deferred, withCfg_inbox, withCfg_ghosts, withCfg_now, withCfg_pubCount, withCfg_rnd, withCfg_panic,
  withCfg_session?, withCfg_queueLen, withCfg_isFull, withCfg_denv, withCfg_busy, mk_withCfg,
  withCfg_setPanic, withCfg_trySend, withCfg_deliver])

theorem withCfg_addTasks (c : Config) (r : Realm) (ts : List Task) :
    (withCfg c r).addTasks ts = withCfg c (r.addTasks ts) := rfl

theorem withCfg_applyD (c : Config) (r : Realm) (o : DOut) : (withCfg c r).applyD o = withCfg c (r.applyD o) := by
  unfold applyD
  cfg_simp
  simp only [addTasks]
  cfg_simp

theorem withCfg_handlePublish (c : Config) (r : Realm) (s req opts topic args kw) :
    handlePublish (withCfg c r) s req opts topic args kw = withCfg c (handlePublish r s req opts topic args kw) := by
  rw [handlePublish_spec, handlePublish_spec]
  unfold discloseRefused pubOf ended
  simp only [apply_ite (withCfg c)]
  cfg_simp

theorem withCfg_handleSubscribe (c : Config) (r : Realm) (s req opts topic) :
    handleSubscribe (withCfg c r) s req opts topic = withCfg c (handleSubscribe r s req opts topic) := by
  rw [handleSubscribe_eq, handleSubscribe_eq]
  simp only [apply_ite (withCfg c)]
  cfg_simp

theorem withCfg_handleUnsubscribe (c : Config) (r : Realm) (s req sub) :
    handleUnsubscribe (withCfg c r) s req sub = withCfg c (handleUnsubscribe r s req sub) := by
  rw [handleUnsubscribe_eq, handleUnsubscribe_eq]
  cfg_simp

theorem withCfg_handleRegister (c : Config) (r : Realm) (s req opts proc) :
    handleRegister (withCfg c r) s req opts proc = withCfg c (handleRegister r s req opts proc) := by
  unfold handleRegister
  simp only [apply_ite (withCfg c), withCfg_ds, withCfg_trySend, withCfg_applyD]

theorem withCfg_handleCancel (c : Config) (r : Realm) (s req opts) :
    handleCancel (withCfg c r) s req opts = withCfg c (handleCancel r s req opts) := by
  unfold handleCancel
  simp only [apply_ite (withCfg c), withCfg_ds, withCfg_denv, withCfg_trySend, withCfg_applyD]

theorem withCfg_handleYield (c : Config) (r : Realm) (s req opts args kw) :
    handleYield (withCfg c r) s req opts args kw = withCfg c (handleYield r s req opts args kw) := by
  rw [handleYield_eq, handleYield_eq]
  simp only [apply_ite (withCfg c), withCfg_ds, withCfg_denv, withCfg_applyD]
  cfg_simp

/-- the message switch of `handleInboundMessages`, behind the authorization gate -/
def dispatch (r : Realm) (s : Session) (m : Msg) : Realm :=
  match m with
  | .publish req opts topic args kw => handlePublish r s req opts topic args kw
  | .yield req opts args kw => handleYield r s req opts args kw
  | .call req opts proc args kw => handleCall r s req opts proc args kw
  | .cancel req opts => handleCancel r s req opts
  | .subscribe req opts topic => handleSubscribe r s req opts topic
  | .register req opts proc => handleRegister r s req opts proc
  | .unsubscribe req sub => handleUnsubscribe r s req sub
  | .unregister req reg => handleUnregister r s req reg
  | .error typ req details err args kw =>
    if typ != tINVOCATION then
      { r with tasks := r.tasks ++ [.leave s.key (.violation "invalid ERROR")], ending := r.ending ++ [s.key] }
    else handleError r s req details err args kw
  | .goodbye _ _ =>
    let r := r.trySend ⟨s.key, .goodbye [] CloseGoodbyeAndOut⟩
    { r with tasks := r.tasks ++ [.leave s.key .lost], ending := r.ending ++ [s.key] }
  | _ =>
    { r with tasks := r.tasks ++ [.leave s.key (.violation "unexpected message")], ending := r.ending ++ [s.key] }

theorem handleMsg_eq (r : Realm) (s : Session) (m : Msg) :
    handleMsg r s m = if (authzGate r s m).1 then dispatch (authzGate r s m).2 s m else (authzGate r s m).2 := by
  unfold handleMsg dispatch
  generalize authzGate r s m = g
  obtain ⟨ok, r'⟩ := g
  cases ok
  · rfl
  · cases m <;> rfl

theorem handleMsg_allowed {r : Realm} {s : Session} {m : Msg} (h : (authzGate r s m).1 = true) :
    handleMsg r s m = dispatch r s m := by
  rw [handleMsg_eq, h, if_pos rfl, authzGate_pass h]

theorem handleMsg_denied {r : Realm} {s : Session} {m : Msg} (h : (authzGate r s m).1 = false) :
    handleMsg r s m = (authzGate r s m).2 := by
  rw [handleMsg_eq, h]; rfl

theorem dispatch_withCfg (c : Config) (r : Realm) (s : Session) (m : Msg) :
    dispatch (withCfg c r) s m = withCfg c (dispatch r s m) := by
  cases m
  case publish => exact withCfg_handlePublish ..
  case yield => exact withCfg_handleYield ..
  case call => exact withCfg_applyD ..
  case cancel => exact withCfg_handleCancel ..
  case subscribe => exact withCfg_handleSubscribe ..
  case register => exact withCfg_handleRegister ..
  case unsubscribe => exact withCfg_handleUnsubscribe ..
  case unregister => exact withCfg_applyD ..
  case error typ req details err args kw =>
    show (if typ != tINVOCATION then _ else (withCfg c r).applyD _) = _
    rw [withCfg_applyD]
    show _ = withCfg c (if typ != tINVOCATION then _ else _)
    split <;> rfl
  case goodbye =>
    show (let r' := (withCfg c r).trySend _; ({ r' with tasks := _, ending := _ } : Realm)) = _
    simp only [withCfg_trySend]
    rfl
  all_goals rfl

theorem withCfg_self (r : Realm) : withCfg r.cfg r = r := rfl
theorem withCfg_withCfg (c c' : Config) (r : Realm) : withCfg c (withCfg c' r) = withCfg c r := rfl

theorem dispatch_cfg (r : Realm) (s : Session) (m : Msg) : dispatch r s m = withCfg r.cfg (dispatch r s m) := by
  have := dispatch_withCfg r.cfg r s m
  rw [withCfg_self] at this
  exact this

def handleMsgG (dec : Option (SessKey → Msg → String)) (localAuthz : Bool) (r : Realm) (s : Session) (m : Msg) : Realm :=
  if (gateG dec localAuthz r s m).1 then dispatch (gateG dec localAuthz r s m).2 s m else (gateG dec localAuthz r s m).2

theorem handleMsg_eq_handleMsgG (r : Realm) (s : Session) (m : Msg) :
    handleMsg r s m = handleMsgG (r.cfg.authz.map authzDecision) r.cfg.localAuthz r s m := by
  rw [handleMsg_eq, authzGate_eq_gateG]; rfl

theorem handleMsgG_none (la : Bool) (r : Realm) (s : Session) (m : Msg) : handleMsgG none la r s m = dispatch r s m := rfl

theorem handleMsgG_some (f : SessKey → Msg → String) (la : Bool) (r : Realm) (s : Session) (m : Msg) :
    handleMsgG (some f) la r s m =
      if exempt la s = true ∨ f s.key m = "allow" ∨ f s.key m = "allowerr" then dispatch r s m
      else match denialReply (f s.key m) m with
           | none => r
           | some e => r.trySend ⟨s.key, e⟩ := by
  unfold handleMsgG
  rw [gateG_some]
  split <;> rfl

/-- The gate reads the configuration, the sender's key and whether it is local, and of the
    realm it uses nothing but `trySend` — realms and sessions that agree on these take the same branch. -/
theorem authzGate_shape (cfg : Config) (key : SessKey) (isLocal : Bool) (m : Msg) :
    ∃ (b : Bool) (o : Option Msg), ∀ (r : Realm) (s : Session), r.cfg = cfg → s.key = key → s.isLocal = isLocal →
      authzGate r s m = (b, match o with
                            | none => r
                            | some e => r.trySend ⟨key, e⟩) := by
  cases hd : cfg.authz.map authzDecision with
  | none => exact ⟨true, none, fun r s hc _ _ => by rw [authzGate_eq_gateG, hc, hd]; rfl⟩
  | some f =>
    by_cases h : (key == metaKey || (isLocal && !cfg.localAuthz)) = true ∨ f key m = "allow" ∨ f key m = "allowerr"
    · refine ⟨true, none, fun r s hc hk hl => ?_⟩
      subst hc hk hl
      rw [authzGate_eq_gateG, hd, gateG_some]
      exact if_pos h
    · refine ⟨false, denialReply (f key m) m, fun r s hc hk hl => ?_⟩
      subst hc hk hl
      rw [authzGate_eq_gateG, hd, gateG_some]
      exact if_neg h

def enqueue (qs : List (SessKey × List Msg)) (k : SessKey) (m : Msg) : List (SessKey × List Msg) :=
  if qs.any (fun q => q.1 == k) then qs.map (fun q => if q.1 == k then (q.1, q.2 ++ [m]) else q)
  else qs ++ [(k, [m])]

def queueOfList (qs : List (SessKey × List Msg)) (k : SessKey) : List Msg :=
  match qs.find? (fun q => q.1 == k) with
  | some q => q.2
  | none => []

theorem trySend_client_enqueue {r : Realm} {k : SessKey} {c : Session} (hk : k ≠ metaKey)
    (hc : r.clients.find? (fun c => c.key == k) = some c) (m : Msg) :
    r.trySend ⟨k, m⟩ = if r.queueLen k ≥ c.cap then r else { r with queues := enqueue r.queues k m } := by
  unfold trySend enqueue
  simp only [hk, if_false, hc]
  split
  · rfl
  · split <;> rfl

theorem queueOfList_enqueue (qs : List (SessKey × List Msg)) (k : SessKey) (m : Msg) (k' : SessKey) :
    queueOfList (enqueue qs k m) k' = if k' = k then queueOfList qs k' ++ [m] else queueOfList qs k' := by
  unfold enqueue
  split
  · rename_i hany
    unfold queueOfList
    rw [find?_key_map (f := fun q : SessKey × List Msg => q.1) _ (by intro q; split <;> rfl)]
    cases hf : qs.find? (fun q => q.1 == k') with
    | none =>
      have hne : k' ≠ k := by
        intro e
        subst e
        obtain ⟨x, hx, hxk⟩ := List.any_eq_true.mp hany
        exact absurd hxk (List.find?_eq_none.mp hf x hx)
      simp [hne]
    | some q =>
      have hq : q.1 = k' := by simpa using List.find?_some hf
      by_cases e : k' = k
      · subst e
        simp [hf, hq]
      · have : ¬ q.1 = k := fun h => e (hq ▸ h)
        simp [e, this]
  · rename_i hany
    have hnone : qs.find? (fun q => q.1 == k) = none := by
      apply List.find?_eq_none.mpr
      intro x hx hxk
      exact hany (List.any_eq_true.mpr ⟨x, hx, hxk⟩)
    unfold queueOfList
    rw [List.find?_append]
    by_cases hk' : k' = k
    · subst hk'
      simp [hnone]
    · have : ¬ k = k' := fun e => hk' e.symm
      cases hf : qs.find? (fun q => q.1 == k') with
      | none => simp [hk', this]
      | some q => simp [hk']

end Nexus.L2.Realm
