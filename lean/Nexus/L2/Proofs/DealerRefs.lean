/-
  Which sessions the dealer refers to and sends to (for the realm-level invariants, C05/C04):
  a step makes the dealer refer to no new session but the acting one, sends only to sessions it referred to
  (or the acting one), and aborts only the acting session (`DAct.owned`, `DAct.aborts` for the actions that answer
  a message); session removal drops every reference to the departed session.
-/
import Nexus.L2.Proofs.DealerFrame

namespace Nexus.L2
open Gen.N

theorem syncCall_refs_sub {env : DEnv} {s : DState} (h : DealerInv s) (caller : SessKey) (req : Nat) (opts : Dict)
    (proc : String) (args : List WVal) (kw : Dict) (rnd : Nat) (k : SessKey)
    (hr : (syncCall env s caller req opts proc args kw rnd).st.refs k) : s.refs k ∨ k = caller := by
  obtain ⟨_, hregs, hinvs⟩ := syncCall_frame (env := env) h caller req opts proc args kw rnd
  rcases hr with ⟨id, hc⟩ | ⟨c, hc, he⟩ | ⟨v, hv, he⟩ | ⟨e, he, hk⟩
  · exact Or.inl (Or.inl ⟨id, (calleeRel_congr hregs id k).1 hc⟩)
  · rcases syncCall_calls_sub h caller req opts proc args kw rnd c hc with hc | rfl
    · exact Or.inl (Or.inr (Or.inl ⟨c, hc, he⟩))
    · exact Or.inr he.symm
  · rcases hinvs v hv with ⟨w, hw, hws⟩ | ⟨_, _, _, hc⟩
    · simp only [Invk.shapeC, Prod.mk.injEq] at hws
      exact Or.inl (Or.inr (Or.inr (Or.inl ⟨w, hw, hws.2.2.1.trans he⟩)))
    · exact Or.inl (Or.inl ⟨v.regId, he ▸ hc⟩)
  · obtain ⟨S, _, hx, hs⟩ := syncCall_shrinks env s caller req opts proc args kw rnd
    exact Or.inl (Or.inr (Or.inr (Or.inr ⟨e, hx ▸ hs.index ▸ he, hk⟩)))

theorem syncRegister_refs_sub {s : DState} (h : DealerInv s) (callee : SessKey) (req : Nat) (proc m invoke : String)
    (disclose fwd wampURI : Bool) (k : SessKey)
    (hr : (syncRegister s callee req proc m invoke disclose fwd wampURI).st.refs k) : s.refs k ∨ k = callee := by
  obtain ⟨_, _, _, hst⟩ := syncRegister_st s callee req proc m invoke disclose fwd wampURI
  rcases hr with ⟨id, hc⟩ | ⟨c, hc, he⟩ | ⟨v, hv, he⟩ | ⟨e, he, hk⟩
  · rcases syncRegister_callees h callee req proc m invoke disclose fwd wampURI id k hc with hc | rfl
    · exact Or.inl (Or.inl ⟨id, hc⟩)
    · exact Or.inr rfl
  · rw [hst] at hc
    exact Or.inl (Or.inr (Or.inl ⟨c, hc, he⟩))
  · rw [hst] at hv
    exact Or.inl (Or.inr (Or.inr (Or.inl ⟨v, hv, he⟩)))
  · have keys : ∀ e ∈ (syncRegister s callee req proc m invoke disclose fwd wampURI).st.d.index,
        (∃ e' ∈ s.d.index, e'.1 = e.1) ∨ e.1 = callee := by
      apply syncRegister_cases (P := fun o => ∀ e ∈ o.st.d.index, (∃ e' ∈ s.d.index, e'.1 = e.1) ∨ e.1 = callee)
      · intro _ e he; exact mem_idxAdd_key he
      · intro _ _ _ e he; exact .inl ⟨e, he, rfl⟩
      · intro _ _ _ _ _ e he; exact mem_idxAdd_key he
    rcases keys e he with ⟨e', he', hk'⟩ | hk'
    · exact Or.inl (Or.inr (Or.inr (Or.inr ⟨e', he', hk'.trans hk⟩)))
    · exact Or.inr (hk.symm.trans hk')

theorem syncUnregister_refs_sub {s : DState} (h : DealerInv s) (callee : SessKey) (req regId : Nat) (k : SessKey)
    (hr : (syncUnregister s callee req regId).st.refs k) : s.refs k := by
  obtain ⟨_, hinvs, hrel⟩ := syncUnregister_frame h callee req regId
  rcases hr with ⟨id, hc⟩ | ⟨c, hc, he⟩ | ⟨v, hv, he⟩ | ⟨e, he, hk⟩
  · exact Or.inl ⟨id, ((hrel id k).1 hc).1⟩
  · rw [syncUnregister_calls] at hc
    exact Or.inr (Or.inl ⟨c, hc, he⟩)
  · rw [hinvs] at hv
    exact Or.inr (Or.inr (Or.inl ⟨v, hv, he⟩))
  · obtain ⟨_, hst⟩ := syncUnregister_st s callee req regId
    rw [hst] at he
    obtain ⟨e', he', hk'⟩ := mem_idxDel_key he
    exact Or.inr (Or.inr (Or.inr ⟨e', he', hk'.trans hk⟩))

theorem syncYield_sends_to (env : DEnv) (s : DState) (callee : SessKey) (req : Nat) (opts : Dict)
    (args : List WVal) (kw : Dict) (progress canRetry : Bool) :
    ∀ x ∈ (syncYield env s callee req opts args kw progress canRetry).sends, s.refs x.to ∨ x.to = callee :=
  fun x hx => (syncYield_sends _ _ _ _ _ _ _ _ _ x hx).to

theorem syncError_aborts (s : DState) (callee : SessKey) (req : Nat) (details : Dict) (err : String)
    (args : List WVal) (kw : Dict) : (syncError s callee req details err args kw).aborts = [] := by
  apply syncError_cases (P := fun o => o.aborts = []) <;> (intros; rfl)

theorem syncCancel_aborts (env : DEnv) (s : DState) (caller : SessKey) (req : Nat) (mode reason : String)
    (errArgs : List WVal) : (syncCancel env s caller req mode reason errArgs).aborts = [] := by
  apply syncCancel_cases (P := fun o => o.aborts = [])
  · rfl
  · intro i v _ _ _ _
    exact cancelOut_cases (P := fun o => o.aborts = []) rfl fun _ _ => rfl

theorem syncYield_aborts (env : DEnv) (s : DState) (callee : SessKey) (req : Nat) (opts : Dict)
    (args : List WVal) (kw : Dict) (progress canRetry : Bool) :
    ∀ k ∈ (syncYield env s callee req opts args kw progress canRetry).aborts, k = callee := by
  apply syncYield_cases (P := fun o => ∀ k ∈ o.aborts, k = callee)
  case calleeBad => intro v _ _ _ _ k hk; exact List.mem_singleton.1 hk
  case giveup =>
    intro v _ _ _ _ _ _ _ k hk
    rw [show _ = [] from syncCancel_aborts ..] at hk
    cases hk
  all_goals intros; contradiction

theorem syncCall_aborts (env : DEnv) (s : DState) (caller : SessKey) (req : Nat) (opts : Dict) (proc : String)
    (args : List WVal) (kw : Dict) (rnd : Nat) :
    ∀ k ∈ (syncCall env s caller req opts proc args kw rnd).aborts, k = caller := by
  -- `syncCall_cases` needs the invariant: the branches of `syncCall_eq` are walked instead
  rw [syncCall_eq]
  split
  · split
    · simp
    · split
      · simp [progressAbort]
      · unfold laterChunk
        unfold dispatchL
        dsimp only
        split
        · rw [syncError_aborts]; simp
        · simp
  · split
    · simp
    · split
      · simp
      · split
        · simp [progressAbort]
        · split
          · simp
          · rw [firstChunk_eq]
            split
            · simp
            · simp
            · unfold dispatch
              split
              · rw [syncError_aborts]; simp
              · simp

theorem syncRegister_aborts (s : DState) (callee : SessKey) (req : Nat) (proc m invoke : String)
    (disclose fwd wampURI : Bool) : (syncRegister s callee req proc m invoke disclose fwd wampURI).aborts = [] := by
  apply syncRegister_cases (P := fun o => o.aborts = []) <;> (intros; rfl)

theorem syncUnregister_aborts (s : DState) (callee : SessKey) (req regId : Nat) :
    (syncUnregister s callee req regId).aborts = [] := by
  apply syncUnregister_cases (P := fun o => o.aborts = []) <;> (intros; rfl)

theorem syncRemoveSession_refs_sub {env : DEnv} {s : DState} (h : DealerInv s) (k k' : SessKey)
    (hr : (syncRemoveSession env s k).st.refs k') : s.refs k' ∧ k' ≠ k := by
  obtain ⟨_, hinvs, hrel⟩ := syncRemoveSession_frame (env := env) h k
  rcases hr with ⟨id, hc⟩ | ⟨c, hc, he⟩ | ⟨v, hv, he⟩ | ⟨e, he, hk⟩
  · have := (hrel id k').1 hc
    exact ⟨Or.inl ⟨id, this.1⟩, this.2⟩
  · obtain ⟨h1, h2, _⟩ := syncRemoveSession_calls h k c hc
    exact ⟨Or.inr (Or.inl ⟨c, h1, he⟩), he ▸ h2⟩
  · obtain ⟨w, hw, hws⟩ := hinvs v hv
    simp only [Invk.shapeC, Prod.mk.injEq] at hws
    exact ⟨Or.inr (Or.inr (Or.inl ⟨w, hw, hws.2.2.1.trans he⟩)), he ▸ syncRemoveSession_no_inv h k v hv⟩
  · obtain ⟨_, _, hrr, _⟩ := removeRegs_all h k
    have hix : (syncRemoveSession env s k).st.d.index = idxDrop s.d.index k := by
      rw [(syncRemoveSession_shrinks env s k).index, hrr]
    rw [hix] at he
    have := mem_idxDrop_key he
    exact ⟨Or.inr (Or.inr (Or.inr ⟨e, this.1, hk⟩)), hk ▸ this.2⟩

theorem syncRemoveSession_sends_to {env : DEnv} {s : DState} (h : DealerInv s) (k : SessKey) :
    ∀ x ∈ (syncRemoveSession env s k).sends, s.refs x.to := by
  intro x hx
  rw [syncRemoveSession_sends h] at hx
  rcases List.mem_map.1 hx with ⟨v, hv, rfl⟩
  exact Or.inr (Or.inl ⟨v.callId, (h.call.inv_call (List.mem_filter.1 hv).1).1, rfl⟩)

theorem syncRemoveSession_aborts (env : DEnv) (s : DState) (k : SessKey) : (syncRemoveSession env s k).aborts = [] := by
  unfold syncRemoveSession
  rfl

/-- the messages that put their sender into a table where only clients may stand: the callers of pending calls, the
    subscribers -/
def Msg.clientOnly : Msg → Bool
  | .call .. | .subscribe .. => true
  | _ => false

section
variable {s : DState} {k : SessKey} {m : Msg} {o : DOut}

theorem DAct.aborts (st : DAct s k m o) : ∀ j ∈ o.aborts, j = k := by
  have none : ∀ {o : DOut}, o.aborts = [] → ∀ j ∈ o.aborts, j = k := fun h _ hj => nomatch h ▸ hj
  cases st with
  | register => exact none (syncRegister_aborts ..)
  | unregister => exact none (syncUnregister_aborts ..)
  | call => exact syncCall_aborts _ _ _ _ _ _ _ _ _
  | cancel => exact none (syncCancel_aborts ..)
  | error => exact none (syncError_aborts ..)

theorem DAct.sends (st : DAct s k m o) : ∀ x ∈ o.sends, DSend s k true false x := by
  cases st with
  | register => exact fun x hx => (syncRegister_sends _ _ _ _ _ _ _ _ _ x hx).weaken
  | unregister => exact fun x hx => (syncUnregister_sends _ _ _ _ x hx).weaken
  | call => exact syncCall_sends _ _ _ _ _ _ _ _ _
  | cancel => exact fun x hx => (syncCancel_sends _ _ _ _ _ _ _ x hx).dsend
  | error => exact fun x hx => (syncError_sends _ _ _ _ _ _ _ x hx).dsend

/-- the only session a dealer action adds to the tables, the only new caller (if `cl`), the only recipient outside the
    tables is the acting session -/
structure Owned (s : DState) (k : SessKey) (cl : Prop) (o : DOut) : Prop where
  refs : ∀ j, o.st.refs j → s.refs j ∨ j = k
  calls : ∀ c ∈ o.st.d.calls, c ∈ s.d.calls ∨ (c.sess = k ∧ cl)
  sends : ∀ x ∈ o.sends, s.refs x.to ∨ x.to = k

theorem DAct.owned (h : DealerInv s) (st : DAct s k m o) : Owned s k (m.clientOnly = true) o := by
  have hx := st.sends
  have sub {cl : Prop} (hs : Shrinks s o.st) : Owned s k cl o :=
    ⟨fun j hj => .inl (hs.refs j hj), fun c hc => .inl (hs.calls c hc), fun x hx' => (hx x hx').to⟩
  cases st with
  | register =>
    exact ⟨syncRegister_refs_sub h _ _ _ _ _ _ _ _, fun c hc => .inl (syncRegister_calls .. ▸ hc), fun x hx' => (hx x hx').to⟩
  | unregister req regId =>
    exact ⟨fun j hj => .inl (syncUnregister_refs_sub h _ _ _ j hj), fun c hc => .inl (syncUnregister_calls .. ▸ hc),
      fun x hx' => (hx x hx').to⟩
  | call =>
    exact ⟨syncCall_refs_sub h _ _ _ _ _ _ _,
      fun c hc => (syncCall_calls_sub h _ _ _ _ _ _ _ c hc).imp_right fun e : c = _ => ⟨e ▸ rfl, rfl⟩,
      fun x hx' => (hx x hx').to⟩
  | cancel => exact sub (syncCancel_shrinks ..)
  | error => exact sub (syncError_shrinks ..)

end

end Nexus.L2
