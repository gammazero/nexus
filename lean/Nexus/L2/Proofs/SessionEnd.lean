/-
  The end of a session takes effect by the end of the step.

  An input that ends session `k` (lost transport, GOODBYE, protocol violation) only queues the departure
  (`Task.leave`); `drain` runs it.  `drain_gone`: when the step is over (and no fuel marker was set) `k` is
  attached no more — by the `drain` induction principle (`drain_quiescent`) with the property
  "k's handler is not in the retry loop, and while k is attached it is marked as ending and a `leave k` is
  pending" (`Leaving`); once no task is pending, k cannot be attached.  `step_gone`: nor is it referenced anywhere.
-/
import Nexus.L2.Proofs.ControlInv
import Nexus.L2.Proofs.LeaveTables

namespace Nexus.L2.WpC
open Nexus.L2 Nexus.L2.Realm Nexus.Gen.N

/-- the messages the router does not expect from a client (every type but PUBLISH, YIELD, CALL, CANCEL,
    SUBSCRIBE, REGISTER, UNSUBSCRIBE, UNREGISTER, GOODBYE, and ERROR answering an INVOCATION) -/
def isViolation : Msg → Bool
  | .publish .. | .yield .. | .call .. | .cancel .. | .subscribe .. | .register .. | .unsubscribe ..
  | .unregister .. | .goodbye .. => false
  | .error typ .. => typ != tINVOCATION
  | _ => true

/-- a message that makes the handler of its sender exit: GOODBYE or a protocol violation -/
def endsSession : Msg → Bool
  | .goodbye .. => true
  | m => isViolation m

theorem endsSession_cases {m : Msg} (h : endsSession m = true) :
    (∃ d reason, m = .goodbye d reason) ∨ isViolation m = true := by
  cases m
  case goodbye d reason => exact Or.inl ⟨d, reason, rfl⟩
  all_goals exact Or.inr h

/-- the departure of `k` is under way -/
def Leaving (k : SessKey) (r : Realm) : Prop :=
  r.busy k = false ∧ (r.isClient k → k ∈ r.ending ∧ ∃ mode, Task.leave k mode ∈ r.tasks)

/-- a task run keeps `Leaving k`: the `hstep` of `drain_quiescent` and `step_quiescent` -/
theorem leaving_step {k : SessKey} (hkm : k ≠ metaKey) {r : Realm} {t : Task} {ts : List Task}
    (ht : r.tasks = t :: ts) (hc : Ctl r) (hl : Leaving k r) : Leaving k (runTask { r with tasks := ts } t) := by
  obtain ⟨hc0, hto⟩ := hc.2.tail ht
  obtain ⟨f1, f2, f3, xs, hxs, pxs⟩ := taskAct_frame (runTask_act hc0.safe t hto)
  have hb0 : ({ r with tasks := ts } : Realm).busy k = false := hl.1
  refine ⟨Bool.eq_false_iff.mpr fun hb' => ?_, fun hk' => ?_⟩
  · -- no task makes the handler of an ending (or departed) session busy
    obtain ⟨x, hx, hxk⟩ := busy_iff.mp hb'
    rcases List.mem_append.mp (hxs ▸ hx) with hx | hx
    · exact busy_false_iff.mp hb0 x hx hxk
    · obtain ⟨_, _, _, h1 | h1⟩ := pxs x hx
      · rw [hxk] at h1
        exact absurd (List.contains_iff_mem.mpr (hl.2 h1.1).1) (by rw [h1.2.1]; exact Bool.false_ne_true)
      · exact hkm (hxk ▸ h1.1)
  · have hk0 : r.isClient k := f1 k hk'
    obtain ⟨hen, mode, hmem⟩ := hl.2 hk0
    rw [ht] at hmem
    rcases List.mem_cons.mp hmem with hmem | hmem
    · -- the head task is the departure of k itself: it runs, k is no client afterwards
      exfalso
      subst hmem
      rw [runTask_leave, hb0] at hk'
      obtain ⟨s, hf⟩ := isClient_find? (r := { r with tasks := ts }) hk0
      have lc := leave_ctl mode hf
      obtain ⟨c', hc', e'⟩ := hk'
      rw [if_neg Bool.false_ne_true, lc.clients] at hc'
      have := (List.mem_filter.mp hc').2
      simp [e'] at this
    · exact ⟨f3 k hk' hen, mode, f2 _ hmem⟩

theorem Leaving.gone {k : SessKey} {r : Realm} (h : Leaving k r) (ht : r.tasks = []) : ¬ r.isClient k := fun hk => by
  obtain ⟨_, mode, hmem⟩ := h.2 hk
  rw [ht] at hmem
  cases hmem

theorem drain_gone {k : SessKey} (hkm : k ≠ metaKey) (r : Realm) (hi : RealmInv r) (hc : CtlInv r) (hl : Leaving k r)
    (hp : (drain taskFuel r).panic = none) :
    ¬ (drain taskFuel r).isClient k ∧ (drain taskFuel r).tasks = [] ∧ RealmInv (drain taskFuel r) ∧
    CtlInv (drain taskFuel r) ∧ (drain taskFuel r).busy k = false := by
  obtain ⟨g1, g2, _, g4⟩ := drain_quiescent (Leaving k) (leaving_step hkm)
    taskFuel r hi hc hl hp
  exact ⟨g1.gone g2, g2, g4.1.1, g4.2, g1.1⟩

theorem gone_of_not_client {r : Realm} (hi : RealmInv r) (hc : CtlInv r) {k : SessKey} (hkm : k ≠ metaKey)
    (hk : ¬ r.isClient k) :
    Gone r k ∧ k ∉ r.ending ∧ (∀ d ∈ r.deferred, d.1 ≠ k) ∧ (∀ e ∈ r.inbox, e.1 ≠ k) ∧ (∀ x ∈ r.retries, x.callee ≠ k) ∧
    r.busy k = false := by
  have hretr : ∀ x ∈ r.retries, x.callee ≠ k := by
    intro x hx e
    rcases hi.retr x hx with h | h
    · exact hkm (e ▸ h)
    · exact hk (e ▸ h)
  have hbusy : r.busy k = false := busy_false_iff.mpr hretr
  refine ⟨⟨fun h => hk (hi.bmem k h), fun e he ek => hk (ek ▸ hi.bmem e.1 (hi.binv.index_mem he)), fun h => ?_⟩,
    fun h => hk (hc.ending k h), ?_, ?_, hretr, hbusy⟩
  · rcases hi.dref k h with h | h
    · exact hkm h
    · exact hk h
  · intro d hd e
    have := hc.defBusy d hd
    rw [e, hbusy] at this
    cases this
  · intro e he ek
    obtain ⟨⟨c, hcm, hck, _⟩, _⟩ := hi.inb e he
    exact hk ⟨c, hcm, hck.trans ek⟩

theorem stepOp_violation {r : Realm} {k : SessKey} {s : Session} (m : Msg)
    (hf : r.clients.find? (fun c => c.key == k) = some s) (hm : isViolation m = true)
    (he : r.ending.contains k = false) (hb : r.busy k = false) (hg : (authzGate r s m).1 = true) :
    ∃ text, r.stepOp (.msg k m) = r.ended k (.violation text) := by
  have hk : s.key = k := (find?_key hf).2
  rw [stepOp_msg_handled m hf he hb, handleMsg_allowed hg, ← hk]
  cases m
  case error typ a b c d e =>
    refine ⟨"invalid ERROR", ?_⟩
    have : (typ != tINVOCATION) = true := hm
    show (if typ != tINVOCATION then _ else _) = _
    rw [if_pos this]; rfl
  case publish | yield | call | cancel | subscribe | register | unsubscribe | unregister | goodbye => cases hm
  all_goals exact ⟨"unexpected message", rfl⟩

/-- the inputs that end session `k`: its transport is lost, or it sends GOODBYE or a protocol violation that
    the authorization gate lets through -/
def EndsInput (r : Realm) (k : SessKey) (op : Op) : Prop :=
  op = .drop k ∨ ∃ m s, op = .msg k m ∧ r.clients.find? (fun c => c.key == k) = some s ∧ endsSession m = true ∧
    (authzGate r s m).1 = true

/-- `r0` is `r` after the GOODBYE, if the input is one, has been answered -/
theorem endsInput_stepOp {r : Realm} {k : SessKey} {op : Op} (h : EndsInput r k op) (hk : r.isClient k)
    (hb : r.busy k = false) (he : k ∉ r.ending) :
    ∃ r0 mode, SendFrame r r0 ∧ r0.tasks = r.tasks ∧
      r.stepOp op = r0.ended k mode ∧ ∀ ms, op ≠ .tick ms := by
  have hec : r.ending.contains k = false := by
    cases h' : r.ending.contains k
    · rfl
    · exact absurd (List.contains_iff_mem.mp h') he
  rcases h with rfl | ⟨m, s, rfl, hf, hm, hg⟩
  · refine ⟨r, .lost, SendFrame.refl r, rfl, ?_, fun ms e => by cases e⟩
    rw [stepOp_drop_attached hk, hec]
    rfl
  · rcases endsSession_cases hm with ⟨d, reason, rfl⟩ | hv
    · refine ⟨_, .lost, trySend_frame r ⟨k, .goodbye [] CloseGoodbyeAndOut⟩,
        trySend_tasks_of (dmetaTask_of_msg (by intro _ _ _ _ _ e; cases e)), ?_, fun ms e => by cases e⟩
      rw [stepOp_msg_handled _ hf hec hb, handleMsg_allowed hg, ← (find?_key hf).2]
      rfl
    · obtain ⟨text, e⟩ := stepOp_violation _ hf hv hec hb hg
      exact ⟨r, .violation text, SendFrame.refl r, rfl, e, fun ms e => by cases e⟩

theorem endsInput_leaving {r : Realm} {k : SessKey} {op : Op} (h : EndsInput r k op) (hk : r.isClient k)
    (hb : r.busy k = false) (he : k ∉ r.ending) : Leaving k (r.stepOp op) ∧ (∀ ms, op ≠ .tick ms) := by
  obtain ⟨r0, mode, hf, _, e, hnt⟩ := endsInput_stepOp h hk hb he
  rw [e]
  refine ⟨⟨?_, fun _ => ⟨List.mem_append_right _ (.head _), ended_leaves ..⟩⟩, hnt⟩
  exact (busy_congr hf.retries k).trans hb

theorem step_gone {r : Realm} (hi : RealmInv r) (hc : CtlInv r) {k : SessKey} (hk : r.isClient k)
    (hb : r.busy k = false) (he : k ∉ r.ending) {op : Op} (hop : EndsInput r k op)
    (hp : (r.step op).2.panic = none) :
    ¬ (r.step op).2.isClient k ∧ Gone (r.step op).2 k ∧ k ∉ (r.step op).2.ending ∧
    (∀ d ∈ (r.step op).2.deferred, d.1 ≠ k) ∧ (∀ e ∈ (r.step op).2.inbox, e.1 ≠ k) ∧
    (∀ x ∈ (r.step op).2.retries, x.callee ≠ k) ∧ (r.step op).2.tasks = [] ∧
    RealmInv (r.step op).2 ∧ CtlInv (r.step op).2 := by
  have hkm : k ≠ metaKey := hc.safe.client_ne hk
  obtain ⟨hl, hnt⟩ := endsInput_leaving hop hk hb he
  obtain ⟨g1, g2, g4⟩ := step_quiescent (Leaving k) (leaving_step hkm) (fun h => h)
    hi hc hnt hl hp
  obtain ⟨q1, q2, q3, q4, q5, _⟩ := gone_of_not_client g4.1.1 g4.2 hkm (g1.gone g2)
  exact ⟨g1.gone g2, q1, q2, q3, q4, q5, g2, g4.1.1, g4.2⟩

end Nexus.L2.WpC
