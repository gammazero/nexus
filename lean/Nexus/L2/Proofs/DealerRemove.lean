/-
  Session removal (`syncRemoveSession`): the registration loop, and the two loops over invocations and calls as
  sequences of moves (`cancelServed_spec`, `dropCalls_moves`), so that DealerInv is preserved.  Then the initial
  state, the step relation `DStep` (any `sync*` call with any arguments in any environment, or the expiry bookkeeping
  of a timer) with `DAct`, its steps that answer a message, `Reachable` and `Run`, and the absence of panics.
-/
import Nexus.L2.Proofs.DealerPres

namespace Nexus.L2
open Gen.N

theorem removeRegs_spec (k : SessKey) {n : Nat} : ∀ (ids : List Nat) (d : Dealer), RegsOk d.regs n → ids.Nodup →
    (∀ id ∈ ids, calleeRel d.regs id k) →
    ∃ regs' pubs, removeRegs d k ids = ({ d with regs := regs' }, pubs, none) ∧ RegsOk regs' n ∧
      ∀ id' c, calleeRel regs' id' c ↔ calleeRel d.regs id' c ∧ ¬ (c = k ∧ id' ∈ ids)
  | [], d, h, _, _ => ⟨d.regs, [], rfl, h, by simp⟩
  | id :: ids, d, h, hnd, hall => by
    rw [List.nodup_cons] at hnd
    obtain ⟨regs1, del, he, hok, hrel⟩ := delCalleeReg_some h (hall id (List.mem_cons_self ..))
    have hall1 : ∀ id' ∈ ids, calleeRel regs1 id' k := by
      intro id' hid'
      rw [hrel]
      exact ⟨hall id' (List.mem_cons_of_mem _ hid'), fun hc => hnd.1 (hc.2 ▸ hid')⟩
    obtain ⟨regs2, pubs, he2, hok2, hrel2⟩ := removeRegs_spec k ids { d with regs := regs1 } hok hnd.2 hall1
    have hx : ∃ pubs', removeRegs d k (id :: ids) = ({ d with regs := regs2 }, pubs', none) := by
      simp only [removeRegs, he, he2]; exact ⟨_, rfl⟩
    obtain ⟨pubs', hx⟩ := hx
    refine ⟨regs2, pubs', hx, hok2, fun id' c => ?_⟩
    rw [hrel2, hrel]
    simp only [List.mem_cons]
    constructor
    · rintro ⟨⟨hc, h1⟩, h2⟩
      exact ⟨hc, fun hx => hx.2.elim (fun hx2 => h1 ⟨hx.1, hx2⟩) (fun hx2 => h2 ⟨hx.1, hx2⟩)⟩
    · rintro ⟨hc, h1⟩
      exact ⟨⟨hc, fun hx => h1 ⟨hx.1, Or.inl hx.2⟩⟩, fun hx => h1 ⟨hx.1, Or.inr hx.2⟩⟩

/-- the ERROR a caller gets when the callee serving its call goes away -/
def goneErr (c : ReqId) : Send := callErr c [] ErrCanceled [.str "<text>"] []

/-- `invk.canceled = false` in `syncRemoveSession` -/
def uncancel (s : DState) (cur : Invk) : DState := { s with d := s.d.setInv { cur with canceled := false } }

theorem cancelServed_cons_skip {env : DEnv} {s : DState} {k : SessKey} {invk : Invk} (rest : List Invk)
    (hcond : (invk.callee != k || !s.d.calls.contains invk.callId) = true) :
    cancelServed env s k (invk :: rest) = cancelServed env s k rest := by
  rw [cancelServed, if_pos hcond]

/-- the state in which the `cancelServed` loop cancels the call of the entry `invk`: the timer stopped and the stored
    invocation, if there is one, no longer marked cancelled -/
def uncancelServed (s : DState) (invk : Invk) : DState :=
  match (s.cancelTimer invk.timer).d.findInv invk.id with
  | some cur => uncancel (s.cancelTimer invk.timer) cur
  | none => s.cancelTimer invk.timer

theorem cancelServed_cons_hit {env : DEnv} {s : DState} {k : SessKey} {invk : Invk} (rest : List Invk)
    (hcond : ¬ (invk.callee != k || !s.d.calls.contains invk.callId) = true) :
    cancelServed env s k (invk :: rest) =
      ((cancelServed env (syncCancel env (uncancelServed s invk) invk.callId.sess invk.callId.req
          CancelModeSkip ErrCanceled [.str "<text>"]).st k rest).1,
       (syncCancel env (uncancelServed s invk) invk.callId.sess invk.callId.req
          CancelModeSkip ErrCanceled [.str "<text>"]).sends ++
       (cancelServed env (syncCancel env (uncancelServed s invk) invk.callId.sess invk.callId.req
          CancelModeSkip ErrCanceled [.str "<text>"]).st k rest).2) := by
  rw [cancelServed, if_neg hcond]
  rfl

/-- one iteration of `dropCalls` on a call of the departing session -/
def dropOne (s : DState) (c : ReqId) : DState :=
  let d := s.d.delCall c
  match d.byCall? c with
  | some iid =>
    let s := match d.findInv iid with
      | some invk => s.cancelTimer invk.timer
      | none => s
    { s with d := (d.delByCall c).delInv iid }
  | none => { s with d := d }

theorem dropCalls_cons_skip {s : DState} {k : SessKey} {c : ReqId} (rest : List ReqId) (h : (c.sess != k) = true) :
    dropCalls s k (c :: rest) = dropCalls s k rest := by
  rw [dropCalls, if_pos h]

theorem dropCalls_cons_hit {s : DState} {k : SessKey} {c : ReqId} (rest : List ReqId) (h : ¬ (c.sess != k) = true) :
    dropCalls s k (c :: rest) = dropCalls (dropOne s c) k rest := by
  rw [dropCalls, if_neg h]
  rfl

theorem dropOne_calls (s : DState) (c : ReqId) : (dropOne s c).d.calls = s.d.calls.filter (· != c) := by
  unfold dropOne
  dsimp only
  split <;> rfl

/-- the calls the loop leaves: those it does not meet and those of other sessions; whatever the state -/
theorem mem_dropCalls_calls (k : SessKey) : ∀ (l : List ReqId) (s : DState) (c : ReqId),
    c ∈ (dropCalls s k l).d.calls ↔ c ∈ s.d.calls ∧ (c ∈ l → c.sess ≠ k)
  | [], _, _ => ⟨fun h => ⟨h, fun hl => nomatch hl⟩, fun h => h.1⟩
  | x :: rest, s, c => by
    by_cases hx : (x.sess != k) = true
    · rw [dropCalls_cons_skip rest hx, mem_dropCalls_calls k rest s c, List.mem_cons]
      have hxk : x.sess ≠ k := by simpa using hx
      exact and_congr_right fun _ => ⟨fun h hl => hl.elim (fun e => e ▸ hxk) h, fun h hl => h (.inr hl)⟩
    · rw [dropCalls_cons_hit rest hx, mem_dropCalls_calls k rest _ c, dropOne_calls, List.mem_filter, List.mem_cons]
      have hxk : x.sess = k := by simpa using hx
      constructor
      · rintro ⟨⟨hc, hne⟩, h⟩
        exact ⟨hc, fun hl => hl.elim (fun e => absurd e (by simpa using hne)) h⟩
      · rintro ⟨hc, h⟩
        have hne : c ≠ x := fun e => h (.inl e) (e ▸ hxk)
        exact ⟨⟨hc, by simpa using hne⟩, fun hl => h (.inr hl)⟩

theorem dropOne_pending {s : DState} (h : DealerInv s) {c : ReqId} (hc : c ∈ s.d.calls) :
    ∃ i v, v ∈ s.d.invs ∧ v.id = i ∧ v.callId = c ∧
      dropOne s c = { s.cancelTimer v.timer with d := s.d.forget c i } := by
  obtain ⟨i, v, hb, hf, hv, hvi, hvc, _⟩ := h.call.lookup hc
  refine ⟨i, v, hv, hvi, hvc, ?_⟩
  unfold dropOne
  have hb' : (s.d.delCall c).byCall? c = some i := hb
  have hf' : (s.d.delCall c).findInv i = some v := hf
  simp only [hb', hf']
  rfl

theorem dropOne_moves {s : DState} (h : DealerInv s) (c : ReqId) : Moves s (dropOne s c) := by
  by_cases hc : c ∈ s.d.calls
  · obtain ⟨i, v, hv, hvi, hvc, he⟩ := dropOne_pending h hc
    rw [he, ← hvi, ← hvc]
    exact .single (.endCall hv)
  · have hb : (s.d.delCall c).byCall? c = none := h.call.byCall?_none hc
    unfold dropOne
    simp only [hb]
    rw [delCall_eq_self hc]
    exact .refl s

theorem dropCalls_moves (k : SessKey) : ∀ (l : List ReqId) (s : DState), DealerInv s → Moves s (dropCalls s k l)
  | [], s, _ => .refl s
  | c :: rest, s, h => by
    by_cases hck : (c.sess != k) = true
    · rw [dropCalls_cons_skip rest hck]; exact dropCalls_moves k rest s h
    · rw [dropCalls_cons_hit rest hck]
      exact (dropOne_moves h c).trans (dropCalls_moves k rest _ ((dropOne_moves h c).inv h))

/-- the departing callee's invocation: un-cancelling it and cancelling it again (mode `skip`) leaves it cancelled -/
theorem cancelMark_uncancel (s : DState) (cur : Invk) :
    cancelMark (uncancel (s.cancelTimer cur.timer) cur) { cur with canceled := false } = cancelMark s cur := by
  rw [← cancelMark_stopped s cur]
  unfold cancelMark uncancel
  simp only [setInv_setInv _ (a := { cur with canceled := false }) (b := { cur with canceled := true }) rfl]

/-- one iteration of the `cancelServed` loop on the stored invocation `cur`: the call is cancelled (mode `skip`, so
    without waiting for the callee) and ends; the caller gets the ERROR -/
theorem syncCancel_gone {env : DEnv} {s : DState} (h : DealerInv s) {cur : Invk} (hcur : cur ∈ s.d.invs) :
    syncCancel env (uncancel (s.cancelTimer cur.timer) cur) cur.callId.sess cur.callId.req CancelModeSkip
        ErrCanceled [.str "<text>"] =
      { st := { cancelMark s cur with d := (cancelMark s cur).d.forget cur.callId cur.id }
        sends := [goneErr cur.callId] } := by
  have hcur' : cur ∈ (s.cancelTimer cur.timer).d.invs := by rw [cancelTimer_d]; exact hcur
  have h2 : DealerInv (uncancel (s.cancelTimer cur.timer) cur) :=
    (h.cancelTimer cur.timer).setInv (v' := { cur with canceled := false }) hcur' rfl rfl
  have hm : ({ cur with canceled := false } : Invk) ∈ (uncancel (s.cancelTimer cur.timer) cur).d.invs :=
    mem_setInv_self hcur' rfl
  rw [syncCancel_live (env := env) (c := cur.callId) h2 hm rfl rfl, if_neg (by simp [canInterrupt])]
  rw [cancelMark_uncancel]
  rfl

/-- The loop runs over a copy `l` of the invocation table taken before it starts: an entry `v` whose call is still
    pending stands for the stored invocation `cur` with its id, call and recorded timer.  The callers of the calls
    served by `k` get the ERROR, those calls go, and the state changes by moves only. -/
theorem cancelServed_spec (env : DEnv) (k : SessKey) : ∀ (l : List Invk) (s : DState), DealerInv s →
    (l.map (·.callId)).Nodup →
    (∀ v ∈ l, v.callId ∈ s.d.calls → ∃ cur ∈ s.d.invs, cur.id = v.id ∧ cur.callId = v.callId ∧ cur.timer = v.timer) →
    (cancelServed env s k l).2 =
        (l.filter (fun v => v.callee == k && s.d.calls.contains v.callId)).map (fun v => goneErr v.callId) ∧
      (∀ c, c ∈ (cancelServed env s k l).1.d.calls ↔
        c ∈ s.d.calls ∧ ∀ v ∈ l, v.callee = k → v.callId ≠ c) ∧
      Moves s (cancelServed env s k l).1
  | [], s, _, _, _ => by simp [cancelServed, Moves.refl]
  | invk :: rest, s, h, hnd, hcur => by
    rw [List.map_cons, List.nodup_cons] at hnd
    cases hcond' : invk.callee == k && s.d.calls.contains invk.callId
    · have hcond : (invk.callee != k || !s.d.calls.contains invk.callId) = true := by
        show (!(invk.callee == k) || !_) = true
        rw [← Bool.not_and, hcond']; rfl
      rw [cancelServed_cons_skip rest hcond]
      obtain ⟨ih1, ih2, ih3⟩ := cancelServed_spec env k rest s h hnd.2 (fun v hv => hcur v (List.mem_cons_of_mem _ hv))
      refine ⟨?_, ?_, ih3⟩
      · rw [ih1, List.filter_cons, hcond']; rfl
      · intro c
        rw [ih2]
        constructor
        · rintro ⟨hc, hall⟩
          refine ⟨hc, fun v hv hk => ?_⟩
          rcases List.mem_cons.1 hv with rfl | hv
          · intro he
            have : v.callId ∈ s.d.calls := he ▸ hc
            simp [hk, this] at hcond'
          · exact hall v hv hk
        · rintro ⟨hc, hall⟩
          exact ⟨hc, fun v hv => hall v (List.mem_cons_of_mem _ hv)⟩
    · have hcond : ¬ (invk.callee != k || !s.d.calls.contains invk.callId) = true := by
        show ¬ (!(invk.callee == k) || !_) = true
        rw [← Bool.not_and, hcond']; nofun
      have hk : invk.callee = k := eq_of_beq (Bool.and_eq_true _ _ ▸ hcond').1
      have hpend : invk.callId ∈ s.d.calls := contains_calls.1 (Bool.and_eq_true _ _ ▸ hcond').2
      obtain ⟨cur, hcm, hcid, hccall, hctm⟩ := hcur invk (List.mem_cons_self ..) hpend
      have hfi : uncancelServed s invk = uncancel (s.cancelTimer invk.timer) cur := by
        unfold uncancelServed
        rw [cancelTimer_d, (findInv_eq_some h.call.invIds).2 ⟨hcm, hcid⟩]
      rw [cancelServed_cons_hit rest hcond, hfi, ← hctm, ← hccall, syncCancel_gone h hcm]
      have hstep : Moves s { cancelMark s cur with d := (cancelMark s cur).d.forget cur.callId cur.id } :=
        .cancelEnd hcm
      -- the other stored invocations stay as they are
      have hcur' : ∀ v ∈ rest, v.callId ∈ ((cancelMark s cur).d.forget cur.callId cur.id).calls →
          ∃ cur' ∈ ((cancelMark s cur).d.forget cur.callId cur.id).invs,
            cur'.id = v.id ∧ cur'.callId = v.callId ∧ cur'.timer = v.timer := by
        intro v hv hvc
        simp only [forget_calls, cancelMark_calls, List.mem_filter, bne_iff_ne, ne_eq] at hvc
        obtain ⟨w, hw, hid', hcall', htm'⟩ := hcur v (List.mem_cons_of_mem _ hv) hvc.1
        have hne : w.id ≠ cur.id := fun he =>
          hvc.2 (hcall'.symm.trans (congrArg Invk.callId (nodup_map_inj h.call.invIds hw hcm he)))
        refine ⟨w, ?_, hid', hcall', htm'⟩
        simp only [forget_invs, cancelMark_invs, List.mem_filter, bne_iff_ne, ne_eq]
        exact ⟨mem_setInv.2 (Or.inl ⟨hw, hne⟩), hne⟩
      obtain ⟨ih1, ih2, ih3⟩ := cancelServed_spec env k rest _ (hstep.inv h) hnd.2 hcur'
      refine ⟨?_, ?_, hstep.trans ih3⟩
      · simp only
        rw [ih1, List.filter_cons, hcond', if_pos rfl, List.map_cons, hccall]
        rw [List.singleton_append]
        congr 2
        apply List.filter_congr
        intro v hv
        congr 1
        have hne : v.callId ≠ invk.callId := fun he => hnd.1 (List.mem_map.2 ⟨v, hv, he⟩)
        simp [hne]
      · intro c
        simp only
        rw [ih2]
        simp only [forget_calls, cancelMark_calls, List.mem_filter, bne_iff_ne, ne_eq, List.mem_cons, forall_eq_or_imp,
          hccall]
        constructor
        · rintro ⟨⟨hc, hne⟩, hall⟩
          exact ⟨hc, fun _ he => hne he.symm, hall⟩
        · rintro ⟨hc, hhead, hall⟩
          exact ⟨⟨hc, fun he => hhead hk he.symm⟩, hall⟩

theorem removeRegs_all {s : DState} (h : DealerInv s) (k : SessKey) :
    ∃ regs' pubs, removeRegs s.d k ((idxGet s.d.index k).getD []) = ({ s.d with regs := regs' }, pubs, none) ∧
      RegInv { s.d with regs := regs', index := idxDrop s.d.index k } ∧
      ∀ id c, calleeRel regs' id c ↔ calleeRel s.d.regs id c ∧ c ≠ k := by
  obtain ⟨regs', pubs, he, hok, hrel⟩ := removeRegs_spec k (idxIds s.d.index k) s.d h.reg.regs
    (idxIds_nodup h.reg.ix k) (fun id hid => (h.reg.ixIff k id).1 hid)
  have hrel' : ∀ id c, calleeRel regs' id c ↔ calleeRel s.d.regs id c ∧ c ≠ k := by
    intro id c
    rw [hrel]
    constructor
    · rintro ⟨hc, hne⟩
      exact ⟨hc, fun hck => hne ⟨hck, (h.reg.ixIff k id).2 (hck ▸ hc)⟩⟩
    · rintro ⟨hc, hne⟩
      exact ⟨hc, fun hx => hne hx.1⟩
  refine ⟨regs', pubs, he, ⟨hok, idxDrop_ok h.reg.ix k, fun k' id => ?_⟩, hrel'⟩
  show id ∈ idxIds (idxDrop s.d.index k) k' ↔ calleeRel regs' id k'
  rw [hrel', mem_idxIds_idxDrop h.reg.ix, h.reg.ixIff]

/-- The state `s1` in which the invocation/call loops of `syncRemoveSession` start: `s` without the registrations and
    the index entry of `k`. -/
theorem removeSession_mid {env : DEnv} {s : DState} (h : DealerInv s) (k : SessKey) :
    ∃ (s1 : DState) (regs' : List Reg), s1 = { s with d := { s.d with regs := regs', index := idxDrop s.d.index k } } ∧
      DealerInv s1 ∧ (∀ id c, calleeRel regs' id c ↔ calleeRel s.d.regs id c ∧ c ≠ k) ∧
      syncRemoveSession env s k =
        { st := dropCalls (cancelServed env s1 k s.d.invs).1 k (cancelServed env s1 k s.d.invs).1.d.calls
          sends := (cancelServed env s1 k s.d.invs).2
          metaPubs := (removeRegs s.d k ((idxGet s.d.index k).getD [])).2.1
          panic := none } := by
  obtain ⟨regs', pubs, he, hreg, hrel⟩ := removeRegs_all h k
  refine ⟨_, regs', rfl, h.withRegs hreg rfl rfl rfl, hrel, ?_⟩
  unfold syncRemoveSession
  simp only [he]

/-- Session removal: the registrations of `k` go (state `s1`), then only moves. -/
theorem syncRemoveSession_moves {env : DEnv} {s : DState} (h : DealerInv s) (k : SessKey) :
    ∃ s1 : DState, DealerInv s1 ∧ s1.d.invs = s.d.invs ∧ s1.timers = s.timers ∧
      Moves s1 (syncRemoveSession env s k).st := by
  obtain ⟨s1, _, rfl, h1, _, he⟩ := removeSession_mid (env := env) h k
  refine ⟨_, h1, rfl, rfl, ?_⟩
  rw [he]
  have b := (cancelServed_spec env k s.d.invs _ h1 h.call.invCalls (fun u hu _ => ⟨u, hu, rfl, rfl, rfl⟩)).2.2
  exact b.trans (dropCalls_moves k _ _ (b.inv h1))

theorem syncRemoveSession_inv {env : DEnv} {s : DState} (h : DealerInv s) (k : SessKey) :
    DealerInv (syncRemoveSession env s k).st ∧ (syncRemoveSession env s k).panic = none := by
  obtain ⟨s1, h1, _, _, m⟩ := syncRemoveSession_moves (env := env) h k
  obtain ⟨_, _, _, _, _, he⟩ := removeSession_mid (env := env) h k
  exact ⟨m.inv h1, by rw [he]⟩

theorem DealerInv.init (strict allowDisclose : Bool) :
    DealerInv { d := { strict := strict, allowDisclose := allowDisclose } } := by
  refine ⟨⟨⟨by simp, by simp, by simp, by simp, by simp, by simp⟩, idxOk_nil, ?_⟩,
    ⟨by simp, by simp, by simp, by simp, by simp, by simp, by simp, by simp⟩,
    ⟨by simp, by simp, by simp, by simp, by simp, by simp⟩⟩
  intro k id
  simp [idxIds, idxGet, calleeRel]

theorem DealerInv.filterTimers {s : DState} (h : DealerInv s) (p : Timer → Bool) :
    DealerInv { s with timers := s.timers.filter p } := by
  refine ⟨h.reg, h.call, ⟨h.aux.gen, nodup_map_filter _ _ h.aux.timerIds,
    fun t ht => h.aux.timerRange t (List.mem_filter.1 ht).1, ?_, h.aux.invTimerInj,
    fun t ht hc => h.aux.timerOwned t (List.mem_filter.1 ht).1 hc⟩⟩
  intro v hv tid hvt
  obtain ⟨h1, h2, h3⟩ := h.aux.invTimer v hv tid hvt
  exact ⟨h1, h2, fun t ht => h3 t (List.mem_filter.1 ht).1⟩

/-- One atomic action of the dealer goroutine: any `sync*` function with any arguments in any
    environment (session table, queue-full predicate, time), and the removal of timers from the
    timer table (expiry bookkeeping). `invoke` of a REGISTER is one of the policies `dealer.register`
    lets through. -/
inductive DStep (s : DState) : DOut → Prop
  | register (callee : SessKey) (req : Nat) (proc «match» invoke : String) (disclose fwd wampURI : Bool)
      (hk : invoke ∈ Realm.knownPolicies) :
      DStep s (syncRegister s callee req proc «match» invoke disclose fwd wampURI)
  | unregister (callee : SessKey) (req regId : Nat) : DStep s (syncUnregister s callee req regId)
  | call (env : DEnv) (caller : SessKey) (req : Nat) (opts : Dict) (proc : String) (args : List WVal) (kw : Dict)
      (rnd : Nat) : DStep s (syncCall env s caller req opts proc args kw rnd)
  | cancel (env : DEnv) (caller : SessKey) (req : Nat) (mode reason : String) (errArgs : List WVal) :
      DStep s (syncCancel env s caller req mode reason errArgs)
  | yield (env : DEnv) (callee : SessKey) (req : Nat) (opts : Dict) (args : List WVal) (kw : Dict)
      (progress canRetry : Bool) : DStep s (syncYield env s callee req opts args kw progress canRetry)
  | error (callee : SessKey) (req : Nat) (details : Dict) (err : String) (args : List WVal) (kw : Dict) :
      DStep s (syncError s callee req details err args kw)
  | removeSession (env : DEnv) (k : SessKey) : DStep s (syncRemoveSession env s k)
  | dropTimers (p : Timer → Bool) : DStep s { st := { s with timers := s.timers.filter p } }

/- Adding a dealer operation: a constructor of `DStep` (of `DAct` too if it answers a message, of `RStep` in DealerActs
   if the realm performs it), then one arm in each theorem over all steps, fed by a per-operation lemma:
     `DStep.inv` ← `_inv`, `DStep.no_panic` ← `_panic`                                       (this file)
     `DStep.timers_grow_or_dropped` ← `_shrinks` / `_st`                                      (DealerTimer)
     `DStep.replyOK` ← `_replyOK` / `_no_reply`                                               (DealerReply)
     `DStep.sends_kind` ← `_sends` (DealerInvoke), `DStep.frame` ← `_frame`, `DStep.calls_sub` ← `_calls`  (DealerFrame)
     `dstep_liveStep` ← `_liveStep` (TimerLive), `DStep.flags` ← `_flags` (ConfigFlags; stated in BrokerEvolution)
   Say what the operation does to a pending call as `Moves` (`sync*_moves`, DealerPres): `_inv`, `_liveStep` and the
   CALL's `_frame` are read off that; `_shrinks` is walked by itself (it holds without the invariant) and gives `_flags`.
   Over `DAct`: `.dstep` (here), `.aborts`, `.sends`, `.owned` (DealerRefs), `.live` (TimerLive), `.rstep` (DealerActs),
   `.keeps_solo` (RealmMetaRegs), `Idle.of_handles` (StallIdle); over `RStep`: `RStep.run`, `RStep.wampOk` (WampNamespace).
   A new CANCEL mode needs no constructor (`mode` is a free `String` in `DStep.cancel`): it changes `cancelOut`,
   `canInterrupt`, `cancelOut_eq` and `cancelOut_cases` (DealerSteps); a proof about every outcome of a CANCEL goes
   through `cancelOut_cases` and changes only if the mode has an outcome of its own. -/

/-- The dealer action the handler of session `k` performs for message `m`: the steps of `DStep` that answer a message,
    with the acting session and the message.  (A YIELD goes through the retry loop of the realm, a departure and a
    firing timer are not answers to a message.)  REGISTER as `dealer.register` lets it through: a known policy, and a
    `wamp.` procedure only from the meta session. -/
inductive DAct (s : DState) (k : SessKey) : Msg → DOut → Prop
  | register (req : Nat) (opts : Dict) (proc «match» invoke : String) (disclose fwd wampURI : Bool)
      (hk : invoke ∈ Realm.knownPolicies) (hw : proc.startsWith "wamp." = true → k = metaKey) :
      DAct s k (.register req opts proc) (syncRegister s k req proc «match» invoke disclose fwd wampURI)
  | unregister (req regId : Nat) : DAct s k (.unregister req regId) (syncUnregister s k req regId)
  | call (env : DEnv) (req : Nat) (opts : Dict) (proc : String) (args : List WVal) (kw : Dict) (rnd : Nat) :
      DAct s k (.call req opts proc args kw) (syncCall env s k req opts proc args kw rnd)
  | cancel (env : DEnv) (req : Nat) (opts : Dict) (mode reason : String) (errArgs : List WVal) :
      DAct s k (.cancel req opts) (syncCancel env s k req mode reason errArgs)
  | error (typ req : Nat) (details : Dict) (err : String) (args : List WVal) (kw : Dict) :
      DAct s k (.error typ req details err args kw) (syncError s k req details err args kw)

theorem DAct.dstep {s : DState} {k : SessKey} {m : Msg} {o : DOut} (st : DAct s k m o) : DStep s o := by
  cases st with
  | register req opts proc mt invoke disclose fwd wampURI hk => exact .register k req proc mt invoke disclose fwd wampURI hk
  | unregister => exact .unregister ..
  | call => exact .call ..
  | cancel => exact .cancel ..
  | error => exact .error ..

theorem DStep.inv {s : DState} {o : DOut} (h : DealerInv s) (st : DStep s o) : DealerInv o.st := by
  cases st with
  | register callee req proc m invoke disclose fwd wampURI hk => exact syncRegister_inv h _ _ _ _ _ _ _ _ hk
  | unregister => exact syncUnregister_inv h _ _ _
  | call => exact syncCall_inv h _ _ _ _ _ _ _
  | cancel => exact syncCancel_inv h _ _ _ _ _
  | yield => exact syncYield_inv h _ _ _ _ _ _ _
  | error => exact syncError_inv h _ _ _ _ _ _
  | removeSession => exact (syncRemoveSession_inv h _).1
  | dropTimers p => exact h.filterTimers p

inductive Reachable : DState → Prop
  | init (strict allowDisclose : Bool) : Reachable { d := { strict := strict, allowDisclose := allowDisclose } }
  | step {s : DState} {o : DOut} : Reachable s → DStep s o → Reachable o.st

theorem Reachable.inv {s : DState} (h : Reachable s) : DealerInv s := by
  induction h with
  | init => exact DealerInv.init _ _
  | step _ st ih => exact st.inv ih

/-- A run of the dealer: consecutive steps, each recorded with the state it starts in. -/
inductive Run : DState → List (DState × DOut) → DState → Prop
  | nil (s : DState) : Run s [] s
  | cons {s : DState} {o : DOut} {tr : List (DState × DOut)} {s' : DState} :
      DStep s o → Run o.st tr s' → Run s ((s, o) :: tr) s'

theorem Run.inv {s s' : DState} {tr : List (DState × DOut)} (run : Run s tr s') (h : DealerInv s) : DealerInv s' := by
  induction run with
  | nil => exact h
  | cons st _ ih => exact ih (st.inv h)

theorem syncError_panic (s : DState) (callee : SessKey) (req : Nat) (details : Dict) (err : String)
    (args : List WVal) (kw : Dict) : (syncError s callee req details err args kw).panic = none :=
  syncError_cases (P := fun o => o.panic = none) s callee req details err args kw (fun _ => rfl) (fun _ _ => rfl)

theorem syncCancel_panic (env : DEnv) (s : DState) (caller : SessKey) (req : Nat) (mode reason : String)
    (errArgs : List WVal) : (syncCancel env s caller req mode reason errArgs).panic = none := by
  refine syncCancel_cases (P := fun o => o.panic = none) env s caller req mode reason errArgs rfl fun i v _ _ _ _ => ?_
  exact cancelOut_cases (P := fun o => o.panic = none) rfl fun _ _ => rfl

theorem syncYield_panic (env : DEnv) (s : DState) (callee : SessKey) (req : Nat) (opts : Dict)
    (args : List WVal) (kw : Dict) (progress canRetry : Bool) :
    (syncYield env s callee req opts args kw progress canRetry).panic = none := by
  apply syncYield_cases (P := fun o => o.panic = none)
  case giveup => intros; exact syncCancel_panic ..
  all_goals intros; rfl

theorem syncRegister_panic (s : DState) (callee : SessKey) (req : Nat) (proc m invoke : String)
    (disclose fwd wampURI : Bool) : (syncRegister s callee req proc m invoke disclose fwd wampURI).panic = none :=
  syncRegister_cases (P := fun o => o.panic = none) s callee req proc m invoke disclose fwd wampURI
    (fun _ => rfl) (fun _ _ _ => rfl) (fun _ _ _ _ _ => rfl)

theorem syncUnregister_panic (s : DState) (callee : SessKey) (req regId : Nat) :
    (syncUnregister s callee req regId).panic = none :=
  syncUnregister_cases (P := fun o => o.panic = none) s callee req regId (fun _ => rfl) (fun _ _ _ => rfl)

/-- the two panics of `syncCall` (dangling `invocationByCall` entry, no callee under the registration's policy)
    are excluded by the invariant -/
theorem syncCall_panic {env : DEnv} {s : DState} (h : DealerInv s) (caller : SessKey) (req : Nat) (opts : Dict)
    (proc : String) (args : List WVal) (kw : Dict) (rnd : Nat) :
    (syncCall env s caller req opts proc args kw rnd).panic = none := by
  refine syncCall_cases (P := fun o => o.panic = none) h caller req opts proc args kw rnd ?_ ?_ ?_ ?_ ?_ ?_ ?_ ?_ <;>
    intros <;> rfl

/-- In a state satisfying the invariant no dealer action panics. -/
theorem DStep.no_panic {s : DState} {o : DOut} (h : DealerInv s) (st : DStep s o) : o.panic = none := by
  cases st with
  | register => exact syncRegister_panic ..
  | unregister => exact syncUnregister_panic ..
  | call => exact syncCall_panic h ..
  | cancel => exact syncCancel_panic ..
  | yield => exact syncYield_panic ..
  | error => exact syncError_panic ..
  | removeSession => exact (syncRemoveSession_inv h _).2
  | dropTimers => rfl

end Nexus.L2
