/-
  C01 at broker and handler level.  The counter `nextSub` never decreases along a run of broker steps: what
  "a subscription id is not handed out again" (Props/C01, `C01_id_never_reused` …) rests on, with a concrete
  history in which a deleted id stays unused.  And the publication `Realm.pubOf` that `handlePublish` hands to the
  broker, field by field: no `topic` and no publisher key among the base details, `exclude_me` defaulting to
  true, the publisher's arguments and options unchanged.
-/
import Nexus.L2.Proofs.BrokerHist
import Nexus.L2.Proofs.BrokerDeliver
import Nexus.L2.Proofs.RealmPublish

namespace Nexus.L2.WpA
open Gen.N
open Nexus.L2.Realm (pubOf optFlag_iff)

theorem bk_run_nextSub_mono (steps : List BStep) : ∀ {b : Broker}, BrokerInv b → b.nextSub ≤ (b.run steps).nextSub := by
  induction steps with
  | nil => intro b _; exact Nat.le_refl _
  | cons e rest ih =>
    intro b hb
    rw [bk_run_cons]
    exact Nat.le_trans (step_frame hb e).1 (ih (hb.step e))

/-! non-vacuity: the empty broker satisfies the invariant; a concrete history in which the
    subscription on "t" (id 1) is created, deleted by its only member's UNSUBSCRIBE, and a later
    SUBSCRIBE to the same topic gets the fresh id 2 -/
def exSteps1 : List BStep := [.subscribe 5 1 "t" "exact" 0]
def exSteps2 : List BStep := [.unsubscribe 5 2 1 2]
def exSteps3 : List BStep := [.subscribe 6 1 "t" "exact" 4]

example : BrokerInv ({} : Broker) := BrokerInv.empty false false

theorem exSteps_history :
    ((({} : Broker).run exSteps1).subs.map (fun s => (s.id, s.topic, s.members))) = [(1, "t", [5])] ∧
    (({} : Broker).run (exSteps1 ++ exSteps2)).subs.map (·.id) = [] ∧
    ((({} : Broker).run (exSteps1 ++ exSteps2 ++ exSteps3)).subs.map (fun s => (s.id, s.topic, s.members))) =
      [(2, "t", [6])] := by
  decide +kernel

example : ((({} : Broker).run exSteps1).subs.map (fun s => (s.id, s.topic, s.members))) = [(1, "t", [5])] ∧
    (({} : Broker).run (exSteps1 ++ exSteps2)).subs.map (·.id) = [] ∧
    ((({} : Broker).run (exSteps1 ++ exSteps2 ++ exSteps3)).subs.map (fun s => (s.id, s.topic, s.members))) =
      [(2, "t", [6])] :=
  exSteps_history

theorem exSteps_deleted : ∃ s ∈ (({} : Broker).run exSteps1).subs, s.id = 1 ∧
    ∀ s2 ∈ (({} : Broker).run (exSteps1 ++ exSteps2)).subs, s2.id ≠ s.id := by
  obtain ⟨h1, h2, _⟩ := exSteps_history
  have hm : (1, "t", [5]) ∈ (({} : Broker).run exSteps1).subs.map (fun s => (s.id, s.topic, s.members)) := by
    rw [h1]; exact .head _
  obtain ⟨s, hs, hid⟩ := List.mem_map.mp hm
  refine ⟨s, hs, congrArg Prod.fst hid, fun s2 hs2 => ?_⟩
  have : s2.id ∈ (({} : Broker).run (exSteps1 ++ exSteps2)).subs.map (·.id) := List.mem_map.mpr ⟨s2, hs2, rfl⟩
  rw [h2] at this
  cases this

/-- non-vacuity of the hypotheses of `C01.C01_id_not_reused_after_delete` on that history -/
example : ∃ s ∈ (({} : Broker).run exSteps1).subs, s.id = 1 ∧
    ∀ s2 ∈ (({} : Broker).run (exSteps1 ++ exSteps2)).subs, s2.id ≠ s.id :=
  exSteps_deleted

/-- The first part is the side condition of the C01 topic clause, of C12 and of C20. -/
theorem C01_pubOf_base (r : Realm) (s : Session) (opts : Dict) (topic : String) (args : List WVal) (kw : Dict) :
    (∀ key, key = "topic" ∨ isPublisherKey key →
        (pubOf r s opts topic args kw).baseDetails.get? key = none) ∧
    ((pubOf r s opts topic args kw).excludePub = false ↔ opts.get? OptExcludeMe = some (.bool false)) := by
  constructor
  · intro key hk
    exact realm_base_ok opts (pptScheme opts != "") key hk
  · unfold pubOf
    simp only
    split
    · rename_i b h; rw [h]; cases b <;> simp
    · rename_i h
      constructor
      · intro hh; cases hh
      · intro hh; exact absurd hh (h false)

/-- the other fields of `pubOf`: the publisher is the sending session (key and details), the id is
    the next publication id, topic / arguments / keyword arguments / options are the PUBLISH
    message's, `disclose` iff `disclose_me` is the boolean `true`. -/
theorem C01_pubOf_fields (r : Realm) (s : Session) (opts : Dict) (topic : String) (args : List WVal) (kw : Dict) :
    (pubOf r s opts topic args kw).publisher = s.key ∧
    (pubOf r s opts topic args kw).pubDetails = s.details ∧
    (pubOf r s opts topic args kw).topic = topic ∧
    (pubOf r s opts topic args kw).pubId = pubBase + r.pubCount ∧
    (pubOf r s opts topic args kw).args = args ∧
    (pubOf r s opts topic args kw).kw = kw ∧
    (pubOf r s opts topic args kw).opts = opts ∧
    ((pubOf r s opts topic args kw).disclose = true ↔ opts.get? OptDiscloseMe = some (.bool true)) ∧
    ((pubOf r s opts topic args kw).excludePub = true ↔ opts.get? OptExcludeMe ≠ some (.bool false)) :=
  ⟨rfl, rfl, rfl, rfl, rfl, rfl, rfl, optFlag_iff opts OptDiscloseMe, by
    have h := (C01_pubOf_base r s opts topic args kw).2
    constructor
    · intro ht hf; rw [h.mpr hf] at ht; cases ht
    · intro hne
      cases hx : (pubOf r s opts topic args kw).excludePub with
      | false => exact absurd (h.mp hx) hne
      | true => rfl⟩

end Nexus.L2.WpA
