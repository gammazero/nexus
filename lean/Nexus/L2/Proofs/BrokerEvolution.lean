/-
  How a realm evolves its broker.

  `Evo r r'`: the configuration, the meta session and the dealer's configuration flags are
  unchanged, and the broker of `r'` is the broker of `r` after a list of `BStep`s whose `.publish`
  steps carry the publication ids `pubBase + m` for strictly increasing `m` taken from
  `[r.pubCount, r'.pubCount)` and payload-passthru details without `topic` / publisher keys
  (`Trace`, Nexus/L2/Proofs/BrokerTrace.lean).

  It is read off the ghost trace: along a chain of atomic actions the broker makes the broker steps of the scripts
  and the dealer state arises by their dealer steps (`chain_broker`), each of which keeps the dealer's flags
  (`DStep.flags`: ERROR, CANCEL and YIELD only shrink the state; a CALL and a removal do, under the dealer's invariant); no action
  touches the configuration or the meta session (`act_frame`).  Hence `Realm.step` relates its argument, if its
  dealer satisfies `DealerInv`, to its result by `Evo`, and every `Reachable cfg r` is `Evo`-related to
  `Realm.create cfg`.
-/
import Nexus.L2.Proofs.Trace
import Nexus.L2.Proofs.ControlActions
import Nexus.L2.Proofs.ConfigFlags

namespace Nexus.L2.WpA
open Nexus.L2 Nexus.L2.Realm Gen.N

/-- What construction (`registerMeta`) and the gate keep: all that `Evo` speaks of, broker and publication counter
    included. -/
structure Quiet (r r' : Realm) : Prop where
  cfg : r'.cfg = r.cfg
  broker : r'.broker = r.broker
  pubCount : r'.pubCount = r.pubCount
  metaS : r'.metaS = r.metaS
  dfl : DFlags r.ds r'.ds

theorem Quiet.refl (r : Realm) : Quiet r r := ⟨rfl, rfl, rfl, rfl, ⟨rfl, rfl⟩⟩

theorem Quiet.trans {a b c : Realm} (h1 : Quiet a b) (h2 : Quiet b c) : Quiet a c :=
  ⟨h2.cfg.trans h1.cfg, h2.broker.trans h1.broker, h2.pubCount.trans h1.pubCount, h2.metaS.trans h1.metaS,
   h1.dfl.trans h2.dfl⟩

/-- What C01, C12 and C20 need of a realm's past: `r'` has the configuration, meta session and dealer flags of `r`, and
    its broker is that of `r` after broker steps whose publications carry fresh increasing ids (`Trace`). -/
structure Evo (r r' : Realm) : Prop where
  cfg : r'.cfg = r.cfg
  metaS : r'.metaS = r.metaS
  dfl : DFlags r.ds r'.ds
  run : ∃ steps, r'.broker = r.broker.run steps ∧ Trace r.pubCount steps r'.pubCount

theorem Quiet.evo {r r' : Realm} (h : Quiet r r') : Evo r r' :=
  ⟨h.cfg, h.metaS, h.dfl, [], h.broker, by rw [h.pubCount]; exact Nat.le_refl _⟩

theorem Evo.refl (r : Realm) : Evo r r := (Quiet.refl r).evo

theorem Evo.trans {a b c : Realm} (h1 : Evo a b) (h2 : Evo b c) : Evo a c := by
  obtain ⟨s1, e1, t1⟩ := h1.run
  obtain ⟨s2, e2, t2⟩ := h2.run
  exact ⟨h2.cfg.trans h1.cfg, h2.metaS.trans h1.metaS, h1.dfl.trans h2.dfl, s1 ++ s2,
    by rw [e2, e1, bk_run_append], t1.append t2⟩

theorem Evo.pubCount_le {r r' : Realm} (h : Evo r r') : r.pubCount ≤ r'.pubCount := by
  obtain ⟨_, _, t⟩ := h.run; exact t.le

theorem Quiet.of_eq {r r' : Realm} (cfg : r'.cfg = r.cfg) (broker : r'.broker = r.broker)
    (pubCount : r'.pubCount = r.pubCount) (metaS : r'.metaS = r.metaS) (ds : r'.ds = r.ds) : Quiet r r' :=
  ⟨cfg, broker, pubCount, metaS, by rw [ds]; exact DFlags.refl _⟩

theorem quiet_authzGate (r : Realm) (s : Session) (m : Msg) : Quiet r (authzGate r s m).2 :=
  authzGate_cases (P := fun g => Quiet r g.2) r s m (Quiet.refl r) (Quiet.refl r) fun _ _ =>
    have f := trySend_frame r _
    .of_eq f.cfg f.broker f.pubCount f.metaS f.ds

theorem _root_.Nexus.L2.DStep.flags {s : DState} {o : DOut} (h : DealerInv s) (st : DStep s o) : DFlags s o.st := by
  cases st with
  | register => exact syncRegister_flags ..
  | unregister => exact syncUnregister_flags ..
  | call => exact syncCall_flags h ..
  | cancel => exact syncCancel_flags ..
  | yield => exact syncYield_flags ..
  | error => exact syncError_flags ..
  | removeSession => exact syncRemoveSession_flags h ..
  | dropTimers => exact ⟨rfl, rfl⟩

theorem _root_.Nexus.L2.Run.flags {s s' : DState} {tr : List (DState × DOut)} (run : Run s tr s') (h : DealerInv s) :
    DFlags s s' := by
  induction run with
  | nil => exact DFlags.refl _
  | cons st _ ih => exact (st.flags h).trans (ih (st.inv h))

/-- The part of `Evo` the scripts do not describe; no atomic action touches it (`act_frame`). -/
def Framed (q q' : Realm) : Prop := q'.cfg = q.cfg ∧ q'.metaS = q.metaS

theorem _root_.Nexus.L2.WpC.Eff.framed {P : SessKey → Prop} {Q : Retry → Prop} {q q' : Realm} (h : WpC.Eff P Q q q') :
    Framed q q' := ⟨h.cfg, h.metaS⟩

theorem runTask_framed (q : Realm) (t : Task) : Framed q (q.runTask t) := by
  cases t with
  | inMsg k m => exact (WpC.eff_recvMsg q k m).framed
  | metaPub p => exact (WpC.eff_handlePublish (P := fun _ => True) (Q := fun _ => True) q _ _ _ _ _ _ fun _ => trivial).framed
  | metaInvoke req reg details args kw =>
    exact ⟨(WpC.metaInvoke_act q req reg details args kw).cfg, (WpC.metaInvoke_act q req reg details args kw).metaS⟩
  | metaMsg m => exact (WpC.eff_handleMsg q _ m).framed
  | leave k mode =>
    rw [runTask_leave]
    split
    · exact ⟨rfl, rfl⟩
    · exact leave_cases q k mode (fun _ => ⟨rfl, rfl⟩) fun s hf =>
        ⟨(WpC.leave_ctl mode hf).cfg, (WpC.leave_ctl mode hf).metaS⟩

theorem act_frame (r : Realm) (a : WpE.Act) : Framed r (a.apply r) := by
  cases a with
  | op o =>
    exact stepOp_cases (C := Framed r) r o ⟨rfl, rfl⟩ (fun _ _ _ _ _ _ _ _ => ⟨rfl, rfl⟩)
      (fun k m _ => (WpC.eff_recvMsg r k m).framed) (fun _ _ _ _ _ => ⟨rfl, rfl⟩) (fun _ _ _ => ⟨rfl, rfl⟩)
      (fun _ => ⟨rfl, rfl⟩)
  | task t => exact runTask_framed { r with tasks := r.tasks.tail } t
  | timer t =>
    exact (WpC.eff_timerDue (P := fun _ => True) (Q := fun _ => True) { r with now := max r.now t.deadline } t).framed
  | retry x =>
    have h := fun (q : Realm) (o : DOut) => (WpC.eff_applyD (P := fun _ => True) (Q := fun _ => True) q o
      fun _ _ => trivial).framed
    exact retryDue_cases (C := Framed r) { r with now := max r.now x.next } x ⟨(h _ _).1, (h _ _).2⟩ ⟨(h _ _).1, (h _ _).2⟩
  | flush => exact ⟨rfl, rfl⟩
  | clock _ => exact ⟨rfl, rfl⟩
  | fuel _ => exact (WpC.eff_setPanic (P := fun _ => True) (Q := fun _ => True) r _).framed

theorem chain_framed {r r' : Realm} {tr : List WpE.Rec} (h : WpE.Chain r tr r') :
    (∀ x ∈ tr, Framed r x.pre) ∧ Framed r r' :=
  h.invariant (P := Framed r)
    (fun x _ e => ⟨(act_frame x.pre x.act).1.trans e.1, (act_frame x.pre x.act).2.trans e.2⟩) ⟨rfl, rfl⟩

theorem evo_chain {r r' : Realm} {tr : List WpE.Rec} (hd : DealerInv r.ds) (h : WpE.Chain r tr r') : Evo r r' := by
  obtain ⟨hb, ht, hr⟩ := WpE.chain_broker h
  exact ⟨(chain_framed h).2.1, (chain_framed h).2.2, hr.flags hd, _, hb, ht⟩

theorem evo_step {r : Realm} (hd : DealerInv r.ds) (op : Op) : Evo r (r.step op).2 := evo_chain hd (WpE.chain_step r op)

theorem quiet_registerMeta : ∀ (ps : List String) (r : Realm), Quiet r (registerMeta r ps)
  | [], r => Quiet.refl r
  | p :: ps, r => by
    refine Quiet.trans ?_ (quiet_registerMeta ps _)
    exact ⟨rfl, rfl, rfl, rfl, syncRegister_flags ..⟩

/-- the dealer's two flags in the realm `Realm.create cfg` builds; everything else about it is `Realm.Created` -/
theorem create_dflags {cfg : Config} {r : Realm} (h : Realm.create cfg = some r) :
    r.ds.d.strict = cfg.strict ∧ r.ds.d.allowDisclose = cfg.allowDisclose := by
  rw [create_some h]
  exact (quiet_registerMeta (metaProcNames cfg) _).dfl

theorem reachable_evo {cfg : Config} {r : Realm} (h : Realm.Reachable cfg r) :
    ∃ r0, Realm.create cfg = some r0 ∧ Evo r0 r :=
  h.from_create Evo.refl Evo.trans fun _ op hr => evo_step hr.inv.1.dinv op

end Nexus.L2.WpA
