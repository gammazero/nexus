/-
  What the realm does to the dealer: every external input, internal task and timed event of `Realm.step` changes the
  dealer state `r.ds` and the retry list by a (possibly empty) sequence of events `Acts` — dealer actions `RStep`
  (the `sync*` functions, called with the side conditions the handlers guarantee: `dealer.register` lets only the
  known invocation policies through, and a `wamp.`-procedure only for the meta session), a YIELD entering the retry
  loop, a turn of that loop, a firing timer (it leaves the table together with the `syncCancel` it posts).  The walk
  through `Realm.step` is done once (`acts_step`); from it

    Realm.Reachable cfg r  →  Nexus.L2.Reachable r.ds        (`reachable_ds`)

  every property of dealer states that is preserved by the `RStep`s holds in every reachable realm state
  (`Reachable.dinvariant`, used for the `wamp.`-registration invariant of C03), and `TimerLiveRealm` gets its
  invariant.
-/
import Nexus.L2.Proofs.RealmLeave
import Nexus.L2.Proofs.DealerRealmRpc
import Nexus.L2.Proofs.TimerLive

namespace Nexus.L2.WpB
open Nexus.L2 Nexus.L2.Realm Nexus.Gen.N

/-- one dealer action as the realm performs it -/
inductive RStep (s : DState) : DOut → Prop
  | register (callee : SessKey) (req : Nat) (proc «match» invoke : String) (disclose fwd wampURI : Bool)
      (hk : invoke ∈ Realm.knownPolicies) (hw : proc.startsWith "wamp." = true → callee = metaKey) :
      RStep s (syncRegister s callee req proc «match» invoke disclose fwd wampURI)
  | unregister (callee : SessKey) (req regId : Nat) : RStep s (syncUnregister s callee req regId)
  | call (env : DEnv) (caller : SessKey) (req : Nat) (opts : Dict) (proc : String) (args : List WVal) (kw : Dict)
      (rnd : Nat) : RStep s (syncCall env s caller req opts proc args kw rnd)
  | cancel (env : DEnv) (caller : SessKey) (req : Nat) (mode reason : String) (errArgs : List WVal) :
      RStep s (syncCancel env s caller req mode reason errArgs)
  | yield (env : DEnv) (callee : SessKey) (req : Nat) (opts : Dict) (args : List WVal) (kw : Dict)
      (progress canRetry : Bool) : RStep s (syncYield env s callee req opts args kw progress canRetry)
  | error (callee : SessKey) (req : Nat) (details : Dict) (err : String) (args : List WVal) (kw : Dict) :
      RStep s (syncError s callee req details err args kw)
  | removeSession (env : DEnv) (k : SessKey) : RStep s (syncRemoveSession env s k)
  /-- a live timer fires: it leaves the table and posts `syncCancel(killnowait, wamp.error.timeout)` for its call -/
  | fire (env : DEnv) (t : Timer) (ht : t ∈ s.timers) (hc : t.canceled = false) :
      RStep s (syncCancel env { s with timers := s.timers.filter (fun y => y.id != t.id) } t.caller t.req
        CancelModeKillNoWait ErrTimeout [.str "<text>"])

inductive DReach : DState → DState → Prop
  | refl (s : DState) : DReach s s
  | step {s : DState} {o : DOut} {s' : DState} : RStep s o → DReach o.st s' → DReach s s'

theorem DReach.of_eq {r s' : DState} (h : s' = r) : DReach r s' := h ▸ DReach.refl r

theorem DReach.single {s : DState} {o : DOut} (st : RStep s o) : DReach s o.st := .step st (.refl _)

theorem DReach.trans {a b c : DState} (h1 : DReach a b) (h2 : DReach b c) : DReach a c := by
  induction h1 with
  | refl => exact h2
  | step st _ ih => exact .step st (ih h2)

/-- every realm-performed action is one `DStep` (two for a firing timer) -/
theorem RStep.run {s : DState} {o : DOut} (st : RStep s o) : ∃ tr, Run s tr o.st := by
  cases st with
  | fire env t _ _ =>
    exact ⟨_, .cons (.dropTimers (fun y => y.id != t.id))
      (.cons (.cancel env t.caller t.req CancelModeKillNoWait ErrTimeout [.str "<text>"]) (.nil _))⟩
  | register callee req proc m invoke disclose fwd wampURI hk _ =>
    exact ⟨_, .cons (.register callee req proc m invoke disclose fwd wampURI hk) (.nil _)⟩
  | _ => exact ⟨_, .cons (by constructor) (.nil _)⟩

theorem Run.append {a b c : DState} {t1 t2 : List (DState × DOut)} (h1 : Run a t1 b) (h2 : Run b t2 c) :
    Run a (t1 ++ t2) c := by
  induction h1 with
  | nil => exact h2
  | cons st _ ih => exact .cons st (ih h2)

theorem DReach.run {s s' : DState} (h : DReach s s') : ∃ tr, Run s tr s' := by
  induction h with
  | refl s => exact ⟨[], .nil s⟩
  | step st _ ih =>
    obtain ⟨t1, r1⟩ := st.run
    obtain ⟨t2, r2⟩ := ih
    exact ⟨t1 ++ t2, Run.append r1 r2⟩

theorem Run.reachable {s s' : DState} {tr : List (DState × DOut)} (run : Run s tr s') (h : Nexus.L2.Reachable s) :
    Nexus.L2.Reachable s' := by
  induction run with
  | nil => exact h
  | cons st _ ih => exact ih (.step h st)

theorem DReach.reachable {s s' : DState} (h : DReach s s') (hr : Nexus.L2.Reachable s) : Nexus.L2.Reachable s' := by
  obtain ⟨tr, run⟩ := h.run
  exact Run.reachable run hr

theorem DReach.induct {I : DState → Prop} (hstep : ∀ s o, DealerInv s → I s → RStep s o → I o.st)
    {s s' : DState} (h : DReach s s') (hd : DealerInv s) (hi : I s) : I s' := by
  induction h with
  | refl => exact hi
  | step st _ ih =>
    obtain ⟨tr, run⟩ := st.run
    exact ih (run.inv hd) (hstep _ _ hd hi st)

/-- what the realm has done to its dealer and its retry loop on the way from `r` to `r'`; the dealer actions that
    neither park nor fire come with the fact that they let no recorded timer die -/
inductive Acts : Realm → Realm → Prop
  | refl (r : Realm) : Acts r r
  | same {r r' r'' : Realm} : Acts r r' → r''.ds = r'.ds → r''.retries = r'.retries → Acts r r''
  | act {r r' r'' : Realm} {o : DOut} : Acts r r' → RStep r'.ds o → LiveStep r'.ds o.st none → r''.ds = o.st →
      r''.retries = r'.retries → Acts r r''
  /-- `dealer.yield` by a session whose handler is not in the retry loop -/
  | yield {r r' : Realm} (s : Session) (req : Nat) (opts : Dict) (args : List WVal) (kw : Dict) : Acts r r' →
      DealerInv r'.ds → (s.key ≠ metaKey → ∀ x ∈ r'.retries, x.callee ≠ s.key) →
      Acts r (handleYield r' s req opts args kw)
  | retry {r r' : Realm} {x : Retry} : Acts r r' → DealerInv r'.ds → x ∈ r'.retries → Acts r (r'.retryDue x)
  | fire {r r' : Realm} {t : Timer} : Acts r r' → DealerInv r'.ds → t ∈ r'.ds.timers → t.canceled = false →
      Acts r (r'.timerDue t)

namespace Acts

theorem trans {a b c : Realm} (h1 : Acts a b) (h2 : Acts b c) : Acts a c := by
  induction h2 with
  | refl => exact h1
  | same _ e1 e2 ih => exact ih.same e1 e2
  | act _ st hl e1 e2 ih => exact ih.act st hl e1 e2
  | yield s req opts args kw _ hd hnb ih => exact ih.yield s req opts args kw hd hnb
  | retry _ hd hx ih => exact ih.retry hd hx
  | fire _ hd ht hc ih => exact ih.fire hd ht hc

theorem send {r r' : Realm} (h : Acts r r') (x : Send) : Acts r (r'.trySend x) :=
  h.same (trySend_ds _ _) (trySend_frame _ _).retries

theorem applyD {r r' : Realm} (h : Acts r r') {o : DOut} (st : RStep r'.ds o) (hl : LiveStep r'.ds o.st none) :
    Acts r (r'.applyD o) :=
  h.act st hl (applyD_ds _ _) (dapplyD_retries _ _)

theorem dreach {r r' : Realm} (h : Acts r r') : DReach r.ds r'.ds := by
  induction h with
  | refl => exact .refl _
  | same _ e _ ih => exact e ▸ ih
  | act _ st _ e _ ih => exact e ▸ ih.trans (.single st)
  | yield s req opts args kw _ _ _ ih =>
    refine ih.trans ?_
    rw [handleYield_eq]
    dsimp only
    split <;> (rw [applyD_ds]; exact .single (.yield ..))
  | retry _ _ _ ih => rw [retryDue_ds]; exact ih.trans (.single (.yield ..))
  | @fire r' t _ _ ht hc ih => rw [timerDue_ds]; exact ih.trans (.single (.fire r'.denv t ht hc))

end Acts

variable {s : DState} {k : SessKey} {m : Msg} {o : DOut}

theorem _root_.Nexus.L2.DAct.rstep (st : DAct s k m o) : RStep s o := by
  cases st with
  | register req opts proc mt invoke disclose fwd wampURI hk hw => exact .register k req proc mt invoke disclose fwd wampURI hk hw
  | unregister => exact .unregister ..
  | call => exact .call ..
  | cancel => exact .cancel ..
  | error => exact .error ..

/-- handling a message, seen from the dealer and the retry loop; a YIELD needs a handler that is not in the loop -/
theorem Acts.of_handles {r r' : Realm} (hi : DealerInv r.ds) (hnb : k ≠ metaKey → ∀ x ∈ r.retries, x.callee ≠ k)
    (h : Handles k m r r') : Acts r r' := by
  cases h with
  | same => exact .refl r
  | reply e => exact (Acts.refl r).send _
  | quit mode _ => exact (Acts.refl r).same rfl rfl
  | replyQuit e mode _ => exact ((Acts.refl r).send _).same rfl rfl
  | dealer st => exact (Acts.refl r).applyD st.rstep (st.live hi)
  | yield s hs req opts args kw hm => exact (Acts.refl r).yield s _ _ _ _ hi (hs ▸ hnb)
  | @broker b' n ss st ack e =>
    have h : Acts r (({ r with broker := b', pubCount := n } : Realm).deliver ss) :=
      (Acts.refl r).same (deliver_ds _ _) (deliver_frame _ _).retries
    split
    · exact h.send _
    · exact h

theorem acts_recvMsg {r : Realm} (hi : RealmInv r) (k : SessKey) (m : Msg) : Acts r (r.recvMsg k m) :=
  recvMsg_cases r k m (.refl r) (fun _ _ _ _ _ => (Acts.refl r).same rfl rfl) fun s hs _ hb =>
    .of_handles hi.dinv (fun _ => (find?_key hs).2 ▸ busy_false_iff.mp hb)
      (handleMsg_handles r s m)

theorem acts_leave {r : Realm} (hi : RealmInv r) (k : SessKey) (mode : LeaveMode) : Acts r (r.leave k mode) := by
  refine leave_cases r k mode (fun _ => .refl r) fun s hf => ?_
  rw [leave_eq mode hf]
  exact (Acts.refl r).act (.removeSession ..) (syncRemoveSession_liveStep hi.dinv k) rfl rfl

theorem acts_runTask {r : Realm} (hi : RealmInv r) (t : Task) (_ : TaskOk t) : Acts r (r.runTask t) :=
  runTask_cases r t (fun k m _ => acts_recvMsg hi k m)
    (fun p _ => .of_handles hi.dinv (fun hne => absurd hi.metaKey hne)
      (handlePublish_handles r r.metaS 0 p.opts p.topic p.args p.kw))
    (fun m _ => .of_handles hi.dinv (fun hne => absurd hi.metaKey hne) (handleMsg_handles r r.metaS m))
    (fun req reg d a kw _ => metaInvoke_cases r req reg d a kw ((Acts.refl r).same rfl rfl) fun _ _ e =>
      (Acts.refl r).same e.frame.1 e.frame.2.1)
    (fun _ _ _ _ => (Acts.refl r).same rfl rfl) fun k mode _ _ => acts_leave hi k mode

theorem acts_stepOp {r : Realm} (hi : RealmInv r) (op : Op) : Acts r (r.stepOp op) :=
  stepOp_cases r op (.refl r) (fun _ _ _ _ _ _ _ _ => (Acts.refl r).same rfl rfl) (fun k m _ => acts_recvMsg hi k m)
    (fun _ _ _ _ _ => (Acts.refl r).same rfl rfl) (fun _ _ _ => (Acts.refl r).same rfl rfl)
    (fun _ => (Acts.refl r).same rfl rfl)

/-- what one atomic action does, seen from the state `a` before it -/
theorem Acts.action (a : Realm) : Keeps (fun r => Sound r ∧ r = a) (Acts a) where
  task := by
    rintro r t ts ht ⟨b, rfl⟩ _
    exact ((Acts.refl r).same (r'' := { r with tasks := ts }) rfl rfl).trans
      (acts_runTask (b.1.tail ht).1 t (b.1.tail ht).2)
  timer := by rintro r _ t hd ⟨b, rfl⟩ h; exact h.fire b.1.dinv (nextDue_timer hd).1 (nextDue_timer hd).2.1
  retry := by rintro r _ x hd ⟨b, rfl⟩ h; exact h.retry b.1.dinv (nextDue_retry hd)
  now := by rintro r n ⟨_, rfl⟩ h; exact h.same rfl rfl
  fuel := by rintro r m _ ⟨_, rfl⟩ h; exact h.same (setPanic_ds _ _) (setPanic_frame _ _).retries
  flush := by rintro r ⟨_, rfl⟩ h; exact h.same rfl rfl

theorem acts_fireDue {r : Realm} {target : Nat} {d : Realm.Due} (hi : RealmInv r) (hp : FuelOnly r.panic)
    (hd : nextDue r target = some d) :
    RealmInv (fireDue r d) ∧ FuelOnly (fireDue r d).panic ∧ Acts r (fireDue r d) :=
  have h := (Sound.keeps.over (Keeps.of_rel (R := Acts) Acts.trans Acts.action Acts.refl r)).fireDue hd
    ⟨⟨hi, hp⟩, .refl r⟩
  ⟨h.1.1, h.1.2, h.2⟩

/-- One step of the realm, seen from the dealer and the retry loop. -/
theorem acts_step {r : Realm} (h : Sound r) (op : Op) : Acts r (r.step op).2 :=
  Sound.step (.of_rel (R := Acts) Acts.trans Acts.action Acts.refl r) h (acts_stepOp h.1 op)

theorem dreach_registerMeta : ∀ (ps : List String) (r : Realm), DReach r.ds (registerMeta r ps).ds
  | [], _ => DReach.refl _
  | p :: ps, r => by
    unfold registerMeta
    have h1 : DReach r.ds (syncRegister r.ds metaKey 0 p "" "" true false true).st :=
      DReach.single (.register metaKey 0 p "" "" true false true (by decide) (fun _ => rfl))
    exact h1.trans (dreach_registerMeta ps
      { r with ds := (syncRegister r.ds metaKey 0 p "" "" true false true).st,
               metaProcs := r.metaProcs ++ [((syncRegister r.ds metaKey 0 p "" "" true false true).st.d.nextReg, p)] })

theorem dreach_create {cfg : Config} {r : Realm} (h : Realm.create cfg = some r) :
    DReach { d := { strict := cfg.strict, allowDisclose := cfg.allowDisclose } } r.ds := by
  rw [create_some h]
  exact dreach_registerMeta _ { cfg, broker := _, ds := _ }

/-- The dealer state of a reachable realm is a reachable dealer state: it arises from the empty dealer by `DStep`s. -/
theorem reachable_ds {cfg : Config} {r : Realm} (h : Realm.Reachable cfg r) : Nexus.L2.Reachable r.ds := by
  obtain ⟨r0, h0, ha⟩ := h.from_create Acts.refl Acts.trans fun _ op hr => acts_step hr.inv op
  exact ha.dreach.reachable ((dreach_create h0).reachable (.init _ _))

/-- … and it arises by realm-performed actions: every property `I` of dealer states that holds for the empty dealer
    and is kept by each `RStep` (from states satisfying `DealerInv`) holds in every reachable realm state. -/
theorem Reachable.dinvariant {I : DState → Prop}
    (hinit : ∀ strict allow, I { d := { strict := strict, allowDisclose := allow } })
    (hstep : ∀ s o, DealerInv s → I s → RStep s o → I o.st)
    {cfg : Config} {r : Realm} (h : Realm.Reachable cfg r) : I r.ds := by
  obtain ⟨r0, h0, ha⟩ := h.from_create Acts.refl Acts.trans fun _ op hr => acts_step hr.inv op
  exact ((dreach_create h0).trans ha.dreach).induct hstep (DealerInv.init _ _) (hinit _ _)

end Nexus.L2.WpB
