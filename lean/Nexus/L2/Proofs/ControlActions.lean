/-
  The control-field effect (`Eff`, ControlEffect.lean) of the remaining atomic actions of the
  realm model (the departure of a session is in LeaveEq.lean) — a meta-procedure invocation (`metaInvoke`), a call
  timeout (`timerDue`), a turn of the retry loop (`retryDue`) — and quiescence: what `drain`, `advance` and `step` leave pending.
-/
import Nexus.L2.Proofs.ControlEffect
import Nexus.L2.Proofs.RealmLeave
import Nexus.L2.Proofs.RealmMeta

namespace Nexus.L2.WpC
open Nexus.L2 Nexus.L2.Realm Nexus.Gen.N

variable {P : SessKey → Prop} {Q : Retry → Prop}

theorem setPanic_some_ne_none (r : Realm) (m : String) : (r.setPanic (some m)).panic ≠ none := by
  unfold setPanic
  cases hp : r.panic with
  | none => simp
  | some p => simp [hp]

/-- the answers of the meta-procedure handler, exactly: `YIELD` with empty options, or `ERROR` of type INVOCATION -/
def cleanAnswer : Msg → Bool
  | .yield _ opts _ _ => opts.isEmpty
  | .error typ _ _ _ _ _ => typ == tINVOCATION
  | _ => false

theorem _root_.Nexus.L2.Realm.MetaStep.clean {r : Realm} {proc : String} {req : Nat} {o : Msg × Realm} (h : MetaStep r proc req o) :
    cleanAnswer o.1 = true := by
  cases h <;> rfl

/-- what running a `metaInvoke` task does to the control fields: possibly some attached, not yet ending
    sessions are told to end (`kill*`), one answer of the meta-procedure handler is queued.  It is `MetaStep`
    (RealmMeta.lean) with its cases folded into one statement about `ending`, `tasks` and the client keys, for the
    invariants that read only these: `MetaSafe`, `RetryInv`, `Idle`, the broker's frame. -/
structure MetaAct (r r' : Realm) : Prop where
  cfg : r'.cfg = r.cfg
  metaProcs : r'.metaProcs = r.metaProcs
  metaS : r'.metaS = r.metaS
  now : r'.now = r.now
  deferred : r'.deferred = r.deferred
  retries : r'.retries = r.retries
  inbox : r'.inbox = r.inbox
  broker : r'.broker = r.broker
  ds : r'.ds = r.ds
  queues : r'.queues = r.queues
  closedPeers : r'.closedPeers = r.closedPeers
  ghosts : r'.ghosts = r.ghosts
  keys : r'.clients.map (·.key) = r.clients.map (·.key)
  ending : ∃ e, r'.ending = r.ending ++ e ∧ ∀ j ∈ e, r.isClient j ∧ j ∉ r.ending
  tasks : ∃ ts rsp, r'.tasks = r.tasks ++ ts ++ [.metaMsg rsp] ∧ cleanAnswer rsp = true ∧
    ∀ t ∈ ts, ∃ j mode, t = Task.leave j mode ∧ r.isClient j ∧ j ∉ r.ending

theorem MetaAct.answer (r : Realm) (cl : List Session) (tst : List (SessKey × TBucket)) {rsp : Msg}
    (hk : cl.map (·.key) = r.clients.map (·.key)) (hc : cleanAnswer rsp = true) :
    MetaAct r (({ r with clients := cl, testaments := tst } : Realm).addTasks [.metaMsg rsp]) :=
  ⟨rfl, rfl, rfl, rfl, rfl, rfl, rfl, rfl, rfl, rfl, rfl, rfl, hk, Grown.of_eq rfl,
    ⟨[], rsp, by simp [addTasks], hc, fun _ h => nomatch h⟩⟩

theorem metaInvoke_act (r : Realm) (req reg : Nat) (details : Dict) (args : List WVal) (kw : Dict) :
    MetaAct r (r.runTask (.metaInvoke req reg details args kw)) := by
  refine metaInvoke_cases r req reg details args kw (MetaAct.answer r r.clients r.testaments rfl rfl) fun proc o he => ?_
  have hc := he.clean
  cases he with
  | err | same => exact MetaAct.answer r r.clients r.testaments rfl hc
  | kill _ sel =>
    have hv : ∀ c ∈ r.clients.filter (fun c => sel c && !r.ending.contains c.key), r.isClient c.key ∧ c.key ∉ r.ending := by
      intro c hcm
      obtain ⟨h1, h2⟩ := List.mem_filter.mp hcm
      refine ⟨⟨c, h1, rfl⟩, ?_⟩
      have : r.ending.contains c.key = false := by
        cases hh : r.ending.contains c.key
        · rfl
        · rw [hh] at h2; simp at h2
      intro hin
      rw [List.contains_iff_mem.mpr hin] at this
      cases this
    refine ⟨rfl, rfl, rfl, rfl, rfl, rfl, rfl, rfl, rfl, rfl, rfl, rfl, rfl, ⟨_, rfl, ?_⟩, ⟨_, _, rfl, hc, ?_⟩⟩
    · intro j hj
      obtain ⟨c, hcm, rfl⟩ := List.mem_map.mp hj
      exact hv c hcm
    · intro t ht
      obtain ⟨c, hcm, rfl⟩ := List.mem_map.mp ht
      exact ⟨_, _, rfl, hv c hcm⟩
  | modify _ k d =>
    exact MetaAct.answer r _ r.testaments
      (map_update_keys k ({ · with details := d }) (fun _ => rfl) r.clients) hc
  | testaments t _ => exact MetaAct.answer r r.clients t rfl hc

theorem MetaAct.isClient {r r' : Realm} (h : MetaAct r r') (k : SessKey) : r'.isClient k ↔ r.isClient k :=
  isClient_congr h.keys k

theorem eff_timerDue (r : Realm) (t : Timer) : Eff P Q r (r.timerDue t) := by
  unfold timerDue
  extract_lets ds1 r1
  exact (eff_tables r r.broker ds1 r.pubCount r.testaments).trans
    (eff_applyD_nil (syncCancel_aborts ..))

/-- Where `drain`, `advance` and `step` stop, the task list is empty or the panic flag is set.  This is a fact about the
    end of the walk and holds of every realm; no action keeps it (a task run queues tasks), so it is no `Keeps` instance. -/
theorem drain_tasks : ∀ (fuel : Nat) (r : Realm), (drain fuel r).tasks = [] ∨ (drain fuel r).panic ≠ none
  | 0, r => by
    rw [drain_zero]
    split
    · exact Or.inl (List.isEmpty_iff.mp ‹_›)
    · exact Or.inr (setPanic_some_ne_none _ _)
  | fuel + 1, r => by
    cases ht : r.tasks with
    | nil => rw [drain_succ_nil _ _ ht]; exact Or.inl ht
    | cons t ts => rw [drain_succ_cons _ _ t ts ht]; exact drain_tasks fuel _

theorem advance_tasks : ∀ (fuel : Nat) (r : Realm) (target : Nat), r.tasks = [] ∨ r.panic ≠ none →
    (advance fuel r target).tasks = [] ∨ (advance fuel r target).panic ≠ none
  | 0, _, _, _ => Or.inr (setPanic_some_ne_none _ _)
  | fuel + 1, r, target, h => by
    cases hd : nextDue r target with
    | none => rw [advance_none hd]; exact h
    | some d => rw [advance_some hd]; exact advance_tasks fuel _ target (drain_tasks _ _)

theorem step_tasks (r : Realm) (op : Op) (h : r.tasks = [] ∨ r.panic ≠ none) :
    (r.step op).2.tasks = [] ∨ (r.step op).2.panic ≠ none := by
  have hf : ∀ q : Realm, q.flush.2.tasks = q.tasks ∧ q.flush.2.panic = q.panic := fun _ => ⟨rfl, rfl⟩
  by_cases ht : ∃ ms, op = .tick ms
  · obtain ⟨ms, rfl⟩ := ht
    rw [step_tick, (hf _).1, (hf _).2]
    exact advance_tasks _ _ _ h
  · rw [step_of_not_tick r op fun ms e => ht ⟨ms, e⟩, (hf _).1, (hf _).2]
    exact drain_tasks _ _

end Nexus.L2.WpC
