/-
  The URI functions of the L2 model (Nexus.L2.Uri) are the functions C19 characterises (Nexus.Uri.*, proved
  there to be what the regular expressions regenerated from wamp/identifier.go accept): first on byte strings
  (`validUriBytes_eq_ruleB`, `isPrefixOf_eq`, `wildParts_splitDots`), then on `String`s, each String-level function
  being the byte-level one applied to the UTF-8 bytes of its arguments (`String.toUTF8`, which is what Go's
  `string` holds), including the dispatch on the raw `match` option (`matchKind_policy`, `validUri_eq`,
  `prefixMatch_eq`, `wildcardMatch_eq`).  So every use of `validUri` / `prefixMatch` / `wildcardMatch` in the
  broker, dealer and realm models is a use of the function C19 characterises.

  This file imports Nexus/Props/C19.lean; the theorems of the String-level part are nevertheless in namespace
  `Nexus.C19` and are cited from the table in C19.lean.

  Names other properties cite, which a search of the Lean tree does not show: `validUriBytes_eq_ruleB`,
  `validUriBytes_iff_regex`, `isPrefixOf_iff` and `wildParts_splitDots` are listed under C01 and C03 as well
  (props/C01.json, props/C03.json), and `WpD.next_fst_toNat` of Nexus/Ids/Lemmas.lean under C19.
-/
import Nexus.L2.Uri
import Nexus.Uri.Rule
import Nexus.Uri.Match
import Nexus.Props.C19
import Nexus.Base.Lemmas

namespace Nexus.L2

theorem splitDots_eq (u : List UInt8) : splitDots u = Nexus.Uri.splitDot u := by
  induction u with
  | nil => rfl
  | cons c cs ih =>
    simp only [splitDots, Nexus.Uri.splitDot, Nexus.Uri.splitAux]
    rw [ih]
    by_cases h : c = 46
    · subst h
      simp [Nexus.Uri.dot, Nexus.Uri.splitDot]
    · have h' : ¬ c = Nexus.Uri.dot := by simpa [Nexus.Uri.dot] using h
      simp [h, h', Nexus.Uri.splitDot]

theorem dec_eq_beq (a b : UInt8) : decide (a = b) = (a == b) := rfl

theorem looseByte_eq (c : UInt8) : looseByte c = Nexus.Uri.looseByte c := by
  simp [looseByte, Nexus.Uri.looseByte, dec_eq_beq]

theorem strictByte_eq (c : UInt8) : strictByte c = Nexus.Uri.strictByte c := by
  simp [strictByte, Nexus.Uri.strictByte, dec_eq_beq]

theorem compOk_eq (strict : Bool) (p : List UInt8) :
    compOk strict p = p.all (Nexus.Uri.okByte strict) := by
  cases strict
  · exact congrArg p.all (funext looseByte_eq)
  · exact congrArg p.all (funext strictByte_eq)

def policyOfKind : MatchKind → Nexus.Uri.Policy
  | .exact => .nonEmpty
  | .pfx => .lastEmpty
  | .wild => .anyEmpty

theorem allNonEmpty_eq (l : List (List UInt8)) : allNonEmpty l = l.all (fun c => !c.isEmpty) := by
  induction l with
  | nil => rfl
  | cons p ps ih => simp [allNonEmpty, ih]

theorem initNonEmpty_eq (l : List (List UInt8)) : initNonEmpty l = l.dropLast.all (fun c => !c.isEmpty) := by
  induction l with
  | nil => rfl
  | cons p ps ih =>
    cases ps with
    | nil => simp [initNonEmpty]
    | cons q qs => simp [initNonEmpty, ih, List.dropLast]

theorem validUriBytes_eq_ruleB (strict : Bool) (k : MatchKind) (u : List UInt8) :
    validUriBytes strict k u = Nexus.Uri.ruleB strict (policyOfKind k) u := by
  unfold validUriBytes Nexus.Uri.ruleB
  simp only [splitDots_eq]
  have h : (Nexus.Uri.splitDot u).all (compOk strict) =
      (Nexus.Uri.splitDot u).all (fun c => c.all (Nexus.Uri.okByte strict)) := by
    congr 1; funext p; exact compOk_eq strict p
  rw [h]
  cases k <;> simp [policyOfKind, allNonEmpty_eq, initNonEmpty_eq]

/-- … hence, by C19's theorems, exactly what the regenerated regular expression of that
    (strict, policy) accepts. -/
theorem validUriBytes_iff_regex (strict : Bool) (k : MatchKind) (u : List UInt8) :
    validUriBytes strict k u = true ↔
      Nexus.Uri.Regex.Matches (Nexus.Uri.regexFor strict (policyOfKind k)) u := by
  rw [validUriBytes_eq_ruleB, Nexus.C19.ruleB_iff_rule, ← Nexus.C19.regexFor_iff_rule]

theorem isPrefixOf_eq (p u : List UInt8) : isPrefixOf p u = p.isPrefixOf u := by
  induction p generalizing u with
  | nil => simp [isPrefixOf]
  | cons a as ih =>
    cases u with
    | nil => simp [isPrefixOf]
    | cons b bs => simp [isPrefixOf, ih, List.isPrefixOf, dec_eq_beq]

/-- the model's prefix test is `strings.HasPrefix` as characterised in C19 -/
theorem isPrefixOf_iff (p u : List UInt8) : isPrefixOf p u = true ↔ ∃ t, u = p ++ t := by
  rw [isPrefixOf_eq]
  exact Nexus.C19.prefixMatch_iff u p

theorem wildParts_eq : ∀ (ws ps : List (List UInt8)),
    wildParts ws ps = (decide (ps.length = ws.length) && Nexus.Uri.wildLoop ws ps)
  | [], [] => by simp [wildParts, Nexus.Uri.wildLoop]
  | [], _ :: _ => by simp [wildParts]
  | _ :: _, [] => by simp [wildParts]
  | w :: ws, p :: ps => by
    simp only [wildParts, Nexus.Uri.wildLoop, wildParts_eq ws ps, List.length_cons]
    by_cases hw : w = []
    · subst hw; simp
    · by_cases hp : w = p
      · subst hp; simp [hw]
      · simp [hw, hp]

/-- the model's wildcard test is `WildcardMatch` as characterised in C19 -/
theorem wildParts_splitDots (u w : List UInt8) :
    wildParts (splitDots w) (splitDots u) = Nexus.Uri.wildcardMatch u w := by
  rw [wildParts_eq, splitDots_eq, splitDots_eq]
  unfold Nexus.Uri.wildcardMatch
  by_cases h : (Nexus.Uri.splitDot u).length = (Nexus.Uri.splitDot w).length <;> simp [h]

theorem looseByte_of_strictByte {c : UInt8} (h : strictByte c = true) : looseByte c = true := by
  simp only [looseByte, Bool.not_eq_true', Bool.or_eq_false_iff, decide_eq_false_iff_not]
  refine ⟨⟨⟨⟨⟨⟨?_, ?_⟩, ?_⟩, ?_⟩, ?_⟩, ?_⟩, ?_⟩ <;> (rintro rfl; revert h; decide)

/-- Strict validity implies loose validity (`C18_meta_topics_valid`). -/
theorem validUri_of_strict (strict : Bool) {m u : String} (h : validUri true m u = true) :
    validUri strict m u = true := by
  cases strict
  · simp only [validUri, validUriBytes, compOk, Bool.and_eq_true, List.all_eq_true] at h ⊢
    exact ⟨fun p hp c hc => looseByte_of_strictByte (h.1 p hp c hc), h.2⟩
  · exact h

/-- The L2 model's name constants "prefix" / "wildcard" have the bytes of C19's `prefixName` /
    `wildcardName` (= the Go constants `wamp.MatchPrefix` / `wamp.MatchWildcard`, `Uri.matchPrefix_eq`). -/
theorem eq_matchPrefix_iff (m : String) :
    m = Gen.N.MatchPrefix ↔ m.toUTF8.toList = Nexus.Uri.prefixName := by
  rw [← show Gen.N.MatchPrefix.toUTF8.toList = Nexus.Uri.prefixName by rw [byteArray_toList_eq]; decide, utf8_inj]

theorem eq_matchWildcard_iff (m : String) :
    m = Gen.N.MatchWildcard ↔ m.toUTF8.toList = Nexus.Uri.wildcardName := by
  rw [← show Gen.N.MatchWildcard.toUTF8.toList = Nexus.Uri.wildcardName by rw [byteArray_toList_eq]; decide, utf8_inj]

end Nexus.L2

namespace Nexus.C19
open Nexus.L2 (eq_matchPrefix_iff eq_matchWildcard_iff)

/-- The L2 model's dispatch on the raw `match` option (String equality with "prefix" /
    "wildcard", anything else exact) selects the policy that C19's `policyOf` assigns to the
    UTF-8 bytes of that string — for every string `m`.  (This links `L2.matchKind` to the
    byte-level dispatch `C19.dispatch` is about.) -/
theorem matchKind_policy (m : String) :
    L2.policyOfKind (L2.matchKind m) = Nexus.Uri.policyOf m.toUTF8.toList := by
  unfold L2.matchKind Nexus.Uri.policyOf
  simp only [eq_matchPrefix_iff, eq_matchWildcard_iff]
  split
  · rename_i hp
    rw [hp, if_neg (by decide)]; rfl
  · split <;> rfl

-- the three kinds are all reached; "exact", "" and "Prefix" are exact
example : L2.matchKind "prefix" = .pfx ∧ L2.matchKind "wildcard" = .wild ∧ L2.matchKind "exact" = .exact ∧
    L2.matchKind "" = .exact ∧ L2.matchKind "Prefix" = .exact := by decide

/-- The L2 model's `validUri strict m u` (Strings) equals
    `URI(u).ValidURI(strict, m)` as modelled in C19 on the UTF-8 bytes — i.e. the executable
    matcher run on the regular expression regenerated from wamp/identifier.go and selected by the
    regenerated dispatch — for every `strict`, every `match` string and every URI string. -/
theorem validUri_eq (strict : Bool) (m u : String) :
    L2.validUri strict m u = Nexus.Uri.validURI strict m.toUTF8.toList u.toUTF8.toList := by
  rw [Bool.eq_iff_iff]
  unfold L2.validUri
  rw [L2.validUriBytes_eq_ruleB, matchKind_policy, ruleB_iff_rule, validURI_iff_rule]

/-- … hence the L2 model accepts a URI string exactly when its components satisfy the rule. -/
theorem validUri_iff_rule (strict : Bool) (m u : String) :
    L2.validUri strict m u = true ↔
      Nexus.Uri.rule strict (Nexus.Uri.policyOf m.toUTF8.toList) u.toUTF8.toList := by
  rw [validUri_eq, validURI_iff_rule]

/-- The L2 model's `prefixMatch topic pattern` is C19's `prefixMatch` (`strings.HasPrefix`) on the
    UTF-8 bytes. -/
theorem prefixMatch_eq (topic pattern : String) :
    L2.prefixMatch topic pattern =
      Nexus.Uri.prefixMatch topic.toUTF8.toList pattern.toUTF8.toList := by
  unfold L2.prefixMatch Nexus.Uri.prefixMatch
  exact L2.isPrefixOf_eq _ _

/-- The L2 model's `wildcardMatch topic pattern` is C19's `wildcardMatch` (the Go loop over
    `strings.Split` parts) on the UTF-8 bytes, with the same argument order
    (`topic.WildcardMatch(pattern)`). -/
theorem wildcardMatch_eq (topic pattern : String) :
    L2.wildcardMatch topic pattern =
      Nexus.Uri.wildcardMatch topic.toUTF8.toList pattern.toUTF8.toList := by
  unfold L2.wildcardMatch
  exact L2.wildParts_splitDots _ _

/-- The String-level prefix match in the property's words. -/
theorem prefixMatch_string_iff (topic pattern : String) :
    L2.prefixMatch topic pattern = true ↔
      ∃ t, topic.toUTF8.toList = pattern.toUTF8.toList ++ t := by
  rw [prefixMatch_eq, prefixMatch_iff]

/-- The String-level wildcard match in the property's words. -/
theorem wildcardMatch_string_iff (topic pattern : String) :
    L2.wildcardMatch topic pattern = true ↔
      (Nexus.Uri.splitDot topic.toUTF8.toList).length = (Nexus.Uri.splitDot pattern.toUTF8.toList).length ∧
      ∀ i (hw : i < (Nexus.Uri.splitDot pattern.toUTF8.toList).length)
          (hu : i < (Nexus.Uri.splitDot topic.toUTF8.toList).length),
        (Nexus.Uri.splitDot pattern.toUTF8.toList)[i] = [] ∨
        (Nexus.Uri.splitDot pattern.toUTF8.toList)[i] = (Nexus.Uri.splitDot topic.toUTF8.toList)[i] := by
  rw [wildcardMatch_eq, wildcardMatch_iff]

-- concrete instances through the bridge: the String-level value is obtained from the byte-level
-- C19 function (`ByteArray.toList` does not reduce in the kernel, its list of bytes does)
example : L2.validUri true "prefix" "ab." = true := by
  rw [validUri_eq, byteArray_toList_eq, byteArray_toList_eq]; decide
example : L2.validUri true "" "ab." = false := by
  rw [validUri_eq, byteArray_toList_eq, byteArray_toList_eq]; decide
example : L2.validUri false "wildcard" "a..b" = true := by
  rw [validUri_eq, byteArray_toList_eq, byteArray_toList_eq]; decide
example : L2.validUri false "exact" "a b" = false := by
  rw [validUri_eq, byteArray_toList_eq, byteArray_toList_eq]; decide
example : L2.prefixMatch "a.b.c" "a.b" = true := by
  rw [prefixMatch_eq, byteArray_toList_eq, byteArray_toList_eq]; decide
example : L2.wildcardMatch "a.b.c" "a..c" = true := by
  rw [wildcardMatch_eq, byteArray_toList_eq, byteArray_toList_eq]; decide
example : L2.wildcardMatch "a.b.c" "a.c" = false := by
  rw [wildcardMatch_eq, byteArray_toList_eq, byteArray_toList_eq]; decide

end Nexus.C19
