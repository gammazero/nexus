/-
  The configuration flags (`strict`, `allowDisclose`) of the broker and of the
  dealer are never changed by any action of the broker / dealer goroutine.
-/
import Nexus.L2.Proofs.BrokerSpec
import Nexus.L2.Proofs.DealerTimer

namespace Nexus.L2.WpA
open Nexus.L2 Gen.N

def BFlags (b b' : Broker) : Prop := b'.strict = b.strict ∧ b'.allowDisclose = b.allowDisclose

theorem BFlags.refl (b : Broker) : BFlags b b := ⟨rfl, rfl⟩
theorem BFlags.trans {a b c : Broker} (h1 : BFlags a b) (h2 : BFlags b c) : BFlags a c :=
  ⟨h2.1.trans h1.1, h2.2.trans h1.2⟩

theorem afterDepart_flags (b : Broker) (k : SessKey) (sub : Sub) : BFlags b (afterDepart b k sub) := by
  unfold afterDepart; split <;> exact ⟨rfl, rfl⟩

theorem removeMembers_flags (k : SessKey) : ∀ (ids : List Nat) (b : Broker) (pub0 : Nat),
    BFlags b (b.removeMembers k pub0 ids).1
  | [], b, _ => ⟨rfl, rfl⟩
  | id :: ids, b, pub0 => by
    simp only [Broker.removeMembers]
    refine BFlags.trans ?_ (removeMembers_flags k ids _ _)
    cases hf : b.findId id with
    | none => rw [removeMember_unknown hf]; exact ⟨rfl, rfl⟩
    | some sub => rw [removeMember_sends hf]; exact afterDepart_flags b k sub

theorem run_flags : ∀ (steps : List BStep) (b : Broker), BFlags b (b.run steps)
  | [], _ => ⟨rfl, rfl⟩
  | e :: rest, b => by
    refine BFlags.trans (b := b.step e) ?_ (run_flags rest _)
    cases e with
    | publish sess now p =>
      show BFlags b (b.syncPublish sess now p).1
      rw [syncPublish_eq]
      exact ⟨rfl, rfl⟩
    | subscribe k req topic m pub0 =>
      show BFlags b (b.syncSubscribe k req topic m pub0).1
      rcases b.syncSubscribe_spec k req topic m pub0 with
        ⟨_, _, _, e⟩ | ⟨_, _, _, e⟩ | ⟨_, e⟩ <;> rw [e] <;> exact ⟨rfl, rfl⟩
    | unsubscribe k req subId pub0 =>
      show BFlags b (b.syncUnsubscribe k req subId pub0).1
      rcases b.syncUnsubscribe_spec k req subId pub0 with ⟨_, e⟩ | ⟨sub, _, _, e⟩ <;> rw [e]
      · exact ⟨rfl, rfl⟩
      · exact afterDepart_flags b k sub
    | removeSession k pub0 =>
      show BFlags b (b.syncRemoveSession k pub0).1
      unfold Broker.syncRemoveSession
      split
      · exact ⟨rfl, rfl⟩
      · exact BFlags.trans (b := { b with index := idxDrop b.index k }) ⟨rfl, rfl⟩ (removeMembers_flags k _ _ _)

def DFlags (s s' : DState) : Prop := s'.d.strict = s.d.strict ∧ s'.d.allowDisclose = s.d.allowDisclose

theorem DFlags.refl (s : DState) : DFlags s s := ⟨rfl, rfl⟩
theorem DFlags.trans {a b c : DState} (h1 : DFlags a b) (h2 : DFlags b c) : DFlags a c :=
  ⟨h2.1.trans h1.1, h2.2.trans h1.2⟩

theorem syncRegister_flags (s : DState) (callee : SessKey) (req : Nat) (proc m invoke : String)
    (disclose fwd wampURI : Bool) : DFlags s (syncRegister s callee req proc m invoke disclose fwd wampURI).st := by
  obtain ⟨_, _, _, h⟩ := syncRegister_st s callee req proc m invoke disclose fwd wampURI
  rw [h]; exact ⟨rfl, rfl⟩

theorem syncUnregister_flags (s : DState) (callee : SessKey) (req regId : Nat) :
    DFlags s (syncUnregister s callee req regId).st := by
  obtain ⟨_, h⟩ := syncUnregister_st s callee req regId
  rw [h]; exact ⟨rfl, rfl⟩

theorem forget_flags (s : DState) (c i : ReqId) : DFlags s { s with d := s.d.forget c i } := ⟨rfl, rfl⟩

/-! ERROR, CANCEL and YIELD only shrink the state (`Shrinks`, which keeps the flags, whatever the state); a CALL does
    so after it has recorded the call (`Opens`), the removal of a session after it has removed the registrations. -/

theorem syncError_flags (s : DState) (callee : SessKey) (req : Nat) (details : Dict) (err : String)
    (args : List WVal) (kw : Dict) : DFlags s (syncError s callee req details err args kw).st :=
  (syncError_shrinks ..).flags

theorem syncCancel_flags (env : DEnv) (s : DState) (caller : SessKey) (req : Nat)
    (mode reason : String) (errArgs : List WVal) : DFlags s (syncCancel env s caller req mode reason errArgs).st :=
  (syncCancel_shrinks ..).flags

theorem syncYield_flags (env : DEnv) (s : DState) (callee : SessKey) (req : Nat) (opts : Dict)
    (args : List WVal) (kw : Dict) (progress canRetry : Bool) :
    DFlags s (syncYield env s callee req opts args kw progress canRetry).st :=
  (syncYield_shrinks ..).flags

theorem _root_.Nexus.L2.Opens.flags {s S : DState} {c : ReqId} (o : Opens s c S) : DFlags s S := by
  cases o <;> exact ⟨rfl, rfl⟩

theorem syncCall_flags {env : DEnv} {s : DState} (h : DealerInv s) (caller : SessKey) (req : Nat) (opts : Dict)
    (proc : String) (args : List WVal) (kw : Dict) (rnd : Nat) :
    DFlags s (syncCall env s caller req opts proc args kw rnd).st :=
  have ⟨_, o, m⟩ := syncCall_moves (env := env) h caller req opts proc args kw rnd
  o.flags.trans m.shrinks.flags

theorem syncRemoveSession_flags {env : DEnv} {s : DState} (h : DealerInv s) (k : SessKey) :
    DFlags s (syncRemoveSession env s k).st := by
  obtain ⟨s1, _, rfl, _, _, he⟩ := removeSession_mid (env := env) h k
  rw [he]
  exact ((cancelServed_shrinks ..).trans (dropCalls_shrinks ..)).flags

end Nexus.L2.WpA
