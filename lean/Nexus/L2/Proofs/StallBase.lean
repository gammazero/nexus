/-
  C07 "stall isolation": the relation `EqOff x r r'` (two realm states that differ only in what concerns the
  session `x` alone) and its preservation by the primitives (`setPanic`, `trySend`, `deliver`, `addTasks`), for
  any send.

  Nothing here needs an invariant.
-/
import Nexus.L2.Proofs.RealmQueue

namespace Nexus.L2.WpC
open Nexus.L2.Realm

def unstall (x : SessKey) (c : Session) : Session := if c.key == x then { c with stalled := false } else c

/-- The two states agree on everything except what concerns only the session `x` itself: the contents of x's
    outbound queue, whether x reads (`stalled`, compared away by `unstall x`), and whether x's closure has been
    observed (`closedPeers` and `ghosts` at `x`: `flush` consults them only to decide what the client itself has
    observed).  It is the relation between the two runs of the isolation theorems (C07Realm). -/
structure EqOff (x : SessKey) (r r' : Realm) : Prop where
  cfg : r'.cfg = r.cfg
  broker : r'.broker = r.broker
  ds : r'.ds = r.ds
  clients : r'.clients.map (unstall x) = r.clients.map (unstall x)
  ending : r'.ending = r.ending
  testaments : r'.testaments = r.testaments
  metaProcs : r'.metaProcs = r.metaProcs
  metaS : r'.metaS = r.metaS
  queues : r'.queues.filter (fun q => q.1 != x) = r.queues.filter (fun q => q.1 != x)
  closedPeers : r'.closedPeers.filter (· != x) = r.closedPeers.filter (· != x)
  tasks : r'.tasks = r.tasks
  retries : r'.retries = r.retries
  deferred : r'.deferred = r.deferred
  inbox : r'.inbox = r.inbox
  ghosts : r'.ghosts.filter (· != x) = r.ghosts.filter (· != x)
  now : r'.now = r.now
  pubCount : r'.pubCount = r.pubCount
  rnd : r'.rnd = r.rnd
  panic : r'.panic = r.panic

variable {x : SessKey}

theorem EqOff.refl (r : Realm) : EqOff x r r :=
  ⟨rfl, rfl, rfl, rfl, rfl, rfl, rfl, rfl, rfl, rfl, rfl, rfl, rfl, rfl, rfl, rfl, rfl, rfl, rfl⟩

theorem EqOff.symm {r r' : Realm} (h : EqOff x r r') : EqOff x r' r :=
  ⟨h.cfg.symm, h.broker.symm, h.ds.symm, h.clients.symm, h.ending.symm, h.testaments.symm, h.metaProcs.symm,
   h.metaS.symm, h.queues.symm, h.closedPeers.symm, h.tasks.symm, h.retries.symm, h.deferred.symm, h.inbox.symm,
   h.ghosts.symm, h.now.symm, h.pubCount.symm, h.rnd.symm, h.panic.symm⟩

theorem EqOff.trans {a b c : Realm} (h1 : EqOff x a b) (h2 : EqOff x b c) : EqOff x a c :=
  ⟨h2.cfg.trans h1.cfg, h2.broker.trans h1.broker, h2.ds.trans h1.ds, h2.clients.trans h1.clients,
   h2.ending.trans h1.ending, h2.testaments.trans h1.testaments, h2.metaProcs.trans h1.metaProcs,
   h2.metaS.trans h1.metaS, h2.queues.trans h1.queues, h2.closedPeers.trans h1.closedPeers,
   h2.tasks.trans h1.tasks, h2.retries.trans h1.retries, h2.deferred.trans h1.deferred, h2.inbox.trans h1.inbox,
   h2.ghosts.trans h1.ghosts, h2.now.trans h1.now, h2.pubCount.trans h1.pubCount, h2.rnd.trans h1.rnd,
   h2.panic.trans h1.panic⟩

@[simp] theorem unstall_key (c : Session) : (unstall x c).key = c.key := by unfold unstall; split <;> rfl
@[simp] theorem unstall_details (c : Session) : (unstall x c).details = c.details := by unfold unstall; split <;> rfl
@[simp] theorem unstall_roles (c : Session) : (unstall x c).roles = c.roles := by unfold unstall; split <;> rfl
@[simp] theorem unstall_isLocal (c : Session) : (unstall x c).isLocal = c.isLocal := by unfold unstall; split <;> rfl
@[simp] theorem unstall_cap (c : Session) : (unstall x c).cap = c.cap := by unfold unstall; split <;> rfl
@[simp] theorem unstall_buffered (c : Session) : (unstall x c).buffered = c.buffered := by
  unfold unstall; split <;> rfl

theorem unstall_of_ne {c : Session} (h : c.key ≠ x) : unstall x c = c := by
  unfold unstall; rw [if_neg (by simpa using h)]

/-- `unstall x` forgets what a switch of x's `stalled` flag did -/
theorem unstall_switch (b : Bool) :
    (unstall x ∘ fun c : Session => if c.key == x then { c with stalled := b } else c) = unstall x := by
  funext c
  simp only [Function.comp]
  unfold unstall
  split <;> simp_all

theorem unstall_hasFeature (c : Session) (role feat : String) :
    (unstall x c).hasFeature role feat = c.hasFeature role feat := by
  unfold Session.hasFeature; rw [unstall_roles]

/-- the two runs' records of one session, equal but for `stalled` at `x`: what a look-up returns in related states
    (`EqOff.find`) and what the handler lemmas take for the session they run for (`eqoff_handleMsg`), a handler
    being handed the record and not the key -/
def SEq (x : SessKey) (c c' : Session) : Prop := unstall x c' = unstall x c

theorem SEq.key {c c' : Session} (h : SEq x c c') : c'.key = c.key := by
  have := congrArg Session.key h; simpa using this
theorem SEq.details {c c' : Session} (h : SEq x c c') : c'.details = c.details := by
  have := congrArg Session.details h; simpa using this
theorem SEq.roles {c c' : Session} (h : SEq x c c') : c'.roles = c.roles := by
  have := congrArg Session.roles h; simpa using this
theorem SEq.isLocal {c c' : Session} (h : SEq x c c') : c'.isLocal = c.isLocal := by
  have := congrArg Session.isLocal h; simpa using this
theorem SEq.cap {c c' : Session} (h : SEq x c c') : c'.cap = c.cap := by
  have := congrArg Session.cap h; simpa using this
theorem SEq.buffered {c c' : Session} (h : SEq x c c') : c'.buffered = c.buffered := by
  have := congrArg Session.buffered h; simpa using this
theorem SEq.hasFeature {c c' : Session} (h : SEq x c c') (role feat : String) :
    c'.hasFeature role feat = c.hasFeature role feat := by
  unfold Session.hasFeature; rw [h.roles]
theorem SEq.eq_of_ne {c c' : Session} (h : SEq x c c') (hk : c.key ≠ x) : c' = c := by
  have h' := h
  unfold SEq at h'
  rw [unstall_of_ne hk, unstall_of_ne (by rw [h.key]; exact hk)] at h'
  exact h'
theorem SEq.refl (c : Session) : SEq x c c := rfl

/-- `SEq` for a look-up that may find nobody (`find?`, `session?`, `DEnv.sess`); read it with `OSEq.cases` -/
def OSEq (x : SessKey) (a a' : Option Session) : Prop := a'.map (unstall x) = a.map (unstall x)

theorem OSEq.cases {a a' : Option Session} (h : OSEq x a a') :
    (a = none ∧ a' = none) ∨ ∃ c c', a = some c ∧ a' = some c' ∧ SEq x c c' := by
  unfold OSEq at h
  cases a <;> cases a' <;> simp at h
  · exact Or.inl ⟨rfl, rfl⟩
  · exact Or.inr ⟨_, _, rfl, rfl, h⟩

theorem EqOff.find {r r' : Realm} (h : EqOff x r r') (k : SessKey) :
    OSEq x (r.clients.find? (fun c => c.key == k)) (r'.clients.find? (fun c => c.key == k)) :=
  find?_of_map_eq h.clients _ (fun c => by simp)

theorem EqOff.find_ne {r r' : Realm} (h : EqOff x r r') {k : SessKey} (hk : k ≠ x) :
    r'.clients.find? (fun c => c.key == k) = r.clients.find? (fun c => c.key == k) := by
  rcases (h.find k).cases with ⟨e1, e2⟩ | ⟨c, c', e1, e2, hs⟩
  · rw [e1, e2]
  · rw [e1, e2, hs.eq_of_ne]
    rw [(find?_key e1).2]; exact hk

theorem EqOff.session {r r' : Realm} (h : EqOff x r r') (k : SessKey) : OSEq x (r.session? k) (r'.session? k) := by
  unfold Realm.session?
  split
  · rw [h.metaS]; rfl
  · exact h.find k

theorem qlook_off {qs : List (SessKey × List Msg)} {k : SessKey} (hk : k ≠ x) :
    qlook (qs.filter (fun q => q.1 != x)) k = qlook qs k := by
  rw [qlook_filter_key (fun a => a != x) qs k, if_pos (by simpa using hk)]

theorem EqOff.queueOf {r r' : Realm} (h : EqOff x r r') {k : SessKey} (hk : k ≠ x) :
    r'.queueOf k = r.queueOf k := by
  rw [queueOf_eq, queueOf_eq, ← qlook_off hk, h.queues, qlook_off hk]

theorem EqOff.queueLen {r r' : Realm} (h : EqOff x r r') {k : SessKey} (hk : k ≠ x) :
    r'.queueLen k = r.queueLen k := by
  rw [queueLen_eq, queueLen_eq, h.queueOf hk]

theorem EqOff.isFull {r r' : Realm} (h : EqOff x r r') {k : SessKey} (hk : k ≠ x) :
    r'.isFull k = r.isFull k := by
  unfold Realm.isFull Realm.session?
  rw [h.metaS, h.find_ne hk, h.queueLen hk]

/-- `enq` under a filter on the keys: a message for a key the filter drops goes with it -/
theorem filter_enq (p : SessKey → Bool) (qs : List (SessKey × List Msg)) (k : SessKey) (m : Msg) :
    (enq qs k m).filter (fun q => p q.1) =
      if p k then enq (qs.filter (fun q => p q.1)) k m else qs.filter (fun q => p q.1) := by
  have hm : (qs.map (fun q => if q.1 == k then (q.1, q.2 ++ [m]) else q)).filter (fun q => p q.1) =
      (qs.filter (fun q => p q.1)).map (fun q => if q.1 == k then (q.1, q.2 ++ [m]) else q) := by
    rw [List.filter_map]
    congr 2
    funext q
    simp only [Function.comp]
    split <;> rfl
  unfold enq
  by_cases hk : p k = true
  · have ha : (qs.filter (fun q => p q.1)).any (fun q => q.1 == k) = qs.any (fun q => q.1 == k) := by
      rw [List.any_filter]
      congr 1
      funext q
      by_cases hq : q.1 = k
      · simp [hq, hk]
      · simp [hq]
    rw [if_pos hk, ha]
    split
    · exact hm
    · rw [List.filter_append]; simp [hk]
  · rw [if_neg hk]
    split
    · rw [hm]
      conv => rhs; rw [← List.map_id (qs.filter _)]
      refine List.map_congr_left fun q hq => ?_
      have hq' : ¬ (q.1 == k) = true := fun e => hk ((beq_iff_eq.mp e : q.1 = k) ▸ (List.mem_filter.mp hq).2)
      rw [if_neg hq']
      rfl
    · rw [List.filter_append]; simp [hk]

theorem eqoff_setPanic {r r' : Realm} (h : EqOff x r r') (p : Option String) :
    EqOff x (r.setPanic p) (r'.setPanic p) := by
  unfold Realm.setPanic
  rw [h.panic]
  split
  · exact { h with panic := rfl }
  · exact h

theorem eqoff_addTasks {r r' : Realm} (h : EqOff x r r') (ts : List Task) :
    EqOff x (r.addTasks ts) (r'.addTasks ts) := by
  unfold Realm.addTasks
  exact { h with tasks := congrArg (· ++ ts) h.tasks }

theorem eqoff_ite {c : Prop} [Decidable c] {a b a' b' : Realm} (h1 : c → EqOff x a a') (h2 : ¬c → EqOff x b b') :
    EqOff x (if c then a else b) (if c then a' else b') := by
  split
  · exact h1 ‹_›
  · exact h2 ‹_›

theorem eqoff_end {r r' : Realm} (h : EqOff x r r') (k : SessKey) (mode : LeaveMode) :
    EqOff x (r.ended k mode) (r'.ended k mode) :=
  { h with tasks := congrArg (· ++ _) h.tasks, ending := congrArg (· ++ _) h.ending }

/-- `x` has to be attached: a send to a session that is not is the model's panic -/
theorem eqoff_trySend_self (r : Realm) (m : Msg) {c : Session} (hm : x ≠ metaKey) (hc : r.client? x = some c) :
    EqOff x r (r.trySend ⟨x, m⟩) := by
  rw [trySend_client r ⟨x, m⟩ hm hc]
  split
  · exact EqOff.refl r
  · exact { EqOff.refl r with queues := (filter_enq (· != x) ..).trans (if_neg (by simp)) }

/-- A send to `x` itself may be queued in one state and dropped in the other (only x's queue differs
    afterwards); a send to anybody else finds the same room in both; a send to a session whose peer is
    closed is the model's panic in both or in neither. -/
theorem eqoff_trySend {r r' : Realm} (h : EqOff x r r') (s : Send) :
    EqOff x (r.trySend s) (r'.trySend s) := by
  by_cases hm : s.to = metaKey
  · unfold Realm.trySend
    rw [if_pos hm, if_pos hm]
    split
    · exact { h with tasks := congrArg (· ++ _) h.tasks }
    · exact h
  · rcases (h.find s.to).cases with ⟨e1, e2⟩ | ⟨c, c', e1, e2, hs⟩
    · rw [trySend_noclient r s hm e1, trySend_noclient r' s hm e2]
      exact eqoff_setPanic h _
    · by_cases hx : s.to = x
      · obtain ⟨k, m⟩ := s
        obtain rfl : k = x := hx
        exact ((eqoff_trySend_self r m hm e1).symm.trans h).trans (eqoff_trySend_self r' m hm e2)
      · rw [trySend_client r s hm e1, trySend_client r' s hm e2, h.queueLen hx, hs.cap]
        split
        · exact h
        · refine { h with queues := ?_ }
          show (enq r'.queues s.to s.msg).filter _ = (enq r.queues s.to s.msg).filter _
          have hx' : (s.to != x) = true := by simpa using hx
          rw [filter_enq (· != x), filter_enq (· != x), if_pos hx', if_pos hx', h.queues]

theorem eqoff_stalled_self (r : Realm) (b : Bool) :
    EqOff x r { r with clients := r.clients.map (fun c => if c.key == x then { c with stalled := b } else c) } := by
  refine { EqOff.refl r with clients := ?_ }
  dsimp only
  rw [List.map_map, unstall_switch]

theorem eqoff_deliver (ss : List Send) : ∀ {r r' : Realm}, EqOff x r r' → EqOff x (r.deliver ss) (r'.deliver ss) := by
  induction ss with
  | nil => intro r r' h; exact h
  | cons s ss ih => intro r r' h; exact ih (eqoff_trySend h s)

end Nexus.L2.WpC
