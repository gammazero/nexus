/-
  The router as a table of realms (for C11).

  `Router.Inv rt`: realm names are distinct and every realm of the table is confined
  (`Realm.Conf`) to the sessions that joined it according to `rt.sessRealm`.

  One step of the router is described twice, each time by one case analysis of `Router.step`:
  `step_realms` (realm by realm: every realm afterwards is a realm before, untouched or after the one
  input dispatched to it, or freshly created) and `step_fields` (the router's own fields: clock,
  template, closed flag, session map, distinctness of names).  Invariants of the table are instances
  (`Inv.step`; `ClockShared.step`, `realmsKeysOk_step` in the files that import this one).
  `Created` says what `Router.create` builds.

  To lift a property `Q` of realms to every realm of the table of a reachable router: `step_realms` with `Q' := Q`
  (`keep` is the identity).  What remains is `step` — `Q` is kept by `Realm.step` under every input `Dispatch` names —
  and two obligations the realm level does not know: `created` — `Q` holds of what `Realm.create` builds after
  `{ r with pubCount := …, now := … }` — and `rnd` — `Q` survives `{ r with rnd := n }`.  `realmsKeysOk_step` is
  written so; `Inv.step` and `ClockShared.step` let `Q'` speak of the router afterwards (its session map, its clock).
  What this cannot reach: no lemma connects a realm inside a router to the ghost trace (`traceHist`).  The history
  theorems (of C01, C12, C20) start from `Realm.Reachable` or `Realm.create`, and a realm of the table is neither (it
  is created at an offset publication counter and the router's time, and `.rnd` writes its oracle directly): they do
  not apply to it.

  A new constructor of `ROp` is a compile error where the operations are listed: `Router.step`, `concerns`,
  `step_realms`, `step_fields`, `agree_skip`, `concerns_agree`, `agree_sync`; `step_closed_empty` fails
  unless the new step computes on a closed empty router.  It is silently given the default where a wildcard stands,
  and each default has to be looked at: `ROp.wf`, `ROp.elapsed`, `ROp.untimedSess`, `StepOk`, `obsPart`, `isAttach`,
  and the `cases … <;> first` in `ClockShared.step` and `StepOk.wf`.  `Dispatch` needs a constructor if the operation
  hands an input to a realm, `Creates` if it creates one; the driver (`toROp`) produces it only when taught to.
-/
import Nexus.L2.Router
import Nexus.L2.Proofs.RealmFrame
import Nexus.L2.Proofs.RealmInv

namespace Nexus.L2

def Realm.Op.isJoin : Realm.Op → Bool
  | .join .. => true
  | _ => false

namespace Router
open Realm

def joined (rt : Router) (A : String) (k : SessKey) : Prop := (k, A) ∈ rt.sessRealm

/-- the realm an operation of session `k` is dispatched to -/
def realmOf (rt : Router) (k : SessKey) : Option String :=
  (rt.sessRealm.find? (fun p => p.1 == k)).map (·.2)

def others (rt : Router) (A : String) : List (String × Realm) := rt.realms.filter (fun p => p.1 != A)

structure Inv (rt : Router) : Prop where
  names : (rt.realms.map (·.1)).Nodup
  conf : ∀ p ∈ rt.realms, Conf (rt.joined p.1) p.2

/-- operations as the router's API produces them: a session operation is not a `join`
    (sessions attach through `ROp.join` only) -/
def _root_.Nexus.L2.ROp.wf : ROp → Prop
  | .sess _ op => op.isJoin = false
  | _ => True

/-- dispatch reads the session map only -/
theorem realmOf_congr {rt rt' : Router} (h : rt'.sessRealm = rt.sessRealm) (k : SessKey) : rt'.realmOf k = rt.realmOf k :=
  congrArg (fun m => (m.find? (fun p => p.1 == k)).map (·.2)) h

/-- a session that joined `A`, its key attached once, is dispatched to `A` -/
theorem realmOf_of_joined {rt : Router} (hn : (rt.sessRealm.map (·.1)).Nodup) {A : String} {k : SessKey}
    (h : rt.joined A k) : rt.realmOf k = some A :=
  (assoc?_eq_some hn).2 h

theorem realm?_mem {rt : Router} {A : String} {r : Realm} (h : rt.realm? A = some r) : (A, r) ∈ rt.realms :=
  assoc?_mem h

theorem realm?_none_iff (rt : Router) (A : String) : rt.realm? A = none ↔ ∀ p ∈ rt.realms, p.1 ≠ A :=
  assoc?_eq_none

theorem realm?_none {rt : Router} {A : String} (h : rt.realm? A = none) : ∀ p ∈ rt.realms, p.1 ≠ A :=
  (realm?_none_iff rt A).mp h

/-- `realmOf` and `realm?` are look-ups in association lists (`assoc?`, Keyed): what a router step does to either is read
    off what it does to the list (`assoc?_map_snd`, `assoc?_filter_self`, `assoc?_append`). -/
theorem realmOf_eq (rt : Router) (k : SessKey) : rt.realmOf k = assoc? rt.sessRealm k := rfl
theorem realm?_eq (rt : Router) (A : String) : rt.realm? A = assoc? rt.realms A := rfl

theorem setRealm_sessRealm (rt : Router) (A : String) (r : Realm) : (rt.setRealm A r).sessRealm = rt.sessRealm := rfl

theorem others_setRealm (rt : Router) (A : String) (r : Realm) : (rt.setRealm A r).others A = rt.others A := by
  unfold others setRealm
  refine filter_map_frame _ _ (fun x => ?_) (fun x hx => ?_) _
  · by_cases h : x.1 = A <;> simp [h]
  · rw [if_neg (by simpa using hx)]

theorem names_setRealm (rt : Router) (A : String) (r : Realm) :
    (rt.setRealm A r).realms.map (·.1) = rt.realms.map (·.1) :=
  map_update_map_eq (f := fun p : String × Realm => p.1) (u := fun _ => (A, r)) fun _ _ hk => hk.symm

theorem mem_setRealm {rt : Router} {A : String} {r : Realm} {p : String × Realm}
    (h : p ∈ (rt.setRealm A r).realms) : (p = (A, r) ∧ ∃ r0, (A, r0) ∈ rt.realms) ∨ (p ∈ rt.realms ∧ p.1 ≠ A) := by
  obtain ⟨x, hx, rfl⟩ := List.mem_map.mp h
  by_cases e : x.1 = A
  · exact .inl ⟨by simp [e], x.2, by rw [← e]; exact hx⟩
  · rw [if_neg (by simpa using e)]
    exact .inr ⟨hx, e⟩

theorem create_conf {cfg : Config} {r : Realm} (h : Realm.create cfg = some r) (P : SessKey → Prop) : Conf P r := by
  have c := create_rinv h
  exact ⟨by rw [c.clients]; nofun, by rw [c.queues]; nofun, by rw [c.closedPeers]; nofun⟩

theorem shutdownRealm_conf {P : SessKey → Prop} {r : Realm} (h : Conf P r) :
    Conf P (shutdownRealm r).2 ∧ (∀ q ∈ (shutdownRealm r).1.out, P q.1) ∧ (∀ k ∈ (shutdownRealm r).1.closed, P k) :=
  Conf.flush (List.foldlRecOn r.clients _ h fun _ h c _ => h.leave c.key .shutdown)

/-- the fold of `Router.step (.tick ms)` -/
def tickFold (ms : Nat) (l : List (String × Realm)) (acc : RObserved × Router) : RObserved × Router :=
  l.foldl (fun (acc : RObserved × Router) p =>
      let (o, r) := p.2.step (.tick ms)
      (merge acc.1 o, acc.2.setRealm p.1 r)) acc

theorem step_tick_eq (rt : Router) (ms : Nat) :
    rt.step (.tick ms) = tickFold ms rt.realms ({}, { rt with now := rt.now + ms }) := rfl

theorem tickFold_cons (ms : Nat) (p : String × Realm) (l : List (String × Realm)) (acc : RObserved × Router) :
    tickFold ms (p :: l) acc =
      tickFold ms l (merge acc.1 (p.2.step (.tick ms)).1, acc.2.setRealm p.1 (p.2.step (.tick ms)).2) := rfl

theorem tickFold_fields (ms : Nat) : ∀ (l : List (String × Realm)) (acc : RObserved × Router),
    (tickFold ms l acc).2.now = acc.2.now ∧ (tickFold ms l acc).2.template = acc.2.template ∧
    (tickFold ms l acc).2.sessRealm = acc.2.sessRealm ∧ (tickFold ms l acc).2.closed = acc.2.closed ∧
    (tickFold ms l acc).2.realms.map (·.1) = acc.2.realms.map (·.1)
  | [], _ => ⟨rfl, rfl, rfl, rfl, rfl⟩
  | p :: l, acc => by
    rw [tickFold_cons]
    obtain ⟨h1, h2, h3, h4, h5⟩ := tickFold_fields ms l
      (merge acc.1 (p.2.step (.tick ms)).1, acc.2.setRealm p.1 (p.2.step (.tick ms)).2)
    exact ⟨h1, h2, h3, h4, h5.trans (names_setRealm _ _ _)⟩

/-- The fold overwrites, for each realm of `l` in turn, every entry of its name: an entry of the table ends as the step
    of the last realm of `l` that bears its name (realm names need not be distinct). -/
theorem tickFold_table (ms : Nat) : ∀ (l : List (String × Realm)) (acc : RObserved × Router),
    (tickFold ms l acc).2.realms = acc.2.realms.map (fun q =>
          match l.reverse.find? (fun p => p.1 == q.1) with
          | some p => (p.1, (p.2.step (.tick ms)).2)
          | none => q)
  | [], acc => by
    show acc.2.realms = _
    simp
  | p :: l, acc => by
    rw [tickFold_cons, tickFold_table ms l, List.reverse_cons]
    simp only [setRealm, List.map_map]
    refine List.map_congr_left fun q _ => ?_
    simp only [Function.comp, List.find?_append]
    by_cases e : q.1 = p.1
    · rw [if_pos (beq_iff_eq.mpr e)]
      simp only [e]
      cases l.reverse.find? (fun x => x.1 == p.1) <;> simp
    · rw [if_neg (by simpa using e)]
      cases l.reverse.find? (fun x => x.1 == q.1) with
      | some y => rfl
      | none => simp [Ne.symm e]

/-- a fold of `merge` (the clock, `Router.Close`) shows what its members show, in order, and the first panic -/
theorem foldl_merge {α : Type} (f : α → Realm.Observed) : ∀ (l : List α) (acc : RObserved),
    l.foldl (fun acc p => merge acc (f p)) acc =
      { acc with out := acc.out ++ l.flatMap (fun p => (f p).out),
                 closed := acc.closed ++ l.flatMap (fun p => (f p).closed),
                 panic := acc.panic <|> l.findSome? (fun p => (f p).panic) }
  | [], acc => by
    rw [List.foldl_nil, List.flatMap_nil, List.flatMap_nil, List.append_nil, List.append_nil, List.findSome?_nil]
    cases acc with | mk o c p r => cases p <;> rfl
  | p :: l, acc => by
    rw [List.foldl_cons, foldl_merge f l, List.flatMap_cons, List.flatMap_cons, List.findSome?_cons]
    unfold merge
    rw [← List.append_assoc, ← List.append_assoc]
    cases acc.panic <;> cases (f p).panic <;> rfl

/-- what a tick shows: the realms' observations merged in table order, as `step_close` says of `Router.Close`
    (`foldl_merge`: what such a fold shows) -/
theorem step_tick_obs (rt : Router) (ms : Nat) :
    (rt.step (.tick ms)).1 = rt.realms.foldl (fun a p => merge a (p.2.step (.tick ms)).1) {} :=
  (List.foldl_hom Prod.fst fun _ _ => rfl).symm

theorem step_tick_realms (rt : Router) (ms : Nat) (hn : (rt.realms.map (·.1)).Nodup) :
    (rt.step (.tick ms)).2.realms = rt.realms.map (fun q => (q.1, (q.2.step (.tick ms)).2)) ∧
    (rt.step (.tick ms)).2.sessRealm = rt.sessRealm ∧ (rt.step (.tick ms)).2.closed = rt.closed := by
  refine ⟨?_, (tickFold_fields ms _ _).2.2.1, (tickFold_fields ms _ _).2.2.2.1⟩
  rw [step_tick_eq, tickFold_table]
  exact List.map_congr_left fun q hq => by
    rw [find?_fst_of_nodup (by rw [List.map_reverse]; exact List.pairwise_reverse.mpr (hn.imp Ne.symm)) (List.mem_reverse.mpr hq)]

/-- the router after the on-demand creation of realm `name` from the realm template
    (`Config.RealmTemplate`): unchanged unless the realm is absent, a template is configured and
    `Realm.create` accepts the template for that name -/
def ensureRealm (rt : Router) (name : String) : Router :=
  match rt.realm? name, rt.template with
  | none, some t =>
    match Realm.create { t with uri := name } with
    | some r => { rt with realms := rt.realms ++ [(name, { r with pubCount := rt.created * 1000000, now := rt.now })],
                          created := rt.created + 1 }
    | none => rt
  | _, _ => rt

theorem step_join (rt : Router) (name : String) (k : SessKey) (l : Bool) (d : Dict) (ro : Roles) (c : Nat) :
    rt.step (.join name k l d ro c) =
      if rt.closed || name == "" then ({ refused := true }, rt) else
      match (rt.ensureRealm name).realm? name with
      | none => ({ refused := true }, rt.ensureRealm name)
      | some r =>
        (merge {} (r.step (.join k l d ro c)).1,
         { (rt.ensureRealm name).setRealm name (r.step (.join k l d ro c)).2 with
             sessRealm := (rt.ensureRealm name).sessRealm ++ [(k, name)] }) := rfl

theorem ensureRealm_cases (rt : Router) (name : String) :
    rt.ensureRealm name = rt ∨
    (rt.realm? name = none ∧ ∃ t r, rt.template = some t ∧ Realm.create { t with uri := name } = some r ∧
      rt.ensureRealm name =
        { rt with realms := rt.realms ++ [(name, { r with pubCount := rt.created * 1000000, now := rt.now })],
                  created := rt.created + 1 }) := by
  unfold ensureRealm
  split
  · rename_i t hr ht
    split
    · rename_i r hc
      exact Or.inr ⟨hr, t, r, ht, hc, rfl⟩
    · exact Or.inl rfl
  · exact Or.inl rfl

theorem ensureRealm_fields (rt : Router) (name : String) :
    (rt.ensureRealm name).sessRealm = rt.sessRealm ∧ (rt.ensureRealm name).closed = rt.closed ∧
    (rt.ensureRealm name).template = rt.template ∧
    ((rt.ensureRealm name).realms = rt.realms ∨
      (rt.realm? name = none ∧ ∃ r, (rt.ensureRealm name).realms = rt.realms ++ [(name, r)])) := by
  rcases ensureRealm_cases rt name with h | ⟨hn, t, r, _, _, h⟩
  · rw [h]; exact ⟨rfl, rfl, rfl, Or.inl rfl⟩
  · rw [h]; exact ⟨rfl, rfl, rfl, Or.inr ⟨hn, _, rfl⟩⟩

theorem others_ensureRealm (rt : Router) (name : String) : (rt.ensureRealm name).others name = rt.others name := by
  unfold others
  rcases (ensureRealm_fields rt name).2.2.2 with h | ⟨_, r, h⟩
  · rw [h]
  · rw [h, List.filter_append]
    simp

theorem step_sess (rt : Router) (k : SessKey) (op : Op) :
    rt.step (.sess k op) =
      match rt.realmOf k with
      | none => ({}, rt)
      | some name =>
        match rt.realm? name with
        | none => ({}, rt)
        | some r => (merge {} (r.step op).1, rt.setRealm name (r.step op).2) := rfl

theorem step_remove (rt : Router) (A : String) :
    rt.step (.removeRealm A) =
      match rt.realm? A with
      | none => ({}, rt)
      | some r => (merge {} (shutdownRealm r).1, { rt with realms := rt.realms.filter (fun p => p.1 != A) }) := rfl

theorem step_add (rt : Router) (cfg : Config) :
    rt.step (.addRealm cfg) =
      if rt.closed || rt.realms.any (fun p => p.1 == cfg.uri) then ({ refused := true }, rt)
      else match Realm.create cfg with
        | some r => ({}, { rt with realms := rt.realms ++ [(cfg.uri, { r with pubCount := rt.created * 1000000, now := rt.now })],
                                   created := rt.created + 1 })
        | none => ({ refused := true }, rt) := rfl

theorem step_rnd (rt : Router) (n : Nat) :
    rt.step (.rnd n) = ({}, { rt with realms := rt.realms.map (fun p => (p.1, { p.2 with rnd := n })) }) := rfl

theorem step_close (rt : Router) :
    rt.step .close =
      (rt.realms.foldl (fun (acc : RObserved) p => merge acc (shutdownRealm p.2).1) {},
       { rt with realms := [], closed := true }) := rfl

theorem step_join_refused {rt : Router} {name : String} (h : (rt.closed || name == "") = true) (k : SessKey) (l : Bool)
    (d : Dict) (ro : Roles) (c : Nat) : rt.step (.join name k l d ro c) = ({ refused := true }, rt) := by
  rw [step_join, if_pos h]

theorem step_join_none {rt : Router} {name : String} (hc : (rt.closed || name == "") = false)
    (h : (rt.ensureRealm name).realm? name = none) (k : SessKey) (l : Bool) (d : Dict)
    (ro : Roles) (c : Nat) : rt.step (.join name k l d ro c) = ({ refused := true }, rt.ensureRealm name) := by
  rw [step_join, hc, h]; simp

theorem step_join_some {rt : Router} {name : String} {r : Realm} (hc : (rt.closed || name == "") = false)
    (h : (rt.ensureRealm name).realm? name = some r)
    (k : SessKey) (l : Bool) (d : Dict) (ro : Roles) (c : Nat) :
    rt.step (.join name k l d ro c) =
      (merge {} (r.step (.join k l d ro c)).1,
       { (rt.ensureRealm name).setRealm name (r.step (.join k l d ro c)).2 with
           sessRealm := (rt.ensureRealm name).sessRealm ++ [(k, name)] }) := by
  rw [step_join, hc, h]; simp

theorem step_sess_unknown {rt : Router} {k : SessKey} (h : rt.realmOf k = none) (op : Op) :
    rt.step (.sess k op) = ({}, rt) := by
  rw [step_sess, h]

theorem step_sess_gone {rt : Router} {k : SessKey} {A : String} (h : rt.realmOf k = some A)
    (hr : rt.realm? A = none) (op : Op) : rt.step (.sess k op) = ({}, rt) := by
  rw [step_sess, h]; simp only [hr]

theorem step_sess_some {rt : Router} {k : SessKey} {A : String} {r : Realm} (h : rt.realmOf k = some A)
    (hr : rt.realm? A = some r) (op : Op) :
    rt.step (.sess k op) = (merge {} (r.step op).1, rt.setRealm A (r.step op).2) := by
  rw [step_sess, h]; simp only [hr]

theorem step_remove_none {rt : Router} {A : String} (h : rt.realm? A = none) :
    rt.step (.removeRealm A) = ({}, rt) := by
  rw [step_remove, h]

theorem step_remove_some {rt : Router} {A : String} {r : Realm} (h : rt.realm? A = some r) :
    rt.step (.removeRealm A) =
      (merge {} (shutdownRealm r).1, { rt with realms := rt.realms.filter (fun p => p.1 != A) }) := by
  rw [step_remove, h]

/-! An operation addressed to `A` leaves the rest of the table alone. -/

theorem others_step_join (rt : Router) (A : String) (k : SessKey) (l : Bool) (d : Dict) (ro : Roles) (c : Nat) :
    (rt.step (.join A k l d ro c)).2.others A = rt.others A := by
  cases hc : (rt.closed || A == "") with
  | true => rw [step_join_refused hc]
  | false =>
    cases hr : (rt.ensureRealm A).realm? A with
    | none => rw [step_join_none hc hr]; exact others_ensureRealm rt A
    | some r => rw [step_join_some hc hr]; exact (others_setRealm _ _ _).trans (others_ensureRealm rt A)

theorem others_step_sess {rt : Router} {k : SessKey} {A : String} (h : rt.realmOf k = some A) (op : Op) :
    (rt.step (.sess k op)).2.others A = rt.others A := by
  cases hr : rt.realm? A with
  | none => rw [step_sess_gone h hr]
  | some r => rw [step_sess_some h hr]; exact others_setRealm _ _ _

theorem others_step_remove (rt : Router) (A : String) : (rt.step (.removeRealm A)).2.others A = rt.others A := by
  cases hr : rt.realm? A with
  | none => rw [step_remove_none hr]
  | some r => rw [step_remove_some hr]; unfold others; simp only [List.filter_filter, Bool.and_self]

theorem others_step_add (rt : Router) (cfg : Config) :
    (rt.step (.addRealm cfg)).2.others cfg.uri = rt.others cfg.uri := by
  rw [step_add]
  split
  · rfl
  · split
    · unfold others; rw [List.filter_append]; simp
    · rfl

theorem merge_empty_out (o : Realm.Observed) : (merge {} o).out = o.out := rfl
theorem merge_empty_closed (o : Realm.Observed) : (merge {} o).closed = o.closed := rfl

/-- `op` reaches realm `A` as its input `rop`: the join of a session to `A` (which the step enters in
    `sessRealm`), an operation of a session dispatched to `A`, or the clock -/
inductive Dispatch (rt : Router) : ROp → String → Op → Prop
  | join {A : String} {k : SessKey} {l : Bool} {d : Dict} {ro : Roles} {c : Nat} :
      (k, A) ∈ (rt.step (.join A k l d ro c)).2.sessRealm → Dispatch rt (.join A k l d ro c) A (.join k l d ro c)
  | sess {k : SessKey} {rop : Op} {A : String} : rt.realmOf k = some A → Dispatch rt (.sess k rop) A rop
  | tick {ms : Nat} {A : String} : Dispatch rt (.tick ms) A (.tick ms)

/-- `op` creates the realm named `A` from `cfg`: `addRealm cfg` under its own name, or a join of `A` while a
    template is configured (`Router.step` does so only when `A` is absent: `ensureRealm`) -/
inductive Creates (rt : Router) : ROp → String → Config → Prop
  | add {cfg : Config} : Creates rt (.addRealm cfg) cfg.uri cfg
  | template {A : String} {k : SessKey} {l : Bool} {d : Dict} {ro : Roles} {c : Nat} {t : Config} :
      rt.template = some t → Creates rt (.join A k l d ro c) A { t with uri := A }

/-- A router step, realm by realm.  Every realm of the table after `rt.step op` is a realm of the table
    before — untouched (never on a tick), after the one input that `op` dispatches to it, or with the
    oracle set by `.rnd` — where a realm the step itself creates enters the table as `Realm.create` built
    it, at the router's publication offset and time.  So a property `Q` of the named realms of `rt`
    yields `Q'` for those of the new table (`created` has to produce `Q`, not `Q'`: the join's own step, or `keep`,
    follows the creation). -/
theorem step_realms {Q Q' : String → Realm → Prop} {rt : Router} (op : ROp)
    (h : ∀ p ∈ rt.realms, Q p.1 p.2)
    (keep : (∀ ms, op ≠ .tick ms) → ∀ A r, Q A r → Q' A r)
    (step : ∀ A r rop, Dispatch rt op A rop → Q A r → Q' A (r.step rop).2)
    (created : ∀ cfg r A, Creates rt op A cfg → Realm.create cfg = some r →
      Q A { r with pubCount := rt.created * 1000000, now := rt.now })
    (rnd : ∀ n A r, op = .rnd n → Q A r → Q' A { r with rnd := n }) :
    ∀ p ∈ (rt.step op).2.realms, Q' p.1 p.2 := by
  have same : (∀ ms, op ≠ .tick ms) → ∀ l : List (String × Realm), (∀ p ∈ l, Q p.1 p.2) → ∀ p ∈ l, Q' p.1 p.2 :=
    fun nt l hl p hp => keep nt _ _ (hl p hp)
  have set : ∀ {rt0 : Router} {A : String} {r : Realm} {rop : Op}, (∀ ms, op ≠ .tick ms) →
      (∀ p ∈ rt0.realms, Q p.1 p.2) → rt0.realm? A = some r → Dispatch rt op A rop →
      ∀ p ∈ (rt0.setRealm A (r.step rop).2).realms, Q' p.1 p.2 := by
    intro rt0 A r rop nt h0 hr hd p hp
    rcases mem_setRealm hp with ⟨rfl, _⟩ | ⟨hp, _⟩
    · exact step _ _ _ hd (h0 _ (realm?_mem hr))
    · exact keep nt _ _ (h0 p hp)
  have append : ∀ {cfg : Config} {r : Realm} {A : String}, Creates rt op A cfg → Realm.create cfg = some r →
      ∀ p ∈ rt.realms ++ [(A, { r with pubCount := rt.created * 1000000, now := rt.now })], Q p.1 p.2 := by
    intro cfg r A hc hcr p hp
    rcases List.mem_append.mp hp with hp | hp
    · exact h p hp
    · rw [List.mem_singleton.mp hp]; exact created cfg r A hc hcr
  cases op with
  | join name k l d ro c =>
    cases hc : (rt.closed || name == "") with
    | true => rw [step_join_refused hc]; exact same nofun _ h
    | false =>
      have he : ∀ p ∈ (rt.ensureRealm name).realms, Q p.1 p.2 := by
        rcases ensureRealm_cases rt name with e | ⟨_, _, _, ht, hcr, e⟩ <;> rw [e]
        · exact h
        · exact append (.template ht) hcr
      cases hr : (rt.ensureRealm name).realm? name with
      | none => rw [step_join_none hc hr]; exact same nofun _ he
      | some r =>
        rw [step_join_some hc hr]
        exact set nofun he hr (.join (by
          rw [step_join_some hc hr]; exact List.mem_append_right _ (List.mem_singleton.mpr rfl)))
  | sess k rop =>
    cases hk : rt.realmOf k with
    | none => rw [step_sess_unknown hk]; exact same nofun _ h
    | some A =>
      cases hr : rt.realm? A with
      | none => rw [step_sess_gone hk hr]; exact same nofun _ h
      | some r => rw [step_sess_some hk hr]; exact set nofun h hr (.sess hk)
  | tick ms =>
    rw [step_tick_eq, tickFold_table]
    intro p hp
    obtain ⟨q, hq, rfl⟩ := List.mem_map.mp hp
    -- `q` itself bears its name, so some realm of the table was advanced into its place
    cases hf : rt.realms.reverse.find? (fun p => p.1 == q.1) with
    | none => exact absurd (beq_self_eq_true q.1) (List.find?_eq_none.mp hf q (List.mem_reverse.mpr hq))
    | some p' => exact step _ _ _ .tick (h p' (List.mem_reverse.mp (List.mem_of_find?_eq_some hf)))
  | rnd n =>
    rw [step_rnd]
    intro p hp
    obtain ⟨q, hq, rfl⟩ := List.mem_map.mp hp
    exact rnd n _ _ rfl (h q hq)
  | close => rw [step_close]; exact fun p hp => nomatch hp
  | removeRealm A =>
    cases hr : rt.realm? A with
    | none => rw [step_remove_none hr]; exact same nofun _ h
    | some r => rw [step_remove_some hr]; exact same nofun _ fun p hp => h p (List.mem_filter.mp hp).1
  | addRealm cfg =>
    rw [step_add]
    split
    · exact same nofun _ h
    · split
      · exact same nofun _ (append .add ‹_›)
      · exact same nofun _ h

def _root_.Nexus.L2.ROp.elapsed : ROp → Nat
  | .tick ms => ms
  | _ => 0

/-- what `op` does to the router outside the realms themselves: only `.tick` moves the clock, nothing
    changes the template, only `.close` closes, only an accepted join enters a session, and realm
    names stay distinct -/
structure StepFields (rt : Router) (op : ROp) (rt' : Router) : Prop where
  now : rt'.now = rt.now + op.elapsed
  template : rt'.template = rt.template
  closed : rt'.closed = rt.closed ∨ op = .close
  sessRealm : rt'.sessRealm = rt.sessRealm ∨
    ∃ A k l d ro c, op = .join A k l d ro c ∧ rt'.sessRealm = rt.sessRealm ++ [(k, A)]
  names : (rt.realms.map (·.1)).Nodup → (rt'.realms.map (·.1)).Nodup

theorem StepFields.sess_mono {rt rt' : Router} {op : ROp} (h : StepFields rt op rt') :
    ∀ x ∈ rt.sessRealm, x ∈ rt'.sessRealm := by
  rcases h.sessRealm with e | ⟨_, _, _, _, _, _, _, e⟩ <;> rw [e]
  · exact fun _ h => h
  · exact fun _ h => List.mem_append_left _ h

theorem step_fields (rt : Router) (op : ROp) : StepFields rt op (rt.step op).2 := by
  have same : op.elapsed = 0 → StepFields rt op rt := fun he => ⟨by rw [he]; rfl, rfl, .inl rfl, .inl rfl, id⟩
  cases op with
  | join name k l d ro c =>
    cases hc : (rt.closed || name == "") with
    | true => rw [step_join_refused hc]; exact same rfl
    | false =>
      have he : StepFields rt (.join name k l d ro c) (rt.ensureRealm name) := by
        rcases ensureRealm_cases rt name with e | ⟨hn, _, _, _, _, e⟩ <;> rw [e]
        · exact same rfl
        · exact ⟨rfl, rfl, .inl rfl, .inl rfl, fun h => nodup_fst_append h (realm?_none hn) _⟩
      cases hr : (rt.ensureRealm name).realm? name with
      | none => rw [step_join_none hc hr]; exact he
      | some r =>
        rw [step_join_some hc hr]
        refine ⟨he.now, he.template, he.closed, .inr ⟨_, _, _, _, _, _, rfl, ?_⟩, fun h => ?_⟩
        · show (rt.ensureRealm name).sessRealm ++ _ = _
          rw [(ensureRealm_fields rt name).1]
        · show (((rt.ensureRealm name).setRealm name _).realms.map (·.1)).Nodup
          rw [names_setRealm]; exact he.names h
  | sess k op =>
    cases h : rt.realmOf k with
    | none => rw [step_sess_unknown h]; exact same rfl
    | some A =>
      cases hr : rt.realm? A with
      | none => rw [step_sess_gone h hr]; exact same rfl
      | some r =>
        rw [step_sess_some h hr]
        exact ⟨rfl, rfl, .inl rfl, .inl rfl, fun hn => (names_setRealm rt A _).symm ▸ hn⟩
  | tick ms =>
    rw [step_tick_eq]
    obtain ⟨h1, h2, h3, h4, h5⟩ := tickFold_fields ms rt.realms ({}, { rt with now := rt.now + ms })
    exact ⟨h1, h2, .inl h4, .inl h3, fun hn => h5 ▸ hn⟩
  | rnd n =>
    rw [step_rnd]
    refine ⟨rfl, rfl, .inl rfl, .inl rfl, fun hn => ?_⟩
    show ((rt.realms.map _).map _).Nodup
    rw [List.map_map]; exact hn
  | close => rw [step_close]; exact ⟨rfl, rfl, .inr rfl, .inl rfl, fun _ => List.nodup_nil⟩
  | removeRealm A =>
    cases hr : rt.realm? A with
    | none => rw [step_remove_none hr]; exact same rfl
    | some r =>
      rw [step_remove_some hr]
      exact ⟨rfl, rfl, .inl rfl, .inl rfl,
        ((List.filter_sublist (l := rt.realms)).map (fun p : String × Realm => p.1)).nodup⟩
  | addRealm cfg =>
    rw [step_add]
    split
    · exact same rfl
    · rename_i hc
      split
      · exact ⟨rfl, rfl, .inl rfl, .inl rfl, fun hn => nodup_fst_append hn (fun q hq e => hc (by
          rw [Bool.or_eq_true]; exact .inr (List.any_eq_true.mpr ⟨q, hq, beq_iff_eq.mpr e⟩))) _⟩
      · exact same rfl

theorem step_now (rt : Router) (rop : ROp) : (rt.step rop).2.now = rt.now + rop.elapsed :=
  (step_fields rt rop).now

theorem Inv.mono_joined {rt rt' : Router} (hs : ∀ x ∈ rt.sessRealm, x ∈ rt'.sessRealm) (A : String) (k : SessKey) :
    rt.joined A k → rt'.joined A k := hs _

/-- creating the joined realm from the template keeps the invariant: the name is fresh (the realm
    was absent) and a new realm has no sessions -/
theorem Inv.ensureRealm {rt : Router} (hi : Inv rt) (name : String) : Inv (rt.ensureRealm name) := by
  rcases ensureRealm_cases rt name with h | ⟨hn, _, _, _, hcr, h⟩ <;> rw [h]
  · exact hi
  · refine ⟨nodup_fst_append hi.names (realm?_none hn) _, fun p hp => ?_⟩
    rcases List.mem_append.mp hp with hp | hp
    · exact hi.conf p hp
    · rw [List.mem_singleton.mp hp]; exact create_conf hcr _

theorem Inv.step {rt : Router} (hi : Inv rt) (rop : ROp) (hw : rop.wf) : Inv (rt.step rop).2 := by
  have hf := step_fields rt rop
  have mono : ∀ {A : String} {r : Realm}, Conf (rt.joined A) r → Conf ((rt.step rop).2.joined A) r :=
    fun h => h.mono fun _ => hf.sess_mono _
  refine ⟨hf.names hi.names, step_realms (Q := fun A => Conf (rt.joined A))
    (Q' := fun A => Conf ((rt.step rop).2.joined A)) rop hi.conf (fun _ _ _ => mono) (fun A r x hd h => ?_)
    (fun _ _ _ _ hcr => create_conf hcr _) (fun _ _ _ _ => mono)⟩
  refine ((mono h).step x fun k l d ro c e => ?_).1
  cases hd with
  | join hk => cases e; exact hk
  | sess _ => rw [e] at hw; cases hw
  | tick => cases e

theorem realm?_of_others {rt rt' : Router} {A B : String} (hB : B ≠ A) (h : rt'.others A = rt.others A) :
    rt'.realm? B = rt.realm? B := by
  have key : ∀ r : Router, r.realm? B = ((r.others A).find? (fun p => p.1 == B)).map (·.2) := fun r => by
    unfold realm? others
    rw [find?_key_filter_ne (f := fun p : String × Realm => p.1) _ hB]
  rw [key rt', key rt, h]

theorem realm?_setRealm_self {rt : Router} {A : String} {r : Realm} (r' : Realm) (h : rt.realm? A = some r) :
    (rt.setRealm A r').realm? A = some r' := by
  unfold realm? setRealm at *
  obtain ⟨p, hf, -⟩ := Option.map_eq_some_iff.mp h
  rw [find?_key_replace_self (f := fun p : String × Realm => p.1) _ (a := (A, r')) rfl, hf]
  rfl

/-- one step of the fold in `Router.create` -/
def createStep (acc : Option Router) (cfg : Config) : Option Router :=
  match acc with
  | none => none
  | some rt =>
    if rt.realms.any (fun p => p.1 == cfg.uri) then none
    else match Realm.create cfg with
      | some r => some { rt with realms := rt.realms ++ [(cfg.uri, { r with pubCount := rt.created * 1000000 })],
                                 created := rt.created + 1 }
      | none => none

theorem create_eq (cfgs : List Config) : Router.create cfgs = cfgs.foldl createStep (some {}) := rfl

/-- the router `Router.create` builds: every realm as `Realm.create` built it, at its publication offset;
    distinct names; time 0, no template, no session, open -/
structure Created (rt : Router) : Prop where
  realms : ∀ p ∈ rt.realms, ∃ cfg r n, Realm.create cfg = some r ∧ p.2 = { r with pubCount := n }
  names : (rt.realms.map (·.1)).Nodup
  now : rt.now = 0
  template : rt.template = none
  sessRealm : rt.sessRealm = []
  closed : rt.closed = false

theorem create_created {cfgs : List Config} {rt : Router} (h : Router.create cfgs = some rt) : Created rt := by
  have key : ∀ (cfgs : List Config) (acc : Option Router), (∀ rt, acc = some rt → Created rt) →
      ∀ rt, cfgs.foldl createStep acc = some rt → Created rt := by
    intro cfgs
    induction cfgs with
    | nil => exact fun _ h => h
    | cons cfg cfgs ih =>
      refine fun acc h => ih _ fun rt' e => ?_
      unfold createStep at e
      split at e
      · cases e
      · rename_i rt
        have hc := h rt rfl
        split at e
        · cases e
        · rename_i hfresh
          split at e
          · rename_i r hr
            cases e
            refine ⟨fun p hp => ?_, nodup_fst_append hc.names (fun q hq e => hfresh
              (List.any_eq_true.mpr ⟨q, hq, beq_iff_eq.mpr e⟩)) _, hc.now, hc.template, hc.sessRealm, hc.closed⟩
            rcases List.mem_append.mp hp with hp | hp
            · exact hc.realms p hp
            · exact ⟨cfg, r, _, hr, by rw [List.mem_singleton.mp hp]⟩
          · cases e
  refine key cfgs (some {}) (fun rt0 e => ?_) rt (create_eq cfgs ▸ h)
  cases e
  exact ⟨fun p hp => (nomatch hp), List.nodup_nil, rfl, rfl, rfl, rfl⟩

theorem create_inv {cfgs : List Config} {rt : Router} (h : Router.create cfgs = some rt) : Inv rt := by
  refine ⟨(create_created h).names, fun p hp => ?_⟩
  obtain ⟨cfg, r, n, hcr, e⟩ := (create_created h).realms p hp
  rw [e]
  exact create_conf hcr _

/-- routers reachable by well-formed operations from the initial router `NewRouter` builds: the
    realms of `Router.create cfgs` together with the realm template `t` of the router configuration
    (`Config.RealmTemplate`; `none` = no template).  The template is fixed at construction and no
    operation changes it (`step_template`). -/
inductive Reachable : Router → Prop
  | init {cfgs : List Config} {rt : Router} (t : Option Config) :
      Router.create cfgs = some rt → Reachable { rt with template := t }
  | step {rt : Router} (rop : ROp) : Reachable rt → rop.wf → Reachable (rt.step rop).2

theorem Reachable.inv {rt : Router} (h : Reachable rt) : Inv rt := by
  induction h with
  | init t h => exact ⟨(create_inv h).names, (create_inv h).conf⟩
  | step rop _ hw ih => exact ih.step rop hw

/-- a router built without a template (`Router.create` as it stands) is reachable -/
theorem Reachable.init0 {cfgs : List Config} {rt : Router} (h : Router.create cfgs = some rt) : Reachable rt := by
  have e : rt.template = none := (create_created h).template
  have : rt = { rt with template := none } := by cases rt; simp_all
  rw [this]
  exact .init none h

theorem step_template (rt : Router) (rop : ROp) : (rt.step rop).2.template = rt.template :=
  (step_fields rt rop).template

end Router
end Nexus.L2
