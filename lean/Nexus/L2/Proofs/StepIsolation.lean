/-
  Isolation over a whole step (C04).  The input that ends session `x` queues its departure;
  the departure queues meta events and testament publications for the meta session; those are published.
  Nothing in this cascade touches another session's attachment, subscriptions, registrations, testaments
  or — unless `x` was its callee — pending calls.  (`C04_isolation` says this for the single atomic `leave`.)
-/
import Nexus.L2.Proofs.SessionEnd
import Nexus.L2.Proofs.LeaveRegEvents

namespace Nexus.L2.WpC
open Nexus.L2 Nexus.L2.Realm Nexus.Gen.N

theorem metaPublish_frame {r : Realm} (hi : RealmInv r) (hm : MetaSafe r) (p : MetaPub) :
    (r.metaPublish p).tasks = r.tasks ∧ (r.metaPublish p).ds = r.ds ∧ (r.metaPublish p).broker.subs = r.broker.subs ∧
    (r.metaPublish p).clients = r.clients ∧ (r.metaPublish p).testaments = r.testaments := by
  have h : (r.metaPublish p).tasks = r.tasks ∧ (r.metaPublish p).ds = r.ds ∧
      (r.metaPublish p).broker.subs = r.broker.subs := by
    rw [WpA.metaPublish_spec r p hm.mkey, WpA.pptRefused_of_feature _ _ hm.metaPPT, if_neg Bool.false_ne_true]
    split
    · exact ⟨rfl, rfl, rfl⟩
    split
    · exact ⟨rfl, rfl, rfl⟩
    -- no EVENT is for the meta session: it subscribes to nothing
    · exact ⟨deliver_tasks_of fun x hx => dmetaTask_of_ne (hm.client_ne (hi.bmem _ (syncPublish_to hx))),
        deliver_ds _ _, by rw [(deliver_frame _ _).broker]; exact (syncPublish_tables _ _ _ _).1⟩
  exact ⟨h.1, h.2.1, h.2.2, (eff_metaPub hm p (P := fun _ => False) (Q := fun _ => False)).clients,
    handlePublish_testaments ..⟩

theorem leave_tasks_pub {r : Realm} (hi : RealmInv r) (hm : MetaSafe r) (k : SessKey) (mode : LeaveMode) :
    ∀ t ∈ (r.leave k mode).tasks, t ∈ r.tasks ∨ ∃ p, t = Task.metaPub p := by
  refine leave_cases (C := fun q => ∀ t ∈ q.tasks, t ∈ r.tasks ∨ ∃ p, t = Task.metaPub p) r k mode
    (fun _ t ht => Or.inl ht) fun s hf => ?_
  rw [leave_tasks mode hf, WpA.leaveBaseTasks_eq hi.dinv (hm.client_ne (isClient_of_find hf))]
  intro t ht
  simp only [List.mem_append] at ht
  rcases ht with (ht | ht) | ht
  · exact Or.inl ht
  · split at ht
    · cases ht
    · obtain ⟨p, _, rfl⟩ := List.mem_map.mp ht; exact Or.inr ⟨p, rfl⟩
  · exact Or.inr (announced_pub s _ _ t ht)

/-- before / after the departure of `x` has run, relative to the state `r` in which the input arrived (the phases of
    one step; those of the retry loop are `InPhase`) -/
inductive Phase (x : SessKey) (r q : Realm) : Prop
  | before : q.isClient x → q.clients = r.clients → q.ds = r.ds → q.broker.subs = r.broker.subs →
      q.testaments = r.testaments → Phase x r q
  | after : ¬ q.isClient x → (∀ k, k ≠ x → (q.isClient k ↔ r.isClient k)) →
      (∃ env, q.ds = (syncRemoveSession env r.ds x).st) →
      (∀ k id, q.broker.isMember k id ↔ r.broker.isMember k id ∧ k ≠ x) →
      q.testaments = r.testaments.filter (fun t => t.1 != x) → Phase x r q

theorem Phase.congr {x : SessKey} {r q q' : Realm} (h : Phase x r q) (hc : q'.clients = q.clients) (hd : q'.ds = q.ds)
    (hb : q'.broker.subs = q.broker.subs) (ht : q'.testaments = q.testaments) : Phase x r q' := by
  have hcl : ∀ k, q'.isClient k ↔ q.isClient k := fun k => by unfold Realm.isClient; rw [hc]
  cases h with
  | before a b c d e => exact .before ((hcl x).mpr a) (hc.trans b) (hd.trans c) (hb.trans d) (ht.trans e)
  | after a b c d e =>
    exact .after (fun h => a ((hcl x).mp h)) (fun k hk => (hcl k).trans (b k hk)) (c.imp fun _ h => hd.trans h)
      (fun k id => (isMember_congr_subs hb k id).trans (d k id)) (ht.trans e)

def OnlyLeaveX (x : SessKey) (q : Realm) : Prop :=
  ∀ t ∈ q.tasks, (∃ mode, t = Task.leave x mode) ∨ ∃ p, t = Task.metaPub p

theorem phase_step {x : SessKey} {r q : Realm} {t : Task} {ts : List Task} (ht : q.tasks = t :: ts) (b : Ctl q)
    (ho : OnlyLeaveX x q) (hph : Phase x r q) :
    OnlyLeaveX x (runTask { q with tasks := ts } t) ∧ Phase x r (runTask { q with tasks := ts } t) := by
  obtain ⟨hi0, _⟩ := b.1.1.tail ht
  obtain ⟨hc0, _⟩ := b.2.tail ht
  have ho0 : OnlyLeaveX x ({ q with tasks := ts } : Realm) := fun t' ht' => ho t' (by rw [ht]; exact List.mem_cons_of_mem _ ht')
  have hph0 : Phase x r ({ q with tasks := ts } : Realm) := hph.congr rfl rfl rfl rfl
  generalize ({ q with tasks := ts } : Realm) = q0 at hi0 hc0 ho0 hph0 ⊢
  rcases ho t (by rw [ht]; exact List.mem_cons_self ..) with ⟨mode, rfl⟩ | ⟨p, rfl⟩
  · -- the departure of x
    rw [runTask_leave]
    split
    · exact ⟨ho0, hph0.congr rfl rfl rfl rfl⟩
    · rename_i hb
      refine ⟨?_, ?_⟩
      · intro t' ht'
        rcases leave_tasks_pub hi0 hc0.safe x mode t' ht' with h | h
        · exact ho0 t' h
        · exact Or.inr h
      · cases hph0 with
        | after a b c d e =>
          have : q0.leave x mode = q0 := by
            apply leave_none
            apply List.find?_eq_none.mpr
            intro c' hc' hck
            exact a ⟨c', hc', by simpa using hck⟩
          rw [this]; exact .after a b c d e
        | before a b c d e =>
          obtain ⟨s, hf⟩ := isClient_find? a
          obtain ⟨hbq, hdq⟩ := leave_tables mode hf
          have hcl := leave_isClient q0 x mode
          refine .after (fun h => ((hcl x).mp h).2 rfl) ?_ ⟨_, by rw [hdq, c]⟩ ?_ ?_
          · intro k hk
            rw [hcl k]
            unfold Realm.isClient
            rw [b]
            exact ⟨fun h => h.1, fun h => ⟨h, hk⟩⟩
          · intro k id
            rw [hbq, syncRemoveSession_isMember hi0.binv, isMember_congr_subs d]
          · rw [leave_testaments q0 x mode a, e]
  · -- a meta event / testament is published
    rw [runTask_metaPub]
    obtain ⟨f1, f2, f3, f4, f5⟩ := metaPublish_frame hi0 hc0.safe p
    exact ⟨fun t' ht' => ho0 t' (f1 ▸ ht'), hph0.congr f4 f2 f3 f5⟩

theorem step_isolated {r : Realm} (hi : RealmInv r) (hc : CtlInv r) (ht : r.tasks = []) {x : SessKey} (hx : r.isClient x)
    (hb : r.busy x = false) (he : x ∉ r.ending) {op : Op} (hop : EndsInput r x op)
    (hp : (r.step op).2.panic = none) :
    ¬ (r.step op).2.isClient x ∧
    (∀ k, k ≠ x → ((r.step op).2.isClient k ↔ r.isClient k)) ∧
    (∀ k id, (r.step op).2.broker.isMember k id ↔ r.broker.isMember k id ∧ k ≠ x) ∧
    (∀ id k, calleeRel (r.step op).2.ds.d.regs id k ↔ calleeRel r.ds.d.regs id k ∧ k ≠ x) ∧
    (∀ c ∈ (r.step op).2.ds.d.calls, c ∈ r.ds.d.calls ∧ c.sess ≠ x ∧ ∀ v ∈ r.ds.d.invs, v.callee = x → v.callId ≠ c) ∧
    (∀ c ∈ r.ds.d.calls, c.sess ≠ x → (∀ v ∈ r.ds.d.invs, v.callee = x → v.callId ≠ c) → c ∈ (r.step op).2.ds.d.calls) ∧
    (r.step op).2.testaments = r.testaments.filter (fun t => t.1 != x) := by
  have hxm : x ≠ metaKey := hc.safe.client_ne hx
  obtain ⟨hl, hnt⟩ := endsInput_leaving hop hx hb he
  -- right after the input: only the departure of `x` is pending, nothing else has changed
  have ⟨ho1, hph1⟩ : OnlyLeaveX x (r.stepOp op) ∧ Phase x r (r.stepOp op) := by
    obtain ⟨r0, mode, hf, ht0, e, _⟩ := endsInput_stepOp hop hx hb he
    rw [e]
    refine ⟨fun t ht' => ?_, .before ?_ hf.clients hf.ds (congrArg Broker.subs hf.broker) hf.testaments⟩
    · have ht' : t ∈ r0.tasks ++ [.leave x mode] := ht'
      rw [ht0, ht] at ht'
      exact Or.inl ⟨_, List.mem_singleton.mp ht'⟩
    · show r0.isClient x
      unfold Realm.isClient; rw [hf.clients]; exact hx
  obtain ⟨⟨g1, _, gph⟩, g2, _⟩ := step_quiescent (fun q => Leaving x q ∧ OnlyLeaveX x q ∧ Phase x r q)
    (fun ht b h => ⟨leaving_step hxm ht b h.1, phase_step ht b h.2.1 h.2.2⟩)
    (fun h => ⟨h.1, h.2.1, h.2.2.congr rfl rfl rfl rfl⟩) hi hc hnt ⟨hl, ho1, hph1⟩ hp
  cases gph with
  | before a _ _ _ _ => exact absurd a (g1.gone g2)
  | after a b c d e =>
    obtain ⟨env, hds⟩ := c
    refine ⟨a, b, d, ?_, ?_, ?_, e⟩
    · intro id k
      rw [hds]; exact (syncRemoveSession_frame (env := env) hi.dinv x).2.2 id k
    · intro c' hc'
      rw [hds] at hc'
      exact syncRemoveSession_calls hi.dinv x c' hc'
    · intro c' hc' hs hv
      rw [hds]
      exact syncRemoveSession_calls_keep hi.dinv x c' hc' hs hv

end Nexus.L2.WpC
