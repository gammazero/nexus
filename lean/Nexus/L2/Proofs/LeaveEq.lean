/-
  What `Realm.leave` does, as one equation: every field of the realm after a departure but the panic flag as a term
  of the realm before it (`leave_eq`; the flag stays as it is under the invariant, `leave_panic`), and its control
  fields (`leave_ctl`).  `deliver` looks at the session table and the queue
  table only (`deliver_qcongr`), which is what lets the stages of a departure be delivered from the start state.

  Which statement of a departure to use.  The exact fields: `leave_eq` (its task list and queue table are
  `leave_tasks` and `leave_queues`; `leave_clients` here and `leave_testaments` of RealmLeave are read off it).  A relation
  kept by every move of a departure: `leave_walk` (RealmBase).  The control fields only: `leave_ctl`.  The stages
  themselves (`leave_some`, `leaveSend_cases`, `leaveRemove_cases`, RealmBase) only where the state between two
  stages matters, as for the panic flag (`leave_panic`, RealmInv).
-/
import Nexus.L2.Proofs.ControlEffect

namespace Nexus.L2.WpE
open Nexus.L2 Nexus.L2.Realm Gen.N

theorem trySend_qcongr {a b : Realm} (hc : a.clients = b.clients) (hq : a.queues = b.queues) (s : Send) :
    (a.trySend s).queues = (b.trySend s).queues := by
  have ha : accepts a s = accepts b s := by unfold accepts client? queueLen; rw [hc, hq]
  rw [trySend_queues_eq, trySend_queues_eq, ha, hq]

theorem deliver_qcongr : ∀ (ss : List Send) {a b : Realm}, a.clients = b.clients → a.queues = b.queues →
    (a.deliver ss).queues = (b.deliver ss).queues
  | [], _, _, _, hq => hq
  | s :: ss, a, b, hc, hq => by
    rw [deliver_cons, deliver_cons]
    exact deliver_qcongr ss (by rw [(trySend_frame a s).clients, (trySend_frame b s).clients, hc]) (trySend_qcongr hc hq s)

/-- the handler's final message to the departing peer -/
def leaveOffer (k : SessKey) : LeaveMode → List Send
  | .killed g _ => [⟨k, g⟩]
  | .violation _ => [⟨k, abortMsg "<text>"⟩]
  | .shutdown => [⟨k, .goodbye [] CloseSystemShutdown⟩]
  | _ => []

end Nexus.L2.WpE

namespace Nexus.L2
namespace Realm
open Gen.N

/-- the pending tasks after the table-removal stage of a departure (before the testaments and
    `on_leave` are appended) -/
def leaveBaseTasks (r : Realm) (k : SessKey) (mode : LeaveMode) : List Task :=
  (leaveRemove ((leaveSend r k mode).takeTestaments k).2 k mode.isShutdown).tasks

def bucketOf (r : Realm) (k : SessKey) : Option TBucket := (r.testaments.find? (fun t => t.1 == k)).map (·.2)

/-- the tasks after a departure: those of the removal stage, then — unless it is a shutdown — the testaments
    (detached, then destroyed) and `on_leave` -/
theorem leave_tasks {r : Realm} {k : SessKey} {s : Session} (mode : LeaveMode)
    (hf : r.clients.find? (fun c => c.key == k) = some s) :
    (r.leave k mode).tasks =
      leaveBaseTasks r k mode ++
        (if mode.isShutdown then []
         else testamentTasks (bucketOf r k) ++ [.metaPub (onLeavePub s)]) := by
  rw [leaveBaseTasks, bucketOf, leave_some mode hf, leaveAnnounce_eq, takeTestaments_eq,
    (leaveSend_frame r k mode).testaments]
  rfl

section
open Nexus.L2.WpE (leaveOffer deliver_qcongr)

theorem leaveSend_eq (r : Realm) (k : SessKey) (mode : LeaveMode) :
    leaveSend r k mode = r.deliver (leaveOffer k mode) := by cases mode <;> rfl

/-- the removal stage: the tables replaced, the offers delivered; tasks and the panic flag aside -/
theorem leaveRemove_eq (r : Realm) (k : SessKey) (quiet : Bool) :
    leaveRemove r k quiet =
      { r with
        ds := (syncRemoveSession r.denv r.ds k).st
        broker := (r.broker.syncRemoveSession k r.pubCount).1
        pubCount := if quiet then r.pubCount else r.pubCount + (r.broker.syncRemoveSession k r.pubCount).2.2
        queues := (r.deliver (if quiet then [] else
          (syncRemoveSession r.denv r.ds k).sends ++ (r.broker.syncRemoveSession k r.pubCount).2.1)).queues
        tasks := (leaveRemove r k quiet).tasks
        panic := (leaveRemove r k quiet).panic } := by
  refine leaveRemove_cases
    (P := fun x => x = { r with ds := _, broker := _, pubCount := _, queues := _, tasks := x.tasks, panic := x.panic })
    r k quiet (fun hq => ?_) fun hq ra hra => ?_
  · subst hq
    rw [setPanic_tasks]
    exact setPanic_fields _ _
  · subst hq
    have ha : ra = _ := hra.trans (applyD_fields r _)
    rw [syncRemoveSession_aborts, List.append_nil] at ha
    refine (deliver_fields _ _).trans ?_
    have hq : (({ ra with broker := (ra.broker.syncRemoveSession k ra.pubCount).1,
                          pubCount := ra.pubCount + (ra.broker.syncRemoveSession k ra.pubCount).2.2 } : Realm).deliver
          (ra.broker.syncRemoveSession k ra.pubCount).2.1).queues =
        (r.deliver (if false then [] else
          (syncRemoveSession r.denv r.ds k).sends ++ (r.broker.syncRemoveSession k r.pubCount).2.1)).queues := by
      have hqa : ra.queues = (r.deliver (syncRemoveSession r.denv r.ds k).sends).queues := by
        rw [hra, applyD_eq, setPanic_queues]
        exact deliver_qcongr _ rfl rfl
      have hb : ra.broker = r.broker := by rw [ha]
      have hp : ra.pubCount = r.pubCount := by rw [ha]
      rw [if_neg Bool.false_ne_true, deliver_append, hb, hp]
      exact deliver_qcongr _ (by rw [(deliver_frame _ _).clients, ha]) hqa
    rw [hq, ha]
    rfl

/-- what a departure offers, in order: the handler's farewell, then (unless it is a shutdown) the dealer's replies
    and the broker's meta events -/
def leaveOffers (r : Realm) (k : SessKey) (mode : LeaveMode) : List Send :=
  leaveOffer k mode ++
    if mode.isShutdown then []
    else (syncRemoveSession (leaveSend r k mode).denv r.ds k).sends ++ (r.broker.syncRemoveSession k r.pubCount).2.1

theorem leave_queues {r : Realm} {k : SessKey} {s : Session} (mode : LeaveMode)
    (hf : r.clients.find? (fun c => c.key == k) = some s) :
    (r.leave k mode).queues = (r.deliver (leaveOffers r k mode)).queues := by
  have f := leaveSend_frame r k mode
  rw [leave_some mode hf, leaveAnnounce_eq]
  show (leaveRemove _ k _).queues = _
  rw [leaveRemove_eq, takeTestaments_eq]
  show (Realm.deliver _ (if mode.isShutdown then [] else
    (syncRemoveSession (leaveSend r k mode).denv (leaveSend r k mode).ds k).sends ++
      ((leaveSend r k mode).broker.syncRemoveSession k (leaveSend r k mode).pubCount).2.1)).queues = _
  rw [f.ds, f.broker, f.pubCount, leaveOffers, deliver_append, ← leaveSend_eq]
  exact deliver_qcongr _ rfl rfl

/-- What a departure is: every field of the realm after `leave` but the panic flag, as a term of the realm before
    it.  The flag is left as the projection it is: it stays as it was under the invariant (`leave_panic`). -/
theorem leave_eq {r : Realm} {k : SessKey} {s : Session} (mode : LeaveMode)
    (hf : r.clients.find? (fun c => c.key == k) = some s) :
    r.leave k mode =
      { r with
        broker := (r.broker.syncRemoveSession k r.pubCount).1
        pubCount := if mode.isShutdown then r.pubCount else r.pubCount + (r.broker.syncRemoveSession k r.pubCount).2.2
        ds := (syncRemoveSession (leaveSend r k mode).denv r.ds k).st
        testaments := r.testaments.filter (fun t => t.1 != k)
        clients := r.clients.filter (fun c => c.key != k)
        ending := r.ending.filter (· != k)
        closedPeers := r.closedPeers ++ [k]
        ghosts := if s.stalled then r.ghosts ++ [k] else r.ghosts
        queues := (r.deliver (leaveOffers r k mode)).queues
        tasks := leaveBaseTasks r k mode ++
          (if mode.isShutdown then [] else testamentTasks (bucketOf r k) ++ [.metaPub (onLeavePub s)])
        panic := (r.leave k mode).panic } := by
  have f := leaveSend_frame r k mode
  have hd : ((leaveSend r k mode).takeTestaments k).2.denv = (leaveSend r k mode).denv := by
    rw [takeTestaments_eq]; rfl
  have e := leaveRemove_eq ((leaveSend r k mode).takeTestaments k).2 k mode.isShutdown
  -- queues and tasks go back to projections of `r.leave k mode`, so that the rewrites below turn both sides into the
  -- same record; the sixteen fields a send leaves alone by one `simp only` (rewritten one by one the goal is slow)
  rw [← leave_queues mode hf, ← leave_tasks mode hf, leave_some mode hf, leaveAnnounce_eq]
  generalize leaveRemove ((leaveSend r k mode).takeTestaments k).2 k mode.isShutdown = W at e ⊢
  rw [e, hd, takeTestaments_eq]
  simp only [f.cfg, f.broker, f.ds, f.clients, f.ending, f.testaments, f.metaProcs, f.metaS, f.closedPeers, f.retries,
    f.deferred, f.inbox, f.ghosts, f.now, f.pubCount, f.rnd]
  obtain rfl := (find?_key hf).2
  rfl
end

end Realm

namespace WpC
open Realm

variable {P : SessKey → Prop} {Q : Retry → Prop}

/-- the control-field effect of a departure up to `sess.Close()`: publish tasks are appended, nothing else -/
theorem leave_eff {r : Realm} {k : SessKey} {s : Session} (mode : LeaveMode)
    (hf : r.clients.find? (fun c => c.key == k) = some s) : ∃ r', Eff P Q r r' ∧ r.leave k mode = leaveClose r' s :=
  leave_walk Eff.refl Eff.trans eff_trySend eff_tables eff_setPanic
    (fun _ _ => eff_applyD_nil (syncRemoveSession_aborts ..))
    (fun r ts h => { Eff.refl r with tasks := ⟨ts, rfl, fun t ht => by obtain ⟨p, rfl⟩ := h t ht; trivial⟩ }) mode hf

/-- The departure of an attached session `k` (any mode), control fields: up to the final `sess.Close()`
    it appends `metaPub` / `metaInvoke` tasks and nothing else — no session is ended, no retry, nothing
    deferred; then `k` is taken out of `clients` and `ending`. -/
structure LeaveCtl (r : Realm) (k : SessKey) (q : Realm) : Prop where
  cfg : q.cfg = r.cfg
  metaProcs : q.metaProcs = r.metaProcs
  metaS : q.metaS = r.metaS
  now : q.now = r.now
  deferred : q.deferred = r.deferred
  retries : q.retries = r.retries
  inbox : q.inbox = r.inbox
  clients : q.clients = r.clients.filter (fun c => c.key != k)
  ending : q.ending = r.ending.filter (· != k)
  tasks : ∃ ts, q.tasks = r.tasks ++ ts ∧ ∀ t ∈ ts, NewTask (fun _ => False) t

theorem leave_ctl {r : Realm} {k : SessKey} {s : Session} (mode : LeaveMode)
    (hf : r.clients.find? (fun c => c.key == k) = some s) : LeaveCtl r k (r.leave k mode) := by
  obtain ⟨r', h, e'⟩ := leave_eff (P := fun _ => False) (Q := fun _ => False) mode hf
  have e := leave_eq mode hf
  exact ⟨(congrArg Realm.cfg e :), (congrArg Realm.metaProcs e :), (congrArg Realm.metaS e :), (congrArg Realm.now e :),
    (congrArg Realm.deferred e :), (congrArg Realm.retries e :), (congrArg Realm.inbox e :),
    (congrArg Realm.clients e :), (congrArg Realm.ending e :), e' ▸ h.tasks⟩

end WpC

namespace Realm

theorem leave_clients (r : Realm) (k : SessKey) (mode : LeaveMode) :
    (r.leave k mode).clients = r.clients.filter (fun c => c.key != k) := by
  cases hf : r.clients.find? (fun c => c.key == k) with
  | none =>
    rw [leave_none mode hf]
    exact (List.filter_eq_self.mpr fun c hc => by simpa using List.find?_eq_none.mp hf c hc).symm
  | some s => rw [leave_eq mode hf]

theorem leave_isClient (r : Realm) (k : SessKey) (mode : LeaveMode) (k' : SessKey) :
    (r.leave k mode).isClient k' ↔ r.isClient k' ∧ k' ≠ k := by
  unfold isClient
  rw [leave_clients]
  simp only [List.mem_filter, bne_iff_ne, ne_eq]
  exact ⟨fun ⟨c, ⟨hc, hn⟩, e⟩ => ⟨⟨c, hc, e⟩, e ▸ hn⟩, fun ⟨⟨c, hc, e⟩, hn⟩ => ⟨c, ⟨hc, e ▸ hn⟩, e⟩⟩

end Realm
end Nexus.L2
