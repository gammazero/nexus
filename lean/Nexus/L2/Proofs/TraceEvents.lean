/-
  The forms of a script (C02, C08 and C20 rest on them), and who is offered an EVENT (C08).

  `Form x`: the script of an atomic action `x` — together with `x.call?` and `x.pub?` — has one of nine forms: the
  handler answers itself (messages that are neither EVENTs nor replies: `NoEv`, `NoRep`), the gate refuses, an
  accepted publication, a valid SUBSCRIBE, an UNSUBSCRIBE, the CALL, another dealer action (`Closed`: it sends no
  EVENT and opens no call), the departure of an attached session, a call timer; the CALL and the publication come with
  what the handler read (`Rec.Reads`).  `Rec.form`: every action has one of them.  The facts about all actions
  (`Rec.evOk` here, `Rec.bkind`, `Rec.actOk`, `Rec.offer_replies`, `Rec.publish_steps`) are proved form by form, what
  an action with a CALL or a publication is (`Rec.call_src`, `Rec.pub_spec`) by inversion.

  `EvOk b sc`: every EVENT among the offers of the script `sc` is addressed to a session that is a
  member of the subscription the EVENT names — in the broker `b` the action starts with AND in the
  broker `b.run sc.bsteps` it ends with.  Proved for the script of every atomic action
  (`Rec.evOk`), from the broker invariant of the state the action starts in:

    * the dealer sends no EVENT at all (what each `sync*` function sends is said once: `DSend`), nor do the handlers
      themselves, the gate, or the last message of a departing session;
    * the EVENTs of a publication go to members (`bsyncPublish_member`), and a publication changes
      no membership;
    * the subscription meta events of SUBSCRIBE / UNSUBSCRIBE / a departure go to OTHER sessions,
      members before and after: only the acting session's membership changes.
-/
import Nexus.L2.Proofs.Trace
import Nexus.L2.Proofs.BrokerMetaEvent

namespace Nexus.L2.WpE
open Nexus.L2 Nexus.L2.Realm Gen.N

/-- no message of the list is an EVENT -/
def NoEv (l : List Send) : Prop := l.all (fun x => x.msg.eventSub?.isNone) = true

theorem NoEv.mem {l : List Send} (h : NoEv l) {x : Send} (hx : x ∈ l) : x.msg.eventSub? = none := by
  have := List.all_eq_true.mp h x hx
  simpa using this

theorem noEv_of_forall {l : List Send} (h : ∀ x ∈ l, x.msg.eventSub? = none) : NoEv l := by
  unfold NoEv
  rw [List.all_eq_true]
  intro x hx
  rw [h x hx]; rfl

/-- no message of the list is a RESULT or an ERROR of type CALL -/
def NoRep (l : List Send) : Prop := l.all (fun x => x.msg.replyReq.isNone) = true

theorem noRep_of_forall {l : List Send} (h : ∀ x ∈ l, x.msg.replyReq = none) : NoRep l := by
  unfold NoRep
  rw [List.all_eq_true]
  intro x hx
  rw [h x hx]; rfl

theorem noRep_append {a b : List Send} (ha : NoRep a) (hb : NoRep b) : NoRep (a ++ b) := by
  unfold NoRep at *; rw [List.all_append, ha, hb]; rfl

theorem noEv_of_kind {l : List Send}
    (h : ∀ x ∈ l, x.msg.isPlain = true ∨ x.msg.isInvocation = true ∨ x.msg.isResult = true) : NoEv l :=
  noEv_of_forall fun x hx => by
    have hk := h x hx
    cases hm : x.msg <;> first | rfl | simp [hm, Msg.isPlain, Msg.isInvocation, Msg.isResult] at hk

theorem noEv_of_dsend {l : List Send} {s : DState} {k : SessKey} {inv res : Bool} (h : ∀ x ∈ l, DSend s k inv res x) :
    NoEv l :=
  noEv_of_kind fun x hx => (h x hx).kind.imp_right (Or.imp And.right And.right)

theorem noEv_of_plain {l : List Send} (h : ∀ x ∈ l, x.msg.isPlain = true) : NoEv l :=
  noEv_of_kind fun x hx => .inl (h x hx)

theorem noEv_of_plainTo {l : List Send} {s : DState} (h : ∀ x ∈ l, PlainTo s x) : NoEv l :=
  noEv_of_plain fun x hx => (h x hx).2

theorem ackList_noEv (opts : Dict) (x : Send) (h : x.msg.eventSub? = none) : NoEv (ackList opts x) := by
  unfold ackList
  split
  · exact noEv_of_forall (fun y hy => by rw [List.mem_singleton.mp hy]; exact h)
  · rfl

theorem ackList_noRep (opts : Dict) (x : Send) (h : x.msg.replyReq = none) : NoRep (ackList opts x) := by
  unfold ackList
  split
  · exact noRep_of_forall (fun y hy => by rw [List.mem_singleton.mp hy]; exact h)
  · rfl

theorem denialReply_noEv (dec : String) (m e : Msg) (h : denialReply dec m = some e) : e.eventSub? = none := by
  obtain ⟨_, h⟩ := Option.ite_none_left_eq_some.mp h
  cases h
  split <;> rfl

theorem gateOffers_noEv (r : Realm) (s : Session) (m : Msg) : NoEv (gateOffers r s m) := by
  unfold gateOffers
  cases r.cfg.authz.map authzDecision with
  | none => rfl
  | some f =>
    dsimp only
    split
    · rfl
    · split
      · rfl
      · cases hd : denialReply (f s.key m) m with
        | none => rfl
        | some e =>
          exact noEv_of_forall (fun y hy => by
            rw [List.mem_singleton.mp hy]; exact denialReply_noEv _ _ _ hd)

def isGoodbyeMsg : Msg → Bool
  | .goodbye .. => true
  | _ => false

/-- the last message a departing session is sent is neither an EVENT nor a reply (the goodbye of a kill being a
    GOODBYE) -/
theorem leaveOffer_plain (k : SessKey) (mode : LeaveMode) (hm : ∀ g ka, mode = .killed g ka → isGoodbyeMsg g = true) :
    NoEv (leaveOffer k mode) ∧ NoRep (leaveOffer k mode) := by
  cases mode with
  | killed g ka => cases g <;> first | exact ⟨rfl, rfl⟩ | cases hm _ _ rfl
  | _ => exact ⟨rfl, rfl⟩

/-- what `dealer.register` answers itself is an ERROR of type REGISTER -/
theorem registerRefusal_error {r : Realm} {s : Session} {req : Nat} {opts : Dict} {proc : String} {e : Msg}
    (h : registerRefusal r s req opts proc = some e) : ∃ err args, e = .error tREGISTER req [] err args [] := by
  rw [registerRefusal_eq] at h
  exact WpA.registerRefusal_cases (P := fun o => o = some e → _) r s req opts proc
    (fun _ h => Option.some.inj h ▸ ⟨_, _, rfl⟩) (fun _ h => Option.some.inj h ▸ ⟨_, _, rfl⟩)
    (fun _ h => Option.some.inj h ▸ ⟨_, _, rfl⟩) (fun _ h => Option.some.inj h ▸ ⟨_, _, rfl⟩)
    (fun _ _ _ _ h => nomatch h) h

/-- What C08 and C02 need of a dealer action that is not a CALL, bundled: it sends no EVENT (C08); towards every call
    it obeys the reply discipline whatever counts as fresh, and no call becomes pending (C02). -/
structure Closed (s : DState) (o : DOut) : Prop where
  noEv : NoEv o.sends
  replyOK : DealerInv s → ∀ c fresh, ReplyOK s o c fresh
  calls : DealerInv s → ∀ c, c ∈ o.st.d.calls → c ∈ s.d.calls

theorem closed_yield (env : DEnv) (s : DState) (callee : SessKey) (req : Nat) (opts : Dict) (args : List WVal)
    (kw : Dict) (progress canRetry : Bool) : Closed s (syncYield env s callee req opts args kw progress canRetry) :=
  ⟨noEv_of_dsend (syncYield_sends _ _ _ _ _ _ _ _ _), fun h _ _ => syncYield_replyOK h .., fun _ c => (syncYield_shrinks ..).calls c⟩

theorem closed_cancel (env : DEnv) (s : DState) (caller : SessKey) (req : Nat) (mode reason : String)
    (errArgs : List WVal) : Closed s (syncCancel env s caller req mode reason errArgs) :=
  ⟨noEv_of_plainTo (syncCancel_sends _ _ _ _ _ _ _), fun _ _ _ => syncCancel_replyOK .., fun _ c => (syncCancel_shrinks ..).calls c⟩

theorem closed_removeSession (env : DEnv) (s : DState) (k : SessKey) : Closed s (syncRemoveSession env s k) :=
  ⟨noEv_of_plain (syncRemoveSession_plain _ _ _), fun h => syncRemoveSession_replyOK h k, fun h c hc => (syncRemoveSession_calls h k c hc).1⟩

/-- the handler of session `s` reads `m`: brought by an external input or having waited in the transport, for a session
    attached under the key, neither ending nor in the yield retry loop — or the meta session reads an answer of the
    meta-procedure handler -/
inductive Rec.Reads (x : Rec) (s : Session) (m : Msg) : Prop
  | client (k : SessKey) (ha : x.act = .op (.msg k m) ∨ x.act = .task (.inMsg k m))
      (hf : x.pre.clients.find? (fun c => c.key == k) = some s) (he : x.pre.ending.contains k = false)
      (hb : x.pre.busy k = false) : x.Reads s m
  | metaS (ha : x.act = .task (.metaMsg m)) (hs : s = x.pre.metaS) : x.Reads s m

/-- the action is the departure of the attached session `k`: its `leave` task runs, its handler not being in the
    yield retry loop -/
def Rec.IsLeave (x : Rec) (k : SessKey) (mode : LeaveMode) (s : Session) : Prop :=
  x.act = .task (.leave k mode) ∧ x.pre.busy k = false ∧ x.pre.clients.find? (fun c => c.key == k) = some s

/-- The forms of an atomic action `x`: its script, the CALL it handles (`x.call?`) and the publication it hands to the
    broker (`x.pub?`); `r` is the state its handler runs in (`x.pre` with the task taken off the list, or the clock
    advanced to the timed event).   Only `publish` and `call` say where the message came from (`Rec.Reads`): C20 and
    C02 ask it of publications and calls only.  The helpers `pub`, `msg`, `recv` in the proof of `Rec.form` mirror
    `publishScript`, `msgScript`, `recvScript`. -/
inductive Form (x : Rec) : Script → Option ReqId → Option PubRec → Prop
  /-- the handler answers itself, or nothing is offered at all: no EVENT, no reply -/
  | own (ss : List Send) (hev : NoEv ss) (hrep : NoRep ss) : Form x { offers := ss } none none
  /-- the gate refuses the message -/
  | gate (r : Realm) (s : Session) (m : Msg) (hc : r.cfg = x.pre.cfg) (hg : (authzGate r s m).1 = false) :
      Form x { offers := gateOffers r s m } none none
  /-- `broker.publish` accepts a publication: a PUBLISH the handler of `s` reads and the gate lets through, or a
      meta event or testament the meta session publishes -/
  | publish (r : Realm) (s : Session) (req : Nat) (opts : Dict) (topic : String) (args : List WVal) (kw : Dict)
      (hs : Still x.pre r) (hn : r.now = x.pre.now) (hse : r.session? = x.pre.session?)
      (src : (x.Reads s (.publish req opts topic args kw) ∧ (authzGate r s (.publish req opts topic args kw)).1 = true) ∨
        ∃ mp, x.act = .task (.metaPub mp) ∧ s = x.pre.metaS ∧ opts = mp.opts ∧ topic = mp.topic ∧ args = mp.args ∧
          kw = mp.kw)
      (hacc : pubAccepted r s opts topic = true) :
      Form x { bsteps := [.publish r.session? r.now (pubOf r s opts topic args kw)],
               offers := (r.broker.syncPublish r.session? r.now (pubOf r s opts topic args kw)).2 ++
                 ackList opts ⟨s.key, .published req (pubBase + r.pubCount)⟩ } none (some ⟨r, s, opts, topic, args, kw⟩)
  /-- a SUBSCRIBE with a valid topic -/
  | subscribe (r : Realm) (s : Session) (req : Nat) (opts : Dict) (topic : String) (hs : Still x.pre r)
      (hv : validUri r.broker.strict (opts.optString OptMatch) topic = true) :
      Form x { bsteps := [.subscribe s.key req topic (opts.optString OptMatch) r.pubCount],
               offers := (r.broker.syncSubscribe s.key req topic (opts.optString OptMatch) r.pubCount).2.1 } none none
  | unsubscribe (r : Realm) (s : Session) (req sub : Nat) (hs : Still x.pre r) :
      Form x (unsubscribeScript r s req sub) none none
  /-- the CALL `x.call?` -/
  | call (r : Realm) (s : Session) (req : Nat) (opts : Dict) (proc : String) (args : List WVal) (kw : Dict)
      (hs : Still x.pre r) (src : x.Reads s (.call req opts proc args kw)) :
      Form x (dealerScript r (syncCall r.denv r.ds s.key req opts proc args kw r.rnd)) (some ⟨s.key, req⟩) none
  /-- another dealer action: it sends no EVENT and opens no call -/
  | dealer (r : Realm) (o : DOut) (hs : Still x.pre r) (hc : Closed r.ds o) : Form x (dealerScript r o) none none
  /-- the departure of an attached session -/
  | leave (r : Realm) (k : SessKey) (mode : LeaveMode) (s : Session) (hs : Still x.pre r) (hl : x.IsLeave k mode s) :
      Form x { bsteps := [.removeSession k r.pubCount],
               dsteps := [(r.ds, syncRemoveSession (leaveSend r k mode).denv r.ds k)],
               offers := leaveOffer k mode ++
                 (if mode.isShutdown then []
                  else (syncRemoveSession (leaveSend r k mode).denv r.ds k).sends ++
                       (r.broker.syncRemoveSession k r.pubCount).2.1) } none none
  /-- a call timer fires -/
  | timer (r : Realm) (t : Timer) (hs : Still x.pre r) : Form x (timerScript r t) none none

theorem Rec.form (x : Rec) : Form x x.script x.call? x.pub? := by
  have quiet : Form x {} none none := .own [] rfl rfl
  -- `{ x.pre with tasks := ts }` is `Still x.pre`
  have pub : ∀ ts s req opts topic args kw,
      ((x.Reads s (.publish req opts topic args kw) ∧
          (authzGate { x.pre with tasks := ts } s (.publish req opts topic args kw)).1 = true) ∨
        ∃ mp, x.act = .task (.metaPub mp) ∧ s = x.pre.metaS ∧ opts = mp.opts ∧ topic = mp.topic ∧ args = mp.args ∧
          kw = mp.kw) →
      Form x (publishScript { x.pre with tasks := ts } s req opts topic args kw) none
        (publishPub { x.pre with tasks := ts } s opts topic args kw) := by
    intro ts s req opts topic args kw src
    unfold publishScript publishPub
    split
    · exact .publish _ s req opts topic args kw ⟨rfl, rfl, rfl, rfl, rfl⟩ rfl rfl src ‹_›
    · split
      · exact .own _ (ackList_noEv _ _ rfl) (ackList_noRep _ _ rfl)
      · split
        · exact .own _ rfl rfl
        · exact .own _ (ackList_noEv _ _ rfl) (ackList_noRep _ _ rfl)
  have msg : ∀ ts s m, x.Reads s m →
      Form x (msgScript { x.pre with tasks := ts } s m) (msgCall { x.pre with tasks := ts } s m)
        (msgPub { x.pre with tasks := ts } s m) := by
    intro ts s m src
    have hs : Still x.pre { x.pre with tasks := ts } := ⟨rfl, rfl, rfl, rfl, rfl⟩
    unfold msgScript msgCall msgPub
    split
    case isFalse hg => exact .gate _ s m rfl (by simpa using hg)
    rename_i hg
    cases m
    case publish => exact pub ts s _ _ _ _ _ (.inl ⟨src, hg⟩)
    case call => exact .call _ s _ _ _ _ _ hs src
    case yield req opts args kw => exact .dealer _ _ hs (closed_yield ..)
    case cancel req opts =>
      show Form x (cancelScript _ s req opts) none none
      unfold cancelScript
      split
      · exact .dealer _ _ hs (closed_cancel ..)
      · exact .own _ rfl rfl
    case subscribe req opts topic =>
      show Form x (subscribeScript _ s req opts topic) none none
      unfold subscribeScript
      split
      · exact .subscribe _ s req opts topic hs ‹_›
      · exact .own _ rfl rfl
    case register req opts proc =>
      show Form x (registerScript _ s req opts proc) none none
      unfold registerScript
      cases hr : registerRefusal { x.pre with tasks := ts } s req opts proc with
      | some e =>
        obtain ⟨err, a, rfl⟩ := registerRefusal_error hr
        exact .own _ rfl rfl
      | none =>
        exact .dealer _ _ hs ⟨noEv_of_dsend (syncRegister_sends _ _ _ _ _ _ _ _ _), fun _ _ _ => .of_nil (syncRegister_no_reply ..),
          fun _ c hc => by unfold registerOut at hc; rwa [syncRegister_calls] at hc⟩
    case unsubscribe => exact .unsubscribe _ s _ _ hs
    case unregister req reg =>
      exact .dealer _ _ hs ⟨noEv_of_dsend (syncUnregister_sends _ _ _ _), fun _ _ _ => .of_nil (syncUnregister_no_reply ..),
        fun _ c hc => by rwa [syncUnregister_calls] at hc⟩
    case error typ req details err args kw =>
      show Form x (if typ != tINVOCATION then {} else dealerScript _ (syncError _ s.key req details err args kw)) none none
      split
      · exact quiet
      · exact .dealer _ _ hs ⟨noEv_of_plainTo (syncError_sends _ _ _ _ _ _ _), fun h _ _ => syncError_replyOK h .., fun _ c => (syncError_shrinks ..).calls c⟩
    case goodbye => exact .own _ rfl rfl
    all_goals exact quiet
  have recv : ∀ ts k m, (x.act = .op (.msg k m) ∨ x.act = .task (.inMsg k m)) →
      Form x (recvScript { x.pre with tasks := ts } k m) (recvCall { x.pre with tasks := ts } k m)
        (recvPub { x.pre with tasks := ts } k m) := by
    intro ts k m ha
    unfold recvScript recvCall recvPub
    cases hf : ({ x.pre with tasks := ts } : Realm).clients.find? (fun c => c.key == k) with
    | none => exact quiet
    | some s =>
      dsimp only
      split
      · exact quiet
      · split
        · exact quiet
        · rename_i he hb
          exact msg ts s m (.client k ha hf (Bool.eq_false_iff.mpr he) (Bool.eq_false_iff.mpr hb))
  obtain ⟨r, a⟩ := x
  cases a with
  | op o =>
    cases o with
    | msg k m => exact recv r.tasks k m (.inl rfl)
    | _ => exact quiet
  | task t =>
    cases t with
    | metaPub p => exact pub _ _ _ _ _ _ _ (.inr ⟨p, rfl, rfl, rfl, rfl, rfl, rfl⟩)
    | metaInvoke req reg details args kw => exact quiet
    | metaMsg m => exact msg _ _ m (.metaS rfl rfl)
    | leave k mode =>
      show Form _ (if ({ r with tasks := r.tasks.tail } : Realm).busy k then {} else _) none none
      split
      · exact quiet
      · cases hf : r.clients.find? (fun c => c.key == k) with
        | none =>
          have e : leaveScript { r with tasks := r.tasks.tail } k mode = {} := by unfold leaveScript; rw [hf]
          rw [e]; exact quiet
        | some s =>
          rw [leaveScript_some (r := { r with tasks := r.tasks.tail }) mode hf]
          exact .leave _ k mode s ⟨rfl, rfl, rfl, rfl, rfl⟩ ⟨rfl, Bool.eq_false_iff.mpr ‹_›, hf⟩
    | inMsg k m => exact recv _ k m (.inr rfl)
  | timer t => exact .timer _ t ⟨rfl, rfl, rfl, rfl, rfl⟩
  | retry y => exact .dealer _ _ ⟨rfl, rfl, rfl, rfl, rfl⟩ (closed_yield ..)
  | flush => exact quiet
  | clock t => exact quiet
  | fuel text => exact quiet

/-- every EVENT among the offers is addressed to a member of its subscription, in the broker `b` the action
    starts with and in the broker `b.run sc.bsteps` it ends with -/
def EvOk (b : Broker) (sc : Script) : Prop :=
  ∀ x ∈ sc.offers, ∀ i, x.msg.eventSub? = some i → b.isMember x.to i ∧ (b.run sc.bsteps).isMember x.to i

theorem evOk_of_noEv {b : Broker} {sc : Script} (h : NoEv sc.offers) : EvOk b sc := by
  intro x hx i hi
  rw [h.mem hx] at hi; cases hi

/-- the offers of an action whose broker steps `Tells` are EVENTs among what was told, and other messages -/
theorem evOk_of_tells {b : Broker} {a : Option SessKey} {ss : List Send} {sc : Script}
    (t : b.Tells a (b.run sc.bsteps) ss) (h : ∀ x ∈ sc.offers, x ∈ ss ∨ x.msg.eventSub? = none) : EvOk b sc :=
  fun x hx i hi => (h x hx).elim (fun hs => ⟨(t.event x hs i hi).2, t.event_after hs hi⟩)
    fun hn => nomatch hn.symm.trans hi

theorem evOk_publish (b : Broker) (sess : SessKey → Option Session) (now : Nat) (p : Publication) {ack : List Send}
    (hack : NoEv ack) : EvOk b { bsteps := [.publish sess now p], offers := (b.syncPublish sess now p).2 ++ ack } :=
  evOk_of_tells (b.tells_publish sess now p) fun _ hx => (List.mem_append.mp hx).imp_right hack.mem

theorem evOk_subscribe {b : Broker} (hb : BrokerInv b) (k : SessKey) (req : Nat) (topic m : String) (pub0 : Nat) :
    EvOk b { bsteps := [.subscribe k req topic m pub0], offers := (b.syncSubscribe k req topic m pub0).2.1 } :=
  evOk_of_tells (hb.tells_subscribe k req topic m pub0) fun _ => .inl

theorem evOk_unsubscribe {b : Broker} (hb : BrokerInv b) (k : SessKey) (req sub pub0 : Nat) :
    EvOk b { bsteps := [.unsubscribe k req sub pub0], offers := (b.syncUnsubscribe k req sub pub0).2.1 } :=
  evOk_of_tells (hb.tells_unsubscribe k req sub pub0) fun _ => .inl

/-- a broker-facing input handled on its own (`handleB`) offers EVENTs to members only, whoever sends it -/
theorem evOk_bScript {r : Realm} (hb : BrokerInv r.broker) (m : BMsg) : EvOk r.broker (bScript r m) := by
  cases m with
  | publish s x =>
    show EvOk _ (publishScript r s x.req x.opts x.topic x.args x.kw)
    unfold publishScript
    split
    · exact evOk_publish _ _ _ _ (ackList_noEv _ _ rfl)
    · split
      · exact evOk_of_noEv (ackList_noEv _ _ rfl)
      · split
        · exact evOk_of_noEv rfl
        · exact evOk_of_noEv (ackList_noEv _ _ rfl)
  | subscribe s req opts topic =>
    show EvOk _ (subscribeScript r s req opts topic)
    unfold subscribeScript
    split
    · exact evOk_subscribe hb _ _ _ _ _
    · exact evOk_of_noEv rfl
  | unsubscribe s req sub => exact evOk_unsubscribe hb _ _ _ _

/-- The script of every atomic action offers EVENTs to members only (members before and after the action) — given
    the broker invariant, and that the goodbye message of a pending kill is no EVENT. -/
theorem Rec.evOk (x : Rec) (hb : BrokerInv x.pre.broker)
    (ht : ∀ k g ka, x.act = .task (.leave k (.killed g ka)) → isGoodbyeMsg g = true) :
    EvOk x.pre.broker x.script := by
  have h := x.form
  generalize x.script = sc, x.call? = c?, x.pub? = p? at h
  cases h with
  | own _ hev _ => exact evOk_of_noEv hev
  | gate r s m _ _ => exact evOk_of_noEv (gateOffers_noEv r s m)
  | call => exact evOk_of_noEv (noEv_of_dsend (syncCall_sends _ _ _ _ _ _ _ _ _))
  | dealer _ _ _ hc => exact evOk_of_noEv hc.noEv
  | timer => exact evOk_of_noEv (noEv_of_plainTo (syncCancel_sends _ _ _ _ _ _ _))
  | publish r s req opts topic args kw hs _ _ _ _ => exact hs.broker ▸ evOk_publish _ _ _ _ (ackList_noEv _ _ rfl)
  | subscribe r s req opts topic hs _ => exact hs.broker ▸ evOk_subscribe (hs.broker ▸ hb) _ _ _ _ _
  | unsubscribe r s req sub hs => exact hs.broker ▸ evOk_unsubscribe (hs.broker ▸ hb) _ _ _ _
  | leave r k mode s hs hl =>
    rw [← hs.broker] at hb ⊢
    refine evOk_of_tells (hb.tells_removeSession k r.pubCount) fun x hx => ?_
    rcases List.mem_append.mp hx with h | h
    · exact .inr ((leaveOffer_plain k mode fun g ka e => ht k g ka (e ▸ hl.1)).1.mem h)
    · split at h
      · cases h
      · exact (List.mem_append.mp h).symm.imp_right (closed_removeSession _ _ _).noEv.mem

end Nexus.L2.WpE
