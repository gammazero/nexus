/-
  `wamp.subscription.get_events` (C20_query): the scan loop of `subEventHistory`
  (`Realm.histScan`) stage by stage (`histScan_eq_scanG`; that it equals the declarative pipeline
  `scanSpec` of BrokerQuerySpec for every query is `C20_query_scan`); what the single stages amount
  to (an absent time or topic filter keeps everything, `dropWhile`/`takeWhile` around the first
  entry with a given publication id).

  The argument parser `Realm.histQuery?` in a normal form over four per-key parsers
  (`histQuery?_eq`), each parser characterised by what its key holds.
-/
import Nexus.L2.Proofs.BrokerQuerySpec

namespace Nexus.L2
open Gen.N
open Realm (HistQuery histScan)

theorem fromStage_zero (l : List HistEntry) : fromStage 0 l = l := if_pos rfl
theorem afterStage_zero (l : List HistEntry) : afterStage 0 l = l := if_pos rfl
theorem beforeStage_zero (l : List HistEntry) : beforeStage 0 l = l := if_pos rfl
theorem untilStage_zero (l : List HistEntry) : untilStage 0 l = l := if_pos rfl

/-! What each stage does with the first entry, in the words of the scan loop. -/

theorem fromStage_cons (x : Nat) (e : HistEntry) (l : List HistEntry) :
    fromStage x (e :: l) = if (x != 0 && e.pub != x) = true then fromStage x l else e :: l := by
  unfold fromStage
  by_cases h0 : x = 0
  · simp [h0]
  · by_cases hp : e.pub = x <;> simp [h0, hp]

theorem afterStage_cons (x : Nat) (e : HistEntry) (l : List HistEntry) :
    afterStage x (e :: l) =
      if (x != 0) = true then afterStage (if (e.pub == x) = true then 0 else x) l else e :: l := by
  unfold afterStage
  by_cases h0 : x = 0
  · simp [h0]
  · by_cases hp : e.pub = x <;> simp [h0, hp]

theorem beforeStage_cons (x : Nat) (e : HistEntry) (l : List HistEntry) :
    beforeStage x (e :: l) =
      if (decide (x > 0) && e.pub == x) = true then [] else e :: beforeStage x l := by
  unfold beforeStage
  by_cases h0 : x = 0
  · simp [h0]
  · by_cases hp : e.pub = x <;> simp [h0, hp, Nat.pos_of_ne_zero]

/-- `untilStage` with the loop's flag "the bound has been passed" -/
def untilG (ur : Bool) (x : Nat) (l : List HistEntry) : List HistEntry :=
  if x = 0 then l else if ur then [] else untilStage x l

theorem untilG_cons (ur : Bool) (x : Nat) (e : HistEntry) (l : List HistEntry) :
    untilG ur x (e :: l) =
      if (decide (x > 0) && ur) = true then []
      else e :: untilG (ur || decide (x > 0) && e.pub == x) x l := by
  unfold untilG untilStage
  by_cases h0 : x = 0
  · simp [h0]
  · cases ur
    · by_cases hp : e.pub = x <;> simp [h0, hp, Nat.pos_of_ne_zero]
    · simp [h0, Nat.pos_of_ne_zero]

theorem untilG_nil (ur : Bool) (x : Nat) : untilG ur x [] = [] := by
  unfold untilG untilStage; cases ur <;> simp

/-- the scan with an arbitrary loop state -/
def scanG (q : HistQuery) (es : List HistEntry) (fp ap : Nat) (ur : Bool) : List HistEntry :=
  (untilG ur q.untilPub (beforeStage q.beforePub (afterStage ap (fromStage fp
    (es.filter (timeOk q)))))).filter (topicOk q)

/-- the four time tests of the scan loop, whatever form they are written in, amount to `timeOk` -/
theorem ite_timeOk {α : Type} (q : HistQuery) (e : HistEntry) (c1 c2 c3 c4 : Bool) (x y : α)
    (h1 : c1 = !q.fromT.all (fun t => t ≤ e.time)) (h2 : c2 = !q.afterT.all (fun t => t < e.time))
    (h3 : c3 = !q.beforeT.all (fun t => e.time < t)) (h4 : c4 = !q.untilT.all (fun t => e.time ≤ t)) :
    (if c1 = true then x else if c2 = true then x else if c3 = true then x else if c4 = true then x else y) =
      if timeOk q e = true then y else x := by
  subst h1 h2 h3 h4
  unfold timeOk
  cases q.fromT.all _ <;> cases q.afterT.all _ <;> cases q.beforeT.all _ <;> cases q.untilT.all _ <;> rfl

theorem histScan_eq_scanG (q : HistQuery) : ∀ (es : List HistEntry) (fp ap : Nat) (ur : Bool),
    histScan q es fp ap ur = scanG q es fp ap ur
  | [], fp, ap, ur => by
    unfold scanG histScan fromStage afterStage beforeStage untilG untilStage
    simp
  | e :: rest, fp, ap, ur => by
    unfold histScan
    rw [ite_timeOk q e _ _ _ _ _ _ (by cases q.fromT <;> simp [← Nat.not_le]) (by cases q.afterT <;> simp)
      (by cases q.beforeT <;> simp) (by cases q.untilT <;> simp [← Nat.not_le])]
    simp only [histScan_eq_scanG q rest]
    unfold scanG
    rw [List.filter_cons]
    by_cases ht : timeOk q e = true
    · rw [if_pos ht, if_pos ht, fromStage_cons]
      by_cases hf : (fp != 0 && e.pub != fp) = true
      · rw [if_pos hf, if_pos hf]
      · rw [if_neg hf, if_neg hf, afterStage_cons, fromStage_zero]
        by_cases ha : (ap != 0) = true
        · rw [if_pos ha, if_pos ha]
        · obtain rfl : ap = 0 := by simpa using ha
          rw [if_neg ha, if_neg ha, beforeStage_cons, afterStage_zero]
          by_cases hb : (decide (q.beforePub > 0) && e.pub == q.beforePub) = true
          · rw [if_pos hb, if_pos hb, untilG_nil]; rfl
          · rw [if_neg hb, if_neg hb, untilG_cons]
            by_cases hu : (decide (q.untilPub > 0) && ur) = true
            · rw [if_pos hu, if_pos hu]; rfl
            · rw [if_neg hu, if_neg hu, List.filter_cons]
              -- the loop's topic test is `topicOk q e` written out
              rfl
    · rw [if_neg ht, if_neg ht]

theorem filter_timeOk_none (q : HistQuery) (h : q.fromT = none ∧ q.afterT = none ∧ q.beforeT = none ∧ q.untilT = none)
    (es : List HistEntry) : es.filter (timeOk q) = es := by
  rw [List.filter_eq_self]
  intro e _
  unfold timeOk
  rw [h.1, h.2.1, h.2.2.1, h.2.2.2]
  rfl

theorem filter_topicOk_none (q : HistQuery) (h : q.topic = "") (es : List HistEntry) :
    es.filter (topicOk q) = es := by
  rw [List.filter_eq_self]
  intro e _
  unfold topicOk
  rw [h]; rfl

section stages
variable {x : Nat} (hx : x ≠ 0)

section split
variable {pre post : List HistEntry} {f : HistEntry} (hf : f.pub = x) (hpre : ∀ e ∈ pre, e.pub ≠ x)
include hf hpre

theorem dropWhile_split : (pre ++ f :: post).dropWhile (fun e => e.pub != x) = f :: post := by
  rw [List.dropWhile_append_of_pos fun e he => by simpa using hpre e he, List.dropWhile_cons_of_neg (by simp [hf])]

theorem takeWhile_split : (pre ++ f :: post).takeWhile (fun e => e.pub != x) = pre := by
  rw [List.takeWhile_append_of_pos fun e he => by simpa using hpre e he, List.takeWhile_cons_of_neg (by simp [hf]),
    List.append_nil]

include hx

theorem fromStage_split : fromStage x (pre ++ f :: post) = f :: post := by
  rw [fromStage, if_neg hx, dropWhile_split hf hpre]

theorem afterStage_split : afterStage x (pre ++ f :: post) = post := by
  rw [afterStage, if_neg hx, dropWhile_split hf hpre]; rfl

theorem beforeStage_split : beforeStage x (pre ++ f :: post) = pre := by
  rw [beforeStage, if_neg hx, takeWhile_split hf hpre]

theorem untilStage_split : untilStage x (pre ++ f :: post) = pre ++ [f] := by
  rw [untilStage, if_neg hx, takeWhile_split hf hpre, dropWhile_split hf hpre]; rfl

end split

section absent
variable {es : List HistEntry} (h : ∀ e ∈ es, e.pub ≠ x)
include h

theorem dropWhile_absent : es.dropWhile (fun e => e.pub != x) = [] := by
  simpa using List.dropWhile_append_of_pos (p := fun e : HistEntry => e.pub != x) (l₂ := []) fun e he => by simpa using h e he

theorem takeWhile_absent : es.takeWhile (fun e => e.pub != x) = es := by
  simpa using List.takeWhile_append_of_pos (p := fun e : HistEntry => e.pub != x) (l₂ := []) fun e he => by simpa using h e he

include hx

theorem fromStage_absent : fromStage x es = [] := by rw [fromStage, if_neg hx, dropWhile_absent h]

theorem afterStage_absent : afterStage x es = [] := by rw [afterStage, if_neg hx, dropWhile_absent h]; rfl

theorem beforeStage_absent : beforeStage x es = es := by rw [beforeStage, if_neg hx, takeWhile_absent h]

theorem untilStage_absent : untilStage x es = es := by
  rw [untilStage, if_neg hx, takeWhile_absent h, dropWhile_absent h]; exact List.append_nil _

end absent
end stages

theorem pre_ne_of_nodup {pre post : List HistEntry} {f : HistEntry}
    (hn : ((pre ++ f :: post).map (·.pub)).Nodup) : ∀ e ∈ pre, e.pub ≠ f.pub := by
  intro e he heq
  rw [List.map_append, List.nodup_append] at hn
  exact hn.2.2 e.pub (List.mem_map.mpr ⟨e, he, rfl⟩) f.pub (by simp) heq

end Nexus.L2

namespace Nexus.L2.WpA
open Nexus.L2 Gen.N
open Nexus.L2.Realm (histQuery? kwStr)

def limRaw (kw : Dict) : Option (Option Int) :=
  match kw.get? "limit" with
  | none => some none
  | some (.int i) => some (some i)
  | some _ => none

def reverseArg (kw : Dict) : Option Bool :=
  match kw.get? "reverse" with
  | none => some false
  | some (.bool b) => some b
  | some _ => none

def timeArg (kw : Dict) (k : String) : Option (Option Nat) :=
  match kw.get? k with
  | some (.dict [("$ms", .int i)]) => some (some i.toNat)
  | some (.str _) => none
  | _ => some none

def pubArg (kw : Dict) (k : String) : Option Nat :=
  match kw.get? k with
  | none => some 0
  | some v => v.asID

theorem histQuery?_eq (kw : Dict) :
    histQuery? kw =
      (match limRaw kw, reverseArg kw, timeArg kw "from_time", timeArg kw "after_time", timeArg kw "before_time",
             timeArg kw "until_time", pubArg kw "from_publication", pubArg kw "after_publication",
             pubArg kw "before_publication", pubArg kw "until_publication" with
       | some lim, some rev, some ft, some at_, some bt, some ut, some fp, some ap, some bp, some up =>
         match lim with
         | some l => if l < 1 then none else
           some { limit := l.toNat, reverse := rev, fromT := ft, afterT := at_, beforeT := bt, untilT := ut,
                  topic := kwStr kw "topic", fromPub := fp, afterPub := ap, beforePub := bp, untilPub := up }
         | none =>
           some { limit := 0, reverse := rev, fromT := ft, afterT := at_, beforeT := bt, untilT := ut,
                  topic := kwStr kw "topic", fromPub := fp, afterPub := ap, beforePub := bp, untilPub := up }
       | _, _, _, _, _, _, _, _, _, _ => none) := rfl

theorem limRaw_some_none {kw : Dict} : limRaw kw = some none ↔ kw.get? "limit" = none := by
  unfold limRaw
  split <;> simp_all

theorem limRaw_some_some {kw : Dict} {n : Int} : limRaw kw = some (some n) ↔ kw.get? "limit" = some (.int n) := by
  unfold limRaw
  split <;> simp_all

theorem reverseArg_some {kw : Dict} {b : Bool} :
    reverseArg kw = some b ↔ (kw.get? "reverse" = none ∧ b = false) ∨ kw.get? "reverse" = some (.bool b) := by
  unfold reverseArg
  split
  · rename_i h; simp [h, eq_comm]
  · rename_i b' h; simp [h, eq_comm]
  · rename_i v hne hv
    simp only [hv, reduceCtorEq, false_and, false_or, false_iff, Option.some.injEq]
    intro h; exact hne b h

theorem reverseArg_none {kw : Dict} : reverseArg kw = none ↔ ∃ v, kw.get? "reverse" = some v ∧ ∀ b, v ≠ .bool b := by
  unfold reverseArg
  split
  · simp_all
  · simp_all
  · rename_i v hne hv
    simp only [true_iff]
    exact ⟨_, hv, fun n hn => hne n hn⟩

theorem timeArg_none {kw : Dict} {k : String} : timeArg kw k = none ↔ ∃ s, kw.get? k = some (.str s) := by
  unfold timeArg
  split
  · simp_all
  · simp_all
  · rename_i h1 h2
    simp only [reduceCtorEq, false_iff, not_exists]
    intro s hs; exact h2 s hs

def timeBound (kw : Dict) (k : String) : Option Nat :=
  match kw.get? k with
  | some (.dict [("$ms", .int i)]) => some i.toNat
  | _ => none

theorem timeArg_some {kw : Dict} {k : String} {t : Option Nat} (h : timeArg kw k = some t) : t = timeBound kw k := by
  unfold timeArg at h
  unfold timeBound
  split at h
  · rename_i i hi; rw [hi]; simpa using h.symm
  · simp at h
  · rename_i h1 h2
    split
    · rename_i i hi; exact absurd hi (h1 i)
    · simpa using h.symm

theorem pubArg_none {kw : Dict} {k : String} : pubArg kw k = none ↔ ∃ v, kw.get? k = some v ∧ v.asID = none := by
  unfold pubArg
  split <;> simp_all

theorem pubArg_some {kw : Dict} {k : String} {n : Nat} :
    pubArg kw k = some n ↔ (kw.get? k = none ∧ n = 0) ∨ ∃ v, kw.get? k = some v ∧ v.asID = some n := by
  unfold pubArg
  split
  · rename_i h; simp [h, eq_comm]
  · rename_i v h; simp [h]

end Nexus.L2.WpA
