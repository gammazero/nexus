/-
  Declarative vocabulary used by the statements of C01, C08, C12 and C20 (broker half).
  Definitions only — no lemma of the proof development lives here, so that the meaning
  of a property theorem in `Nexus/Props/*.lean` can be read off this file, the model and the two
  definitions `Sub.matchesTopic` and `Sub.isPattern` at the head of Proofs/Broker.lean, which
  `Expected`, `deliveryOf` and `retained` use.

  Everything here is written from the property texts (properties.jsonl), not from the
  model's code: `ruledOut` does not mention `mkFilter`/`Filter.allowed`, `Expected` does not
  mention `syncPublish`, `retained` does not mention `Hist.save`.
-/
import Nexus.L2.Proofs.Broker

namespace Nexus.L2
open Gen.N

/-! ### C01: who is ruled out by the exclude/eligible options of a publication -/

/-- `n` is one of the valid ids (per `wamp.AsID`) listed under option `key`. -/
def IsIdOf (opts : Dict) (key : String) (n : Nat) : Prop :=
  ∃ v l x, opts.get? key = some v ∧ v.asList = some l ∧ x ∈ l ∧ x.asID = some n

/-- Session attribute `attr` (a key of the session details) has the non-empty string value `a`. -/
def HasAttr (details : Dict) (attr a : String) : Prop :=
  a ≠ "" ∧ details.get? attr = some (.str a)

/-- The session with id `sid` and details `details` is ruled out by the publish options:
    * its id is in `exclude`; or
    * `eligible` lists at least one valid id and not this one; or
    * some key `exclude_<attr>` has a list value containing the session's (non-empty, string)
      attribute `<attr>`; or
    * some key `eligible_<attr>` has a list value with at least one non-empty string, and the
      session's attribute `<attr>` is missing / empty / not a string / not in that list. -/
def ruledOut (opts : Dict) (sid : Nat) (details : Dict) : Prop :=
  IsIdOf opts "exclude" sid ∨
  ((∃ n, IsIdOf opts "eligible" n) ∧ ¬ IsIdOf opts "eligible" sid) ∨
  (∃ attr v l a, ("exclude_" ++ attr, v) ∈ opts ∧ v.asList = some l ∧
      HasAttr details attr a ∧ WVal.str a ∈ l) ∨
  (∃ attr v l, ("eligible_" ++ attr, v) ∈ opts ∧ v.asList = some l ∧
      (∃ s, s ≠ "" ∧ WVal.str s ∈ l) ∧ ¬ ∃ a, HasAttr details attr a ∧ WVal.str a ∈ l)

/-! ### C01: who must receive a publication -/

/-- Session `k`, attached as `c`, must receive publication `p` through subscription `s`. -/
def Expected (b : Broker) (sess : SessKey → Option Session) (p : Publication)
    (s : Sub) (k : SessKey) (c : Session) : Prop :=
  s ∈ b.subs ∧ s.matchesTopic p.topic = true ∧ k ∈ s.members ∧ sess k = some c ∧
  ¬(c.key = p.publisher ∧ p.excludePub = true) ∧ ¬ ruledOut p.opts (sidOf c.key) c.details

/-- The EVENT that `c` must get through `s`: the subscription's id, the publication's id, the
    per-recipient details, the publisher's arguments. -/
def expectedEvent (p : Publication) (s : Sub) (c : Session) : Msg :=
  .event s.id p.pubId (eventDetails p s.isPattern (some c)) p.args p.kw

/-- subscription id carried by an EVENT -/
def Msg.eventSub? : Msg → Option Nat
  | .event sub _ _ _ _ => some sub
  | _ => none

/-- The messages of `sends` that go to session `k` as EVENTs of subscription `id`, in order. -/
def through (sends : List Send) (k : SessKey) (id : Nat) : List Send :=
  sends.filter (fun x => x.to == k && x.msg.eventSub? == some id)

/-- A session table is coherent when the session stored under key `k` has key `k`
    (true of `Realm.session?` for every attached client). -/
def SessCoherent (sess : SessKey → Option Session) : Prop :=
  ∀ k c, sess k = some c → c.key = k

/-- What session `k` must find in its queue, through subscription `s`, for publication `p`:
    the expected EVENT if `(s, k)` is an expected pair, nothing otherwise.  (Depends on the broker
    only through `s`, and on the session table only through `sess k`.) -/
noncomputable def deliveryOf (sess : SessKey → Option Session) (p : Publication) (s : Sub) (k : SessKey) :
    List Send :=
  open Classical in
  match sess k with
  | some c =>
    if s.matchesTopic p.topic = true ∧ k ∈ s.members ∧
       ¬(c.key = p.publisher ∧ p.excludePub = true) ∧ ¬ ruledOut p.opts (sidOf c.key) c.details
    then [⟨k, expectedEvent p s c⟩] else []
  | none => []

/-- publishing a list of publications in order, collecting all messages sent -/
def Broker.publishAll (b : Broker) : List ((SessKey → Option Session) × Nat × Publication) → Broker × List Send
  | [] => (b, [])
  | (sess, now, p) :: rest =>
    let r := b.syncPublish sess now p
    let r' := Broker.publishAll r.1 rest
    (r'.1, r.2 ++ r'.2)

/-- publication id carried by an EVENT -/
def Msg.eventPub? : Msg → Option Nat
  | .event _ pub _ _ _ => some pub
  | _ => none

/-! ### C12: publisher identity -/

/-- the three detail keys that reveal the publisher -/
def isPublisherKey (key : String) : Prop :=
  key = "publisher" ∨ key = "publisher_authid" ∨ key = "publisher_authrole"

/-- Is the publisher's identity to be disclosed to recipient `r`?  Only when the publication asked
    for it (and the realm allowed it: `p.disclose` is set by `broker.publish` only then) and the
    recipient announced `subscriber.features.publisher_identification`.  Never for the history
    store (`r = none`). -/
def disclosedTo (p : Publication) (r : Option Session) : Bool :=
  match r with
  | some s => p.disclose && s.hasFeature RoleSubscriber FeaturePubIdent
  | none => false

/-! ### C20: broker histories and what a store must retain -/

/-- One step of the broker goroutine. -/
inductive BStep where
  | publish (sess : SessKey → Option Session) (now : Nat) (p : Publication)
  | subscribe (k : SessKey) (req : Nat) (topic «match» : String) (pub0 : Nat)
  | unsubscribe (k : SessKey) (req subId pub0 : Nat)
  | removeSession (k : SessKey) (pub0 : Nat)

def BStep.isPublish : BStep → Bool
  | .publish .. => true
  | _ => false

def Broker.step (b : Broker) : BStep → Broker
  | .publish sess now p => (b.syncPublish sess now p).1
  | .subscribe k req topic m pub0 => (b.syncSubscribe k req topic m pub0).1
  | .unsubscribe k req subId pub0 => (b.syncUnsubscribe k req subId pub0).1
  | .removeSession k pub0 => (b.syncRemoveSession k pub0).1

def Broker.run (b : Broker) (steps : List BStep) : Broker := steps.foldl Broker.step b

/-- The last `n` elements of a list, in their order. -/
def lastN {α : Type} (n : Nat) (l : List α) : List α := l.drop (l.length - n)

/-- The entry a store of subscription `s` must hold for publication `p` made at time `now`:
    publication id, arguments, and `details.topic = p.topic` iff `s` is pattern-based. -/
def retainedEntry (s : Sub) (now : Nat) (p : Publication) : HistEntry :=
  { pub := p.pubId, sub := s.id,
    details := if s.isPattern then p.baseDetails.set "topic" (.str p.topic) else p.baseDetails,
    args := p.args, kw := p.kw, time := now }

/-- Ghost history: the publications so far, in publish order, that match `s` under its policy and
    carry neither `exclude` nor `eligible`, as the entries the store must hold. -/
def retained (s : Sub) : List BStep → List HistEntry
  | [] => []
  | .publish _ now p :: rest =>
    if s.matchesTopic p.topic && !p.opts.contains "exclude" && !p.opts.contains "eligible"
    then retainedEntry s now p :: retained s rest else retained s rest
  | _ :: rest => retained s rest

end Nexus.L2
