/-
  DealerInv — the invariant of the dealer model (Nexus.L2.Dealer) carried by the
  property theorems C02, C03, C05, C12, C13 (DESIGN.md Appendix B).

  It is a conjunction of three independent parts:
  * `RegInv`  — registrations and the callee index (`calleeRegIDSet`);
  * `CallInv` — `calls`, `invocations`, `invocationByCall`;
  * `AuxInv`  — invocation-id generators (`invGen`) and call timers.

  This file: definitions, lookup lemmas under the invariant, and the elementary
  state updates the `sync*` functions are built from.  Preservation by the `sync*`
  functions themselves is in DealerPres, by session removal and its loops in DealerRemove.
-/
import Nexus.L2.Realm
import Nexus.L2.Proofs.DealerList

namespace Nexus.L2
open Gen.N

def genOf (g : List (SessKey × Nat)) (k : SessKey) : Nat :=
  match g.find? (fun p => p.1 == k) with
  | some p => p.2
  | none => 0

def calleeRel (regs : List Reg) (id : Nat) (c : SessKey) : Prop :=
  ∃ r ∈ regs, r.id = id ∧ c ∈ r.callees

/-- the part of the registration invariant that does not mention the index -/
structure RegsOk (regs : List Reg) (nextReg : Nat) : Prop where
  ids : (regs.map (·.id)).Nodup
  keys : (regs.map (fun r => (r.proc, r.kind))).Nodup
  range : ∀ r ∈ regs, 0 < r.id ∧ r.id ≤ nextReg
  callees : ∀ r ∈ regs, r.callees ≠ [] ∧ r.callees.Nodup
  single : ∀ r ∈ regs, (r.policy = "" ∨ r.policy = InvokeSingle) → r.callees.length ≤ 1
  /-- only the invocation policies `dealer.register` accepts are stored -/
  known : ∀ r ∈ regs, r.policy ∈ Realm.knownPolicies

structure RegInv (d : Dealer) : Prop where
  regs : RegsOk d.regs d.nextReg
  ix : IdxOk d.index
  /-- `calleeRegIDSet` agrees with callee membership -/
  ixIff : ∀ k id, id ∈ idxIds d.index k ↔ calleeRel d.regs id k

structure CallInv (d : Dealer) : Prop where
  calls : d.calls.Nodup
  invIds : (d.invs.map (·.id)).Nodup
  invCalls : (d.invs.map (·.callId)).Nodup
  byFst : (d.byCall.map (·.1)).Nodup
  bySnd : (d.byCall.map (·.2)).Nodup
  /-- the domain of `invocationByCall` is `calls`: every call has an invocation -/
  callBy : ∀ c, c ∈ d.calls ↔ ∃ i, (c, i) ∈ d.byCall
  /-- `invocationByCall` is exactly the relation `callId ↦ id` of the stored invocations -/
  byInv : ∀ c i, (c, i) ∈ d.byCall ↔ ∃ v ∈ d.invs, v.id = i ∧ v.callId = c
  /-- the `callee` field of an invocation is the session its id was issued to -/
  callee : ∀ v ∈ d.invs, v.callee = v.id.sess

structure AuxInv (s : DState) : Prop where
  gen : ∀ v ∈ s.d.invs, 0 < v.id.req ∧ v.id.req ≤ genOf s.invGen v.id.sess
  timerIds : (s.timers.map (·.id)).Nodup
  timerRange : ∀ t ∈ s.timers, 0 < t.id ∧ t.id ≤ s.nextTimer
  invTimer : ∀ v ∈ s.d.invs, ∀ tid, v.timer = some tid →
    0 < tid ∧ tid ≤ s.nextTimer ∧ ∀ t ∈ s.timers, t.id = tid → t.caller = v.callId.sess ∧ t.req = v.callId.req
  invTimerInj : ∀ v ∈ s.d.invs, ∀ w ∈ s.d.invs, ∀ tid, v.timer = some tid → w.timer = some tid → v.id = w.id
  /-- every armed, not cancelled timer is THE timer recorded in the stored invocation of its call: a pending call has
      at most one live timer, and no live timer is left behind by a call that is gone (a later chunk of a progressive
      call invocation cancels the previous timer before arming the next; every completion cancels the recorded one) -/
  timerOwned : ∀ t ∈ s.timers, t.canceled = false → ∃ v ∈ s.d.invs, v.callId = ⟨t.caller, t.req⟩ ∧ v.timer = some t.id

structure DealerInv (s : DState) : Prop where
  reg : RegInv s.d
  call : CallInv s.d
  aux : AuxInv s

section proj
variable (d : Dealer) (r : Reg) (v : Invk) (c i : ReqId) (id : Nat)

@[simp] theorem setReg_calls : (d.setReg r).calls = d.calls := rfl
@[simp] theorem setReg_invs : (d.setReg r).invs = d.invs := rfl
@[simp] theorem setReg_byCall : (d.setReg r).byCall = d.byCall := rfl
@[simp] theorem setReg_index : (d.setReg r).index = d.index := rfl
@[simp] theorem setReg_nextReg : (d.setReg r).nextReg = d.nextReg := rfl
@[simp] theorem setReg_allow : (d.setReg r).allowDisclose = d.allowDisclose := rfl
@[simp] theorem delReg_calls : (d.delReg id).calls = d.calls := rfl
@[simp] theorem delReg_invs : (d.delReg id).invs = d.invs := rfl
@[simp] theorem delReg_byCall : (d.delReg id).byCall = d.byCall := rfl
@[simp] theorem delReg_index : (d.delReg id).index = d.index := rfl
@[simp] theorem delReg_nextReg : (d.delReg id).nextReg = d.nextReg := rfl
@[simp] theorem setInv_calls : (d.setInv v).calls = d.calls := rfl
@[simp] theorem setInv_byCall : (d.setInv v).byCall = d.byCall := rfl
@[simp] theorem setInv_regs : (d.setInv v).regs = d.regs := rfl
@[simp] theorem setInv_index : (d.setInv v).index = d.index := rfl
@[simp] theorem setInv_nextReg : (d.setInv v).nextReg = d.nextReg := rfl
@[simp] theorem setInv_allow : (d.setInv v).allowDisclose = d.allowDisclose := rfl
@[simp] theorem forget_calls : (d.forget c i).calls = d.calls.filter (· != c) := rfl
@[simp] theorem forget_invs : (d.forget c i).invs = d.invs.filter (fun x => x.id != i) := rfl
@[simp] theorem forget_byCall : (d.forget c i).byCall = d.byCall.filter (fun p => p.1 != c) := rfl
@[simp] theorem forget_regs : (d.forget c i).regs = d.regs := rfl
@[simp] theorem forget_index : (d.forget c i).index = d.index := rfl
@[simp] theorem forget_nextReg : (d.forget c i).nextReg = d.nextReg := rfl
@[simp] theorem forget_allow : (d.forget c i).allowDisclose = d.allowDisclose := rfl

theorem delInv_delByCall_delCall : ((d.delInv i).delByCall c).delCall c = d.forget c i := rfl

end proj

@[simp] theorem cancelTimer_d (s : DState) (t : Option Nat) : (s.cancelTimer t).d = s.d := by
  cases t <;> rfl

@[simp] theorem cancelTimer_nextTimer (s : DState) (t : Option Nat) : (s.cancelTimer t).nextTimer = s.nextTimer := by
  cases t <;> rfl

@[simp] theorem cancelTimer_invGen (s : DState) (t : Option Nat) : (s.cancelTimer t).invGen = s.invGen := by
  cases t <;> rfl

theorem cancelTimer_timers (s : DState) (t : Option Nat) :
    (s.cancelTimer t).timers =
      s.timers.map (fun x => if some x.id = t then { x with canceled := true } else x) := by
  cases t with
  | none => simp [DState.cancelTimer]
  | some id =>
    simp only [DState.cancelTimer, Option.some.injEq]
    apply List.map_congr_left
    intro x _
    by_cases h : x.id = id <;> simp [h]

theorem cancelTimer_idem (s : DState) (t : Option Nat) : (s.cancelTimer t).cancelTimer t = s.cancelTimer t := by
  cases t with
  | none => rfl
  | some id =>
    simp only [DState.cancelTimer, List.map_map]
    congr 1
    apply List.map_congr_left
    intro x _
    by_cases hx : x.id = id <;> simp [hx]

theorem cancelTimer_timers_shape (s : DState) (t : Option Nat) :
    (s.cancelTimer t).timers.map (fun x => (x.id, x.caller, x.req, x.deadline)) =
      s.timers.map (fun x => (x.id, x.caller, x.req, x.deadline)) := by
  rw [cancelTimer_timers, List.map_map]
  apply List.map_congr_left
  intro x _
  simp only [Function.comp]
  split <;> rfl

theorem findProc_eq_some {d : Dealer} (h : (d.regs.map (fun r => (r.proc, r.kind))).Nodup)
    {proc : String} {k : MatchKind} {r : Reg} :
    d.findProc proc k = some r ↔ r ∈ d.regs ∧ r.kind = k ∧ r.proc = proc := by
  -- the test of `findProc` is the key test for the pair (procedure, kind)
  have e : (fun r : Reg => r.kind == k && r.proc == proc) = fun r => (r.proc, r.kind) == (proc, k) :=
    funext fun r => Bool.and_comm ..
  unfold Dealer.findProc
  rw [e, find?_key_eq_some h, Prod.mk.injEq, and_comm (a := r.proc = proc)]

theorem findProc_eq_none {d : Dealer} {proc : String} {k : MatchKind} :
    d.findProc proc k = none ↔ ∀ r ∈ d.regs, ¬ (r.kind = k ∧ r.proc = proc) := by
  unfold Dealer.findProc
  rw [List.find?_eq_none]
  constructor <;> intro h r hr <;> simpa using h r hr

theorem findReg_eq_some {d : Dealer} (h : (d.regs.map (·.id)).Nodup) {id : Nat} {r : Reg} :
    d.findReg id = some r ↔ r ∈ d.regs ∧ r.id = id :=
  find?_key_eq_some (f := fun r : Reg => r.id) h

theorem findReg_eq_none {d : Dealer} {id : Nat} : d.findReg id = none ↔ ∀ r ∈ d.regs, r.id ≠ id :=
  find?_key_eq_none (f := fun r : Reg => r.id)

theorem findInv_eq_some {d : Dealer} (h : (d.invs.map (·.id)).Nodup) {i : ReqId} {v : Invk} :
    d.findInv i = some v ↔ v ∈ d.invs ∧ v.id = i :=
  find?_key_eq_some (f := fun v : Invk => v.id) h

theorem findInv_some_mem {d : Dealer} {i : ReqId} {v : Invk} (h : d.findInv i = some v) :
    v ∈ d.invs ∧ v.id = i :=
  find?_key_some (f := fun v : Invk => v.id) h

theorem findInv_eq_none {d : Dealer} {i : ReqId} : d.findInv i = none ↔ ∀ v ∈ d.invs, v.id ≠ i :=
  find?_key_eq_none (f := fun v : Invk => v.id)

theorem findInv_forget (d : Dealer) (c i : ReqId) : (d.forget c i).findInv i = none :=
  findInv_eq_none.2 fun _ hv => by simpa using (List.mem_filter.1 hv).2

theorem byCall?_eq_some {d : Dealer} (h : (d.byCall.map (·.1)).Nodup) {c i : ReqId} :
    d.byCall? c = some i ↔ (c, i) ∈ d.byCall :=
  assoc?_eq_some h

theorem byCall?_eq_none {d : Dealer} {c : ReqId} : d.byCall? c = none ↔ ∀ p ∈ d.byCall, p.1 ≠ c :=
  assoc?_eq_none

theorem contains_calls {d : Dealer} {c : ReqId} : d.calls.contains c = true ↔ c ∈ d.calls := by
  simp

namespace CallInv
variable {d : Dealer} (h : CallInv d)
include h

/-- an invocation belongs to a pending call -/
theorem inv_call {v : Invk} (hv : v ∈ d.invs) :
    v.callId ∈ d.calls ∧ d.byCall? v.callId = some v.id ∧ d.findInv v.id = some v := by
  have hb := (h.byInv v.callId v.id).2 ⟨v, hv, rfl, rfl⟩
  exact ⟨(h.callBy _).2 ⟨_, hb⟩, (byCall?_eq_some h.byFst).2 hb, (findInv_eq_some h.invIds).2 ⟨hv, rfl⟩⟩

theorem byCall?_none {c : ReqId} (hc : c ∉ d.calls) : d.byCall? c = none := by
  rw [byCall?_eq_none]
  intro p hp hpc
  exact hc ((h.callBy c).2 ⟨p.2, by cases p; simp only at hpc; subst hpc; exact hp⟩)

theorem byCall?_some {c i : ReqId} (hb : d.byCall? c = some i) :
    c ∈ d.calls ∧ ∃ v, d.findInv i = some v ∧ v ∈ d.invs ∧ v.id = i ∧ v.callId = c ∧ v.callee = i.sess := by
  have hm := (byCall?_eq_some h.byFst).1 hb
  have hc := (h.callBy c).2 ⟨i, hm⟩
  obtain ⟨v, hv, hvi, hvc⟩ := (h.byInv c i).1 hm
  exact ⟨hc, v, (findInv_eq_some h.invIds).2 ⟨hv, hvi⟩, hv, hvi, hvc, hvi ▸ h.callee v hv⟩

/-- a pending call has its link and its invocation -/
theorem lookup {c : ReqId} (hc : c ∈ d.calls) :
    ∃ i v, d.byCall? c = some i ∧ d.findInv i = some v ∧ v ∈ d.invs ∧ v.id = i ∧ v.callId = c ∧
      v.callee = i.sess :=
  have ⟨i, hi⟩ := (h.callBy c).1 hc
  have hb := (byCall?_eq_some h.byFst).2 hi
  have ⟨_, v, r⟩ := h.byCall?_some hb
  ⟨i, v, hb, r⟩

end CallInv

/-! ### the three call tables as one

`CallInv` says no more and no less than: the stored invocations have distinct ids and distinct calls, and `calls` and
`invocationByCall` are the call ids and the links `(callId, id)` of the stored invocations, in some order.  Preservation
is shown in that form: filtering, appending and mapping act on both sides of a permutation alike. -/

namespace CallInv
variable {d : Dealer}

theorem calls_perm (h : CallInv d) : d.calls.Perm (d.invs.map (·.callId)) := by
  refine (List.perm_ext_iff_of_nodup h.calls h.invCalls).2 fun c => ?_
  simp only [h.callBy, h.byInv, List.mem_map]
  exact ⟨fun ⟨_, v, hv, _, e⟩ => ⟨v, hv, e⟩, fun ⟨v, hv, e⟩ => ⟨_, v, hv, rfl, e⟩⟩

theorem byCall_perm (h : CallInv d) : d.byCall.Perm (d.invs.map fun v => (v.callId, v.id)) := by
  refine (List.perm_ext_iff_of_nodup (nodup_of_nodup_map _ h.byFst)
    (nodup_of_nodup_map (·.2) (by rw [List.map_map]; exact h.invIds))).2 fun p => ?_
  simp only [h.byInv, List.mem_map]
  exact ⟨fun ⟨v, hv, e1, e2⟩ => ⟨v, hv, by rw [e1, e2]⟩, fun ⟨v, hv, e⟩ => ⟨v, hv, e ▸ ⟨rfl, rfl⟩⟩⟩

theorem of_perm (hi : (d.invs.map (·.id)).Nodup) (hc : (d.invs.map (·.callId)).Nodup)
    (he : ∀ v ∈ d.invs, v.callee = v.id.sess) (pc : d.calls.Perm (d.invs.map (·.callId)))
    (pb : d.byCall.Perm (d.invs.map fun v => (v.callId, v.id))) : CallInv d := by
  have mb : ∀ c i, (c, i) ∈ d.byCall ↔ ∃ v ∈ d.invs, v.id = i ∧ v.callId = c := fun c i => by
    simp only [pb.mem_iff, List.mem_map, Prod.mk.injEq, and_comm]
  refine ⟨pc.nodup_iff.2 hc, hi, hc, (pb.map _).nodup_iff.2 (by rw [List.map_map]; exact hc),
    (pb.map _).nodup_iff.2 (by rw [List.map_map]; exact hi), fun c => ?_, mb, he⟩
  simp only [pc.mem_iff, mb, List.mem_map]
  exact ⟨fun ⟨v, hv, e⟩ => ⟨_, v, hv, rfl, e⟩, fun ⟨_, v, hv, _, e⟩ => ⟨v, hv, e⟩⟩

end CallInv

/-! ### the invariant depends on invocations, timers and registrations only through a few fields -/

theorem exists_of_map_eq {α β} {f : α → β} {l l' : List α} (h : l'.map f = l.map f) {v' : α}
    (hv : v' ∈ l') : ∃ v ∈ l, f v = f v' := by
  have : f v' ∈ l.map f := h ▸ List.mem_map_of_mem hv
  rcases List.mem_map.1 this with ⟨v, hv, he⟩
  exact ⟨v, hv, he⟩

theorem map_proj_of_map_eq {α β γ} {f : α → β} (g : β → γ) {l l' : List α} (h : l'.map f = l.map f) :
    l'.map (fun x => g (f x)) = l.map (fun x => g (f x)) := by
  have := congrArg (List.map g) h
  rw [List.map_map, List.map_map] at this
  exact this

/-- Fields of an invocation that no step changes while it is stored: `CallInv` reads the first three (`CallInv.congr`),
    `regId` and `fwdTimeout` are here for `StateSub`, `CallFrame` and `StepFrame`, which say that a stored invocation
    keeps them.  A new field of `Invk` that is fixed at the first chunk belongs here; one the generator/timer invariant
    reads belongs in `shapeA`; a flag that steps flip (`canceled`, `inProgress`, `options`) in neither. -/
def Invk.shapeC (v : Invk) : ReqId × ReqId × SessKey × Nat × Bool := (v.id, v.callId, v.callee, v.regId, v.fwdTimeout)

theorem CallInv.congr {d d' : Dealer} (h : CallInv d) (hc : d'.calls = d.calls) (hb : d'.byCall = d.byCall)
    (hi : d'.invs.map Invk.shapeC = d.invs.map Invk.shapeC) : CallInv d' := by
  have hid : d'.invs.map (·.id) = d.invs.map (·.id) := map_proj_of_map_eq (fun p => p.1) hi
  have hcid : d'.invs.map (·.callId) = d.invs.map (·.callId) := map_proj_of_map_eq (fun p => p.2.1) hi
  have hl : d'.invs.map (fun v => (v.callId, v.id)) = d.invs.map fun v => (v.callId, v.id) :=
    map_proj_of_map_eq (fun p => (p.2.1, p.1)) hi
  refine .of_perm (hid ▸ h.invIds) (hcid ▸ h.invCalls) ?_ (hc ▸ hcid ▸ h.calls_perm) (hb ▸ hl ▸ h.byCall_perm)
  intro v hv
  obtain ⟨v', hv', he⟩ := exists_of_map_eq hi hv
  simp only [Invk.shapeC, Prod.mk.injEq] at he
  rw [← he.2.2.1, ← he.1]; exact h.callee v' hv'

/-- fields of an invocation the generator/timer invariant looks at -/
def Invk.shapeA (v : Invk) : ReqId × ReqId × Option Nat := (v.id, v.callId, v.timer)

def Timer.shape (t : Timer) : Nat × SessKey × Nat × Nat := (t.id, t.caller, t.req, t.deadline)

/-- the timer table changed only in `canceled` flags, and only from false to true -/
theorem AuxInv.congrT {s s' : DState} (h : AuxInv s)
    (hi : s'.d.invs.map Invk.shapeA = s.d.invs.map Invk.shapeA) (hg : s'.invGen = s.invGen)
    (ht : s'.timers.map Timer.shape = s.timers.map Timer.shape) (hn : s'.nextTimer = s.nextTimer)
    (hc : ∀ t' ∈ s'.timers, t'.canceled = false → ∃ t ∈ s.timers, t.id = t'.id ∧ t.canceled = false) :
    AuxInv s' := by
  have htid : s'.timers.map (·.id) = s.timers.map (·.id) := map_proj_of_map_eq (fun p => p.1) ht
  refine ⟨?_, htid ▸ h.timerIds, ?_, ?_, ?_, ?_⟩
  · intro v hv
    obtain ⟨v', hv', he⟩ := exists_of_map_eq hi hv
    simp only [Invk.shapeA, Prod.mk.injEq] at he
    rw [hg, ← he.1]; exact h.gen v' hv'
  · intro t ht'
    obtain ⟨t', ht'', he⟩ := exists_of_map_eq ht ht'
    simp only [Timer.shape, Prod.mk.injEq] at he
    rw [hn, ← he.1]; exact h.timerRange t' ht''
  · intro v hv tid hvt
    obtain ⟨v', hv', he⟩ := exists_of_map_eq hi hv
    simp only [Invk.shapeA, Prod.mk.injEq] at he
    obtain ⟨h1, h2, h3⟩ := h.invTimer v' hv' tid (he.2.2.trans hvt)
    refine ⟨h1, hn ▸ h2, ?_⟩
    intro t ht' htid'
    obtain ⟨t', ht'', het⟩ := exists_of_map_eq ht ht'
    simp only [Timer.shape, Prod.mk.injEq] at het
    have := h3 t' ht'' (het.1.trans htid')
    rw [← het.2.1, ← het.2.2.1, ← he.2.1]; exact this
  · intro v hv w hw tid hvt hwt
    obtain ⟨v', hv', he⟩ := exists_of_map_eq hi hv
    obtain ⟨w', hw', he'⟩ := exists_of_map_eq hi hw
    simp only [Invk.shapeA, Prod.mk.injEq] at he he'
    rw [← he.1, ← he'.1]
    exact h.invTimerInj v' hv' w' hw' tid (he.2.2.trans hvt) (he'.2.2.trans hwt)
  · intro t' ht' hc'
    obtain ⟨t, htm, hid, hlive⟩ := hc t' ht' hc'
    obtain ⟨t2, ht2, het⟩ := exists_of_map_eq ht ht'
    simp only [Timer.shape, Prod.mk.injEq] at het
    have : t2 = t := nodup_map_inj h.timerIds ht2 htm (het.1.trans hid.symm)
    subst this
    obtain ⟨v, hv, hvc, hvt⟩ := h.timerOwned t2 htm hlive
    obtain ⟨v', hv', he⟩ := exists_of_map_eq hi.symm hv
    simp only [Invk.shapeA, Prod.mk.injEq] at he
    refine ⟨v', hv', ?_, ?_⟩
    · rw [he.2.1, hvc, het.2.1, het.2.2.1]
    · rw [he.2.2, hvt, het.1]

theorem AuxInv.congr {s s' : DState} (h : AuxInv s)
    (hi : s'.d.invs.map Invk.shapeA = s.d.invs.map Invk.shapeA) (hg : s'.invGen = s.invGen)
    (ht : s'.timers = s.timers) (hn : s'.nextTimer = s.nextTimer) :
    AuxInv s' :=
  h.congrT hi hg (by rw [ht]) hn (fun t' ht' hc => ⟨t', ht ▸ ht', rfl, hc⟩)

/-- fields of a registration the invariant looks at (everything but the round-robin cursor) -/
def Reg.shape (r : Reg) : Nat × String × String × String × List SessKey := (r.id, r.proc, r.«match», r.policy, r.callees)

theorem calleeRel_congr {regs regs' : List Reg} (hr : regs'.map Reg.shape = regs.map Reg.shape)
    (id : Nat) (c : SessKey) : calleeRel regs' id c ↔ calleeRel regs id c := by
  constructor
  · rintro ⟨r, hr', h1, h2⟩
    obtain ⟨r', hm, he⟩ := exists_of_map_eq hr hr'
    simp only [Reg.shape, Prod.mk.injEq] at he
    exact ⟨r', hm, he.1.trans h1, he.2.2.2.2 ▸ h2⟩
  · rintro ⟨r, hr', h1, h2⟩
    obtain ⟨r', hm, he⟩ := exists_of_map_eq hr.symm hr'
    simp only [Reg.shape, Prod.mk.injEq] at he
    exact ⟨r', hm, he.1.trans h1, he.2.2.2.2 ▸ h2⟩

theorem calleeRel_append_singleton (regs : List Reg) (r : Reg) (id : Nat) (c : SessKey) :
    calleeRel (regs ++ [r]) id c ↔ calleeRel regs id c ∨ (r.id = id ∧ c ∈ r.callees) := by
  simp only [calleeRel, List.mem_append, List.mem_singleton, or_and_right, exists_or, exists_eq_left]

theorem calleeRel_self {regs : List Reg} (hids : (regs.map (·.id)).Nodup) {r : Reg} (hm : r ∈ regs) (c : SessKey) :
    calleeRel regs r.id c ↔ c ∈ r.callees :=
  ⟨fun ⟨_, hy, h1, h2⟩ => nodup_map_inj hids hy hm h1 ▸ h2, fun hc => ⟨r, hm, rfl, hc⟩⟩

theorem RegsOk.congr {regs regs' : List Reg} {n : Nat} (h : RegsOk regs n)
    (hr : regs'.map Reg.shape = regs.map Reg.shape) : RegsOk regs' n := by
  have hid : regs'.map (·.id) = regs.map (·.id) := map_proj_of_map_eq (fun p => p.1) hr
  have hk : regs'.map (fun r => (r.proc, r.kind)) = regs.map (fun r => (r.proc, r.kind)) :=
    map_proj_of_map_eq (fun p => (p.2.1, matchKind p.2.2.1)) hr
  refine ⟨hid ▸ h.ids, hk ▸ h.keys, ?_, ?_, ?_, ?_⟩
  all_goals
    intro r hr'
    obtain ⟨r', hm, he⟩ := exists_of_map_eq hr hr'
    simp only [Reg.shape, Prod.mk.injEq] at he
  · rw [← he.1]; exact h.range r' hm
  · rw [← he.2.2.2.2]; exact h.callees r' hm
  · rw [← he.2.2.2.2, ← he.2.2.2.1]; exact h.single r' hm
  · rw [← he.2.2.2.1]; exact h.known r' hm

theorem RegInv.congr {d d' : Dealer} (h : RegInv d) (hr : d'.regs.map Reg.shape = d.regs.map Reg.shape)
    (hn : d'.nextReg = d.nextReg) (hx : d'.index = d.index) : RegInv d' := by
  refine ⟨hn ▸ h.regs.congr hr, hx ▸ h.ix, ?_⟩
  intro k id
  rw [hx, calleeRel_congr hr]; exact h.ixIff k id

/-- the registration tables enter the invariant through `RegInv` only -/
theorem DealerInv.withRegs {s : DState} (h : DealerInv s) {d : Dealer} (hr : RegInv d) (hc : d.calls = s.d.calls)
    (hb : d.byCall = s.d.byCall) (hi : d.invs = s.d.invs) : DealerInv { s with d := d } :=
  ⟨hr, h.call.congr hc hb (by rw [hi]), h.aux.congr (by rw [hi]) rfl rfl rfl⟩

theorem mem_setReg {d : Dealer} {r y : Reg} :
    y ∈ (d.setReg r).regs ↔ (y ∈ d.regs ∧ y.id ≠ r.id) ∨ (y = r ∧ ∃ x ∈ d.regs, x.id = r.id) :=
  mem_map_replace (f := fun x : Reg => x.id)

theorem mem_setInv {d : Dealer} {v w : Invk} :
    w ∈ (d.setInv v).invs ↔ (w ∈ d.invs ∧ w.id ≠ v.id) ∨ (w = v ∧ ∃ x ∈ d.invs, x.id = v.id) :=
  mem_map_replace (f := fun x : Invk => x.id)

/-- The record written over a stored invocation is in the table afterwards. -/
theorem mem_setInv_self {d : Dealer} {v w : Invk} (hw : w ∈ d.invs) (hid : w.id = v.id) : v ∈ (d.setInv v).invs :=
  mem_setInv.2 (.inr ⟨rfl, w, hw, hid⟩)

theorem setReg_ids (d : Dealer) (r : Reg) : (d.setReg r).regs.map (·.id) = d.regs.map (·.id) :=
  map_update_map_eq (f := fun x : Reg => x.id) (u := fun _ => r) fun _ _ hk => hk.symm

theorem setReg_map {γ} (g : Reg → γ) {d : Dealer} (hids : (d.regs.map (·.id)).Nodup) {reg reg' : Reg} (hm : reg ∈ d.regs)
    (hid : reg'.id = reg.id) (hg : g reg' = g reg) : (d.setReg reg').regs.map g = d.regs.map g :=
  map_replace_map_eq (f := fun r : Reg => r.id) g hids hm hid hg

theorem setReg_shape {d : Dealer} (hids : (d.regs.map (·.id)).Nodup) {reg reg' : Reg} (hm : reg ∈ d.regs)
    (hs : reg'.shape = reg.shape) : (d.setReg reg').regs.map Reg.shape = d.regs.map Reg.shape :=
  setReg_map _ hids hm (congrArg (·.1) hs) hs

theorem DealerInv.setReg {s : DState} (h : DealerInv s) {reg reg' : Reg} (hm : reg ∈ s.d.regs)
    (hs : reg'.shape = reg.shape) : DealerInv { s with d := s.d.setReg reg' } :=
  ⟨h.reg.congr (setReg_shape h.reg.regs.ids hm hs) rfl rfl,
   h.call.congr rfl rfl rfl,
   h.aux.congr rfl rfl rfl rfl⟩

theorem setInv_map {γ} (g : Invk → γ) {d : Dealer} (hids : (d.invs.map (·.id)).Nodup) {v v' : Invk} (hm : v ∈ d.invs)
    (hid : v'.id = v.id) (hg : g v' = g v) : (d.setInv v').invs.map g = d.invs.map g :=
  map_replace_map_eq (f := fun x : Invk => x.id) g hids hm hid hg

theorem setInv_setInv (d : Dealer) {a b : Invk} (h : a.id = b.id) : (d.setInv a).setInv b = d.setInv b := by
  unfold Dealer.setInv
  simp only [List.map_map]
  congr 1
  apply List.map_congr_left
  intro x _
  by_cases hx : x.id = a.id
  · simp [hx, h]
  · have : ¬ x.id = b.id := h ▸ hx
    simp [hx, this]

/-- replacing a stored invocation by one that differs only in `canceled` / `inProgress` / `options` -/
theorem DealerInv.setInv {s : DState} (h : DealerInv s) {v v' : Invk} (hm : v ∈ s.d.invs)
    (hc : v'.shapeC = v.shapeC) (ha : v'.shapeA = v.shapeA) : DealerInv { s with d := s.d.setInv v' } :=
  ⟨h.reg.congr rfl rfl rfl,
   h.call.congr rfl rfl (setInv_map _ h.call.invIds hm (congrArg (·.1) hc) hc),
   h.aux.congr (setInv_map _ h.call.invIds hm (congrArg (·.1) hc) ha) rfl rfl rfl⟩

theorem cancelTimer_live {s : DState} {x : Option Nat} {t' : Timer} (ht : t' ∈ (s.cancelTimer x).timers)
    (hc : t'.canceled = false) : t' ∈ s.timers ∧ x ≠ some t'.id := by
  rw [cancelTimer_timers] at ht
  rcases List.mem_map.1 ht with ⟨t, htm, rfl⟩
  by_cases hx : some t.id = x
  · simp [hx] at hc
  · simp only [hx, if_false] at hc ⊢
    exact ⟨htm, fun e => hx e.symm⟩

theorem cancelTimer_dead (s : DState) (x : Option Nat) :
    ∀ t ∈ (s.cancelTimer x).timers, x = some t.id → t.canceled = true := by
  intro t ht hx
  apply Classical.byContradiction
  intro hc
  exact (cancelTimer_live ht (by simpa using hc)).2 hx

theorem DealerInv.cancelTimer {s : DState} (h : DealerInv s) (t : Option Nat) : DealerInv (s.cancelTimer t) :=
  ⟨by rw [cancelTimer_d]; exact h.reg, by rw [cancelTimer_d]; exact h.call,
   h.aux.congrT (by rw [cancelTimer_d]) (by simp) (cancelTimer_timers_shape s t) (by simp)
     (fun t' ht' hc => ⟨t', (cancelTimer_live ht' hc).1, rfl, hc⟩)⟩

/-- `calls`, `invocations` and `invocationByCall` always have the same number of entries -/
theorem CallInv.sizes {d : Dealer} (h : CallInv d) : d.calls.length = d.byCall.length ∧ d.byCall.length = d.invs.length := by
  rw [h.calls_perm.length_eq, h.byCall_perm.length_eq, List.length_map, List.length_map]
  exact ⟨rfl, rfl⟩

end Nexus.L2
