/-
  C02: where replies to a call come from.

  A reply to the call `c = (caller session, request id)` is a RESULT or an ERROR of type CALL addressed to
  `c.sess` bearing `c.req` (`Send.replyTo`, `repliesFor`).

  * `Rec.call? x` (Nexus/L2/Proofs/Trace.lean): the call id, if the action `x` is the handler of a session
    reading a CALL message that the authorization gate lets through — read off the action, not off the dealer's
    output (`IsCallStep` of Nexus/L2/Proofs/DealerReply.lean is an equation between outputs);
  * `Rec.actOk`: every action obeys the reply discipline towards every call (`ActOk`);
  * `Rec.offer_replies`: without an Authorizer the replies among the offers of an action are those of its dealer
    steps, or none (with an Authorizer the gate's own ERROR for a refused CALL is one more: finding F47);
  * `Chain.blocks`: the actions of a chain are `Blocks` towards a call, so that its replies along the chain form one
    episode (`Blocks.episode`: `chain_episode`, `chain_episode_from`);
  * `hist_tasksOk`, `Rec.call_src`: in a history from a fresh realm the CALL an action handles was an input of the
    history.
-/
import Nexus.L2.Proofs.TraceInv
import Nexus.L2.Proofs.DealerOrder

namespace Nexus.L2.WpE
open Nexus.L2 Nexus.L2.Realm Gen.N

theorem NoRep.mem {l : List Send} (h : NoRep l) {x : Send} (hx : x ∈ l) : x.msg.replyReq = none := by
  have := List.all_eq_true.mp h x hx
  simpa using this

theorem NoRep.replies {l : List Send} (h : NoRep l) (c : ReqId) : repliesFor c l = [] := by
  apply repliesFor_eq_nil
  intro x hx
  unfold Send.replyTo
  rw [h.mem hx]; exact nofun

theorem syncPublish_noRep (b : Broker) (sess : SessKey → Option Session) (now : Nat) (p : Publication) :
    NoRep (b.syncPublish sess now p).2 :=
  noRep_of_forall (fun x hx => by
    obtain ⟨i, hi, _⟩ := bsyncPublish_member hx
    cases hm : x.msg <;> first | rfl | (rw [hm] at hi; cases hi))

theorem metaEvent_noRep (b : Broker) (t : String) (pid : Nat) (cause : SessKey) (args : List WVal) :
    NoRep (b.metaEvent t pid cause args) := noRep_of_forall (dmetaEvent_noreply b t pid cause args)

theorem syncSubscribe_noRep (b : Broker) (k : SessKey) (req : Nat) (topic m : String) (pub0 : Nat) :
    NoRep (b.syncSubscribe k req topic m pub0).2.1 := by
  unfold Broker.syncSubscribe
  split
  · split
    · rfl
    · exact noRep_append (by rfl) (metaEvent_noRep ..)
  · exact noRep_append (noRep_append (by rfl) (metaEvent_noRep ..)) (metaEvent_noRep ..)

theorem syncUnsubscribe_noRep (b : Broker) (k : SessKey) (req subId pub0 : Nat) :
    NoRep (b.syncUnsubscribe k req subId pub0).2.1 := by
  unfold Broker.syncUnsubscribe
  split
  · rfl
  · split
    · rfl
    · dsimp only
      split
      · exact noRep_append (noRep_append (by rfl) (metaEvent_noRep ..)) (metaEvent_noRep ..)
      · exact noRep_append (by rfl) (metaEvent_noRep ..)

/-- The reply discipline of C02 for dealer steps `dtr` leading from `s` to `s'`, towards the call `c` (`fresh`: the
    action is the CALL `c`): at most one reply, only for a pending or fresh call, a final one only with the call
    gone, and `c` pending afterwards only if pending before or fresh. -/
structure ActOk (s : DState) (dtr : List (DState × DOut)) (s' : DState) (c : ReqId) (fresh : Prop) : Prop where
  one : (replyStream c dtr).length ≤ 1
  known : replyStream c dtr ≠ [] → c ∈ s.d.calls ∨ fresh
  final : (∃ y ∈ replyStream c dtr, y.msg.isFinalReply = true) → c ∉ s'.d.calls
  sub : c ∈ s'.d.calls → c ∈ s.d.calls ∨ fresh

theorem actOk_one {s : DState} {o : DOut} {c : ReqId} {fresh : Prop} (rok : ReplyOK s o c fresh)
    (sub : c ∈ o.st.d.calls → c ∈ s.d.calls ∨ fresh) : ActOk s [(s, o)] o.st c fresh := by
  have e : replyStream c [(s, o)] = repliesFor c o.sends := by rw [replyStream_cons]; simp [replyStream]
  refine ⟨by rw [e]; exact rok.one, by rw [e]; exact rok.known, ?_, sub⟩
  rw [e]
  rintro ⟨y, hy, hf⟩
  apply rok.final
  unfold finalsFor
  intro hnil
  have : y ∈ (repliesFor c o.sends).filter (fun x => x.msg.isFinalReply) := List.mem_filter.mpr ⟨hy, hf⟩
  rw [hnil] at this
  cases this

theorem run_one_inv {s s1 s' : DState} {o : DOut} (h : Run s [(s1, o)] s') : s' = o.st := by
  cases h with
  | cons _ rest => cases rest; rfl

/-- `ActOk` wherever the dealer steps of the script lead: the form in which `Rec.actOk` is proved script by script. -/
def ScriptOk (sc : Script) (s : DState) (c : ReqId) (fresh : Prop) : Prop :=
  ∀ s', Run s sc.dsteps s' → ActOk s sc.dsteps s' c fresh

theorem scriptOk_quiet {sc : Script} (h : sc.dsteps = []) (s : DState) (c : ReqId) (fresh : Prop) :
    ScriptOk sc s c fresh := by
  intro s' hr
  rw [h] at hr ⊢
  cases hr
  exact ⟨Nat.zero_le _, fun h => absurd rfl h, fun ⟨_, hy, _⟩ => (nomatch hy), Or.inl⟩

theorem scriptOk_dealer (r : Realm) {o : DOut} {c : ReqId} {fresh : Prop} (rok : ReplyOK r.ds o c fresh)
    (sub : c ∈ o.st.d.calls → c ∈ r.ds.d.calls ∨ fresh) : ScriptOk (dealerScript r o) r.ds c fresh := by
  intro s' hr
  have : s' = o.st := run_one_inv hr
  rw [this]
  exact actOk_one rok sub

theorem scriptOk_closed (r : Realm) {o : DOut} (hc : Closed r.ds o) (hi : DealerInv r.ds) (c : ReqId) (fresh : Prop) :
    ScriptOk (dealerScript r o) r.ds c fresh :=
  scriptOk_dealer r (hc.replyOK hi c fresh) (fun h => Or.inl (hc.calls hi c h))

/-- the first dealer step of a timer only drops the timer: the calls are those of `r.ds`, and it sends nothing -/
theorem scriptOk_timerScript (r : Realm) (hi : DealerInv r.ds) (t : Timer) (c : ReqId) (fresh : Prop) :
    ScriptOk (timerScript r t) r.ds c fresh := by
  intro s' hr
  cases hr with
  | cons _ rest =>
    have hi1 := hi.filterTimers (fun y => y.id != t.id)
    have hc := closed_cancel r.denv { r.ds with timers := r.ds.timers.filter (fun y => y.id != t.id) } t.caller t.req
      CancelModeKillNoWait ErrTimeout [.str "<text>"]
    have a := actOk_one (hc.replyOK hi1 c fresh) (fun h => Or.inl (hc.calls hi1 c h))
    rw [run_one_inv rest]
    exact ⟨a.one, a.known, a.final, a.sub⟩

/-- Every atomic action obeys the reply discipline towards every call `c`: its dealer steps send at most one reply
    for `c`; only if `c` is pending when the action starts, or the action is the handler reading the CALL `c`;
    a final reply only if `c` is not pending when the action ends; and `c` is pending at the end only if it was at
    the start or the action is that CALL. -/
theorem Rec.actOk (x : Rec) (hi : DealerInv x.pre.ds) (c : ReqId) :
    ActOk x.pre.ds x.script.dsteps x.post.ds c (x.call? = some c) := by
  suffices h : ScriptOk x.script x.pre.ds c (x.call? = some c) from h _ x.spec.2.2.1
  have h := x.form
  generalize x.script = sc, x.call? = c?, x.pub? = p? at h ⊢
  cases h with
  | call r s req opts proc args kw hs _ =>
    have hi' : DealerInv r.ds := hs.ds ▸ hi
    rw [← hs.ds]
    refine scriptOk_dealer r ((syncCall_replyOK hi' s.key req opts proc args kw r.rnd c).mono_fresh ?_) ?_
    · intro e; rw [e]
    · intro h
      exact (syncCall_calls_sub hi' s.key req opts proc args kw r.rnd c h).imp id (fun e => by rw [e])
  | dealer r o hs hc => exact hs.ds ▸ scriptOk_closed r hc (hs.ds ▸ hi) c _
  | leave r k mode s hs _ => exact hs.ds ▸ scriptOk_closed r (closed_removeSession ..) (hs.ds ▸ hi) c _
  | timer r t hs => exact hs.ds ▸ scriptOk_timerScript r (hs.ds ▸ hi) t c _
  | _ => exact scriptOk_quiet rfl _ _ _

/-- C02, "only the dealer replies": the replies for `c` among the offers are those its dealer steps send, or none
    (a departure at shutdown discards them). -/
def RepOk (sc : Script) (c : ReqId) : Prop :=
  repliesFor c sc.offers = replyStream c sc.dsteps ∨ repliesFor c sc.offers = []

theorem repOk_noRep {sc : Script} (h : NoRep sc.offers) (c : ReqId) : RepOk sc c := Or.inr (h.replies c)

theorem repOk_dealerScript (r : Realm) (o : DOut) (c : ReqId) : RepOk (dealerScript r o) c := by
  left
  show repliesFor c o.sends = replyStream c [(r.ds, o)]
  rw [replyStream_cons]; simp [replyStream]

/-- Without an Authorizer the replies for `c` among the offers of an atomic action are exactly the replies its dealer
    steps send — or there is none (a departure at router shutdown discards the dealer's replies) -/
theorem Rec.offer_replies (x : Rec) (hz : x.pre.cfg.authz = none)
    (hk : ∀ k g ka, x.act = .task (.leave k (.killed g ka)) → isGoodbyeMsg g = true) (c : ReqId) : RepOk x.script c := by
  have h := x.form
  generalize x.script = sc, x.call? = c?, x.pub? = p? at h
  cases h with
  | own _ _ hrep => exact repOk_noRep hrep c
  | gate r s m hc hg => rw [authzGate_none (hc ▸ hz)] at hg; cases hg
  | publish => exact repOk_noRep (noRep_append (syncPublish_noRep ..) (ackList_noRep _ _ rfl)) c
  | subscribe => exact repOk_noRep (syncSubscribe_noRep ..) c
  | unsubscribe => exact repOk_noRep (syncUnsubscribe_noRep ..) c
  | call => exact repOk_dealerScript ..
  | dealer => exact repOk_dealerScript ..
  | leave r k mode s _ hl =>
    have h0 := (leaveOffer_plain k mode fun g ka e => hk k g ka (e ▸ hl.1)).2.replies c
    by_cases hs : mode.isShutdown = true
    · right
      dsimp only
      rw [repliesFor_append, h0, if_pos hs]
      rfl
    · left
      dsimp only
      rw [repliesFor_append, h0, if_neg hs, repliesFor_append,
        (noRep_of_forall (dbrokerRemove_noreply r.broker k r.pubCount)).replies c, replyStream_cons]
      simp [replyStream]
  | timer r t _ =>
    left
    unfold timerScript
    rw [replyStream_cons, replyStream_cons]
    simp [replyStream]

/-- the reply stream of the dealer run of a trace, action by action -/
theorem replyStream_dstepsOf (c : ReqId) (tr : List Rec) :
    replyStream c (dstepsOf tr) = (tr.map fun x => replyStream c x.script.dsteps).flatten := by
  rw [replyStream, dstepsOf, List.flatMap_assoc, List.flatMap_def]
  rfl

theorem Rec.dinv_post (x : Rec) (hi : DealerInv x.pre.ds) : DealerInv x.post.ds := (x.spec.2.2.1).inv hi

theorem hist_dinv {cfg : Config} {r : Realm} (h : Realm.Reachable cfg r) (ops : List Op) :
    ∀ x ∈ traceHist r ops, DealerInv x.pre.ds :=
  ((chain_hist ops r).invariant (P := fun q => DealerInv q.ds) (fun x _ hi => x.dinv_post hi) h.inv.1.dinv).1

/-- the atomic actions of a chain in which no action is a NEW call `c` (a handler reading the CALL `c` while `c` is
    not pending), as blocks towards `c` -/
theorem Chain.blocks {r r' : Realm} {tr : List Rec} (c : ReqId) (h : Chain r tr r') :
    DealerInv r.ds → (∀ x ∈ tr, x.call? = some c → c ∈ x.pre.ds.d.calls) →
    Blocks (c ∈ r.ds.d.calls) (tr.map fun x => replyStream c x.script.dsteps) (c ∈ r'.ds.d.calls) := by
  induction h with
  | nil r => exact fun _ _ => .nil _
  | @cons x tr r' _ ih =>
    intro hi hno
    have a := x.actOk hi c
    have hcall : c ∈ x.pre.ds.d.calls ∨ x.call? = some c → c ∈ x.pre.ds.d.calls :=
      fun hx => hx.elim id (hno x (List.mem_cons_self ..))
    exact .cons a.one (fun hne => hcall (a.known hne)) a.final (fun hc => hcall (a.sub hc))
      (ih (x.dinv_post hi) fun y hy => hno y (List.mem_cons_of_mem _ hy))

/-- The episode of one call along a chain of atomic actions in which no action is a NEW call `c`: the replies the dealer
    sends for `c` are progressive RESULTs followed by at most one final reply, with which `c` is no longer pending at
    the end. -/
theorem chain_episode {r r' : Realm} {tr : List Rec} (h : Chain r tr r') (c : ReqId) (hi : DealerInv r.ds)
    (hno : ∀ x ∈ tr, x.call? = some c → c ∈ x.pre.ds.d.calls) :
    Episode (replyStream c (dstepsOf tr)) (c ∉ r'.ds.d.calls) := by
  rw [replyStream_dstepsOf]
  exact (h.blocks c hi hno).episode

/-- … the same when the FIRST action of the chain is free (in particular the handler reading the CALL that opens `c`) -/
theorem chain_episode_from {x0 : Rec} {r' : Realm} {tr : List Rec} (rest : Chain x0.post tr r') (c : ReqId)
    (hi : DealerInv x0.pre.ds) (hno : ∀ x ∈ tr, x.call? = some c → c ∈ x.pre.ds.d.calls) :
    Episode (replyStream c (dstepsOf (x0 :: tr))) (c ∉ r'.ds.d.calls) := by
  have b := rest.blocks c (x0.dinv_post hi) hno
  rw [replyStream_dstepsOf]
  exact Blocks.episode_cons (x0.actOk hi c).one (x0.actOk hi c).final b b.episode

theorem repliesFor_flatMap (c : ReqId) (tr : List Rec) (f : Rec → List Send) :
    repliesFor c (tr.flatMap f) = tr.flatMap (fun x => repliesFor c (f x)) := by
  induction tr with
  | nil => rfl
  | cons x tr ih => simp only [List.flatMap_cons, repliesFor_append, ih]

theorem flatMap_sublist {α β : Type} (l : List α) (f g : α → List β) (h : ∀ x ∈ l, (f x).Sublist (g x)) :
    (l.flatMap f).Sublist (l.flatMap g) := by
  induction l with
  | nil => exact List.Sublist.refl _
  | cons x l ih =>
    simp only [List.flatMap_cons]
    exact List.Sublist.append (h x (List.mem_cons_self ..)) (ih (fun y hy => h y (List.mem_cons_of_mem _ hy)))

theorem repliesFor_sublist (c : ReqId) {l l' : List Send} (h : l'.Sublist l) :
    (repliesFor c l').Sublist (repliesFor c l) := by
  unfold repliesFor
  exact h.filter _

/-- progress* final? is inherited by sub-lists -/
theorem shape_sublist {Q : Prop} {l l' ps f : List Send} (hs : l'.Sublist l) (hl : l = ps ++ f)
    (hp : ∀ y ∈ ps, y.msg.isFinalReply = false)
    (hf : f = [] ∨ ∃ y, f = [y] ∧ y.msg.isFinalReply = true ∧ Q) :
    ∃ ps' f', l' = ps' ++ f' ∧ (∀ y ∈ ps', y.msg.isFinalReply = false) ∧
      (f' = [] ∨ ∃ y, f' = [y] ∧ y.msg.isFinalReply = true ∧ Q) := by
  rw [hl] at hs
  obtain ⟨l1, l2, e, h1, h2⟩ := List.sublist_append_iff.mp hs
  refine ⟨l1, l2, e, fun y hy => hp y (h1.subset hy), ?_⟩
  rcases hf with rfl | ⟨y, rfl, hy, hq⟩
  · exact Or.inl (List.sublist_nil.mp h2)
  · cases h2 with
    | cons _ h => cases h; exact Or.inl rfl
    | cons_cons _ h => cases h; exact Or.inr ⟨y, rfl, hy, hq⟩

/-- the external inputs among the actions of a history are inputs of the history -/
theorem traceHist_ops (ops : List Op) (r : Realm) : ∀ x ∈ traceHist r ops, ∀ o, x.act = .op o → o ∈ ops :=
  traceHist_forall (Q := fun x => ∀ o, x.act = .op o → o ∈ ops) (fun _ _ _ _ e => nomatch e)
    (fun _ _ h _ e => by subst e; exact h.elim) ops (fun _ o ho o' e => by cases e; exact ho) r

/-- In a history from a fresh realm every trace record is well-formed, every client message waiting to be read is an
    input of the history, and so is the message an external input brings -/
theorem hist_tasksOk {cfg : Config} {r0 : Realm} (h0 : Realm.create cfg = some r0) (ops : List Op) :
    ∀ x ∈ traceHist r0 ops, x.wf ∧ TasksOk (fun k m => Op.msg k m ∈ ops) x.pre ∧
      ∀ k m, x.act = .op (.msg k m) → Op.msg k m ∈ ops :=
  have hop : ∀ x ∈ traceHist r0 ops, ∀ k m, x.act = .op (.msg k m) → Op.msg k m ∈ ops :=
    fun x hx _ _ e => traceHist_ops ops r0 x hx _ e
  fun x hx => ⟨traceHist_wf ops r0 x hx,
    (chain_tasksOk (chain_hist ops r0) (traceHist_wf ops r0) hop (tasksOk_create h0)).1 x hx, hop x hx⟩

/-- in a well-formed trace what a handler reads was brought by an external input or waited in the transport
    (`TasksOk P`), and the meta session reads answers of the meta-procedure handler only -/
theorem Rec.Reads.ok {P : SessKey → Msg → Prop} {x : Rec} {s : Session} {m : Msg} (h : x.Reads s m) (hw : x.wf)
    (ht : TasksOk P x.pre) (hop : ∀ k m, x.act = .op (.msg k m) → P k m) : P s.key m ∨ m.isMetaAnswer = true := by
  cases h with
  | client k ha hf _ _ =>
    rw [(find?_key hf).2]
    exact .inl (ha.elim (hop k m) fun e => ht.tasks _ (hw.mem e))
  | metaS ha _ => exact .inr (ht.tasks _ (hw.mem ha))

/-- an action of a well-formed trace that is the CALL `c`: the CALL was brought by an external input, or it waited in
    the transport (`TasksOk P`) -/
theorem Rec.call_src {P : SessKey → Msg → Prop} (x : Rec) (hw : x.wf) (ht : TasksOk P x.pre)
    (hop : ∀ k m, x.act = .op (.msg k m) → P k m) {c : ReqId} (h : x.call? = some c) :
    ∃ opts proc args kw, P c.sess (.call c.req opts proc args kw) := by
  have hf := x.form
  rw [h] at hf
  generalize x.script = sc, x.pub? = p? at hf
  cases hf with
  | call r s req opts proc args kw _ src => exact ⟨opts, proc, args, kw, (src.ok hw ht hop).resolve_right nofun⟩

end Nexus.L2.WpE
