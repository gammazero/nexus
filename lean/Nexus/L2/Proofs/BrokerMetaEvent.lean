/-
  C18: who receives a subscription meta event (`Broker.metaEvent`), exactly once,
  with what — the analogue of `through_syncPublish_eq_deliveryOf` for the events the broker
  goroutine sends itself (`syncPubSubMeta`).  A departure (`Broker.syncRemoveSession`) sends EVENTs
  only, to sessions other than the one leaving that were members, and makes nobody a member.
-/
import Nexus.L2.Proofs.BrokerDeliver

namespace Nexus.L2.WpA
open Nexus.L2 Nexus.Gen.N

/-- what `metaEvent` sends to member `k` of `sub`: the meta EVENT, unless `k` is the session that caused it (the
    counterpart of `evOpt`, so that `through_members` serves both) -/
def mevOpt (t : String) (pid : Nat) (cause : SessKey) (args : List WVal) (sub : Sub) (st : Bool)
    (k : SessKey) : Option Send :=
  if sidOf k != sidOf cause then
    some ⟨k, .event sub.id pid (if st then [("topic", .str t)] else []) args []⟩
  else none

theorem metaEvent_eq (b : Broker) (t : String) (pid : Nat) (cause : SessKey) (args : List WVal) :
    b.metaEvent t pid cause args =
      (b.matching t).flatMap (fun x => x.1.members.filterMap (mevOpt t pid cause args x.1 x.2)) := by
  unfold Broker.metaEvent
  congr; funext ⟨msub, st⟩
  simp only
  rw [← List.filterMap_eq_filter, List.map_filterMap]
  congr; funext k
  unfold mevOpt
  by_cases h : (sidOf k != sidOf cause) = true <;> simp [h]

theorem mevOpt_some {t pid cause args sub st k x} (h : mevOpt t pid cause args sub st k = some x) :
    x.to = k ∧ x.msg.eventSub? = some sub.id := by
  unfold mevOpt at h
  split at h
  · simp only [Option.some.injEq] at h; subst h; exact ⟨rfl, rfl⟩
  · simp at h

theorem mevOpt_sub (t : String) (pid : Nat) (cause : SessKey) (args : List WVal) (sub : Sub) (st : Bool) :
    ∀ x ∈ sub.members.filterMap (mevOpt t pid cause args sub st), x.msg.eventSub? = some sub.id := by
  intro x hx
  obtain ⟨k, _, he⟩ := List.mem_filterMap.mp hx
  exact (mevOpt_some he).2

theorem mevOpt_toList (t : String) (pid : Nat) (cause : SessKey) (args : List WVal) (sub : Sub) (st : Bool)
    (k : SessKey) :
    (mevOpt t pid cause args sub st k).toList =
      if k ≠ cause then [⟨k, .event sub.id pid (if st then [("topic", .str t)] else []) args []⟩] else [] := by
  unfold mevOpt
  by_cases h : k = cause
  · subst h; simp
  · have : sidOf k ≠ sidOf cause := fun e => h (sidOf_inj e)
    simp [this, h]

theorem through_metaEvent {b : Broker} (hb : BrokerInv b) (t : String) (pid : Nat) (cause : SessKey)
    (args : List WVal) {s : Sub} (hs : s ∈ b.subs) (k : SessKey) :
    through (b.metaEvent t pid cause args) k s.id =
      if s.matchesTopic t = true ∧ k ∈ s.members ∧ k ≠ cause then
        [⟨k, .event s.id pid (if s.isPattern then [("topic", .str t)] else []) args []⟩]
      else [] := by
  rw [metaEvent_eq, through_matching hb.ids_nodup hs _ _ (mevOpt_sub t pid cause args) k,
    through_members _ s (fun _ _ => mevOpt_some) k s.id _ (hb.members_nodup s hs), mevOpt_toList]
  by_cases hm : s.matchesTopic t = true <;> by_cases hk : k ∈ s.members <;> by_cases hc : k = cause <;>
    simp [hm, hk, hc]

theorem through_metaEvent_none (b : Broker) (t : String) (pid : Nat) (cause : SessKey) (args : List WVal)
    (k : SessKey) (id : Nat) (hno : ∀ s ∈ b.subs, s.id ≠ id) :
    through (b.metaEvent t pid cause args) k id = [] := by
  rw [metaEvent_eq]
  exact through_matching_none b _ _ (mevOpt_sub t pid cause args) k id hno

theorem metaEvent_mem_shape (b : Broker) (t : String) (pid : Nat) (cause : SessKey) (args : List WVal)
    (x : Send) (hx : x ∈ b.metaEvent t pid cause args) :
    ∃ s ∈ b.subs, s.matchesTopic t = true ∧ x.to ∈ s.members ∧ x.to ≠ cause ∧
      x = ⟨x.to, .event s.id pid (if s.isPattern then [("topic", .str t)] else []) args []⟩ := by
  unfold Broker.metaEvent at hx
  obtain ⟨⟨sub, st⟩, hms, hx'⟩ := List.mem_flatMap.mp hx
  obtain ⟨h1, h2, h3⟩ := (mem_matching b t sub st).mp hms
  obtain ⟨k, hk, rfl⟩ := List.mem_map.mp hx'
  obtain ⟨hk1, hk2⟩ := List.mem_filter.mp hk
  simp only [bne_iff_ne, ne_eq] at hk2
  refine ⟨sub, h1, h2, hk1, fun e => hk2 (by rw [show k = cause from e]), ?_⟩
  subst h3
  rfl

end Nexus.L2.WpA

namespace Nexus.L2
open Gen.N

theorem metaEvent_member {b : Broker} {t : String} {pid : Nat} {cause : SessKey} {args : List WVal} {x : Send}
    (hx : x ∈ b.metaEvent t pid cause args) :
    ∃ i, x.msg.eventSub? = some i ∧ b.isMember x.to i ∧ x.to ≠ cause := by
  obtain ⟨s, hs, _, hm, hne, e⟩ := WpA.metaEvent_mem_shape b t pid cause args x hx
  exact ⟨s.id, by rw [e]; rfl, ⟨s, hs, rfl, hm⟩, hne⟩

theorem metaEvent_spec (b : Broker) (t : String) (pid : Nat) (cause : SessKey) (args : List WVal) :
    ∀ x ∈ b.metaEvent t pid cause args, x.msg.eventSub? ≠ none ∧ x.to ≠ cause := fun x hx =>
  let ⟨i, h1, _, h3⟩ := metaEvent_member hx
  ⟨by rw [h1]; exact Option.some_ne_none i, h3⟩

theorem syncUnsubscribe_sends {b : Broker} {k : SessKey} {req subId p : Nat} {sub : Sub}
    (hf : b.findId subId = some sub) (hk : k ∈ sub.members) :
    let b' := (b.syncUnsubscribe k req subId p).1
    let del := (sub.members.filter (· != k)).isEmpty && !b.hasHist sub.id
    (b.syncUnsubscribe k req subId p).2.1 =
      [⟨k, .unsubscribed req⟩] ++ b'.metaEvent MetaEventSubOnUnsubscribe (pubBase + p) k [sidVal k, .int subId] ++
        (if del then b'.metaEvent MetaEventSubOnDelete (pubBase + p + 1) k [sidVal k, .int subId] else []) ∧
    (b.syncUnsubscribe k req subId p).2.2 = if del then 2 else 1 := by
  obtain rfl := (findId_some hf).2
  rw [syncUnsubscribe_member hf hk]
  exact ⟨rfl, rfl⟩

/-- what SUBSCRIBE's two branches (new subscription, join) share: the index gained `(k, id)` and the rest of the
    messages are meta events caused by `k` — so they go to others, members before, and membership changed for `k` only -/
theorem joined_spec {b b' : Broker} (hb : BrokerInv b) (hb' : BrokerInv b') {k : SessKey} {id : Nat} {rest : List Send}
    (hidx : b'.index = idxAdd b.index k id) (hrest : ∀ x ∈ rest, ∃ t pid args, x ∈ b'.metaEvent t pid k args) :
    (∀ x ∈ rest, x.to ≠ k ∧ ∃ i, x.msg.eventSub? = some i ∧ b.isMember x.to i) ∧
    ∀ k' i, b'.isMember k' i ↔ b.isMember k' i ∨ (k' = k ∧ i = id) := by
  have hiff : ∀ k' i, b'.isMember k' i ↔ b.isMember k' i ∨ (k' = k ∧ i = id) := fun k' i => by
    rw [← hb'.index_iff, hidx, idxRel_add hb.index_wf, hb.index_iff]
  refine ⟨fun x hx => ?_, hiff⟩
  obtain ⟨t, pid, args, hme⟩ := hrest x hx
  obtain ⟨i, h1, h2, h3⟩ := metaEvent_member hme
  exact ⟨h3, i, h1, ((hiff x.to i).mp h2).resolve_right fun e => h3 e.1⟩

theorem syncSubscribe_members {b : Broker} (hb : BrokerInv b) (k : SessKey) (req : Nat) (topic m : String) (pub0 : Nat) :
    let out := b.syncSubscribe k req topic m pub0
    ∃ id rest, out.2.1 = ⟨k, .subscribed req id⟩ :: rest ∧
      (∀ x ∈ rest, x.to ≠ k ∧ ∃ i, x.msg.eventSub? = some i ∧ b.isMember x.to i) ∧
      ∀ k' i, out.1.isMember k' i ↔ b.isMember k' i ∨ (k' = k ∧ i = id) := by
  show ∃ id rest, (b.syncSubscribe k req topic m pub0).2.1 = _ ∧ _
  have hinv := hb.subscribe k req topic m pub0
  rcases b.syncSubscribe_spec k req topic m pub0 with
    ⟨sub, hf, hk, e⟩ | ⟨sub, _, _, e⟩ | ⟨_, e⟩
  · rw [e]
    have hm : b.isMember k sub.id := ⟨sub, (findTopic_some hf).1, rfl, hk⟩
    exact ⟨sub.id, [], rfl, nofun, fun k' i => ⟨Or.inl, fun h => h.elim id fun e => by rw [e.1, e.2]; exact hm⟩⟩
  · rw [e] at hinv ⊢
    exact ⟨_, _, rfl, joined_spec hb hinv rfl fun x hx => ⟨_, _, _, hx⟩⟩
  · rw [e] at hinv ⊢
    exact ⟨_, _, rfl, joined_spec hb hinv rfl fun x hx =>
      (List.mem_append.mp hx).elim (fun h => ⟨_, _, _, h⟩) fun h => ⟨_, _, _, h⟩⟩

/-- a departure's announcements are meta events of the broker it leaves behind, caused by the one departing -/
theorem departEvents_member {b : Broker} {k : SessKey} {sub : Sub} {p : Nat} {x : Send} (h : x ∈ departEvents b k sub p) :
    ∃ i, x.msg.eventSub? = some i ∧ (afterDepart b k sub).isMember x.to i ∧ x.to ≠ k := by
  rcases List.mem_append.mp h with h | h
  · exact metaEvent_member h
  · split at h
    · exact metaEvent_member h
    · cases h

namespace WpE

theorem isMember_delSub {b : Broker} {id : Nat} {k : SessKey} {i : Nat} (h : (b.delSub id).isMember k i) :
    b.isMember k i := by
  obtain ⟨s, hs, hi, hk⟩ := h
  exact ⟨s, (List.mem_filter.mp hs).1, hi, hk⟩

theorem isMember_setSub_filter {b : Broker} {sub : Sub} (hs : sub ∈ b.subs) {p : SessKey → Bool} {k : SessKey} {i : Nat}
    (h : (b.setSub { sub with members := sub.members.filter p }).isMember k i) : b.isMember k i := by
  obtain ⟨s, hs', hi, hk⟩ := h
  rcases Broker.mem_subs_setSub.mp hs' with ⟨rfl, _⟩ | ⟨hx, _⟩
  · exact ⟨sub, hs, hi, (List.mem_filter.mp hk).1⟩
  · exact ⟨s, hx, hi, hk⟩

/-- taking `k` out of a subscription makes nobody a member -/
theorem afterDepart_isMember {b : Broker} {k : SessKey} {sub : Sub} (hs : sub ∈ b.subs) {k' : SessKey} {i : Nat}
    (h : (afterDepart b k sub).isMember k' i) : b.isMember k' i := by
  unfold afterDepart at h
  split at h
  · exact isMember_delSub h
  · exact isMember_setSub_filter hs h

theorem removeMember_isMember {b : Broker} {k : SessKey} {id pub0 : Nat} {k' : SessKey} {i : Nat}
    (h : (b.removeMember k id pub0).1.isMember k' i) : b.isMember k' i := by
  cases hf : b.findId id with
  | none => rwa [removeMember_unknown hf] at h
  | some sub =>
    rw [removeMember_sends hf] at h
    exact afterDepart_isMember (findId_some hf).1 h

theorem removeMember_event {b : Broker} {k : SessKey} {id pub0 : Nat} {x : Send}
    (h : x ∈ (b.removeMember k id pub0).2.1) :
    x.to ≠ k ∧ ∃ i, x.msg.eventSub? = some i ∧ b.isMember x.to i := by
  cases hf : b.findId id with
  | none => rw [removeMember_unknown hf] at h; cases h
  | some sub =>
    rw [removeMember_sends hf] at h
    obtain ⟨i, h1, h2, h3⟩ := departEvents_member h
    exact ⟨h3, i, h1, afterDepart_isMember (findId_some hf).1 h2⟩

theorem removeMembers_isMember (k : SessKey) : ∀ (l : List Nat) (b : Broker) (pub0 : Nat) (k' : SessKey) (i : Nat),
    (b.removeMembers k pub0 l).1.isMember k' i → b.isMember k' i
  | [], _, _, _, _, h => h
  | id :: ids, b, pub0, k', i, h => by
    simp only [Broker.removeMembers] at h
    exact removeMember_isMember (removeMembers_isMember k ids _ _ k' i h)

theorem removeMembers_event (k : SessKey) : ∀ (l : List Nat) (b : Broker) (pub0 : Nat) (x : Send),
    x ∈ (b.removeMembers k pub0 l).2.1 → x.to ≠ k ∧ ∃ i, x.msg.eventSub? = some i ∧ b.isMember x.to i
  | [], _, _, _, h => by cases h
  | id :: ids, b, pub0, x, h => by
    simp only [Broker.removeMembers, List.mem_append] at h
    rcases h with h | h
    · exact removeMember_event h
    · obtain ⟨h1, i, h2, h3⟩ := removeMembers_event k ids _ _ x h
      exact ⟨h1, i, h2, removeMember_isMember h3⟩

theorem syncRemoveSession_event {b : Broker} {k : SessKey} {pub0 : Nat} {x : Send}
    (h : x ∈ (b.syncRemoveSession k pub0).2.1) :
    x.to ≠ k ∧ ∃ i, x.msg.eventSub? = some i ∧ b.isMember x.to i := by
  unfold Broker.syncRemoveSession at h
  split at h
  · cases h
  · obtain ⟨h1, i, h2, h3⟩ := removeMembers_event k _ _ _ x h
    exact ⟨h1, i, h2, (isMember_congr_subs (b := b) (b' := { b with index := idxDrop b.index k }) rfl x.to i).mp h3⟩

end WpE

/-- UNSUBSCRIBE, answered UNSUBSCRIBED or not: nothing but `(k, subId)` goes -/
theorem syncUnsubscribe_isMember {b : Broker} (hb : BrokerInv b) (k : SessKey) (req subId pub0 : Nat) (k' : SessKey)
    (i : Nat) :
    (b.syncUnsubscribe k req subId pub0).1.isMember k' i ↔ b.isMember k' i ∧ ¬(k' = k ∧ i = subId) := by
  by_cases hm : b.isMember k subId
  · obtain ⟨s, hf, hk⟩ := (isMember_iff_findId hb.ids_nodup).mp hm
    rw [isMember_stripped (syncUnsubscribe_state hb.ids_nodup k req subId pub0 hf hk).1]
    simp
  · rw [syncUnsubscribe_not_member hm]
    exact ⟨fun h => ⟨h, fun e => hm (e.1 ▸ e.2 ▸ h)⟩, And.left⟩

theorem syncUnsubscribe_members {b : Broker} (hb : BrokerInv b) (k : SessKey) (req subId pub0 : Nat)
    (hm : b.isMember k subId) :
    ∃ rest, (b.syncUnsubscribe k req subId pub0).2.1 = ⟨k, .unsubscribed req⟩ :: rest ∧
      ∀ x ∈ rest, x.to ≠ k ∧ ∃ i, x.msg.eventSub? = some i ∧ b.isMember x.to i := by
  obtain ⟨s, hf, hk⟩ := (isMember_iff_findId hb.ids_nodup).mp hm
  refine ⟨_, congrArg (·.2.1) (syncUnsubscribe_member hf hk), fun x hx => ?_⟩
  obtain ⟨i, e1, e2, e3⟩ := departEvents_member hx
  exact ⟨e3, i, e1, WpE.afterDepart_isMember (findId_some hf).1 e2⟩

/-- `b.Tells a b' ss`: acting for session `a` (for nobody: a publication) the broker went from `b` to `b'` and sent
    `ss`.  Nobody's memberships but `a`'s changed; what is no EVENT answers `a`; an EVENT goes to somebody else,
    through a subscription the receiver is a member of.  Every step of the broker is one (`tells_publish`,
    `BrokerInv.tells_*`), so a consequence of these three facts is shown once and not step by step. -/
structure Broker.Tells (b : Broker) (a : Option SessKey) (b' : Broker) (ss : List Send) : Prop where
  others : ∀ k i, a ≠ some k → (b'.isMember k i ↔ b.isMember k i)
  event : ∀ x ∈ ss, ∀ i, x.msg.eventSub? = some i → a ≠ some x.to ∧ b.isMember x.to i
  plain : ∀ x ∈ ss, x.msg.eventSub? = none → a = some x.to

theorem Broker.Tells.event_after {b b' : Broker} {a : Option SessKey} {ss : List Send} (t : b.Tells a b' ss)
    {x : Send} (hx : x ∈ ss) {i : Nat} (hi : x.msg.eventSub? = some i) : b'.isMember x.to i :=
  (t.others _ _ (t.event x hx i hi).1).mpr (t.event x hx i hi).2

/-- the form in which the specifications of SUBSCRIBE, UNSUBSCRIBE and of a departure come: answers to `k` and
    EVENTs for others -/
theorem Broker.Tells.of_rest {b b' : Broker} {k : SessKey} {ss : List Send}
    (hss : ∀ x ∈ ss, x.to = k ∧ x.msg.eventSub? = none ∨ x.to ≠ k ∧ ∃ i, x.msg.eventSub? = some i ∧ b.isMember x.to i)
    (others : ∀ k' i, k' ≠ k → (b'.isMember k' i ↔ b.isMember k' i)) : b.Tells (some k) b' ss := by
  refine ⟨fun k' i hne => others k' i fun e => hne (e ▸ rfl), fun x hx i hi => ?_, fun x hx hn => ?_⟩ <;>
    rcases hss x hx with h | ⟨hne, j, hj, hm⟩
  · rw [h.2] at hi; cases hi
  · exact ⟨fun e => hne (Option.some.inj e).symm, (Option.some.inj (hj.symm.trans hi)) ▸ hm⟩
  · rw [h.1]
  · rw [hn] at hj; cases hj

theorem bsyncPublish_member {b : Broker} {sess : SessKey → Option Session} {now : Nat} {p : Publication} {x : Send}
    (hx : x ∈ (b.syncPublish sess now p).2) : ∃ i, x.msg.eventSub? = some i ∧ b.isMember x.to i := by
  obtain ⟨s, k, c, ⟨hs, _, hk, _⟩, rfl⟩ := (mem_syncPublish_sends b sess now p x).mp hx
  exact ⟨s.id, rfl, s, hs, rfl, hk⟩

theorem Broker.tells_publish (b : Broker) (sess : SessKey → Option Session) (now : Nat) (p : Publication) :
    b.Tells none (b.syncPublish sess now p).1 (b.syncPublish sess now p).2 := by
  refine ⟨fun k i _ => isMember_congr_subs (syncPublish_tables _ _ _ _).1 k i, fun x hx i hi => ⟨nofun, ?_⟩,
    fun x hx hn => ?_⟩ <;> obtain ⟨j, hj, hm⟩ := bsyncPublish_member hx
  · exact Option.some.inj (hj.symm.trans hi) ▸ hm
  · rw [hn] at hj; cases hj

theorem BrokerInv.tells_subscribe {b : Broker} (hb : BrokerInv b) (k : SessKey) (req : Nat) (topic m : String)
    (pub0 : Nat) :
    b.Tells (some k) (b.syncSubscribe k req topic m pub0).1 (b.syncSubscribe k req topic m pub0).2.1 := by
  obtain ⟨id, rest, hl, hrest, hiff⟩ := syncSubscribe_members hb k req topic m pub0
  rw [hl]
  refine .of_rest (fun x hx => ?_) fun k' i hne => (hiff k' i).trans (or_iff_left fun e => hne e.1)
  rcases List.mem_cons.mp hx with rfl | hx
  · exact .inl ⟨rfl, rfl⟩
  · exact .inr (hrest x hx)

theorem BrokerInv.tells_unsubscribe {b : Broker} (hb : BrokerInv b) (k : SessKey) (req subId pub0 : Nat) :
    b.Tells (some k) (b.syncUnsubscribe k req subId pub0).1 (b.syncUnsubscribe k req subId pub0).2.1 := by
  refine .of_rest (fun x hx => ?_) fun k' i hne =>
    (syncUnsubscribe_isMember hb k req subId pub0 k' i).trans (and_iff_left fun e => hne e.1)
  by_cases hm : b.isMember k subId
  · obtain ⟨rest, hl, hrest⟩ := syncUnsubscribe_members hb k req subId pub0 hm
    rw [hl] at hx
    rcases List.mem_cons.mp hx with rfl | hx
    · exact .inl ⟨rfl, rfl⟩
    · exact .inr (hrest x hx)
  · rw [syncUnsubscribe_not_member hm] at hx
    exact .inl (List.mem_singleton.mp hx ▸ ⟨rfl, rfl⟩)

theorem syncRemoveSession_isMember {b : Broker} (hb : BrokerInv b) (k : SessKey) (pub0 : Nat) (k' : SessKey) (id : Nat) :
    (b.syncRemoveSession k pub0).1.isMember k' id ↔ b.isMember k' id ∧ k' ≠ k := by
  obtain ⟨_, _, _, _, _, hix⟩ := syncRemoveSession_state hb k pub0
  rw [← (hb.removeSession k pub0).index_iff, ← hb.index_iff, hix]
  exact idxRel_drop hb.index_wf k k' id

theorem BrokerInv.tells_removeSession {b : Broker} (hb : BrokerInv b) (k : SessKey) (pub0 : Nat) :
    b.Tells (some k) (b.syncRemoveSession k pub0).1 (b.syncRemoveSession k pub0).2.1 :=
  .of_rest (fun _ hx => .inr (WpE.syncRemoveSession_event hx))
    fun k' i hne => (syncRemoveSession_isMember hb k pub0 k' i).trans (and_iff_left hne)

end Nexus.L2
