/-
  C07 "stall isolation": what each atomic action preserves of `EqOff x` and of `Idle x`.  The meta
  procedures read the attached sessions only up to `stalled` and never look at a queue (neither is in
  `Realm.view`): same answer, and `EqOff x` is preserved by the four effects.  Then departures, the
  arrival of a message, internal tasks (`runTask`), external inputs (`stepOp`), timed events
  (`timerDue`, `retryDue`) and what the clients read (`flush`).
-/
import Nexus.L2.Proofs.StallBase
import Nexus.L2.Proofs.RealmMeta
import Nexus.L2.Proofs.StallIdle

namespace Nexus.L2.WpC
open Nexus.L2.Realm Gen.N

variable {x : SessKey}

theorem cleanDetails_congr {r r' : Realm} (h : EqOff x r r') (d : Dict) : r'.cleanDetails d = r.cleanDetails d := by
  unfold Realm.cleanDetails; rw [h.cfg]

/-- how the results of `metaProc` in the two runs compare (`eqoff_metaProc`): the same answer for the caller,
    related states -/
def MPRel (x : SessKey) (p p' : Msg × Realm) : Prop := p'.1 = p.1 ∧ EqOff x p.2 p'.2

theorem eqoff_killWhere {r r' : Realm} (h : EqOff x r r') (sel : Session → Bool)
    (hsel : ∀ c, sel (unstall x c) = sel c) (g : Msg) (ka : Bool) :
    EqOff x (r.killWhere sel g ka).2 (r'.killWhere sel g ka).2 := by
  have hv := filter_of_map_eq h.clients (fun c : Session => sel c && !r.ending.contains c.key)
    (fun c => by simp only [hsel, unstall_key])
  unfold Realm.killWhere
  dsimp only
  rw [h.ending]
  exact { h with
    ending := by dsimp only; rw [map_of_map_eq hv (fun c : Session => c.key) (fun c => unstall_key ..)]
    tasks := by
      dsimp only
      rw [h.tasks, map_of_map_eq hv (fun c => Task.leave c.key (.killed g ka)) (fun c => by simp only [unstall_key])] }

theorem eqoff_modify {r r' : Realm} (h : EqOff x r r') (k : SessKey) (d : Dict) :
    EqOff x ({ r with clients := r.clients.map (fun c => if c.key == k then { c with details := d } else c) } : Realm)
      ({ r' with clients := r'.clients.map (fun c => if c.key == k then { c with details := d } else c) } : Realm) := by
  refine { h with clients := ?_ }
  dsimp only
  have e : ∀ l : List Session, (l.map (fun c => if c.key == k then { c with details := d } else c)).map (unstall x) =
      (l.map (unstall x)).map (fun c => if c.key == k then { c with details := d } else c) := by
    intro l
    rw [List.map_map, List.map_map]
    apply List.map_congr_left
    intro c _
    simp only [Function.comp, unstall_key]
    unfold unstall
    split <;> split <;> simp_all
  rw [e, e, h.clients]

theorem view_eqoff {r r' : Realm} (h : EqOff x r r') : view r' = view r := by
  have hs : ∀ l : List Session, l.map (fun c => (c.key, c.details)) =
      (l.map (unstall x)).map (fun c => (c.key, c.details)) := fun l => by
    rw [List.map_map]
    exact List.map_congr_left fun c _ => by simp only [Function.comp, unstall_key, unstall_details]
  unfold view
  rw [hs r'.clients, h.clients, ← hs, h.ending, funext (cleanDetails_congr h), h.ds, h.broker, h.testaments]

theorem eqoff_apply {r r' : Realm} (h : EqOff x r r') (eff : MetaEff) : EqOff x (eff.apply r) (eff.apply r') := by
  cases eff with
  | none => exact h
  | kill sel g ka => exact eqoff_killWhere h _ (fun c => by simp only [unstall_key, unstall_details]) g ka
  | modify k d => exact eqoff_modify h k d
  | testaments t => exact { h with testaments := rfl }

theorem eqoff_metaProc {r r' : Realm} (h : EqOff x r r') (proc : String) (req : Nat) (details : Dict)
    (args : List WVal) (kw : Dict) :
    MPRel x (metaProc r proc req details args kw) (metaProc r' proc req details args kw) := by
  rw [metaProc_eq, metaProc_eq, view_eqoff h]
  cases metaOut (view r) proc details args kw with
  | err uri => exact ⟨rfl, h⟩
  | ok a kw eff => exact ⟨rfl, eqoff_apply h eff⟩

theorem eqoff_takeTestaments {r r' : Realm} (h : EqOff x r r') (k : SessKey) :
    (r'.takeTestaments k).1 = (r.takeTestaments k).1 ∧ EqOff x (r.takeTestaments k).2 (r'.takeTestaments k).2 := by
  rw [takeTestaments_eq, takeTestaments_eq, h.testaments]
  exact ⟨rfl, { h with testaments := rfl }⟩

theorem eqoff_leaveRemove {r r' : Realm} (h : EqOff x r r') (k : SessKey) (quiet : Bool) :
    EqOff x (leaveRemove r k quiet) (leaveRemove r' k quiet) := by
  unfold leaveRemove
  rw [h.ds, syncRemoveSession_congr h.denv, h.broker, h.pubCount]
  split
  · dsimp only
    apply eqoff_setPanic
    exact { h with ds := rfl, broker := rfl, pubCount := rfl }
  · dsimp only
    have h1 := eqoff_applyD h (syncRemoveSession r.denv r.ds k)
    rw [h1.broker, h1.pubCount]
    exact eqoff_brokerStep h1 _ _ _

theorem eqoff_leaveAnnounce {r r' : Realm} (h : EqOff x r r') {s s' : Session} (hs : SEq x s s')
    (tst : Option TBucket) (silent : Bool) :
    EqOff x (leaveAnnounce r s tst silent) (leaveAnnounce r' s' tst silent) := by
  unfold leaveAnnounce onLeavePub
  rw [hs.key, hs.details]
  split
  · exact h
  · exact eqoff_addTasks h _

theorem filter_off_snoc (l : List SessKey) (k : SessKey) :
    (l ++ [k]).filter (· != x) = if k = x then l.filter (· != x) else l.filter (· != x) ++ [k] := by
  rw [List.filter_append]
  by_cases hk : k = x
  · simp [hk]
  · have : (k != x) = true := by simpa using hk
    simp [this, hk]

theorem eqoff_leaveClose {r r' : Realm} (h : EqOff x r r') {s s' : Session} (hs : SEq x s s') :
    EqOff x (leaveClose r s) (leaveClose r' s') := by
  unfold leaveClose
  rw [hs.key]
  refine { h with clients := ?_, ending := ?_, closedPeers := ?_, ghosts := ?_ }
  · exact filter_of_map_eq h.clients _ (fun c => by simp)
  · dsimp only; rw [h.ending]
  · dsimp only
    rw [filter_off_snoc, filter_off_snoc, h.closedPeers]
  · dsimp only
    by_cases hk : s.key = x
    · -- `x` itself departs: whether it becomes a ghost depends on `stalled`, but only at `x`
      have e : ∀ (b : Bool) (g : List SessKey), (if b then g ++ [s.key] else g).filter (· != x) = g.filter (· != x) := by
        intro b g
        cases b
        · rfl
        · simp only [if_true]; rw [filter_off_snoc, if_pos hk]
      rw [e, e, h.ghosts]
    · rw [hs.eq_of_ne hk]
      split
      · rw [filter_off_snoc, filter_off_snoc, h.ghosts]
      · exact h.ghosts

theorem eqoff_leave {r r' : Realm} (h : EqOff x r r') (k : SessKey) (mode : LeaveMode) :
    EqOff x (r.leave k mode) (r'.leave k mode) := by
  rcases (h.find k).cases with ⟨e1, e2⟩ | ⟨c, c', e1, e2, hc⟩
  · rw [leave_none mode e1, leave_none mode e2]; exact h
  · rw [leave_some mode e1, leave_some mode e2]
    have h1 : EqOff x (leaveSend r k mode) (leaveSend r' k mode) := by
      cases mode <;> first | exact eqoff_trySend h _ | exact h
    obtain ⟨t2, h2⟩ := eqoff_takeTestaments h1 k
    rw [t2]
    exact eqoff_leaveClose (eqoff_leaveAnnounce (eqoff_leaveRemove h2 k _) hc _ _) hc

theorem idle_leave {r : Realm} (hd : DealerInv r.ds) (h : Idle x r) (k : SessKey) (mode : LeaveMode) :
    Idle x (r.leave k mode) := by
  refine leave_cases r k mode (fun _ => h) fun c e1 => ?_
  obtain ⟨ts, hts, hnew⟩ := (leave_ctl mode e1).tasks
  refine h.mono ?_ (fun y hy => Or.inl ((leave_ctl mode e1).retries ▸ hy)) (by rw [hts]; exact inX_append_nil fun _ hm => hnew _ hm)
  rw [(leave_tables mode e1).2]
  exact fun hr => (syncRemoveSession_refs_sub hd k x hr).1

theorem eqoff_recvMsg {r r' : Realm} (h : EqOff x r r') (k : SessKey) (m : Msg)
    (hm : isRpc m = false ∨ (k ≠ x ∧ DIdle x r.ds)) :
    EqOff x (r.recvMsg k m) (r'.recvMsg k m) := by
  rw [recvMsg_eq, recvMsg_eq]
  have hb := busy_congr h.retries k
  rcases (h.find k).cases with ⟨e1, e2⟩ | ⟨c, c', e1, e2, hc⟩
  · rw [e1, e2]; exact h
  · rw [e1, e2]
    dsimp only
    rw [h.ending, hb, hc.buffered]
    exact eqoff_ite (fun _ => h) fun _ => eqoff_ite
      (fun _ => eqoff_ite (fun _ => { h with ending := rfl, inbox := congrArg (· ++ _) h.inbox }) (fun _ => h))
      (fun _ => eqoff_handleMsg h hc m ((find?_key e1).2 ▸ hm))

theorem idle_recvMsg {r : Realm} (hd : DealerInv r.ds) (h : Idle x r) (k : SessKey) (m : Msg)
    (hm : isRpc m = false ∨ k ≠ x) : Idle x (r.recvMsg k m) :=
  recvMsg_cases r k m h (fun _ _ _ _ _ => ⟨h.refs, h.retries, h.tasks⟩)
    (fun s hs _ _ => idle_handleMsg hd h s m (by rw [(find?_key hs).2]; exact hm))

/-- the tasks `eqoff_runTask` and `idle_runTask` cover: all but an RPC message of `x` itself, which would make `x`
    take part in an RPC.  Every pending task of an idle state is one (`taskFree_of_idle`). -/
def TaskFree (x : SessKey) : Task → Prop
  | .inMsg k m => k = x → isRpc m = false
  | _ => True

theorem eqoff_runTask {r r' : Realm} (h : EqOff x r r') (hx : x ≠ metaKey) (hmk : r.metaS.key = metaKey)
    (hd : DIdle x r.ds) (t : Task) (ht : TaskFree x t) : EqOff x (r.runTask t) (r'.runTask t) := by
  cases t with
  | metaPub p => exact eqoff_handlePublish h (by rw [h.metaS]; exact SEq.refl _) ..
  | metaInvoke req reg details args kw =>
    rw [runTask_metaInvoke, runTask_metaInvoke, h.metaProcs]
    split
    · exact eqoff_addTasks h _
    · rename_i proc _
      obtain ⟨e1, e2⟩ := eqoff_metaProc h proc req details args kw
      rw [e1]
      exact eqoff_addTasks e2 _
  | metaMsg m =>
    rw [runTask_metaMsg, runTask_metaMsg]
    refine eqoff_handleMsg h (by rw [h.metaS]; exact SEq.refl _) m (Or.inr ⟨?_, hd⟩)
    rw [hmk]; exact fun e => hx e.symm
  | leave k mode =>
    rw [runTask_leave, runTask_leave]
    have hb := busy_congr h.retries k
    rw [hb]
    exact eqoff_ite (fun _ => { h with deferred := congrArg (· ++ _) h.deferred }) (fun _ => eqoff_leave h k mode)
  | inMsg k m => exact eqoff_recvMsg h k m ((Decidable.em (k = x)).imp ht (fun hk => ⟨hk, hd⟩))

theorem idle_runTask {r : Realm} (hd : DealerInv r.ds) (hx : x ≠ metaKey) (hmk : r.metaS.key = metaKey)
    (h : Idle x r) (t : Task) (ht : TaskFree x t) : Idle x (r.runTask t) := by
  cases t with
  | metaPub p => exact h.of_handles hd (.inl rfl) (handlePublish_handles ..)
  | metaInvoke req reg details args kw =>
    have e := metaInvoke_act r req reg details args kw
    obtain ⟨ts, rsp, et, _, hts⟩ := e.tasks
    refine h.mono (by rw [e.ds]; exact id) (fun y hy => Or.inl (e.retries ▸ hy)) ?_
    rw [et]
    refine (inX_append_nil fun m hm => ?_).trans (inX_append_nil fun m hm => ?_)
    · cases List.mem_singleton.mp hm
    · obtain ⟨_, _, e', _⟩ := hts _ hm
      cases e'
  | metaMsg m =>
    rw [runTask_metaMsg]
    exact idle_handleMsg hd h _ m (Or.inr (by rw [hmk]; exact fun e => hx e.symm))
  | leave k mode =>
    rw [runTask_leave]
    split
    · exact ⟨h.refs, h.retries, h.tasks⟩
    · exact idle_leave hd h k mode
  | inMsg k m => exact idle_recvMsg hd h k m ((Decidable.em (k = x)).imp ht id)

theorem taskFree_of_idle {r : Realm} (h : Idle x r) {t : Task} (ht : t ∈ r.tasks) : TaskFree x t := by
  cases t with
  | inMsg k m =>
    intro hk
    subst hk
    exact h.tasks m (mem_inX.mpr ht)
  | _ => trivial

/-- the same restriction on an external input: the hypothesis of the isolation theorems (`C07_stall_isolation`)
    and what `FreeReachable` asks of every input; `x` may still publish, subscribe, stall, leave and rejoin -/
def OpFree (x : SessKey) : Op → Prop
  | .msg k m => k = x → isRpc m = false
  | _ => True

theorem eqoff_mapClients {r r' : Realm} (h : EqOff x r r') (upd : Session → Session)
    (hu : ∀ c, unstall x (upd c) = upd (unstall x c)) :
    r'.clients.map (unstall x ∘ upd) = r.clients.map (unstall x ∘ upd) := by
  have e : (unstall x ∘ upd) = (upd ∘ unstall x) := funext hu
  rw [e, ← List.map_map, ← List.map_map, h.clients]

theorem eqoff_stallClients {r r' : Realm} (h : EqOff x r r') (k : SessKey) (b : Bool) :
    (r'.clients.map (fun c => if c.key == k then { c with stalled := b } else c)).map (unstall x) =
      (r.clients.map (fun c => if c.key == k then { c with stalled := b } else c)).map (unstall x) := by
  rw [List.map_map, List.map_map]
  by_cases hk : k = x
  · rw [hk, unstall_switch, h.clients]
  · refine eqoff_mapClients h _ ?_
    intro c
    rw [unstall_key]
    unfold unstall
    have hk' : ¬ x = k := fun e => hk e.symm
    split <;> split <;> simp_all

theorem eqoff_stepOp {r r' : Realm} (h : EqOff x r r') (hd : DIdle x r.ds) (op : Op) (hop : OpFree x op) :
    EqOff x (r.stepOp op) (r'.stepOp op) := by
  cases op with
  | join k isLocal details roles cap =>
    rw [stepOp_join, stepOp_join, cleanDetails_congr h,
      any_of_map_eq h.clients (fun c => c.key == k) (fun c => by rw [unstall_key])]
    split
    · exact h
    apply eqoff_addTasks
    refine { h with clients := ?_, queues := ?_ }
    · dsimp only; rw [List.map_append, List.map_append, h.clients]
    · dsimp only; rw [List.filter_append, List.filter_append, h.queues]
  | msg k m => exact eqoff_recvMsg h k m ((Decidable.em (k = x)).imp hop (fun hk => ⟨hk, hd⟩))
  | buffer k =>
    rw [stepOp_buffer, stepOp_buffer]
    refine { h with clients := ?_ }
    dsimp only
    rw [List.map_map, List.map_map]
    refine eqoff_mapClients h _ ?_
    intro c
    rw [unstall_key]
    unfold unstall
    split <;> split <;> simp_all
  | drop k =>
    rw [stepOp_drop, stepOp_drop, h.ending,
      any_of_map_eq h.clients (fun c => c.key == k) (fun c => by rw [unstall_key])]
    exact eqoff_ite (fun _ => h) fun _ => eqoff_ite (fun _ => h) fun _ =>
      { h with tasks := congrArg (· ++ _) h.tasks, ending := congrArg (· ++ _) h.ending }
  | stall k =>
    rw [stepOp_stall, stepOp_stall]
    exact { h with clients := eqoff_stallClients h k true }
  | resume k =>
    rw [stepOp_resume, stepOp_resume]
    refine { h with clients := eqoff_stallClients h k false, ghosts := ?_ }
    dsimp only
    rw [filter_comm, filter_comm r.ghosts, h.ghosts]
  | tick ms => exact h
  | rnd n =>
    rw [stepOp_rnd, stepOp_rnd]
    exact { h with rnd := rfl }

theorem idle_stepOp {r : Realm} (hd : DealerInv r.ds) (h : Idle x r) (op : Op) (hop : OpFree x op) :
    Idle x (r.stepOp op) :=
  stepOp_cases r op h
    (fun _ _ _ _ _ _ _ _ =>
      h.mono id (fun y hy => Or.inl hy) (inX_append_nil fun m hm => by cases List.mem_singleton.mp hm))
    (fun k m e => idle_recvMsg hd h k m ((Decidable.em (k = x)).imp (show OpFree x (.msg k m) from e ▸ hop) id))
    (fun _ _ _ _ _ => ⟨h.refs, h.retries, h.tasks⟩) (fun _ _ _ => idle_end h _ _) (fun _ => ⟨h.refs, h.retries, h.tasks⟩)

theorem eqoff_nextDue {r r' : Realm} (h : EqOff x r r') (limit : Nat) : nextDue r' limit = nextDue r limit := by
  unfold nextDue
  rw [h.ds, h.retries]

theorem eqoff_timerDue {r r' : Realm} (h : EqOff x r r') (hd : DIdle x r.ds) (t : Timer) :
    EqOff x (r.timerDue t) (r'.timerDue t) := by
  rw [timerDue_eq r, timerDue_eq r', h.ds,
    syncCancel_congr h.denv { r.ds with timers := r.ds.timers.filter (fun y => y.id != t.id) } _ _ _ _ _
      (Or.inr hd.invs)]
  have h1 : EqOff x ({ r with ds := { r.ds with timers := r.ds.timers.filter (fun y => y.id != t.id) } } : Realm)
      ({ r' with ds := { r.ds with timers := r.ds.timers.filter (fun y => y.id != t.id) } } : Realm) :=
    { h with ds := rfl }
  exact eqoff_applyD h1 _

theorem idle_timerDue {r : Realm} (h : Idle x r) (t : Timer) : Idle x (r.timerDue t) := by
  unfold Realm.timerDue
  dsimp only
  have h1 : Idle x ({ r with ds := { r.ds with timers := r.ds.timers.filter (fun y => y.id != t.id) } } : Realm) :=
    ⟨h.refs, h.retries, h.tasks⟩
  exact idle_applyD h1 _ ((syncCancel_shrinks ..).refs x)

/-- The dealer answers the retried YIELD alike in both runs (`syncYield_congr`: the callee is not `x`, and `x` is
    the caller of no call), so both take the same branch of `retryDue_eq` — asleep again, or the loop over — and
    in the second release the same waiting input. -/
theorem eqoff_retryDue {r r' : Realm} (h : EqOff x r r') (hd : DIdle x r.ds) (y : Retry) (hy : y.callee ≠ x) :
    EqOff x (r.retryDue y) (r'.retryDue y) := by
  have ho : retryOut r' y = retryOut r y := by
    unfold retryOut
    rw [h.ds, h.now, syncYield_congr h.denv _ _ _ _ _ _ _ hy hd.calls hd.invs]
  have h2 : EqOff x (retryMid r y) (retryMid r' y) := by
    unfold retryMid
    rw [ho, h.retries]
    refine eqoff_applyD ?_ _
    exact { h with retries := rfl }
  rw [retryDue_eq r, retryDue_eq r', ho]
  exact eqoff_ite (fun _ => { h2 with retries := (by dsimp only; rw [h2.retries, h2.now]) }) fun _ =>
    { h2 with tasks := (by dsimp only; rw [h2.tasks, h2.inbox, h2.deferred]),
              inbox := (by dsimp only; rw [h2.inbox]), deferred := (by dsimp only; rw [h2.deferred]) }

theorem idle_retryDue {r : Realm} (h : Idle x r) (y : Retry) (hy : y.callee ≠ x) :
    Idle x (r.retryDue y) := by
  have h1 : Idle x ({ r with retries := r.retries.filter (fun z => z.callee != y.callee) } : Realm) :=
    ⟨h.refs, fun z hz => h.retries z (List.mem_filter.mp hz).1, h.tasks⟩
  have h2 := idle_applyD h1 (retryOut r y) ((syncYield_shrinks ..).refs x)
  rw [retryDue_eq]
  split
  · refine h2.mono id (fun z hz => ?_) rfl
    rcases List.mem_append.mp hz with hz | hz
    · exact Or.inl hz
    · rw [List.mem_singleton.mp hz]; exact Or.inr hy
  · -- the loop ends: the waiting messages and departures released are those of `y.callee`, not of `x`
    refine h2.mono id (fun z hz => Or.inl hz) ?_
    refine (inX_append_nil fun m hm => ?_).trans (inX_append_nil fun m hm => ?_)
    · obtain ⟨d, _, e⟩ := List.mem_map.mp hm
      cases e
    · obtain ⟨d, hd', e⟩ := List.mem_map.mp hm
      cases e
      have hk : d.1 = y.callee := by simpa using (List.mem_filter.mp hd').2
      exact hy hk.symm

theorem contains_off (l : List SessKey) {k : SessKey} (hk : k ≠ x) :
    (l.filter (· != x)).contains k = l.contains k := by
  rw [Bool.eq_iff_iff]
  simp only [List.contains_iff_mem, List.mem_filter, bne_iff_ne, ne_eq]
  exact ⟨fun h => h.1, fun h => ⟨h, hk⟩⟩

/-- whether anybody other than `x` reads does not depend on `x` -/
theorem EqOff.reading {r r' : Realm} (h : EqOff x r r') {k : SessKey} (hk : k ≠ x) : reading r' k = reading r k := by
  unfold WpC.reading
  rw [← contains_off r'.ghosts hk, h.ghosts, contains_off r.ghosts hk, h.find_ne hk]

theorem filter_off_transfer {α : Type} (key : α → SessKey) {l l' : List α}
    (hl : l'.filter (fun a => key a != x) = l.filter (fun a => key a != x)) (f g : α → Bool)
    (hfg : ∀ a, key a ≠ x → g a = f a) :
    (l'.filter g).filter (fun a => key a != x) = (l.filter f).filter (fun a => key a != x) := by
  rw [filter_comm, filter_comm l, hl]
  exact List.filter_congr fun a ha => hfg a (by simpa using (List.mem_filter.mp ha).2)

/-- `flush` filters queues and closures by `reading`, on which the two runs agree off `x` (`EqOff.reading`) but not
    at `x`, while `h` speaks of the unfiltered lists restricted to keys other than `x`.  `filter_off_transfer`
    swaps the two filters, so that `h.queues` / `h.closedPeers` apply and the predicates are compared only where
    they agree. -/
theorem eqoff_flush {r r' : Realm} (h : EqOff x r r') :
    EqOff x r.flush.2 r'.flush.2 ∧
    r'.flush.1.out.filter (fun q => q.1 != x) = r.flush.1.out.filter (fun q => q.1 != x) ∧
    r'.flush.1.closed.filter (· != x) = r.flush.1.closed.filter (· != x) ∧
    r'.flush.1.panic = r.flush.1.panic := by
  rw [flush_eq r, flush_eq r']
  dsimp only
  have hcc : ∀ k, k ≠ x → r'.closedPeers.contains k = r.closedPeers.contains k := fun k hk => by
    rw [← contains_off r'.closedPeers hk, h.closedPeers, contains_off r.closedPeers hk]
  have tq := @filter_off_transfer x _ (fun q : SessKey × List Msg => q.1) _ _ h.queues
  have tc := @filter_off_transfer x _ (fun k : SessKey => k) _ _ h.closedPeers
  refine ⟨{ h with queues := ?_, closedPeers := ?_ }, ?_, ?_, h.panic⟩
  · dsimp only
    have e3 : ∀ l : List (SessKey × List Msg),
        (l.map (fun q => (q.1, ([] : List Msg)))).filter (fun q => q.1 != x) =
          (l.filter (fun q => q.1 != x)).map (fun q => (q.1, ([] : List Msg))) := fun l => by
      rw [List.filter_map]; rfl
    rw [List.filter_append, List.filter_append, e3, e3,
      tq (fun q => !reading r q.1) (fun q => !reading r' q.1) (fun q hk => by rw [h.reading hk]),
      tq (fun q => reading r q.1 && !r.closedPeers.contains q.1)
        (fun q => reading r' q.1 && !r'.closedPeers.contains q.1) (fun q hk => by rw [h.reading hk, hcc _ hk])]
  · exact tc (fun k => !reading r k) (fun k => !reading r' k) (fun k hk => by rw [h.reading hk])
  · exact tq (fun q => reading r q.1 && !q.2.isEmpty) (fun q => reading r' q.1 && !q.2.isEmpty)
      (fun q hk => by rw [h.reading hk])
  · exact tc (reading r) (reading r') (fun k hk => h.reading hk)

theorem idle_flush {r : Realm} (h : Idle x r) : Idle x r.flush.2 := by
  rw [flush_eq]
  exact ⟨h.refs, h.retries, h.tasks⟩

end Nexus.L2.WpC
