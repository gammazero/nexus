/-
  The dealer `sync*` functions in a form convenient for proofs, no invariant needed: `syncCall` cut into
  named pieces (`firstChunk`, `laterChunk`, `dispatch`, `invDetails`, …) with the equation `syncCall_eq`;
  the case analyses of `syncRegister`, `syncUnregister`, `syncError` and `syncCancel`, each branch with its
  exact output.
-/
import Nexus.L2.Proofs.DealerInv
namespace Nexus.L2
open Gen.N

inductive Refusal where
  | err (e : String)
  | abort

def callRefusal (env : DEnv) (allow : Bool) (reg : Reg) (caller callee : SessKey) (opts : Dict) : Option Refusal :=
  if opts.optFlag OptProgress && (!hasFeat env callee RoleCallee FeatureProgCallInvocations ||
      !hasFeat env callee RoleCallee FeatureCallCanceling) then some (.err ErrFeatureNotSupported)
  else if pptScheme opts != "" && !hasFeat env caller RoleCaller FeaturePayloadPassthruMode then some .abort
  else if pptScheme opts != "" && !hasFeat env callee RoleCallee FeaturePayloadPassthruMode then
    some (.err ErrFeatureNotSupported)
  else if !reg.disclose && opts.optFlag OptDiscloseMe && !allow then some (.err ErrOptionDisallowedDiscloseMe)
  else none

def optTimeout (opts : Dict) : Int := match opts.get? OptTimeout with | some (.int i) => i | _ => 0

/-- is the timeout forwarded: the callee announced `call_timeout` and the registration has `forward_timeout`
    (`fwd`; a later chunk uses the flag stored in the invocation at the first chunk) -/
def forwardsF (env : DEnv) (fwd : Bool) (callee : SessKey) : Bool :=
  hasFeat env callee RoleCallee FeatureCallTimeout && fwd

def forwardsTimeout (env : DEnv) (reg : Reg) (callee : SessKey) : Bool := forwardsF env reg.fwdTimeout callee

def routerTimeoutF (env : DEnv) (fwd : Bool) (callee : SessKey) (opts : Dict) : Nat :=
  if optTimeout opts > 0 && !forwardsF env fwd callee then (optTimeout opts).toNat else 0

def routerTimeout (env : DEnv) (reg : Reg) (callee : SessKey) (opts : Dict) : Nat :=
  routerTimeoutF env reg.fwdTimeout callee opts

def invDetails (env : DEnv) (reg : Reg) (caller callee : SessKey) (opts : Dict) (proc : String) : Dict :=
  let details0 : Dict := [(OptProgress, .bool (opts.optFlag OptProgress))]
  let details := if pptScheme opts != "" then pptInto opts details0 else details0
  let details :=
    if reg.disclose then discloseCaller env caller details
    else if opts.optFlag OptDiscloseMe && hasFeat env callee RoleCallee FeatureCallerIdent then
      discloseCaller env caller details
    else details
  let details :=
    if opts.optFlag OptReceiveProgress && hasFeat env callee RoleCallee FeatureProgCallResults &&
       hasFeat env callee RoleCallee FeatureCallCanceling
    then details.set OptReceiveProgress (.bool true) else details
  let details := if reg.«match» != MatchExact then details.set OptProcedure (.str proc) else details
  if optTimeout opts > 0 && forwardsTimeout env reg callee then details.set OptTimeout (.int (optTimeout opts)) else details

def armTimer (env : DEnv) (s : DState) (caller : SessKey) (req : Nat) (v : Invk) (timeout : Nat) : DState :=
  if timeout > 0 then
    let t : Timer := { id := s.nextTimer + 1, deadline := env.now + min timeout maxTimeoutMs, caller := caller, req := req }
    { s with timers := s.timers ++ [t],
             nextTimer := s.nextTimer + 1,
             d := s.d.setInv { v with timer := some (s.nextTimer + 1) } }
  else s

def dispatch (env : DEnv) (s : DState) (caller : SessKey) (req : Nat) (callee : SessKey) (invReq : Nat)
    (v : Invk) (timeout : Nat) (m : Msg) : DOut :=
  if env.full callee then syncError s callee invReq [] ErrNetworkFailure [.str "<text>"] []
  else { st := armTimer env s caller req v timeout, sends := [⟨callee, m⟩] }

/-- a later chunk that arms a router-side timeout first cancels the timer armed by an earlier chunk
    (dealer.go `if invk.timerCancel != nil { invk.timerCancel() }`) -/
def preCancel (s : DState) (v : Invk) (timeout : Nat) : DState :=
  if timeout > 0 then s.cancelTimer v.timer else s

@[simp] theorem preCancel_d (s : DState) (v : Invk) (t : Nat) : (preCancel s v t).d = s.d := by
  unfold preCancel; split <;> simp

@[simp] theorem preCancel_nextTimer (s : DState) (v : Invk) (t : Nat) : (preCancel s v t).nextTimer = s.nextTimer := by
  unfold preCancel; split <;> simp

@[simp] theorem preCancel_invGen (s : DState) (v : Invk) (t : Nat) : (preCancel s v t).invGen = s.invGen := by
  unfold preCancel; split <;> simp

theorem preCancel_zero (s : DState) (v : Invk) : preCancel s v 0 = s := by
  unfold preCancel; rw [if_neg (by omega)]

theorem preCancel_pos (s : DState) (v : Invk) {t : Nat} (h : 0 < t) : preCancel s v t = s.cancelTimer v.timer := by
  unfold preCancel; rw [if_pos h]

theorem armTimer_preCancel (env : DEnv) (s : DState) (caller : SessKey) (req : Nat) (v : Invk) (t : Nat) :
    armTimer env (preCancel s v t) caller req v t =
      if t > 0 then
        { s.cancelTimer v.timer with
          timers := (s.cancelTimer v.timer).timers ++
            [{ id := (s.cancelTimer v.timer).nextTimer + 1, deadline := env.now + min t maxTimeoutMs, caller := caller, req := req }]
          nextTimer := (s.cancelTimer v.timer).nextTimer + 1
          d := (s.cancelTimer v.timer).d.setInv { v with timer := some ((s.cancelTimer v.timer).nextTimer + 1) } }
      else s := by
  unfold armTimer preCancel
  by_cases h : t > 0
  · rw [if_pos h, if_pos h, if_pos h]
  · rw [if_neg h, if_neg h, if_neg h]

def dispatchL (env : DEnv) (s : DState) (caller : SessKey) (req : Nat) (callee : SessKey) (invReq : Nat)
    (v : Invk) (timeout : Nat) (m : Msg) : DOut :=
  if env.full callee then syncError s callee invReq [] ErrNetworkFailure [.str "<text>"] []
  else { st := armTimer env (preCancel s v timeout) caller req v timeout, sends := [⟨callee, m⟩] }

def newInvk (s : DState) (reg : Reg) (caller : SessKey) (req : Nat) (callee : SessKey) (opts : Dict) : Invk :=
  { id := ⟨callee, (invGenNext s.invGen callee).1⟩, callId := ⟨caller, req⟩, callee := callee,
    inProgress := opts.optFlag OptProgress, options := opts, regId := reg.id, fwdTimeout := reg.fwdTimeout }

def recordCall (s : DState) (v : Invk) (callee : SessKey) : DState :=
  { s with d := { s.d with calls := s.d.calls ++ [v.callId], invs := s.d.invs ++ [v],
                           byCall := s.d.byCall ++ [(v.callId, v.id)] },
           invGen := (invGenNext s.invGen callee).2 }

def firstChunk (env : DEnv) (s : DState) (reg : Reg) (caller : SessKey) (req : Nat) (opts : Dict) (proc : String)
    (args : List WVal) (kw : Dict) (callee : SessKey) (reg' : Reg) : DOut :=
  if opts.optFlag OptProgress && (!hasFeat env callee RoleCallee FeatureProgCallInvocations ||
      !hasFeat env callee RoleCallee FeatureCallCanceling) then
    { st := { s with d := s.d.setReg reg' }, sends := [⟨caller, errMsg tCALL req ErrFeatureNotSupported⟩] }
  else if pptScheme opts != "" && !hasFeat env caller RoleCaller FeaturePayloadPassthruMode then
    { st := { s with d := s.d.setReg reg' }, sends := [⟨caller, abortMsg "<text>"⟩], aborts := [caller] }
  else if pptScheme opts != "" && !hasFeat env callee RoleCallee FeaturePayloadPassthruMode then
    { st := { s with d := s.d.setReg reg' }, sends := [⟨caller, errMsg tCALL req ErrFeatureNotSupported⟩] }
  else if !reg.disclose && opts.optFlag OptDiscloseMe && !s.d.allowDisclose then
    { st := { s with d := s.d.setReg reg' }, sends := [⟨caller, errMsg tCALL req ErrOptionDisallowedDiscloseMe⟩] }
  else
    let s1 : DState := { s with d := s.d.setReg reg' }
    let v := newInvk s1 reg caller req callee opts
    dispatch env (recordCall s1 v callee) caller req callee v.id.req v (routerTimeout env reg callee opts)
      (.invocation v.id.req reg.id (invDetails env reg caller callee opts proc) args kw)

theorem firstChunk_eq (env : DEnv) (s : DState) (reg : Reg) (caller : SessKey) (req : Nat) (opts : Dict) (proc : String)
    (args : List WVal) (kw : Dict) (callee : SessKey) (reg' : Reg) :
    firstChunk env s reg caller req opts proc args kw callee reg' =
      match callRefusal env s.d.allowDisclose reg caller callee opts with
      | some (.err e) => { st := { s with d := s.d.setReg reg' }, sends := [⟨caller, errMsg tCALL req e⟩] }
      | some .abort => { st := { s with d := s.d.setReg reg' }, sends := [⟨caller, abortMsg "<text>"⟩], aborts := [caller] }
      | none =>
        dispatch env (recordCall { s with d := s.d.setReg reg' } (newInvk s reg caller req callee opts) callee) caller req callee
          (newInvk s reg caller req callee opts).id.req (newInvk s reg caller req callee opts) (routerTimeout env reg callee opts)
          (.invocation (newInvk s reg caller req callee opts).id.req reg.id (invDetails env reg caller callee opts proc) args kw) := by
  unfold firstChunk callRefusal
  split
  · rfl
  · split
    · rfl
    · split
      · rfl
      · split
        · rfl
        · rfl

def laterChunk (env : DEnv) (s : DState) (caller : SessKey) (req : Nat) (opts : Dict)
    (args : List WVal) (kw : Dict) (iid : ReqId) (v0 : Invk) : DOut :=
  let v : Invk := { v0 with inProgress := opts.optFlag OptProgress }
  dispatchL env { s with d := s.d.setInv v } caller req v.callee iid.req v (routerTimeoutF env v.fwdTimeout v.callee v.options)
    (.invocation iid.req v.regId [(OptProgress, .bool (opts.optFlag OptProgress))] args kw)

/-- the caller uses progressive call invocations without having announced them: ABORT, session aborted -/
def progressAbort (s : DState) (caller : SessKey) : DOut :=
  { st := s, sends := [⟨caller, abortMsg "<text>"⟩], aborts := [caller] }

theorem syncCall_eq (env : DEnv) (s : DState) (caller : SessKey) (req : Nat) (opts : Dict) (proc : String)
    (args : List WVal) (kw : Dict) (rnd : Nat) :
    syncCall env s caller req opts proc args kw rnd =
      match s.d.byCall? ⟨caller, req⟩ with
      | some iid =>
        match s.d.findInv iid with
        | none => { st := s, panic := some "syncCall: invocationByCall entry without invocation (nil dereference)" }
        | some v0 =>
          if opts.optFlag OptProgress && !hasFeat env caller RoleCaller FeatureProgCallInvocations then
            progressAbort s caller
          else laterChunk env s caller req opts args kw iid v0
      | none =>
        match s.d.matchProcedure proc with
        | none => { st := s, sends := [⟨caller, errMsg tCALL req ErrNoSuchProcedure⟩] }
        | some reg =>
          if reg.callees.isEmpty then { st := s, sends := [⟨caller, errMsg tCALL req ErrNoSuchProcedure⟩] }
          else if opts.optFlag OptProgress && !hasFeat env caller RoleCaller FeatureProgCallInvocations then
            progressAbort s caller
          else
            match pickCallee reg rnd with
            | none => { st := s, panic := some "syncCall: multiple callees registered with single policy" }
            | some (callee, reg') => firstChunk env s reg caller req opts proc args kw callee reg' := by
  unfold syncCall
  dsimp only
  cases s.d.byCall? ⟨caller, req⟩ with
  | some iid =>
    simp only []
    cases s.d.findInv iid with
    | none => rfl
    | some v0 =>
      simp only []
      by_cases h2 : (opts.optFlag OptProgress && !hasFeat env caller RoleCaller FeatureProgCallInvocations) = true
      · rw [if_pos h2, if_pos h2]; rfl
      · rw [if_neg h2, if_neg h2]
        unfold laterChunk dispatchL
        simp only [armTimer_preCancel]
        rfl
  | none =>
    simp only []
    cases s.d.matchProcedure proc with
    | none => rfl
    | some reg =>
      simp only []
      by_cases h1 : reg.callees.isEmpty = true
      · rw [if_pos h1, if_pos h1]
      · rw [if_neg h1, if_neg h1]
        by_cases h2 : (opts.optFlag OptProgress && !hasFeat env caller RoleCaller FeatureProgCallInvocations) = true
        · rw [if_pos h2, if_pos h2]; rfl
        · rw [if_neg h2, if_neg h2]
          cases pickCallee reg rnd with
          | none => rfl
          | some p =>
            obtain ⟨callee, reg'⟩ := p
            rfl

def callErr (c : ReqId) (details : Dict) (err : String) (args : List WVal) (kw : Dict) : Send :=
  ⟨c.sess, .error tCALL c.req details err args kw⟩

/-- the ERROR a caller gets when payload passthru is used without having been announced -/
def pptErr (c : ReqId) : Send := callErr c [("error", .str "<text>")] ErrFeatureNotSupported [] []

def cancelMark (s : DState) (v : Invk) : DState :=
  ({ s with d := s.d.setInv { v with canceled := true } } : DState).cancelTimer v.timer

@[simp] theorem cancelMark_calls (s : DState) (v : Invk) : (cancelMark s v).d.calls = s.d.calls := by
  simp [cancelMark]

@[simp] theorem cancelMark_byCall (s : DState) (v : Invk) : (cancelMark s v).d.byCall = s.d.byCall := by
  simp [cancelMark]

@[simp] theorem cancelMark_regs (s : DState) (v : Invk) : (cancelMark s v).d.regs = s.d.regs := by
  simp [cancelMark]

@[simp] theorem cancelMark_invs (s : DState) (v : Invk) :
    (cancelMark s v).d.invs = (s.d.setInv { v with canceled := true }).invs := by
  simp [cancelMark]

/-- can (and does) the dealer interrupt the callee: mode ≠ skip, callee announced `call_canceling`,
    callee's queue has room -/
def canInterrupt (env : DEnv) (v : Invk) (mode : String) : Bool :=
  (mode != CancelModeSkip && hasFeat env v.callee RoleCallee FeatureCallCanceling) && !env.full v.callee

def interruptOf (v : Invk) (i : ReqId) (mode reason : String) : Send :=
  ⟨v.callee, .interrupt i.req [(OptReason, .str reason), (OptMode, .str mode)]⟩

/-- what `syncCancel` does to a pending call that has not been cancelled before -/
def cancelOut (env : DEnv) (s : DState) (caller : SessKey) (req : Nat) (mode reason : String)
    (errArgs : List WVal) (iid : ReqId) (invk : Invk) : DOut :=
  let callId : ReqId := ⟨caller, req⟩
  let s := { s with d := s.d.setInv { invk with canceled := true } }
  let s := s.cancelTimer invk.timer
  let canInterrupt := mode != CancelModeSkip && hasFeat env invk.callee RoleCallee FeatureCallCanceling
  let sent := canInterrupt && !env.full invk.callee
  let intr : List Send :=
    if sent then [⟨invk.callee, .interrupt iid.req [(OptReason, .str reason), (OptMode, .str mode)]⟩] else []
  if sent && mode == CancelModeKill then
    { st := s, sends := intr }
  else
    { st := { s with d := s.d.forget callId iid }
      sends := intr ++ [⟨caller, .error tCALL req [] reason errArgs []⟩] }

/-- the callee is interrupted if it can be; unless it was, in kill mode, the call ends with ERROR `reason` -/
theorem cancelOut_eq (env : DEnv) (s : DState) (caller : SessKey) (req : Nat) (mode reason : String)
    (errArgs : List WVal) (i : ReqId) (v : Invk) :
    cancelOut env s caller req mode reason errArgs i v =
      if canInterrupt env v mode then
        if mode = CancelModeKill then { st := cancelMark s v, sends := [interruptOf v i mode reason] }
        else { st := { cancelMark s v with d := (cancelMark s v).d.forget ⟨caller, req⟩ i }
               sends := [interruptOf v i mode reason, callErr ⟨caller, req⟩ [] reason errArgs []] }
      else { st := { cancelMark s v with d := (cancelMark s v).d.forget ⟨caller, req⟩ i }
             sends := [callErr ⟨caller, req⟩ [] reason errArgs []] } := by
  unfold cancelOut canInterrupt
  simp only
  generalize ((mode != CancelModeSkip && hasFeat env v.callee RoleCallee FeatureCallCanceling) && !env.full v.callee) = b
  cases b
  · simp [cancelMark, callErr]
  · by_cases h2 : mode = CancelModeKill
    · simp [h2, cancelMark, interruptOf]
    · simp [h2, cancelMark, interruptOf, callErr]

/-- for a proof about every outcome of a live CANCEL (`cancelOut_eq` says which is taken): the invocation is marked
    and the callee interrupted, or the call ends with the ERROR to the caller, after the INTERRUPT if one is sent -/
theorem cancelOut_cases {P : DOut → Prop} {env : DEnv} {s : DState} {caller : SessKey} {req : Nat} {mode reason : String}
    {errArgs : List WVal} {i : ReqId} {v : Invk}
    (hMark : P { st := cancelMark s v, sends := [interruptOf v i mode reason] })
    (hEnd : ∀ intr, intr = [] ∨ intr = [interruptOf v i mode reason] →
      P { st := { cancelMark s v with d := (cancelMark s v).d.forget ⟨caller, req⟩ i }
          sends := intr ++ [callErr ⟨caller, req⟩ [] reason errArgs []] }) :
    P (cancelOut env s caller req mode reason errArgs i v) := by
  rw [cancelOut_eq]
  split
  · split
    · exact hMark
    · exact hEnd _ (.inr rfl)
  · exact hEnd _ (.inl rfl)

theorem syncCancel_not_pending {env : DEnv} {s : DState} {caller : SessKey} {req : Nat} (mode reason : String)
    (errArgs : List WVal) (hc : (⟨caller, req⟩ : ReqId) ∉ s.d.calls) :
    syncCancel env s caller req mode reason errArgs = { st := s } := by
  unfold syncCancel
  have : (!s.d.calls.contains (⟨caller, req⟩ : ReqId)) = true := by simpa using hc
  simp only []
  rw [if_pos this]

theorem syncCancel_pending {env : DEnv} {s : DState} {caller : SessKey} {req : Nat} (mode reason : String)
    (errArgs : List WVal) {i : ReqId} {v : Invk} (hc : (⟨caller, req⟩ : ReqId) ∈ s.d.calls)
    (hb : s.d.byCall? ⟨caller, req⟩ = some i) (hf : s.d.findInv i = some v) :
    syncCancel env s caller req mode reason errArgs =
      if v.canceled then { st := s } else cancelOut env s caller req mode reason errArgs i v := by
  unfold syncCancel
  have : ¬ (!s.d.calls.contains (⟨caller, req⟩ : ReqId)) = true := by simpa using hc
  simp only []
  rw [if_neg this]
  simp only [hb, hf]
  rfl

theorem syncRegister_cases {P : DOut → Prop} (s : DState) (callee : SessKey) (req : Nat) (proc «match» invoke : String)
    (disclose fwd wampURI : Bool)
    (hNew : s.d.findProc proc (matchKind «match») = none →
      P { st := { s with d := { s.d with
                    regs := s.d.regs ++ [{ id := s.d.nextReg + 1, proc := proc, «match» := «match», policy := invoke,
                                           disclose := disclose, fwdTimeout := fwd, callees := [callee] }]
                    nextReg := s.d.nextReg + 1
                    index := idxAdd s.d.index callee (s.d.nextReg + 1) } }
          sends := [⟨callee, .registered req (s.d.nextReg + 1)⟩]
          metaPubs := if wampURI then [] else
            [ { topic := MetaEventRegOnCreate,
                args := [sidVal callee, regDetailsDict (s.d.nextReg + 1) proc «match» invoke] },
              { topic := MetaEventRegOnRegister, args := [sidVal callee, .int (s.d.nextReg + 1)] } ] })
    (hRefuse : ∀ reg, s.d.findProc proc (matchKind «match») = some reg →
      (reg.policy = "" ∨ reg.policy = InvokeSingle) ∨ reg.policy ≠ invoke ∨ callee ∈ reg.callees →
      P { st := s, sends := [⟨callee, errMsg tREGISTER req ErrProcedureAlreadyExists⟩] })
    (hJoin : ∀ reg, s.d.findProc proc (matchKind «match») = some reg →
      ¬ (reg.policy = "" ∨ reg.policy = InvokeSingle) → reg.policy = invoke → callee ∉ reg.callees →
      P { st := { s with d := { s.d.setReg { reg with callees := reg.callees ++ [callee] } with
                                index := idxAdd s.d.index callee reg.id } }
          sends := [⟨callee, .registered req reg.id⟩]
          metaPubs := if wampURI then [] else
            [ { topic := MetaEventRegOnRegister, args := [sidVal callee, .int reg.id] } ] }) :
    P (syncRegister s callee req proc «match» invoke disclose fwd wampURI) := by
  unfold syncRegister
  dsimp only
  split
  · exact hNew ‹_›
  · rename_i reg hf
    split
    · rename_i h; exact hRefuse reg hf (.inl (by simpa using h))
    · split
      · rename_i h; exact hRefuse reg hf (.inr (.inl (by simpa using h)))
      · split
        · rename_i h; exact hRefuse reg hf (.inr (.inr (by simpa using h)))
        · rename_i h1 h2 h3
          exact hJoin reg hf (by simpa using h1) (by simpa using h2) (by simpa using h3)

/-- `syncDelCalleeReg` for a callee of the registration: the registration goes with its last callee -/
theorem delCalleeReg_eq {d : Dealer} {k : SessKey} {id : Nat} {reg : Reg}
    (hf : d.findReg id = some reg) (hk : k ∈ reg.callees) :
    d.delCalleeReg k id =
      some (if reg.callees = [k] then d.delReg id
            else d.setReg { reg with callees := eraseFirst k reg.callees }, decide (reg.callees = [k])) := by
  unfold Dealer.delCalleeReg
  rw [hf]
  simp only [List.contains_eq_mem, hk, decide_true, Bool.not_true, Bool.false_eq_true, if_false]
  by_cases hl : reg.callees = [k]
  · rw [if_pos ((eraseFirst_isEmpty_iff k _ hk).mpr hl), if_pos hl]; simp [hl]
  · rw [if_neg (fun h => hl ((eraseFirst_isEmpty_iff k _ hk).mp h)), if_neg hl]; simp [hl]

/-- … and it succeeds for a callee of the registration only -/
theorem delCalleeReg_of_some {d d' : Dealer} {k : SessKey} {id : Nat} {del : Bool}
    (h : d.delCalleeReg k id = some (d', del)) :
    ∃ reg, d.findReg id = some reg ∧ k ∈ reg.callees ∧
      d' = (if reg.callees = [k] then d.delReg id else d.setReg { reg with callees := eraseFirst k reg.callees }) ∧
      del = decide (reg.callees = [k]) := by
  cases hf : d.findReg id with
  | none => simp [Dealer.delCalleeReg, hf] at h
  | some reg =>
    by_cases hk : k ∈ reg.callees
    · rw [delCalleeReg_eq hf hk] at h
      obtain ⟨rfl, rfl⟩ := Prod.mk.inj (Option.some.inj h)
      exact ⟨reg, rfl, hk, rfl, rfl⟩
    · simp [Dealer.delCalleeReg, hf, hk] at h

theorem delCalleeReg_frame {d d' : Dealer} {k : SessKey} {id : Nat} {del : Bool}
    (h : d.delCalleeReg k id = some (d', del)) : d' = { d with regs := d'.regs } := by
  obtain ⟨reg, _, _, rfl, _⟩ := delCalleeReg_of_some h
  split <;> rfl

/-- The loop over the departing session's registrations, for a relation between dealer records that every
    `delCalleeReg` on behalf of that session respects: it holds from the record the loop starts with to the one it
    ends with (also when it stops at an id it does not find). -/
theorem removeRegs_rel {R : Dealer → Dealer → Prop} (k : SessKey) (refl : ∀ d, R d d)
    (trans : ∀ {a b c}, R a b → R b c → R a c)
    (step : ∀ {d d' : Dealer} {id : Nat} {del : Bool}, d.delCalleeReg k id = some (d', del) → R d d') :
    ∀ (ids : List Nat) (d : Dealer), R d (removeRegs d k ids).1
  | [], d => refl d
  | id :: ids, d => by
    unfold removeRegs
    split
    · exact refl d
    · rename_i d1 _ he
      exact trans (step he) (removeRegs_rel k refl trans step ids d1)

theorem syncUnregister_cases {P : DOut → Prop} (s : DState) (callee : SessKey) (req regId : Nat)
    (hNone : Dealer.delCalleeReg { s.d with index := idxDel s.d.index callee regId } callee regId = none →
      P { st := { s with d := { s.d with index := idxDel s.d.index callee regId } }
          sends := [⟨callee, errMsg tUNREGISTER req ErrNoSuchRegistration⟩] })
    (hSome : ∀ d deleted,
      Dealer.delCalleeReg { s.d with index := idxDel s.d.index callee regId } callee regId = some (d, deleted) →
      P { st := { s with d := d }
          sends := [⟨callee, .unregistered req⟩]
          metaPubs := [ { topic := MetaEventRegOnUnregister, args := [sidVal callee, .int regId] } ] ++
            (if deleted then [ { topic := MetaEventRegOnDelete, args := [sidVal callee, .int regId] } ] else []) }) :
    P (syncUnregister s callee req regId) := by
  unfold syncUnregister
  dsimp only
  split
  · exact hNone ‹_›
  · exact hSome _ _ ‹_›

theorem delCall_eq_self {d : Dealer} {c : ReqId} (hc : c ∉ d.calls) : d.delCall c = d := by
  have : d.calls.filter (· != c) = d.calls :=
    List.filter_eq_self.2 fun a ha => by simpa using fun h : a = c => hc (h ▸ ha)
  unfold Dealer.delCall
  rw [this]

/-- an INVOCATION ERROR for a stored invocation ends its call; the caller, if the call is still there, gets the ERROR -/
theorem syncError_cases {P : DOut → Prop} (s : DState) (callee : SessKey) (req : Nat) (details : Dict) (err : String)
    (args : List WVal) (kw : Dict)
    (hNone : s.d.findInv ⟨callee, req⟩ = none → P { st := s })
    (hSome : ∀ v, s.d.findInv ⟨callee, req⟩ = some v →
      P { st := { s.cancelTimer v.timer with d := s.d.forget v.callId ⟨callee, req⟩ }
          sends := if v.callId ∈ s.d.calls then [callErr v.callId details err args kw] else [] }) :
    P (syncError s callee req details err args kw) := by
  unfold syncError
  dsimp only
  split
  · exact hNone ‹_›
  · rename_i v hf
    have h := hSome v hf
    rw [cancelTimer_d]
    by_cases hc : v.callId ∈ s.d.calls
    · rw [if_pos hc] at h
      rw [if_pos (by exact contains_calls.2 hc)]
      exact h
    · rw [if_neg hc, ← delInv_delByCall_delCall, delCall_eq_self (by exact hc)] at h
      rw [if_neg (by exact mt contains_calls.1 hc)]
      exact h

theorem syncCancel_cases {P : DOut → Prop} (env : DEnv) (s : DState) (caller : SessKey) (req : Nat)
    (mode reason : String) (errArgs : List WVal)
    (hNoop : P { st := s })
    (hLive : ∀ i v, (⟨caller, req⟩ : ReqId) ∈ s.d.calls → s.d.byCall? ⟨caller, req⟩ = some i → s.d.findInv i = some v →
      v.canceled = false → P (cancelOut env s caller req mode reason errArgs i v)) :
    P (syncCancel env s caller req mode reason errArgs) := by
  by_cases hc : (⟨caller, req⟩ : ReqId) ∈ s.d.calls
  case neg => rw [syncCancel_not_pending _ _ _ hc]; exact hNoop
  cases hb : s.d.byCall? ⟨caller, req⟩ with
  | none => unfold syncCancel; simpa [hc, hb] using hNoop
  | some i =>
    cases hf : s.d.findInv i with
    | none => unfold syncCancel; simpa [hc, hb, hf] using hNoop
    | some v =>
      rw [syncCancel_pending mode reason errArgs hc hb hf]
      cases hcan : v.canceled
      · exact hLive i v hc hb hf hcan
      · exact hNoop

end Nexus.L2
