/-
  The router→client queues of the realm model (`Realm.trySend`, `Realm.deliver`): what a send does
  to one session's queue, that a send hitting a full queue changes nothing, and the queue
  invariant `QueueInv` (C07: "at most its configured outbound queue buffered; the rest is lost"),
  preserved by every function of `Nexus.L2.Realm`.

  Explicit assumption for `join` (`JoinClean`): a joining key that names no attached client names no leftover
  queue either; session keys are model-internal names which the harness never reuses.
-/
import Nexus.L2.Proofs.RealmFrame
import Nexus.L2.Proofs.DealerList
import Nexus.L2.Proofs.DealerRealm

namespace Nexus.L2
namespace Realm

/-- the messages buffered for session `k`, oldest first -/
def queueOf (r : Realm) (k : SessKey) : List Msg :=
  match r.queues.find? (fun q => q.1 == k) with
  | some q => q.2
  | none => []

/-- A bounded queue of capacity `cap` holding `q` is offered the messages `ms` in order: each is
    appended if there is room at that moment, and lost otherwise. -/
def accept (cap : Nat) : List Msg → List Msg → List Msg
  | q, [] => q
  | q, m :: ms => accept cap (if q.length < cap then q ++ [m] else q) ms

def msgsTo (k : SessKey) (l : List Send) : List Msg := (l.filter (fun x => x.to == k)).map (·.msg)

def client? (r : Realm) (k : SessKey) : Option Session := r.clients.find? (fun c => c.key == k)

def JoinFresh (r : Realm) (k : SessKey) : Prop :=
  (∀ c ∈ r.clients, c.key ≠ k) ∧ (∀ q ∈ r.queues, q.1 ≠ k)

/-- `JoinFresh` without what the model does not need (`join` under the key of an attached client is a
    no-op).  A leftover queue is that of a departed session whose closure its client has not observed yet: the
    model names queues by session key, the router would give the new session a queue of its own. -/
def JoinClean (r : Realm) (k : SessKey) : Prop :=
  (∀ c ∈ r.clients, c.key ≠ k) → ∀ q ∈ r.queues, q.1 ≠ k

theorem JoinFresh.clean {r : Realm} {k : SessKey} (h : JoinFresh r k) : JoinClean r k := fun _ => h.2

/-- Every queue belongs to an attached client, or to a peer closed in this step / a departed session whose
    closure has not been observed yet (ghost) — both are in `closedPeers` until `flush` lets the client see the
    closure. -/
def QueueInv (r : Realm) : Prop :=
  (∀ q ∈ r.queues, (∃ c ∈ r.clients, c.key = q.1) ∨ q.1 ∈ r.closedPeers) ∧
  (∀ c ∈ r.clients, r.queueLen c.key ≤ c.cap) ∧
  (r.clients.map (·.key)).Nodup ∧
  (∀ k ∈ r.ghosts, k ∈ r.closedPeers)

/-- the queue-table update of a successful `trySend` -/
def enq (qs : List (SessKey × List Msg)) (k : SessKey) (m : Msg) : List (SessKey × List Msg) :=
  if qs.any (fun q => q.1 == k) then qs.map (fun q => if q.1 == k then (q.1, q.2 ++ [m]) else q)
  else qs ++ [(k, [m])]

def qlook (qs : List (SessKey × List Msg)) (k : SessKey) : List Msg :=
  match qs.find? (fun q => q.1 == k) with
  | some q => q.2
  | none => []

theorem queueOf_eq (r : Realm) (k : SessKey) : r.queueOf k = qlook r.queues k := rfl

theorem queueLen_eq (r : Realm) (k : SessKey) : r.queueLen k = (r.queueOf k).length := by
  unfold queueLen queueOf
  cases r.queues.find? (fun q => q.1 == k) <;> rfl

theorem queueOf_congr {r r' : Realm} (h : r'.queues = r.queues) (k : SessKey) : r'.queueOf k = r.queueOf k := by
  unfold queueOf; rw [h]

theorem queueLen_congr {r r' : Realm} (h : r'.queues = r.queues) (k : SessKey) : r'.queueLen k = r.queueLen k := by
  unfold queueLen; rw [h]

theorem qlook_nil (k : SessKey) : qlook [] k = [] := rfl

theorem qlook_cons (q : SessKey × List Msg) (qs) (k : SessKey) :
    qlook (q :: qs) k = if q.1 = k then q.2 else qlook qs k := by
  unfold qlook
  by_cases h : q.1 = k <;> simp [h]

theorem qlook_of_not_mem {qs : List (SessKey × List Msg)} {k : SessKey} (h : ∀ q ∈ qs, q.1 ≠ k) :
    qlook qs k = [] := by
  induction qs with
  | nil => rfl
  | cons q qs ih =>
    rw [qlook_cons, if_neg (h q (List.mem_cons_self ..))]
    exact ih (fun q' hq' => h q' (List.mem_cons_of_mem _ hq'))

theorem mem_of_qlook {qs : List (SessKey × List Msg)} {k : SessKey} (h : qlook qs k ≠ []) :
    (k, qlook qs k) ∈ qs := by
  unfold qlook at h ⊢
  cases hf : qs.find? (fun q => q.1 == k) with
  | none => rw [hf] at h; exact absurd rfl h
  | some q =>
    obtain ⟨h1, rfl⟩ := find?_key_some (f := fun q : SessKey × List Msg => q.1) hf
    exact h1

theorem qlook_enq (qs : List (SessKey × List Msg)) (k k' : SessKey) (m : Msg) :
    qlook (enq qs k m) k' = if k' = k then qlook qs k' ++ [m] else qlook qs k' :=
  queueOfList_enqueue qs k m k'

theorem mem_enq {qs : List (SessKey × List Msg)} {k : SessKey} {m : Msg} {q : SessKey × List Msg}
    (h : q ∈ enq qs k m) :
    (q ∈ qs ∧ q.1 ≠ k) ∨ (q.1 = k ∧ ((∃ q0 ∈ qs, q0.1 = k ∧ q.2 = q0.2 ++ [m]) ∨ q.2 = [m])) := by
  unfold enq at h
  split at h
  · obtain ⟨q0, hq0, rfl⟩ := List.mem_map.mp h
    by_cases e : q0.1 = k
    · have hb : (q0.1 == k) = true := by simpa using e
      simp only [hb, if_true]
      exact Or.inr ⟨e, Or.inl ⟨q0, hq0, e, rfl⟩⟩
    · have hb : (q0.1 == k) = false := by simpa using e
      simp only [hb, Bool.false_eq_true, if_false]
      exact Or.inl ⟨hq0, e⟩
  · rename_i hany
    rcases List.mem_append.mp h with h | h
    · refine Or.inl ⟨h, fun e => hany ?_⟩
      exact List.any_eq_true.mpr ⟨q, h, by simpa using e⟩
    · rw [List.mem_singleton.mp h]
      exact Or.inr ⟨rfl, Or.inr rfl⟩

/-- `r'` differs from `r` at most in `queues`, `tasks` and `panic`: what a send, a list of sends or `setPanic` leaves alone -/
structure SendFrame (r r' : Realm) : Prop where
  cfg : r'.cfg = r.cfg
  broker : r'.broker = r.broker
  ds : r'.ds = r.ds
  clients : r'.clients = r.clients
  ending : r'.ending = r.ending
  testaments : r'.testaments = r.testaments
  metaProcs : r'.metaProcs = r.metaProcs
  metaS : r'.metaS = r.metaS
  closedPeers : r'.closedPeers = r.closedPeers
  retries : r'.retries = r.retries
  deferred : r'.deferred = r.deferred
  inbox : r'.inbox = r.inbox
  ghosts : r'.ghosts = r.ghosts
  now : r'.now = r.now
  pubCount : r'.pubCount = r.pubCount
  rnd : r'.rnd = r.rnd

theorem SendFrame.refl (r : Realm) : SendFrame r r :=
  ⟨rfl, rfl, rfl, rfl, rfl, rfl, rfl, rfl, rfl, rfl, rfl, rfl, rfl, rfl, rfl, rfl⟩

theorem SendFrame.of_fields {r r' : Realm} {q : List (SessKey × List Msg)} {t : List Task} {p : Option String}
    (h : r' = { r with queues := q, tasks := t, panic := p }) : SendFrame r r' := by
  subst h; exact ⟨rfl, rfl, rfl, rfl, rfl, rfl, rfl, rfl, rfl, rfl, rfl, rfl, rfl, rfl, rfl, rfl⟩

theorem setPanic_frame (r : Realm) (p : Option String) : SendFrame r (r.setPanic p) := .of_fields (setPanic_fields r p)

theorem trySend_frame (r : Realm) (s : Send) : SendFrame r (r.trySend s) := .of_fields (trySend_fields r s)

theorem deliver_frame (ss : List Send) (r : Realm) : SendFrame r (r.deliver ss) := .of_fields (deliver_fields ss r)

theorem trySend_meta (r : Realm) (s : Send) (h : s.to = metaKey) :
    (r.trySend s).queues = r.queues ∧ SendFrame r (r.trySend s) ∧ (r.trySend s).panic = r.panic := by
  refine ⟨?_, trySend_frame r s, ?_⟩ <;> (unfold trySend; rw [if_pos h]; split <;> rfl)

/-- the model's panic "send to a closed peer", never reached from a state satisfying `RealmInv` -/
theorem trySend_noclient (r : Realm) (s : Send) (hne : s.to ≠ metaKey) (hc : r.client? s.to = none) :
    r.trySend s = r.setPanic (some s!"send to session {s.to} whose peer is closed") := by
  unfold trySend client? at *
  rw [if_neg hne, hc]

theorem trySend_client (r : Realm) (s : Send) {c : Session} (hne : s.to ≠ metaKey) (hc : r.client? s.to = some c) :
    r.trySend s = if r.queueLen s.to ≥ c.cap then r else { r with queues := enq r.queues s.to s.msg } :=
  trySend_client_enqueue hne hc s.msg

theorem trySend_full (r : Realm) (s : Send) {c : Session} (hne : s.to ≠ metaKey) (hc : r.client? s.to = some c)
    (hfull : c.cap ≤ r.queueLen s.to) : r.trySend s = r := by
  rw [trySend_client r s hne hc, if_pos hfull]

theorem trySend_room (r : Realm) (s : Send) {c : Session} (hne : s.to ≠ metaKey) (hc : r.client? s.to = some c)
    (hroom : r.queueLen s.to < c.cap) : r.trySend s = { r with queues := enq r.queues s.to s.msg } := by
  rw [trySend_client r s hne hc, if_neg (by omega)]

/-! The primitives do not read the retry table: a dealer action applied while a handler's entries are out of the table
    (`retryDue`) is the action applied with them in, and the entries taken out afterwards. -/

theorem setPanic_retries (r : Realm) (q : List Retry) (p : Option String) :
    ({ r with retries := q } : Realm).setPanic p = { r.setPanic p with retries := q } := by
  cases r
  rename_i pn
  cases pn <;> cases p <;> rfl

theorem trySend_retries (r : Realm) (q : List Retry) (s : Send) :
    ({ r with retries := q } : Realm).trySend s = { r.trySend s with retries := q } := by
  by_cases hm : s.to = metaKey
  · unfold trySend
    rw [if_pos hm, if_pos hm]
    split <;> rfl
  · cases hc : r.client? s.to with
    | none => rw [trySend_noclient r s hm hc, trySend_noclient { r with retries := q } s hm hc, setPanic_retries]
    | some c =>
      rw [trySend_client r s hm hc, trySend_client { r with retries := q } s hm hc]
      show (if r.queueLen s.to ≥ c.cap then _ else _) = _
      split <;> rfl

theorem deliver_retries (q : List Retry) : ∀ (ss : List Send) (r : Realm),
    ({ r with retries := q } : Realm).deliver ss = { r.deliver ss with retries := q }
  | [], _ => rfl
  | s :: ss, r => by rw [deliver_cons, deliver_cons, trySend_retries, deliver_retries q ss]

theorem applyD_retries (r : Realm) (q : List Retry) (o : DOut) :
    ({ r with retries := q } : Realm).applyD o = { r.applyD o with retries := q } := by
  rw [applyD_eq, applyD_eq]
  refine Eq.trans ?_ (setPanic_retries _ q o.panic)
  rw [show ({ r with retries := q, ds := o.st } : Realm) = { { r with ds := o.st } with retries := q } from rfl, deliver_retries]

/-- `trySend` appends the message: the recipient is an attached client with room in its queue -/
def _root_.Nexus.L2.WpE.accepts (r : Realm) (s : Send) : Bool :=
  s.to != metaKey &&
    (match r.client? s.to with
     | some c => decide (r.queueLen s.to < c.cap)
     | none => false)

/-- When `trySend` enqueues, as one equation on the queue table (the whole realm, case by case: `trySend_meta`,
    `trySend_noclient`, `trySend_client`).  Read off it: `queueOf_trySend` (one queue), from that
    `trySend_client_effect` (a client with room, with the frame); `trySend_qcongr` (LeaveEq);
    `queueOf_trySend_accepts` (TraceQueue). -/
theorem trySend_queues_eq (r : Realm) (s : Send) :
    (r.trySend s).queues = if WpE.accepts r s then enq r.queues s.to s.msg else r.queues := by
  unfold WpE.accepts
  by_cases hm : s.to = metaKey
  · rw [(trySend_meta r s hm).1]
    simp [hm]
  · have hne : (s.to != metaKey) = true := by simpa using hm
    cases hc : r.client? s.to with
    | none =>
      rw [trySend_noclient r s hm hc, setPanic_queues]
      simp
    | some c =>
      rw [trySend_client r s hm hc]
      simp only [hne, Bool.true_and]
      by_cases hfull : r.queueLen s.to ≥ c.cap
      · rw [if_pos hfull, if_neg]
        simp; omega
      · rw [if_neg hfull, if_pos]
        simp; omega

theorem _root_.Nexus.L2.WpE.accepts_iff (r : Realm) (s : Send) :
    WpE.accepts r s = true ↔ s.to ≠ metaKey ∧ ∃ c, r.client? s.to = some c ∧ (r.queueOf s.to).length < c.cap := by
  unfold WpE.accepts
  rw [queueLen_eq]
  cases r.client? s.to <;> simp

theorem queueOf_trySend (r : Realm) (s : Send) (k : SessKey) :
    (r.trySend s).queueOf k =
      if s.to = k ∧ s.to ≠ metaKey ∧ (∃ c, r.client? s.to = some c ∧ (r.queueOf k).length < c.cap)
      then r.queueOf k ++ [s.msg] else r.queueOf k := by
  rw [queueOf_eq, trySend_queues_eq, apply_ite (qlook · k), qlook_enq]
  by_cases hk : s.to = k
  · subst hk
    simp only [↓reduceIte, true_and, ← WpE.accepts_iff]; rfl
  · rw [if_neg (Ne.symm hk), ite_self, if_neg fun h => hk h.1]; rfl

theorem queueOf_trySend_ne (r : Realm) {x : Send} {k : SessKey} (h : k ≠ x.to) : (r.trySend x).queueOf k = r.queueOf k := by
  rw [queueOf_trySend, if_neg fun e => h e.1.symm]

theorem trySend_client_effect (r : Realm) (s : Send) {c : Session} (hne : s.to ≠ metaKey)
    (hc : r.client? s.to = some c) :
    (c.cap ≤ r.queueLen s.to → r.trySend s = r) ∧
    (r.queueLen s.to < c.cap →
      (r.trySend s).queueOf s.to = r.queueOf s.to ++ [s.msg] ∧
      (∀ k, k ≠ s.to → (r.trySend s).queueOf k = r.queueOf k) ∧
      SendFrame r (r.trySend s) ∧ (r.trySend s).tasks = r.tasks ∧ (r.trySend s).panic = r.panic) := by
  refine ⟨trySend_full r s hne hc, ?_⟩
  intro hroom
  refine ⟨?_, ?_, trySend_frame r s, ?_, ?_⟩
  · rw [queueOf_trySend, if_pos]
    exact ⟨rfl, hne, c, hc, by rw [← queueLen_eq]; exact hroom⟩
  · exact fun k hk => queueOf_trySend_ne r hk
  · rw [trySend_room r s hne hc hroom]
  · rw [trySend_room r s hne hc hroom]

theorem leaveSend_frame (r : Realm) (k : SessKey) (mode : LeaveMode) : SendFrame r (leaveSend r k mode) :=
  leaveSend_cases r k mode (.refl r) fun _ => trySend_frame r _

theorem client?_of_frame {r r' : Realm} (h : SendFrame r r') (k : SessKey) : r'.client? k = r.client? k := by
  unfold client?; rw [h.clients]

theorem accept_nil (cap : Nat) (q : List Msg) : accept cap q [] = q := rfl
theorem accept_cons (cap : Nat) (q : List Msg) (m : Msg) (ms : List Msg) :
    accept cap q (m :: ms) = accept cap (if q.length < cap then q ++ [m] else q) ms := rfl

theorem accept_append (cap : Nat) (a b : List Msg) : ∀ q, accept cap q (a ++ b) = accept cap (accept cap q a) b := by
  induction a with
  | nil => intro q; rfl
  | cons m a ih => intro q; simp only [List.cons_append, accept_cons, ih]

theorem msgsTo_nil (k : SessKey) : msgsTo k [] = [] := rfl
theorem msgsTo_cons (k : SessKey) (s : Send) (ss : List Send) :
    msgsTo k (s :: ss) = if s.to = k then s.msg :: msgsTo k ss else msgsTo k ss := by
  unfold msgsTo
  by_cases h : s.to = k <;> simp [h]

theorem msgsTo_append (k : SessKey) (a b : List Send) : msgsTo k (a ++ b) = msgsTo k a ++ msgsTo k b := by
  unfold msgsTo; simp [List.filter_append]

theorem queueOf_deliver_client (ss : List Send) : ∀ (r : Realm) (k : SessKey) (c : Session), k ≠ metaKey →
    r.client? k = some c → (r.deliver ss).queueOf k = accept c.cap (r.queueOf k) (msgsTo k ss) := by
  induction ss with
  | nil => intro r k c _ _; rfl
  | cons s ss ih =>
    intro r k c hk hc
    rw [deliver_cons, ih (r.trySend s) k c hk (by rw [client?_of_frame (trySend_frame r s)]; exact hc),
      queueOf_trySend, msgsTo_cons]
    by_cases hto : s.to = k
    · subst hto
      rw [if_pos rfl, accept_cons]
      congr 1
      by_cases hl : (r.queueOf s.to).length < c.cap
      · rw [if_pos hl, if_pos ⟨rfl, hk, c, hc, hl⟩]
      · rw [if_neg hl, if_neg]
        rintro ⟨_, _, c', hc', hl'⟩
        rw [hc] at hc'
        simp only [Option.some.injEq] at hc'
        subst hc'
        exact hl hl'
    · rw [if_neg hto, if_neg (fun h => hto h.1)]

theorem queueOf_deliver_other (ss : List Send) : ∀ (r : Realm) (k : SessKey),
    (k = metaKey ∨ r.client? k = none) → (r.deliver ss).queueOf k = r.queueOf k := by
  induction ss with
  | nil => intro r k _; rfl
  | cons s ss ih =>
    intro r k hk
    rw [deliver_cons, ih (r.trySend s) k (by rw [client?_of_frame (trySend_frame r s)]; exact hk), queueOf_trySend,
      if_neg]
    rintro ⟨rfl, hne, c, hc, _⟩
    rcases hk with hk | hk
    · exact hne hk
    · rw [hk] at hc; cases hc

theorem deliver_drop (r : Realm) (pre post : List Send) (s : Send) {c : Session} (hne : s.to ≠ metaKey)
    (hc : r.client? s.to = some c) (hfull : c.cap ≤ (r.deliver pre).queueLen s.to) :
    r.deliver (pre ++ s :: post) = r.deliver (pre ++ post) := by
  rw [deliver_append, deliver_cons, deliver_append,
    trySend_full (r.deliver pre) s hne (by rw [client?_of_frame (deliver_frame pre r)]; exact hc) hfull]

theorem client?_of_mem {r : Realm} (hn : (r.clients.map (·.key)).Nodup) {c : Session} (hc : c ∈ r.clients) :
    r.client? c.key = some c :=
  (find?_key_eq_some hn).2 ⟨hc, rfl⟩

theorem qinv_setPanic {r : Realm} (h : QueueInv r) (p : Option String) : QueueInv (r.setPanic p) := by
  unfold setPanic
  split <;> exact h

theorem qinv_congr {r r' : Realm} (hc : r'.clients = r.clients) (hq : r'.queues = r.queues)
    (hp : r'.closedPeers = r.closedPeers) (hg : r'.ghosts = r.ghosts) (h : QueueInv r) : QueueInv r' := by
  unfold QueueInv queueLen at *
  rw [hc, hq, hp, hg]
  exact h

theorem qinv_trySend {r : Realm} (h : QueueInv r) (s : Send) : QueueInv (r.trySend s) := by
  -- a queue grows only where `trySend` found room
  have hlen : ∀ c' ∈ r.clients, (r.trySend s).queueLen c'.key ≤ c'.cap := by
    intro c' hc'
    have hb := h.2.1 c' hc'
    rw [queueLen_eq] at hb ⊢
    rw [queueOf_trySend]
    split
    · rename_i hp
      obtain ⟨e, _, c, hc, hl⟩ := hp
      have hcc := e ▸ client?_of_mem h.2.2.1 hc'
      rw [hc] at hcc
      cases hcc
      rw [List.length_append]
      exact hl
    · exact hb
  by_cases hm : s.to = metaKey
  · obtain ⟨hq, hf, _⟩ := trySend_meta r s hm
    exact qinv_congr hf.clients hq hf.closedPeers hf.ghosts h
  · cases hc : r.client? s.to with
    | none => rw [trySend_noclient r s hm hc]; exact qinv_setPanic h _
    | some c =>
      rw [trySend_client r s hm hc] at hlen ⊢
      split
      · exact h
      · rename_i hroom
        rw [if_neg hroom] at hlen
        obtain ⟨hcm, hck⟩ := find?_key hc
        refine ⟨fun q hq => ?_, hlen, h.2.2.1, h.2.2.2⟩
        rcases mem_enq hq with ⟨hq0, _⟩ | ⟨e, _⟩
        · exact h.1 q hq0
        · exact Or.inl ⟨c, hcm, hck.trans e.symm⟩

theorem QueueInv.handled {r r' : Realm} (h : QueueInv r) (hh : Handled r r') : QueueInv r' := by
  induction hh with
  | refl => exact h
  | send s _ ih => exact qinv_trySend ih s
  | frame _ e1 e2 e3 e4 ih => exact qinv_congr e1 e2 e3 e4 ih

/-- covers `stall`, `resume`, `buffer` and `modify_details` -/
theorem QueueInv.update_clients {r r' : Realm} (h : QueueInv r) (k : SessKey) (g : Session → Session)
    (hk : ∀ c, (g c).key = c.key) (hcap : ∀ c, (g c).cap = c.cap)
    (hg : ∀ k ∈ r'.ghosts, k ∈ r.ghosts := by exact fun _ h => h)
    (hc : r'.clients = r.clients.map fun c => if c.key == k then g c else c := by rfl)
    (hq : r'.queues = r.queues := by rfl) (hp : r'.closedPeers = r.closedPeers := by rfl) : QueueInv r' := by
  obtain ⟨h1, h2, h3, h4⟩ := h
  have hk' : ∀ c : Session, (if c.key == k then g c else c).key = c.key := fun c => by
    rw [apply_ite Session.key, hk, ite_self]
  have hcap' : ∀ c : Session, (if c.key == k then g c else c).cap = c.cap := fun c => by
    rw [apply_ite Session.cap, hcap, ite_self]
  unfold QueueInv queueLen
  rw [hc, hq, hp]
  refine ⟨fun q hq' => ?_, fun c' hc' => ?_, (map_update_keys k g hk _).symm ▸ h3, fun k hkk => h4 k (hg k hkk)⟩
  · rcases h1 q hq' with ⟨c, hcm, e⟩ | hcl
    · exact Or.inl ⟨_, List.mem_map_of_mem hcm, (hk' c).trans e⟩
    · exact Or.inr hcl
  · obtain ⟨c, hcm, rfl⟩ := List.mem_map.mp hc'
    rw [hk', hcap']
    exact h2 c hcm

/-- closing the session: its queue stays (the client may still read it), justified from here on by
    `closedPeers`; the other clients keep their bounds -/
theorem qinv_leaveClose {r : Realm} (h : QueueInv r) (s : Session) : QueueInv (leaveClose r s) := by
  obtain ⟨h1, h2, h3, h4⟩ := h
  unfold leaveClose
  refine ⟨?_, ?_, ?_, ?_⟩
  · intro q hq
    rcases h1 q hq with ⟨c, hc, e⟩ | hcl
    · by_cases hk : c.key = s.key
      · exact Or.inr (List.mem_append_right _ (List.mem_singleton.mpr (e.symm.trans hk)))
      · exact Or.inl ⟨c, List.mem_filter.mpr ⟨hc, by simpa using hk⟩, e⟩
    · exact Or.inr (List.mem_append_left _ hcl)
  · intro c hc
    exact h2 c (List.mem_filter.mp hc).1
  · exact (List.filter_sublist.map _).nodup h3
  · intro k hk
    dsimp only at hk
    split at hk
    · rcases List.mem_append.mp hk with hk | hk
      · exact List.mem_append_left _ (h4 k hk)
      · exact List.mem_append_right _ hk
    · exact List.mem_append_left _ (h4 k hk)

theorem qinv_leave {r : Realm} (h : QueueInv r) (k : SessKey) (mode : LeaveMode) : QueueInv (r.leave k mode) := by
  refine leave_cases r k mode (fun _ => h) fun s hf => ?_
  obtain ⟨r', hh, e⟩ := leave_handled mode hf
  rw [e]
  exact qinv_leaveClose (h.handled hh) s

theorem qinv_metaEffect {r : Realm} {proc : String} {req : Nat} {o : Msg × Realm} (h : QueueInv r)
    (e : MetaStep r proc req o) : QueueInv o.2 := by
  cases e with
  | err | same | kill | testaments => exact h
  | modify _ k d =>
    exact h.update_clients k ({ · with details := d }) (fun _ => rfl) (fun _ => rfl)

theorem qinv_runTask {r : Realm} (h : QueueInv r) (t : Task) : QueueInv (r.runTask t) :=
  runTask_cases r t (fun k m _ => h.handled (.recvMsg r k m)) (fun _ _ => h.handled (.of_handles (handlePublish_handles ..)))
    (fun _ _ => h.handled (.of_handles (handleMsg_handles ..))) 
    (fun req reg d a kw _ => metaInvoke_cases r req reg d a kw h fun _ _ e => (qinv_metaEffect h e).handled (.frame (.refl _)))
    (fun _ _ _ _ => h) fun k mode _ _ => qinv_leave h k mode

theorem qinv_stepOp {r : Realm} (h : QueueInv r) (op : Op)
    (hj : ∀ k l d ro c, op = .join k l d ro c → JoinClean r k) : QueueInv (r.stepOp op) := by
  refine stepOp_cases r op h (fun k isLocal details roles cap e _ hfc => ?_) (fun k m _ => h.handled (.recvMsg r k m))
    (fun k g _ hg hs => h.update_clients k g hg.key hg.cap (fun _ hk => hs.subset hk)) (fun _ _ _ => h) (fun _ => h)
  have hfq := hj k isLocal details roles cap e hfc
  unfold Realm.addTasks
  obtain ⟨h1, h2, h3, h4⟩ := h
  refine ⟨?_, ?_, ?_, h4⟩
  · intro q hq
    rcases List.mem_append.mp hq with hq | hq
    · rcases h1 q hq with ⟨c, hc, e⟩ | hcl
      · exact Or.inl ⟨c, List.mem_append_left _ hc, e⟩
      · exact Or.inr hcl
    · rw [List.mem_singleton.mp hq]
      exact Or.inl ⟨_, List.mem_append_right _ (List.mem_singleton.mpr rfl), rfl⟩
  · intro c hc
    rw [queueLen_eq]
    show (qlook (r.queues ++ [(k, [])]) c.key).length ≤ c.cap
    have hql : ∀ k', qlook (r.queues ++ [(k, ([] : List Msg))]) k' = qlook r.queues k' := by
      intro k'
      induction r.queues with
      | nil =>
        simp only [List.nil_append, qlook_cons, qlook_nil]
        split <;> rfl
      | cons q qs ih => simp only [List.cons_append, qlook_cons, ih]
    rw [hql]
    rcases List.mem_append.mp hc with hc | hc
    · have := h2 c hc
      rw [queueLen_eq, queueOf_eq] at this
      exact this
    · rw [List.mem_singleton.mp hc]
      rw [qlook_of_not_mem hfq]
      exact Nat.zero_le _
  · rw [List.map_append, List.nodup_append]
    refine ⟨h3, by simp, ?_⟩
    intro a ha b hb
    simp at hb; subst hb
    obtain ⟨c, hc, rfl⟩ := List.mem_map.mp ha
    exact hfc c hc

theorem qlook_append (a b : List (SessKey × List Msg)) (k : SessKey) :
    qlook (a ++ b) k = if a.any (fun q => q.1 == k) then qlook a k else qlook b k := by
  induction a with
  | nil => simp
  | cons q a ih =>
    simp only [List.cons_append, qlook_cons, List.any_cons]
    by_cases h : q.1 = k
    · simp [h]
    · have hb : (q.1 == k) = false := by simpa using h
      rw [if_neg h, if_neg h, hb, Bool.false_or, ih]

theorem qlook_filter_key (P : SessKey → Bool) (qs : List (SessKey × List Msg)) (k : SessKey) :
    qlook (qs.filter (fun q => P q.1)) k = if P k then qlook qs k else [] := by
  induction qs with
  | nil => simp [qlook_nil]
  | cons q qs ih =>
    rw [List.filter_cons]
    by_cases hq : q.1 = k
    · subst hq
      by_cases hp : P q.1 = true
      · rw [if_pos hp, if_pos hp, qlook_cons, qlook_cons, if_pos rfl, if_pos rfl]
      · rw [if_neg hp, if_neg hp, ih, if_neg hp]
    · by_cases hp : P q.1 = true
      · rw [if_pos hp, qlook_cons, qlook_cons, if_neg hq, if_neg hq, ih]
      · rw [if_neg hp, qlook_cons, if_neg hq, ih]

theorem qlook_all_empty {qs : List (SessKey × List Msg)} (h : ∀ q ∈ qs, q.2 = []) (k : SessKey) : qlook qs k = [] := by
  induction qs with
  | nil => rfl
  | cons q qs ih =>
    rw [qlook_cons]
    split
    · exact h q (List.mem_cons_self ..)
    · exact ih (fun q' hq' => h q' (List.mem_cons_of_mem _ hq'))

/-- what is kept of a queue table when the keys in `P` read: the queues of the others, and an empty queue for a
    reader that is not in `C` -/
theorem qlook_unread (P C : SessKey → Bool) (qs : List (SessKey × List Msg)) (k : SessKey) :
    qlook (qs.filter (fun q => !P q.1) ++
      (qs.filter (fun q => P q.1 && !C q.1)).map (fun q => (q.1, ([] : List Msg)))) k =
      if P k then [] else qlook qs k := by
  have hk := qlook_filter_key (fun k => !P k) qs k
  have he : qlook ((qs.filter (fun q => P q.1 && !C q.1)).map (fun q => (q.1, ([] : List Msg)))) k = [] :=
    qlook_all_empty (fun q hq => by obtain ⟨q0, _, rfl⟩ := List.mem_map.mp hq; rfl) k
  rw [qlook_append, hk, he]
  split
  · cases P k <;> rfl
  · rename_i hany
    -- no kept queue is `k`'s: if `k` does not read it has none at all
    have h0 := qlook_of_not_mem (k := k) fun q hq e => hany (List.any_eq_true.mpr ⟨q, hq, beq_iff_eq.mpr e⟩)
    rw [hk] at h0
    cases hp : P k
    · rw [hp] at h0; exact h0.symm
    · rfl

/-- `flush` empties the queue of a client that reads and leaves the others alone -/
theorem queueOf_flush (r : Realm) (k : SessKey) :
    r.flush.2.queueOf k = if WpC.reading r k then [] else r.queueOf k := by
  rw [flush_eq]
  exact qlook_unread (WpC.reading r) r.closedPeers.contains r.queues k

theorem qinv_flush {r : Realm} (h : QueueInv r) : QueueInv r.flush.2 := by
  obtain ⟨h1, h2, h3, h4⟩ := h
  refine ⟨?_, fun c hc => ?_, h3, fun k hk => ?_⟩
  · rw [flush_eq]
    intro q hq
    rcases List.mem_append.mp hq with hq | hq
    · obtain ⟨hq0, hnr⟩ := List.mem_filter.mp hq
      rcases h1 q hq0 with hc | hcl
      · exact Or.inl hc
      · exact Or.inr (List.mem_filter.mpr ⟨hcl, hnr⟩)
    · obtain ⟨q0, hq0, rfl⟩ := List.mem_map.mp hq
      obtain ⟨hq0m, hcond⟩ := List.mem_filter.mp hq0
      simp only [Bool.and_eq_true, Bool.not_eq_true'] at hcond
      rcases h1 q0 hq0m with hc | hcl
      · exact Or.inl hc
      · have : r.closedPeers.contains q0.1 = true := by simpa using hcl
        rw [this] at hcond
        exact absurd hcond.2 (by simp)
  · rw [queueLen_eq, queueOf_flush]
    split
    · exact Nat.zero_le _
    · exact queueLen_eq r _ ▸ h2 c hc
  · have hk : k ∈ r.ghosts := hk
    have hg : WpC.reading r k = false := by
      unfold WpC.reading
      rw [if_pos (by simpa using hk)]
    rw [flush_eq]
    exact List.mem_filter.mpr ⟨h4 k hk, by rw [hg]; rfl⟩

theorem QueueInv.keeps : Keeps (fun _ => True) QueueInv where
  task {r _ ts} _ _ h := qinv_runTask (r := { r with tasks := ts }) h _
  timer _ _ h := h.handled (.timerDue ..)
  retry _ _ h := h.handled (.retryDue ..)
  now _ _ h := h
  fuel _ _ h := qinv_setPanic h _
  flush _ h := qinv_flush h

theorem qinv_step {r : Realm} (h : QueueInv r) (op : Op)
    (hj : ∀ k l d ro c, op = .join k l d ro c → JoinClean r k) : QueueInv (r.step op).2 :=
  QueueInv.keeps.step (qinv_stepOp h op hj)

theorem QueueInv.joinClean {r : Realm} (h : QueueInv r) {k : SessKey} (hk : k ∉ r.closedPeers) : JoinClean r k := by
  intro hc q hq e
  rcases h.1 q hq with ⟨c, hcm, ec⟩ | hcl
  · exact hc c hcm (ec.trans e)
  · exact hk (e ▸ hcl)

theorem qinv_create {cfg : Config} {r : Realm} (h : Realm.create cfg = some r) : QueueInv r := by
  obtain rfl := create_some h
  rw [registerMeta_eq]
  exact ⟨(fun _ hq => nomatch hq), (fun _ hc => nomatch hc), List.nodup_nil, (fun _ hk => nomatch hk)⟩

/-- realm states reachable from `Realm.create cfg` by external inputs, each run to quiescence, where
    every joining key is fresh (names no attached client and no leftover queue) -/
inductive QReachable (cfg : Config) : Realm → Prop
  | init {r : Realm} : Realm.create cfg = some r → QReachable cfg r
  | step {r : Realm} (op : Op) : QReachable cfg r →
      (∀ k l d ro c, op = .join k l d ro c → JoinFresh r k) → QReachable cfg (r.step op).2

/-- weaker than `QReachable`: nothing is asked of a `join` under the key of an attached client, which is a
    no-op of the model -/
inductive CReachable (cfg : Config) : Realm → Prop
  | init {r : Realm} : Realm.create cfg = some r → CReachable cfg r
  | step {r : Realm} (op : Op) : CReachable cfg r →
      (∀ k l d ro c, op = .join k l d ro c → JoinClean r k) → CReachable cfg (r.step op).2

theorem CReachable.qinv {cfg : Config} {r : Realm} (h : CReachable cfg r) : QueueInv r := by
  induction h with
  | init h => exact qinv_create h
  | step op _ hj ih => exact qinv_step ih op hj

theorem QReachable.creachable {cfg : Config} {r : Realm} (h : QReachable cfg r) : CReachable cfg r := by
  induction h with
  | init h => exact .init h
  | step op _ hj ih => exact .step op ih (fun k l d ro c e => (hj k l d ro c e).clean)

theorem QReachable.qinv {cfg : Config} {r : Realm} (h : QReachable cfg r) : QueueInv r := h.creachable.qinv

/-- it is enough that no session joins under the key of a closed peer whose closure is still unobserved -/
theorem CReachable.step_not_closed {cfg : Config} {r : Realm} (h : CReachable cfg r) (op : Op)
    (hj : ∀ k l d ro c, op = .join k l d ro c → k ∉ r.closedPeers) : CReachable cfg (r.step op).2 :=
  .step op h (fun k l d ro c e => h.qinv.joinClean (hj k l d ro c e))

end Realm
end Nexus.L2
