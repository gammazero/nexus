/-
  The clock is shared: time is global (Go: one `time` for the process).

  `Router.now` is advanced by `Router.step (.tick ms)` and by nothing else (`Router.step_now`,
  RouterFrame.lean).  A realm's clock `Realm.now` is advanced by `Realm.step (.tick ms)` — by exactly
  `ms`, whatever timed events fire in between (`Realm.step_now`) — and by no other input of the realm.
  The router ticks every realm of the table together with its own clock, a realm built by
  `Router.create` starts at 0 like the router, and a realm created later (from the template on a join,
  or by `AddRealm`) starts at the router's current time.  Hence, in every router reachable by
  operations in which time passes through `ROp.tick` only,

      every realm's clock equals the router's          (`ClockShared`, `ReachableT.clockShared`).

  `ClockShared` is preserved by every such operation from every router state (`ClockShared.step`: no
  `ROp.wf`, no invariant on realm names is needed).  It is not an invariant of `Router.Reachable` as
  it stands: the model type allows `ROp.sess k (.tick ms)` — a tick wrapped into a session operation,
  which `ROp.wf` does not exclude (it excludes only wrapped joins) and which the router API and the
  driver never produce —, and that advances one realm alone (`sess_tick_parts_clocks`).
-/
import Nexus.L2.Proofs.RouterFrame
import Nexus.L2.Proofs.RetryInv

namespace Nexus.L2

namespace Realm
open Nexus.L2.WpC

def Op.elapsed : Op → Nat
  | .tick ms => ms
  | _ => 0

/-- `Realm.step (.tick ms)` sets the clock to exactly `now + ms` (`advance` ends
    with `now := target`, whatever call timeouts and yield retries fired on the way, also when its
    fuel runs out); every other input leaves the clock where it is. -/
theorem step_now (r : Realm) (op : Op) : (r.step op).2.now = r.now + op.elapsed := by
  have hflush : ∀ x : Realm, x.flush.2.now = x.now := fun x => (rn_flush x).2
  have hother : (flush (drain taskFuel (r.stepOp op))).2.now = r.now := by
    rw [hflush, drain_now]
    obtain ⟨k, h, _⟩ := stepOp_enter r op
    exact h.1
  cases op with
  | tick ms => exact WpC.step_now r ms
  | _ => exact hother

end Realm

namespace Router
open Realm

def ClockShared (rt : Router) : Prop := ∀ p ∈ rt.realms, p.2.now = rt.now

/-- A session operation is not the clock: time passes through `ROp.tick` only.  The model type allows
    `ROp.sess k (.tick ms)` (any `Realm.Op` can be wrapped), and `ROp.wf` — which excludes only
    `ROp.sess k (.join …)` — does not rule it out; the router API and the driver produce only
    msg / drop / stall / resume / buffer of `k` as session operations. -/
def _root_.Nexus.L2.ROp.untimedSess : ROp → Prop
  | .sess _ op => op.elapsed = 0
  | _ => True

/-- every operation of the router in which time passes through `ROp.tick` only keeps the clocks
    together, from every router state (no invariant on realm names, no `ROp.wf` needed) -/
theorem ClockShared.step {rt : Router} (h : ClockShared rt) (rop : ROp) (hu : rop.untimedSess) :
    ClockShared (rt.step rop).2 := by
  intro p hp
  rw [step_now]
  refine step_realms (Q := fun _ r => r.now = rt.now) (Q' := fun _ r => r.now = rt.now + rop.elapsed) rop h
    (fun nt _ r hr => ?_) (fun _ r x hd hr => ?_) (fun _ _ _ _ _ => rfl) (fun _ _ _ e hr => e ▸ hr) p hp
  · -- a realm left untouched: the operation is not the clock (`nt`), so no time passes
    cases rop <;> first | exact hr | exact (nt _ rfl).elim
  · rw [Realm.step_now, hr]
    cases hd with
    | join _ => rfl
    | sess _ => rw [show x.elapsed = 0 from hu]; rfl
    | tick => rfl

/-- … and the hypothesis is needed: a `tick` wrapped into a session operation (`ROp.wf` allows it)
    advances the one realm the session is dispatched to and not the router — the clocks part. -/
theorem sess_tick_parts_clocks {rt : Router} (h : ClockShared rt) {k : SessKey} {A : String} {r : Realm}
    (hk : rt.realmOf k = some A) (hr : rt.realm? A = some r) (ms : Nat) :
    (ROp.sess k (.tick (ms + 1))).wf ∧
    (rt.step (.sess k (.tick (ms + 1)))).2.now = rt.now ∧
    ∃ r', (rt.step (.sess k (.tick (ms + 1)))).2.realm? A = some r' ∧ r'.now = rt.now + (ms + 1) := by
  refine ⟨rfl, by rw [step_now]; rfl, ?_⟩
  rw [step_sess_some hk hr]
  refine ⟨_, realm?_setRealm_self _ hr, ?_⟩
  rw [Realm.step_now, h _ (realm?_mem hr)]; rfl

theorem create_clock {cfgs : List Config} {rt : Router} (h : Router.create cfgs = some rt) :
    ClockShared rt ∧ rt.now = 0 := by
  have hc := create_created h
  refine ⟨fun p hp => ?_, hc.now⟩
  obtain ⟨cfg, r, n, hcr, e⟩ := hc.realms p hp
  rw [e, hc.now]
  exact (create_rinv (r := r) hcr).now

/-- routers reachable from the initial router by well-formed operations in which time passes through
    `ROp.tick` only (`ROp.untimedSess`): `Router.Reachable` without the wrapped ticks -/
inductive ReachableT : Router → Prop
  | init {cfgs : List Config} {rt : Router} (t : Option Config) :
      Router.create cfgs = some rt → ReachableT { rt with template := t }
  | step {rt : Router} (rop : ROp) : ReachableT rt → rop.wf → rop.untimedSess → ReachableT (rt.step rop).2

theorem ReachableT.reachable {rt : Router} (h : ReachableT rt) : Reachable rt := by
  induction h with
  | init t h => exact .init t h
  | step rop _ hw _ ih => exact .step rop ih hw

/-- The clock is shared: in every router reachable by operations in which time passes through
    `ROp.tick` only, every realm's clock equals the router's. -/
theorem ReachableT.clockShared {rt : Router} (h : ReachableT rt) : ClockShared rt := by
  induction h with
  | init t h => exact (create_clock h).1
  | step rop _ _ hu ih => exact ih.step rop hu

end Router
end Nexus.L2
