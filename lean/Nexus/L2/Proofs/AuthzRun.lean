/-
  "Allowed messages behave exactly as without an Authorizer", at the level of whole steps and runs.

  Only two functions of `Nexus.L2.Realm` read the configuration: the authorization gate
  (`cfg.authz`, `cfg.localAuthz`) and `cleanDetails` (`cfg.metaStrict`, `cfg.metaInc`).  So a realm
  `withCfg c₁ r` whose gate lets every message through behaves, under every function of the model,
  like `withCfg c₂ r` where `c₂` is `c₁` with the Authorizer removed — the configuration is carried
  along unchanged.
-/
import Nexus.L2.Proofs.RealmAuthz
import Nexus.L2.Proofs.RealmMeta
import Nexus.L2.Proofs.RealmWalk

namespace Nexus.L2
namespace Realm
namespace WpD

theorem withCfg_takeTestaments (c : Config) (r : Realm) (k : SessKey) :
    (withCfg c r).takeTestaments k = ((r.takeTestaments k).1, withCfg c (r.takeTestaments k).2) := by
  rw [takeTestaments_eq, takeTestaments_eq]
  rfl

theorem withCfg_leaveSend (c : Config) (r : Realm) (k : SessKey) (mode : LeaveMode) :
    leaveSend (withCfg c r) k mode = withCfg c (leaveSend r k mode) := by
  cases mode <;> first | exact withCfg_trySend _ _ _ | rfl

theorem withCfg_leaveRemove (c : Config) (r : Realm) (k : SessKey) (quiet : Bool) :
    leaveRemove (withCfg c r) k quiet = withCfg c (leaveRemove r k quiet) := by
  unfold leaveRemove
  cfg_simp
  simp only [withCfg_applyD]
  cfg_simp
  split <;> rfl

theorem withCfg_leaveAnnounce (c : Config) (r : Realm) (s : Session) (tst : Option TBucket) (silent : Bool) :
    leaveAnnounce (withCfg c r) s tst silent = withCfg c (leaveAnnounce r s tst silent) := by
  unfold leaveAnnounce
  split <;> rfl

theorem withCfg_leaveClose (c : Config) (r : Realm) (s : Session) :
    leaveClose (withCfg c r) s = withCfg c (leaveClose r s) := rfl

theorem withCfg_leave (c : Config) (r : Realm) (k : SessKey) (mode : LeaveMode) :
    (withCfg c r).leave k mode = withCfg c (r.leave k mode) := by
  cases hf : r.clients.find? (fun c => c.key == k) with
  | none => rw [leave_none mode hf, leave_none mode (r := withCfg c r) hf]
  | some s =>
    rw [leave_some mode hf, leave_some mode (r := withCfg c r) hf]
    simp only [withCfg_leaveSend, withCfg_takeTestaments, withCfg_leaveRemove, withCfg_leaveAnnounce,
      withCfg_leaveClose]

theorem withCfg_killWhere (c : Config) (r : Realm) (sel : Session → Bool) (g : Msg) (ka : Bool) :
    (withCfg c r).killWhere sel g ka = ((r.killWhere sel g ka).1, withCfg c (r.killWhere sel g ka).2) := rfl

theorem withCfg_timerDue (c : Config) (r : Realm) (t : Timer) :
    (withCfg c r).timerDue t = withCfg c (r.timerDue t) := by
  unfold timerDue
  cfg_simp
  exact withCfg_applyD ..

/-- the two configurations agree in what `cleanDetails` reads, the one reader of the configuration behind the gate -/
structure SameMeta (c₁ c₂ : Config) : Prop where
  strict : c₁.metaStrict = c₂.metaStrict
  inc : c₁.metaInc = c₂.metaInc

theorem withCfg_cleanDetails {c : Config} {r : Realm} (h : SameMeta c r.cfg) (d : Dict) :
    (withCfg c r).cleanDetails d = r.cleanDetails d := by
  unfold cleanDetails
  have e1 : (withCfg c r).cfg.metaStrict = r.cfg.metaStrict := h.strict
  have e2 : (withCfg c r).cfg.metaInc = r.cfg.metaInc := h.inc
  rw [e1, e2]

theorem withCfg_keyOfSid (c : Config) (r : Realm) (sid : Nat) : (withCfg c r).keyOfSid sid = r.keyOfSid sid := rfl

theorem view_withCfg {c : Config} {r : Realm} (h : SameMeta c r.cfg) : view (withCfg c r) = view r := by
  show ({ view r with clean := (withCfg c r).cleanDetails } : MetaView) = view r
  rw [funext (withCfg_cleanDetails h)]
  rfl

theorem withCfg_apply (c : Config) (r : Realm) (eff : MetaEff) : eff.apply (withCfg c r) = withCfg c (eff.apply r) := by
  cases eff <;> rfl

/-- `cfg` is read through the `clean` of the view only, and no effect writes it -/
theorem withCfg_metaProc {c : Config} {r : Realm} (h : SameMeta c r.cfg) (proc : String) (req : Nat) (details : Dict)
    (args : List WVal) (kw : Dict) :
    metaProc (withCfg c r) proc req details args kw =
      ((metaProc r proc req details args kw).1, withCfg c (metaProc r proc req details args kw).2) := by
  rw [metaProc_eq, metaProc_eq, view_withCfg h]
  cases metaOut (view r) proc details args kw with
  | err uri => rfl
  | ok a kw eff => exact congrArg (Prod.mk _) (withCfg_apply c r eff)

theorem withCfg_retryDue (c : Config) (r : Realm) (x : Retry) :
    (withCfg c r).retryDue x = withCfg c (r.retryDue x) := by
  unfold retryDue
  cfg_simp
  simp only [withCfg_applyD]
  cfg_simp
  split
  · rename_i h1
    split
    · rfl
    · rename_i h2; exact absurd h1 h2
  · rename_i h1
    split
    · rename_i h2; exact absurd h2 h1
    · rfl

/-- the gate of `c` refuses nothing and changes nothing; met without an Authorizer (`gatePass_none`) and with one
    that allows everything (`gatePass_allowAll`), which are the two sides of "as without an Authorizer" -/
def GatePass (c : Config) : Prop :=
  ∀ (r : Realm) (s : Session) (m : Msg), authzGate (withCfg c r) s m = (true, withCfg c r)

theorem gatePass_none (c : Config) (h : c.authz = none) : GatePass c :=
  fun r => authzGate_none (r := withCfg c r) h

/-- an Authorizer that returns true for every message (with or without an error) -/
theorem gatePass_allowAll (c : Config) (rules : List AuthzRule) (h : c.authz = some rules)
    (hall : ∀ k m, authzDecision rules k m = "allow" ∨ authzDecision rules k m = "allowerr") : GatePass c := by
  intro r s m
  rw [authzGate_eq_gateG]
  show gateG (c.authz.map authzDecision) c.localAuthz (withCfg c r) s m = _
  rw [h, Option.map_some]
  exact (gateG_some ..).trans (if_pos (.inr (hall s.key m)))

theorem handleMsg_pass {c : Config} (h : GatePass c) (r : Realm) (s : Session) (m : Msg) :
    handleMsg (withCfg c r) s m = withCfg c (dispatch r s m) := by
  rw [handleMsg_eq, h r s m]
  exact dispatch_withCfg c r s m

/-- `c₁` and `c₂` differ at most in the Authorizer (and `localAuthz`, `uri`, … which no function
    behind the gate reads), and neither Authorizer refuses anything -/
structure Alike (c₁ c₂ : Config) : Prop where
  sameMeta : SameMeta c₁ c₂
  pass₁ : GatePass c₁
  pass₂ : GatePass c₂

variable {c₁ c₂ : Config}

theorem Alike.self₂ (h : Alike c₁ c₂) : Alike c₂ c₂ := ⟨⟨rfl, rfl⟩, h.pass₂, h.pass₂⟩

theorem alike_handleMsg (h : Alike c₁ c₂) (r : Realm) (s : Session) (m : Msg) :
    handleMsg (withCfg c₁ r) s m = withCfg c₁ (handleMsg (withCfg c₂ r) s m) := by
  rw [handleMsg_pass h.pass₁, handleMsg_pass h.pass₂]; rfl

theorem alike_recvMsg (h : Alike c₁ c₂) (r : Realm) (k : SessKey) (m : Msg) :
    (withCfg c₁ r).recvMsg k m = withCfg c₁ ((withCfg c₂ r).recvMsg k m) := by
  rw [recvMsg_eq, recvMsg_eq]
  show (match r.clients.find? (fun c => c.key == k) with | none => _ | some s => _) =
    withCfg c₁ (match r.clients.find? (fun c => c.key == k) with | none => _ | some s => _)
  split
  · rfl
  · show (if r.ending.contains k then _ else if r.busy k then _ else _) =
      withCfg c₁ (if r.ending.contains k then _ else if r.busy k then _ else _)
    split
    · rfl
    · split
      · split <;> rfl
      · exact alike_handleMsg h r _ m

theorem alike_metaProc (h : Alike c₁ c₂) (r : Realm) (proc : String) (req : Nat) (details : Dict)
    (args : List WVal) (kw : Dict) :
    metaProc (withCfg c₁ r) proc req details args kw =
      ((metaProc (withCfg c₂ r) proc req details args kw).1,
       withCfg c₁ (metaProc (withCfg c₂ r) proc req details args kw).2) :=
  withCfg_metaProc (c := c₁) (r := withCfg c₂ r) h.sameMeta proc req details args kw

theorem alike_runTask (h : Alike c₁ c₂) (r : Realm) (t : Task) :
    (withCfg c₁ r).runTask t = withCfg c₁ ((withCfg c₂ r).runTask t) := by
  cases t with
  | inMsg k m => exact alike_recvMsg h r k m
  | metaPub p =>
    show handlePublish (withCfg c₁ r) _ _ _ _ _ _ = withCfg c₁ (handlePublish (withCfg c₂ r) _ _ _ _ _ _)
    rw [withCfg_handlePublish, withCfg_handlePublish]; rfl
  | metaInvoke req reg details args kw =>
    rw [runTask_metaInvoke, runTask_metaInvoke]
    show (match r.metaProcs.find? (fun p => p.1 == reg) with | none => _ | some (_, proc) => _) =
      withCfg c₁ (match r.metaProcs.find? (fun p => p.1 == reg) with | none => _ | some (_, proc) => _)
    split
    · rfl
    · rw [alike_metaProc h]; rfl
  | metaMsg m => exact alike_handleMsg h r _ m
  | leave k mode =>
    rw [runTask_leave, runTask_leave]
    show (if r.busy k then _ else _) = withCfg c₁ (if r.busy k then _ else _)
    split
    · rfl
    · rw [withCfg_leave, withCfg_leave]; rfl

theorem alike_stepOp (h : Alike c₁ c₂) (r : Realm) (op : Op) :
    (withCfg c₁ r).stepOp op = withCfg c₁ ((withCfg c₂ r).stepOp op) := by
  cases op with
  | join k isLocal details roles cap =>
    rw [stepOp_join, stepOp_join]
    have e : (withCfg c₁ r).cleanDetails details = (withCfg c₂ r).cleanDetails details :=
      withCfg_cleanDetails (c := c₁) (r := withCfg c₂ r) h.sameMeta details
    rw [e]
    show (if (k == metaKey || r.clients.any (fun c => c.key == k)) = true then _ else _) =
      withCfg c₁ (if (k == metaKey || r.clients.any (fun c => c.key == k)) = true then _ else _)
    split <;> rfl
  | msg k m => exact alike_recvMsg h r k m
  | buffer k => rfl
  | drop k =>
    rw [stepOp_drop, stepOp_drop]
    show (if (!r.clients.any (fun c => c.key == k)) = true then _ else if r.ending.contains k then _ else _) =
      withCfg c₁ (if (!r.clients.any (fun c => c.key == k)) = true then _ else if r.ending.contains k then _ else _)
    split
    · rfl
    split <;> rfl
  | stall k => rfl
  | resume k => rfl
  | tick ms => rfl
  | rnd n => rfl

/-- the `R` of `sim_alike`: the first run's state is the second's under `c₁`; the second conjunct says `b.cfg = c₂`
    in the form the `withCfg` equations rewrite -/
def AlikeRel (c₁ c₂ : Config) (a b : Realm) : Prop := a = withCfg c₁ b ∧ b = withCfg c₂ b

theorem Alike.lift (h : Alike c₁ c₂) {f : Realm → Realm}
    (hf : ∀ {c c' : Config}, Alike c c' → ∀ r, f (withCfg c r) = withCfg c (f (withCfg c' r))) {a b : Realm}
    (hr : AlikeRel c₁ c₂ a b) : AlikeRel c₁ c₂ (f a) (f b) := by
  obtain ⟨rfl, hb⟩ := hr
  have h2 := hf h.self₂ b
  rw [← hb] at h2
  exact ⟨by rw [hf h b, ← hb], h2⟩

theorem Alike.lift' (h : Alike c₁ c₂) {f : Realm → Realm} (hf : ∀ c r, f (withCfg c r) = withCfg c (f r)) {a b : Realm}
    (hr : AlikeRel c₁ c₂ a b) : AlikeRel c₁ c₂ (f a) (f b) :=
  h.lift (fun {c c'} _ r => by rw [hf c r, hf c' r]; rfl) hr

theorem sim_alike (h : Alike c₁ c₂) : Sim (fun _ => True) (AlikeRel c₁ c₂) Eq where
  base := by constructor <;> intros <;> trivial
  tasks hr := hr.1 ▸ rfl
  due _ hr := hr.1 ▸ rfl
  clock hr := hr.1 ▸ rfl
  task {_ _ t ts} _ _ hr :=
    h.lift (f := fun r => runTask { r with tasks := ts } t) (fun h' r => alike_runTask h' { r with tasks := ts } t) hr
  timer {_ _ _ t} _ _ hr := h.lift' (f := fun r => r.timerDue t) (fun c r => withCfg_timerDue c r t) hr
  retry {_ _ _ x} _ _ hr := h.lift' (f := fun r => r.retryDue x) (fun c r => withCfg_retryDue c r x) hr
  now t _ hr := h.lift' (f := fun r => { r with now := t }) (fun _ _ => rfl) hr
  fuel {_ _ m} _ _ hr := h.lift' (f := fun r => r.setPanic (some m)) (fun c r => withCfg_setPanic c r _) hr
  flush _ hr := ⟨h.lift' (f := fun r => r.flush.2) (fun _ _ => rfl) hr, hr.1 ▸ rfl⟩

theorem alike_step (h : Alike c₁ c₂) (r : Realm) (op : Op) :
    (withCfg c₁ r).step op = (((withCfg c₂ r).step op).1, withCfg c₁ ((withCfg c₂ r).step op).2) := by
  have hr : AlikeRel c₁ c₂ (withCfg c₁ r) (withCfg c₂ r) := ⟨rfl, rfl⟩
  obtain ⟨_, ⟨h1, _⟩, h2⟩ := (sim_alike h).step (fun _ => Iff.rfl) ⟨⟩
    (h.lift (f := fun r => r.stepOp op) (fun h' r => alike_stepOp h' r op) hr)
  exact Prod.ext h2 h1

def runOps (r : Realm) : List Op → List Observed × Realm
  | [] => ([], r)
  | op :: ops => ((r.step op).1 :: (runOps (r.step op).2 ops).1, (runOps (r.step op).2 ops).2)

theorem alike_run (h : Alike c₁ c₂) : ∀ (ops : List Op) (r : Realm),
    runOps (withCfg c₁ r) ops = ((runOps (withCfg c₂ r) ops).1, withCfg c₁ (runOps (withCfg c₂ r) ops).2)
  | [], r => rfl
  | op :: ops, r => by
    simp only [runOps]
    rw [alike_step h r op]
    dsimp only
    -- a step keeps the configuration it was started with
    have e : withCfg c₂ ((withCfg c₂ r).step op).2 = ((withCfg c₂ r).step op).2 :=
      (congrArg Prod.snd (alike_step h.self₂ r op)).symm
    rw [alike_run h ops, e]

end WpD
end Realm
end Nexus.L2
