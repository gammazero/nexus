/-
  The script of a realm function.

  Every function of `Nexus.L2.Realm` that runs inside one atomic action (a handler, `leave`, a timer
  firing, a turn of the yield retry loop) does three kinds of things to the shared tables:

    * it lets the broker goroutine perform broker steps       (`Script.bsteps : List BStep`),
    * it lets the dealer goroutine perform dealer steps        (`Script.dsteps : List (DState × DOut)`),
    * it hands messages to `Realm.trySend`, in order           (`Script.offers : List Send`).

  For each such function the script is given as an explicit function of the state the action starts in
  and of its arguments (`msgScript`, `leaveScript` here; `timerScript`, `retryScript`, `taskScript` in
  Trace.lean), and the function is proved to be `Shaped` by it:

      r'.broker = r.broker.run sc.bsteps            (and the ids drawn: `WpA.Trace`)
      Run r.ds sc.dsteps r'.ds
      r'.queues = (r.deliver sc.offers).queues      (the queue table is changed by `trySend` only)
      r'.clients = r.clients

  (a departure drops its session from `clients` at the very end: `leave` satisfies `Spec`, which is `Shaped`
  without that clause, `spec_leave` in Trace.lean).  Nothing here needs an invariant.
-/
import Nexus.L2.Proofs.BrokerTrace
import Nexus.L2.Proofs.BrokerDeliver
import Nexus.L2.Proofs.DealerActs
import Nexus.L2.Proofs.RegisterDisclose

namespace Nexus.L2.WpE
open Nexus.L2 Nexus.L2.Realm Gen.N
open Nexus.L2.WpA (Trace PubOk bk_run_append)

theorem setPanic_clients (r : Realm) (p : Option String) : (r.setPanic p).clients = r.clients :=
  (setPanic_frame r p).clients

/-- what one atomic action hands to the broker goroutine, to the dealer goroutine and to `trySend` -/
structure Script where
  bsteps : List BStep := []
  dsteps : List (DState × DOut) := []
  offers : List Send := []

def Script.append (a b : Script) : Script :=
  { bsteps := a.bsteps ++ b.bsteps, dsteps := a.dsteps ++ b.dsteps, offers := a.offers ++ b.offers }

instance : Append Script := ⟨Script.append⟩

theorem Script.append_bsteps (a b : Script) : (a ++ b).bsteps = a.bsteps ++ b.bsteps := rfl
theorem Script.append_dsteps (a b : Script) : (a ++ b).dsteps = a.dsteps ++ b.dsteps := rfl
theorem Script.append_offers (a b : Script) : (a ++ b).offers = a.offers ++ b.offers := rfl

theorem Script.nil_append (a : Script) : (({} : Script) ++ a) = a := rfl

theorem Script.append_nil (a : Script) : (a ++ ({} : Script)) = a := by
  cases a
  show Script.append _ _ = _
  simp [Script.append]

/-- `r'` arises from `r` by the script `sc` (and changes of other fields) -/
structure Shaped (r : Realm) (sc : Script) (r' : Realm) : Prop where
  broker : r'.broker = r.broker.run sc.bsteps
  pubs : Trace r.pubCount sc.bsteps r'.pubCount
  dealer : Run r.ds sc.dsteps r'.ds
  queues : r'.queues = (r.deliver sc.offers).queues
  clients : r'.clients = r.clients

/-- nothing the scripts talk about changes -/
structure Still (r r' : Realm) : Prop where
  broker : r'.broker = r.broker
  pubCount : r'.pubCount = r.pubCount
  ds : r'.ds = r.ds
  queues : r'.queues = r.queues
  clients : r'.clients = r.clients

theorem Still.refl (r : Realm) : Still r r := ⟨rfl, rfl, rfl, rfl, rfl⟩

theorem Still.trans {a b c : Realm} (h1 : Still a b) (h2 : Still b c) : Still a c :=
  ⟨h2.broker.trans h1.broker, h2.pubCount.trans h1.pubCount, h2.ds.trans h1.ds, h2.queues.trans h1.queues,
   h2.clients.trans h1.clients⟩

theorem Still.shaped {r r' : Realm} (h : Still r r') : Shaped r {} r' :=
  ⟨h.broker, by rw [h.pubCount]; exact Nat.le_refl _, by rw [h.ds]; exact .nil _, h.queues, h.clients⟩

theorem Shaped.refl (r : Realm) : Shaped r {} r := (Still.refl r).shaped

theorem Shaped.trans {a b c : Realm} {s1 s2 : Script} (h1 : Shaped a s1 b) (h2 : Shaped b s2 c) :
    Shaped a (s1 ++ s2) c := by
  refine ⟨?_, ?_, ?_, ?_, h2.clients.trans h1.clients⟩
  · rw [h2.broker, h1.broker, Script.append_bsteps, bk_run_append]
  · exact h1.pubs.append h2.pubs
  · exact WpB.Run.append h1.dealer h2.dealer
  · rw [h2.queues, Script.append_offers, deliver_append]
    exact deliver_qcongr _ (by rw [h1.clients, (deliver_frame _ a).clients]) h1.queues

theorem Shaped.still_right {a b c : Realm} {s : Script} (h1 : Shaped a s b) (h2 : Still b c) : Shaped a s c := by
  have := h1.trans h2.shaped
  rwa [Script.append_nil] at this

theorem Shaped.still_left {a b c : Realm} {s : Script} (h1 : Still a b) (h2 : Shaped b s c) : Shaped a s c :=
  h1.shaped.trans h2

theorem still_setPanic (r : Realm) (p : Option String) : Still r (r.setPanic p) :=
  let f := setPanic_frame r p
  ⟨f.broker, f.pubCount, f.ds, setPanic_queues r p, f.clients⟩

theorem shaped_deliver (r : Realm) (ss : List Send) : Shaped r { offers := ss } (r.deliver ss) :=
  let f := deliver_frame ss r
  ⟨f.broker, by rw [f.pubCount]; exact Nat.le_refl _, by rw [f.ds]; exact .nil _, rfl, f.clients⟩

theorem shaped_trySend (r : Realm) (s : Send) : Shaped r { offers := [s] } (r.trySend s) := shaped_deliver r [s]

theorem shaped_applyD (r : Realm) (o : DOut) (st : DStep r.ds o) :
    Shaped r { dsteps := [(r.ds, o)], offers := o.sends } (r.applyD o) := by
  rw [applyD_eq]
  refine Shaped.still_right ?_ (still_setPanic _ _)
  let r1 : Realm := { r with ds := o.st }
  have f := deliver_frame o.sends r1
  refine ⟨f.broker, ?_, ?_, ?_, f.clients⟩
  · show Trace r.pubCount [] (r1.deliver o.sends).pubCount
    rw [f.pubCount]; exact Nat.le_refl _
  · show Run r.ds [(r.ds, o)] (r1.deliver o.sends).ds
    rw [f.ds]; exact .cons st (.nil _)
  · show (r1.deliver o.sends).queues = (r.deliver o.sends).queues
    exact deliver_qcongr _ rfl rfl

/-- one broker step drawing `n` ids, then its sends -/
theorem shaped_brokerStep (r : Realm) (e : BStep) (n : Nat) (ss : List Send)
    (ht : Trace r.pubCount [e] (r.pubCount + n)) :
    Shaped r { bsteps := [e], offers := ss }
      (({ r with pubCount := r.pubCount + n, broker := r.broker.step e } : Realm).deliver ss) :=
  have f := deliver_frame ss ({ r with pubCount := r.pubCount + n, broker := r.broker.step e } : Realm)
  ⟨f.broker, f.pubCount.symm ▸ ht, f.ds.symm ▸ .nil _, deliver_qcongr _ rfl rfl, f.clients⟩

/-- the error reply the gate queues for a refused message -/
def gateOffers (r : Realm) (s : Session) (m : Msg) : List Send :=
  match r.cfg.authz.map authzDecision with
  | none => []
  | some f =>
    if exempt r.cfg.localAuthz s then []
    else if allows (f s.key m) then []
    else match denialReply (f s.key m) m with
      | none => []
      | some e => [⟨s.key, e⟩]

theorem authzGate_deliver (r : Realm) (s : Session) (m : Msg) :
    (authzGate r s m).2 = r.deliver (gateOffers r s m) ∧
    ((authzGate r s m).1 = true → gateOffers r s m = []) := by
  rw [authzGate_eq_gateG]
  unfold gateG gateOffers
  cases r.cfg.authz.map authzDecision with
  | none => exact ⟨rfl, fun _ => rfl⟩
  | some f =>
    dsimp only
    split
    · exact ⟨rfl, fun _ => rfl⟩
    · split
      · exact ⟨rfl, fun _ => rfl⟩
      · cases denialReply (f s.key m) m with
        | none => exact ⟨rfl, fun h => by cases h⟩
        | some e => exact ⟨rfl, fun h => by cases h⟩

theorem gateOffers_none {r : Realm} (h : r.cfg.authz = none) (s : Session) (m : Msg) : gateOffers r s m = [] := by
  unfold gateOffers; rw [h]; rfl

/-- the PUBLISH passes `broker.publish`: valid topic, no payload passthru without the feature, no
    disallowed `disclose_me` -/
def pubAccepted (r : Realm) (s : Session) (opts : Dict) (topic : String) : Bool :=
  validUri r.broker.strict "" topic && !pptRefused s opts && !discloseRefused r opts

def publishScript (r : Realm) (s : Session) (req : Nat) (opts : Dict) (topic : String) (args : List WVal)
    (kw : Dict) : Script :=
  if pubAccepted r s opts topic then
    { bsteps := [.publish r.session? r.now (pubOf r s opts topic args kw)],
      offers := (r.broker.syncPublish r.session? r.now (pubOf r s opts topic args kw)).2 ++
        ackList opts ⟨s.key, .published req (pubBase + r.pubCount)⟩ }
  else if !validUri r.broker.strict "" topic then { offers := ackList opts ⟨s.key, invalidUriErr tPUBLISH req⟩ }
  else if pptRefused s opts then { offers := [⟨s.key, abortMsg "<text>"⟩] }
  else { offers := ackList opts ⟨s.key, errMsg tPUBLISH req ErrOptionDisallowedDiscloseMe⟩ }

theorem publishScript_accepted {r : Realm} {s : Session} {opts : Dict} {topic : String}
    (h : pubAccepted r s opts topic = true) (req : Nat) (args : List WVal) (kw : Dict) :
    publishScript r s req opts topic args kw =
      { bsteps := [.publish r.session? r.now (pubOf r s opts topic args kw)],
        offers := (r.broker.syncPublish r.session? r.now (pubOf r s opts topic args kw)).2 ++
          ackList opts ⟨s.key, .published req (pubBase + r.pubCount)⟩ } := if_pos h

theorem shaped_handlePublish (r : Realm) (s : Session) (req : Nat) (opts : Dict) (topic : String)
    (args : List WVal) (kw : Dict) :
    Shaped r (publishScript r s req opts topic args kw) (handlePublish r s req opts topic args kw) := by
  unfold publishScript pubAccepted
  cases hv : validUri r.broker.strict "" topic
  · rw [handlePublish_invalid r s req opts topic args kw hv]
    exact shaped_deliver r _
  cases hp : pptRefused s opts
  cases hd : discloseRefused r opts
  · rw [handlePublish_ok r s req opts topic args kw hv hp hd]
    exact shaped_brokerStep r (.publish r.session? r.now (pubOf r s opts topic args kw)) 1 _
      ⟨r.pubCount, Nat.le_refl _, rfl, fun key hk => realm_base_ok opts (pptScheme opts != "") key hk, Nat.le_refl _⟩
  · rw [handlePublish_refused r s req opts topic args kw hv hp hd]
    exact shaped_deliver r _
  · rw [handlePublish_ppt r s req opts topic args kw hv hp]
    exact (shaped_trySend r _).still_right ⟨rfl, rfl, rfl, rfl, rfl⟩

def subscribeScript (r : Realm) (s : Session) (req : Nat) (opts : Dict) (topic : String) : Script :=
  if validUri r.broker.strict (opts.optString OptMatch) topic then
    { bsteps := [.subscribe s.key req topic (opts.optString OptMatch) r.pubCount],
      offers := (r.broker.syncSubscribe s.key req topic (opts.optString OptMatch) r.pubCount).2.1 }
  else { offers := [⟨s.key, invalidUriErr tSUBSCRIBE req⟩] }

theorem subscribeScript_valid {r : Realm} {opts : Dict} {topic : String}
    (h : validUri r.broker.strict (opts.optString OptMatch) topic = true) (s : Session) (req : Nat) :
    subscribeScript r s req opts topic =
      { bsteps := [.subscribe s.key req topic (opts.optString OptMatch) r.pubCount],
        offers := (r.broker.syncSubscribe s.key req topic (opts.optString OptMatch) r.pubCount).2.1 } := if_pos h

def unsubscribeScript (r : Realm) (s : Session) (req sub : Nat) : Script :=
  { bsteps := [.unsubscribe s.key req sub r.pubCount],
    offers := (r.broker.syncUnsubscribe s.key req sub r.pubCount).2.1 }

/-- the script of `r.applyD o` -/
def dealerScript (r : Realm) (o : DOut) : Script := { dsteps := [(r.ds, o)], offers := o.sends }

/-- what `dealer.register` answers itself (none: the REGISTER goes to the dealer goroutine) -/
def registerRefusal (r : Realm) (s : Session) (req : Nat) (opts : Dict) (proc : String) : Option Msg :=
  if !validUri r.ds.d.strict (opts.optString OptMatch) proc then some (invalidUriErr tREGISTER req)
  else if proc.startsWith "wamp." && s.key != metaKey then some (invalidUriErr tREGISTER req)
  else if !r.ds.d.allowDisclose && opts.optFlag OptDiscloseCaller && sessAttr s.details "authrole" != "trusted" then
    some (errMsg tREGISTER req ErrOptionDisallowedDiscloseMe)
  else if !(knownPolicies.contains (opts.optString OptInvoke)) then
    some (.error tREGISTER req [] ErrInvalidArgument [.str "<text>"] [])
  else none

/-- the handler's Boolean tests are the propositions `WpA.registerRefusal` branches on -/
theorem registerRefusal_eq (r : Realm) (s : Session) (req : Nat) (opts : Dict) (proc : String) :
    registerRefusal r s req opts proc = WpA.registerRefusal r s req opts proc := by
  unfold registerRefusal WpA.registerRefusal
  simp only [Bool.and_eq_true, bne_iff_ne, List.contains_eq_mem, decide_eq_false_iff_not, and_assoc,
    Bool.not_eq_eq_eq_not, Bool.not_true, ne_eq]

def registerOut (r : Realm) (s : Session) (req : Nat) (opts : Dict) (proc : String) : DOut :=
  syncRegister r.ds s.key req proc (opts.optString OptMatch) (opts.optString OptInvoke)
    (opts.optFlag OptDiscloseCaller) (opts.optFlag OptForwardTimeout) (proc.startsWith "wamp.")

def registerScript (r : Realm) (s : Session) (req : Nat) (opts : Dict) (proc : String) : Script :=
  match registerRefusal r s req opts proc with
  | some e => { offers := [⟨s.key, e⟩] }
  | none => dealerScript r (registerOut r s req opts proc)

def cancelMode (opts : Dict) : String :=
  if opts.optString OptMode == "" then CancelModeKillNoWait else opts.optString OptMode

def cancelModeOk (opts : Dict) : Bool :=
  cancelMode opts == CancelModeKillNoWait || cancelMode opts == CancelModeKill || cancelMode opts == CancelModeSkip

def cancelScript (r : Realm) (s : Session) (req : Nat) (opts : Dict) : Script :=
  if cancelModeOk opts then dealerScript r (syncCancel r.denv r.ds s.key req (cancelMode opts) ErrCanceled [])
  else { offers := [⟨s.key, .error tCANCEL req [] ErrInvalidArgument [.str "<text>"] []⟩] }

def yieldOut (r : Realm) (s : Session) (req : Nat) (opts : Dict) (args : List WVal) (kw : Dict) : DOut :=
  syncYield r.denv r.ds s.key req opts args kw (opts.optFlag OptProgress) true

def dispatchScript (r : Realm) (s : Session) : Msg → Script
  | .publish req opts topic args kw => publishScript r s req opts topic args kw
  | .yield req opts args kw => dealerScript r (yieldOut r s req opts args kw)
  | .call req opts proc args kw => dealerScript r (syncCall r.denv r.ds s.key req opts proc args kw r.rnd)
  | .cancel req opts => cancelScript r s req opts
  | .subscribe req opts topic => subscribeScript r s req opts topic
  | .register req opts proc => registerScript r s req opts proc
  | .unsubscribe req sub => unsubscribeScript r s req sub
  | .unregister req reg => dealerScript r (syncUnregister r.ds s.key req reg)
  | .error typ req details err args kw =>
    if typ != tINVOCATION then {} else dealerScript r (syncError r.ds s.key req details err args kw)
  | .goodbye _ _ => { offers := [⟨s.key, .goodbye [] CloseGoodbyeAndOut⟩] }
  | _ => {}

theorem shaped_handleSubscribe (r : Realm) (s : Session) (req : Nat) (opts : Dict) (topic : String) :
    Shaped r (subscribeScript r s req opts topic) (handleSubscribe r s req opts topic) := by
  unfold subscribeScript
  cases hv : validUri r.broker.strict (opts.optString OptMatch) topic
  · rw [handleSubscribe_invalid r s req opts topic hv]
    exact shaped_deliver r _
  · rw [handleSubscribe_ok r s req opts topic hv]
    exact shaped_brokerStep r (.subscribe s.key req topic (opts.optString OptMatch) r.pubCount) _ _ (Nat.le_add_right _ _)

theorem shaped_handleUnsubscribe (r : Realm) (s : Session) (req sub : Nat) :
    Shaped r (unsubscribeScript r s req sub) (handleUnsubscribe r s req sub) :=
  shaped_brokerStep r (.unsubscribe s.key req sub r.pubCount) _ _ (Nat.le_add_right _ _)

/-- the script of a broker-facing input handled on its own (`handleB`) -/
def bScript (r : Realm) : BMsg → Script
  | .publish s x => publishScript r s x.req x.opts x.topic x.args x.kw
  | .subscribe s req opts topic => subscribeScript r s req opts topic
  | .unsubscribe s req sub => unsubscribeScript r s req sub

theorem shaped_handleB (r : Realm) (m : BMsg) : Shaped r (bScript r m) (handleB r m) := by
  cases m with
  | publish s x => exact shaped_handlePublish ..
  | subscribe s req opts topic => exact shaped_handleSubscribe ..
  | unsubscribe s req sub => exact shaped_handleUnsubscribe ..

theorem shaped_dispatch (r : Realm) (s : Session) (m : Msg) :
    Shaped r (dispatchScript r s m) (Realm.dispatch r s m) := by
  cases m
  case publish => exact shaped_handlePublish ..
  case yield req opts args kw =>
    show Shaped r _ (handleYield r s req opts args kw)
    unfold handleYield
    dsimp only
    have h := shaped_applyD r (yieldOut r s req opts args kw) (.yield ..)
    split
    · exact h.still_right ⟨rfl, rfl, rfl, rfl, rfl⟩
    · exact h
  case call => exact shaped_applyD r _ (.call ..)
  case cancel req opts =>
    show Shaped r (cancelScript r s req opts)
      (if cancelModeOk opts then r.applyD (syncCancel r.denv r.ds s.key req (cancelMode opts) ErrCanceled [])
       else r.trySend ⟨s.key, .error tCANCEL req [] ErrInvalidArgument [.str "<text>"] []⟩)
    unfold cancelScript
    split
    · exact shaped_applyD r _ (.cancel ..)
    · exact shaped_trySend r _
  case subscribe => exact shaped_handleSubscribe ..
  case register req opts proc =>
    show Shaped r (registerScript r s req opts proc) (handleRegister r s req opts proc)
    rw [WpA.handleRegister_eq, registerScript, registerRefusal_eq]
    cases hr : WpA.registerRefusal r s req opts proc with
    | some e => exact shaped_trySend r _
    | none =>
      refine shaped_applyD r _ (.register _ _ _ _ _ _ _ _ ?_)
      exact WpA.registerRefusal_cases (P := fun o => o = none → _) r s req opts proc (fun _ h => nomatch h)
        (fun _ h => nomatch h) (fun _ h => nomatch h) (fun _ h => nomatch h) (fun _ _ _ h _ => Classical.not_not.mp h) hr
  case unsubscribe => exact shaped_handleUnsubscribe ..
  case unregister => exact shaped_applyD r _ (.unregister ..)
  case error typ req details err args kw =>
    show Shaped r (if typ != tINVOCATION then {} else dealerScript r (syncError r.ds s.key req details err args kw))
      (if typ != tINVOCATION then _ else handleError r s req details err args kw)
    split
    · exact Still.shaped ⟨rfl, rfl, rfl, rfl, rfl⟩
    · exact shaped_applyD r _ (.error ..)
  case goodbye =>
    exact (shaped_trySend r ⟨s.key, .goodbye [] CloseGoodbyeAndOut⟩).still_right ⟨rfl, rfl, rfl, rfl, rfl⟩
  all_goals exact Still.shaped ⟨rfl, rfl, rfl, rfl, rfl⟩

/-- the script of `handleMsg r s m`: the handler of session `s` reads `m` -/
def msgScript (r : Realm) (s : Session) (m : Msg) : Script :=
  if (authzGate r s m).1 then dispatchScript r s m else { offers := gateOffers r s m }

theorem shaped_handleMsg (r : Realm) (s : Session) (m : Msg) : Shaped r (msgScript r s m) (handleMsg r s m) := by
  rw [handleMsg_eq]
  unfold msgScript
  split
  · rename_i h
    rw [authzGate_pass h]
    exact shaped_dispatch r s m
  · rw [(authzGate_deliver r s m).1]
    exact shaped_deliver r _

def recvScript (r : Realm) (k : SessKey) (m : Msg) : Script :=
  match r.clients.find? (fun c => c.key == k) with
  | none => {}
  | some s => if r.ending.contains k then {} else if r.busy k then {} else msgScript r s m

theorem shaped_recvMsg (r : Realm) (k : SessKey) (m : Msg) : Shaped r (recvScript r k m) (r.recvMsg k m) := by
  rw [recvMsg_eq]
  unfold recvScript
  cases r.clients.find? (fun c => c.key == k) with
  | none => exact Shaped.refl r
  | some s =>
    dsimp only
    split
    · exact Shaped.refl r
    · split
      · split
        · exact Still.shaped ⟨rfl, rfl, rfl, rfl, rfl⟩
        · exact Shaped.refl r
      · exact shaped_handleMsg ..

theorem shaped_leaveSend (r : Realm) (k : SessKey) (mode : LeaveMode) :
    Shaped r { offers := leaveOffer k mode } (leaveSend r k mode) := by
  rw [leaveSend_eq]
  exact shaped_deliver r _

/-- the script of `r.leave k mode`: the dealer and the broker forget the session; unless the router
    shuts down, the dealer's replies and the broker's meta events are delivered -/
def leaveScript (r : Realm) (k : SessKey) (mode : LeaveMode) : Script :=
  match r.clients.find? (fun c => c.key == k) with
  | none => {}
  | some _ =>
    { bsteps := [.removeSession k r.pubCount],
      dsteps := [(r.ds, syncRemoveSession (leaveSend r k mode).denv r.ds k)],
      offers := leaveOffer k mode ++
        (if mode.isShutdown then []
         else (syncRemoveSession (leaveSend r k mode).denv r.ds k).sends ++
              (r.broker.syncRemoveSession k r.pubCount).2.1) }

theorem leaveScript_some {r : Realm} {k : SessKey} {s : Session} (mode : LeaveMode)
    (hf : r.clients.find? (fun c => c.key == k) = some s) :
    leaveScript r k mode =
      { bsteps := [.removeSession k r.pubCount],
        dsteps := [(r.ds, syncRemoveSession (leaveSend r k mode).denv r.ds k)],
        offers := leaveOffer k mode ++
          (if mode.isShutdown then []
           else (syncRemoveSession (leaveSend r k mode).denv r.ds k).sends ++
                (r.broker.syncRemoveSession k r.pubCount).2.1) } := by
  unfold leaveScript
  rw [hf]

/-- what a (non-shutdown) departure offers: its announcement, the dealer's messages, the broker's meta events -/
theorem leaveScript_offers {r : Realm} {k : SessKey} {s : Session} {mode : LeaveMode}
    (hfind : r.clients.find? (fun c => c.key == k) = some s) (hmode : mode.isShutdown = false) :
    (leaveScript r k mode).offers = leaveOffer k mode ++
      ((syncRemoveSession (leaveSend r k mode).denv r.ds k).sends ++ (r.broker.syncRemoveSession k r.pubCount).2.1) := by
  rw [leaveScript_some mode hfind]
  simp only [hmode, Bool.false_eq_true, if_false]

end Nexus.L2.WpE
