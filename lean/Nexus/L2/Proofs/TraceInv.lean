/-
  Invariants and provenance along the ghost trace of a history.

  * `Rec.wf`: a `.task t` record starts in a state whose oldest task is `t`; the records of a ghost trace are;
  * `hist_inv`: in every record of the trace of a history from a reachable realm the broker invariant holds in the
    state the action starts in, and a kill that runs carries a GOODBYE (`KillOk` there, read at the oldest task): the
    two hypotheses of the per-record theorems `Rec.evOk`, `Rec.offer_replies`;
  * `hist_evOk`: hence every EVENT among the offers of every action of the history is addressed to a
    member of its subscription, before and after the action (C08);
  * `step_isMember_other`, `Rec.member_change`: an action changes the memberships of at most one session:
    the one whose SUBSCRIBE / UNSUBSCRIBE / departure its script hands to the broker;
  * `hist_entries`, `read_src`: every message waiting in a queue, and every message a client reads, was
    taken from the offers of an action of the history;
  * `handleB_no_events`, `runB_no_events`: a broker-facing input handled on its own (`handleB`) is shaped by its
    script too, so it adds no EVENT of a subscription to the queue of a session that is not a member.

  * which broker step an atomic action performs — `BKind b pc sc`: the script `sc` of an action starting with broker `b` and publication counter `pc`
  hands the broker goroutine nothing, or is the script of an accepted publication, of a SUBSCRIBE with a
  valid topic or of an UNSUBSCRIBE, each with its single broker step.  `Rec.bkind`: every atomic action is of one of
  these kinds or the departure of an attached session (`Rec.IsLeave`).  A SUBSCRIBE, UNSUBSCRIBE or departure step
  found in the script of an action tells which action it is (`Rec.of_subscribe`, `Rec.of_unsubscribe`,
  `Rec.of_removeSession`: inversions of `Rec.form`).
-/
import Nexus.L2.Proofs.TraceTasks
import Nexus.L2.Proofs.TraceQueue

namespace Nexus.L2.WpE
open Nexus.L2 Nexus.L2.Realm Gen.N

/-- What links a `.task` record to the task list of the state it starts in (and so to `TasksOk`); the records of a
    ghost trace satisfy it (`traceHist_wf`). -/
def Rec.wf (x : Rec) : Prop := ∀ t, x.act = .task t → x.pre.tasks.head? = some t

theorem Rec.wf.mem {x : Rec} (hw : x.wf) {t : Task} (e : x.act = .task t) : t ∈ x.pre.tasks :=
  List.mem_of_mem_head? (hw t e)

theorem wf_task {r : Realm} {t : Task} (h : r.tasks.head? = some t) : (⟨r, .task t⟩ : Rec).wf := by
  intro t' e
  cases e
  exact h

theorem wf_other (r : Realm) (a : Act) (h : ∀ t, a ≠ .task t) : (⟨r, a⟩ : Rec).wf := fun t e => absurd e (h t)

theorem wf_internal (r : Realm) (a : Act) (h : a.internal) : (⟨r, a⟩ : Rec).wf := fun t e => by subst e; exact h.elim

theorem traceStep_wf (r : Realm) (op : Op) : ∀ x ∈ traceStep r op, x.wf :=
  traceStep_forall (fun _ _ => wf_task) wf_internal r op (wf_other _ _ (fun _ e => nomatch e))

theorem traceHist_wf (ops : List Op) (r : Realm) : ∀ x ∈ traceHist r ops, x.wf :=
  traceHist_forall (fun _ _ => wf_task) wf_internal ops (fun r _ _ => wf_other r _ (fun _ e => nomatch e)) r

theorem chain_tasksOk {P : SessKey → Msg → Prop} {r r' : Realm} {tr : List Rec} (h : Chain r tr r')
    (hw : ∀ x ∈ tr, x.wf) (hop : ∀ x ∈ tr, ∀ k m, x.act = .op (.msg k m) → P k m) (hk : TasksOk P r) :
    (∀ x ∈ tr, TasksOk P x.pre) ∧ TasksOk P r' :=
  h.invariant (fun x hx hk => tasksOk_apply hk x.act (hw x hx) (hop x hx)) hk

theorem chain_inv {r r' : Realm} {tr : List Rec} (h : Chain r tr r') (hw : ∀ x ∈ tr, x.wf)
    (hb : BrokerInv r.broker) (hk : KillOk r) :
    (∀ x ∈ tr, BrokerInv x.pre.broker ∧ KillOk x.pre) ∧ BrokerInv r'.broker ∧ KillOk r' := by
  obtain ⟨b1, b2⟩ := h.invariant (P := fun q => BrokerInv q.broker) (fun x _ hb => by rw [x.spec.1]; exact hb.run _) hb
  obtain ⟨k1, k2⟩ := chain_tasksOk (P := fun _ _ => True) h hw (fun _ _ _ _ _ => trivial) hk
  exact ⟨fun x hx => ⟨b1 x hx, k1 x hx⟩, b2, k2⟩

theorem create_empty {cfg : Config} {r : Realm} (h : Realm.create cfg = some r) :
    r.tasks = [] ∧ r.deferred = [] ∧ r.queues = [] ∧ r.inbox = [] ∧ r.clients = [] := by
  rw [create_some h, registerMeta_eq]
  exact ⟨rfl, rfl, rfl, rfl, rfl⟩

theorem tasksOk_create {P : SessKey → Msg → Prop} {cfg : Config} {r : Realm} (h : Realm.create cfg = some r) :
    TasksOk P r := by
  obtain ⟨h1, h2, _, h4, _⟩ := create_empty h
  exact ⟨by rw [h1]; exact fun _ hx => (nomatch hx), by rw [h2]; exact fun _ hx => (nomatch hx),
    by rw [h4]; exact fun _ hx => (nomatch hx)⟩

theorem Reachable.killOk {cfg : Config} {r : Realm} (h : Realm.Reachable cfg r) : KillOk r := by
  induction h with
  | init h => exact tasksOk_create h
  | @step r op hr ih =>
    exact (chain_inv (chain_step r op) (traceStep_wf r op) hr.inv.1.binv ih).2.2

theorem hist_inv {cfg : Config} {r : Realm} (h : Realm.Reachable cfg r) (ops : List Op) :
    ∀ x ∈ traceHist r ops, BrokerInv x.pre.broker ∧
      ∀ k g ka, x.act = .task (.leave k (.killed g ka)) → isGoodbyeMsg g = true := fun x hx =>
  have ⟨hb, hk⟩ := (chain_inv (chain_hist ops r) (traceHist_wf ops r) h.inv.1.binv (Reachable.killOk h)).1 x hx
  ⟨hb, fun _ _ _ e => hk.tasks _ ((traceHist_wf ops r x hx).mem e)⟩

theorem hist_evOk {cfg : Config} {r : Realm} (h : Realm.Reachable cfg r) (ops : List Op) :
    ∀ x ∈ traceHist r ops, ∀ s ∈ x.script.offers, ∀ i, s.msg.eventSub? = some i →
      x.pre.broker.isMember s.to i ∧ x.post.broker.isMember s.to i := by
  intro x hx s hs i hi
  obtain ⟨hb, hk⟩ := hist_inv h ops x hx
  have := Rec.evOk x hb hk s hs i hi
  rw [x.spec.1]
  exact this

/-- the session whose SUBSCRIBE / UNSUBSCRIBE / departure the broker step is -/
def stepActor : BStep → Option SessKey
  | .publish .. => none
  | .subscribe k .. => some k
  | .unsubscribe k .. => some k
  | .removeSession k _ => some k

theorem step_isMember_other {b : Broker} (hb : BrokerInv b) (e : BStep) (k : SessKey) (i : Nat)
    (hk : stepActor e ≠ some k) : (b.step e).isMember k i ↔ b.isMember k i := by
  cases e with
  | publish sess now p => exact (b.tells_publish sess now p).others k i hk
  | subscribe k' req topic m pub0 => exact (hb.tells_subscribe k' req topic m pub0).others k i hk
  | unsubscribe k' req subId pub0 => exact (hb.tells_unsubscribe k' req subId pub0).others k i hk
  | removeSession k' pub0 => exact (hb.tells_removeSession k' pub0).others k i hk

theorem run_isMember_other : ∀ (steps : List BStep) {b : Broker}, BrokerInv b → ∀ (k : SessKey) (i : Nat),
    (∀ e ∈ steps, stepActor e ≠ some k) → ((b.run steps).isMember k i ↔ b.isMember k i)
  | [], _, _, _, _, _ => Iff.rfl
  | e :: rest, b, hb, k, i, h => by
    show ((b.step e).run rest).isMember k i ↔ _
    rw [run_isMember_other rest (hb.step e) k i (fun e' he' => h e' (List.mem_cons_of_mem _ he'))]
    exact step_isMember_other hb e k i (h e (List.mem_cons_self ..))

theorem Rec.member_change (x : Rec) (hb : BrokerInv x.pre.broker) (k : SessKey) (i : Nat)
    (h : ∀ e ∈ x.script.bsteps, stepActor e ≠ some k) : x.post.broker.isMember k i ↔ x.pre.broker.isMember k i := by
  rw [x.spec.1]
  exact run_isMember_other _ hb k i h

/-- `m` was appended to a queue of session `k` by an action of the trace -/
def Src (tr : List Rec) (k : SessKey) (m : Msg) : Prop := ∃ x ∈ tr, (⟨k, m⟩ : Send) ∈ x.enqueued

theorem Src.mono {tr tr' : List Rec} (h : ∀ x ∈ tr, x ∈ tr') {k : SessKey} {m : Msg} (hs : Src tr k m) : Src tr' k m := by
  obtain ⟨x, hx, hm⟩ := hs
  exact ⟨x, h x hx, hm⟩

theorem chain_entries {r r' : Realm} {tr : List Rec} (h : Chain r tr r') : ∀ q ∈ r'.queues, ∀ m ∈ q.2,
    (∃ q0 ∈ r.queues, q0.1 = q.1 ∧ m ∈ q0.2) ∨ Src tr q.1 m := by
  induction h with
  | nil r => exact fun q hq m hm => Or.inl ⟨q, hq, rfl, hm⟩
  | @cons x tr r' _ ih =>
    intro q hq m hm
    rcases ih q hq m hm with ⟨q0, hq0, hk, hm0⟩ | hs
    · rcases x.entries q0 hq0 m hm0 with ⟨q1, hq1, hk1, hm1⟩ | he
      · exact Or.inl ⟨q1, hq1, hk1.trans hk, hm1⟩
      · exact Or.inr ⟨x, List.mem_cons_self .., by rw [← hk]; exact he⟩
    · exact Or.inr (hs.mono (fun y hy => List.mem_cons_of_mem _ hy))

theorem traceStep_flush (r : Realm) (op : Op) :
    ∃ tr q, traceStep r op = tr ++ [⟨q, .flush⟩] ∧ Chain r tr q ∧ r.step op = q.flush := by
  by_cases ht : ∃ ms, op = .tick ms
  · obtain ⟨ms, rfl⟩ := ht
    exact ⟨_, _, rfl, chain_advance _ _ _, rfl⟩
  · have ht : ∀ ms, op ≠ .tick ms := fun ms e => ht ⟨ms, e⟩
    exact ⟨⟨r, .op op⟩ :: traceDrain taskFuel (r.stepOp op), drain taskFuel (r.stepOp op), traceStep_of_not_tick r ht,
      Chain.cons (x := ⟨r, .op op⟩) (chain_drain _ _), step_of_not_tick r op ht⟩

/-- Every message waiting in a queue after a history from a fresh realm was appended by an action of the history -/
theorem hist_entries {cfg : Config} {r0 : Realm} (h0 : Realm.create cfg = some r0) (ops : List Op) :
    ∀ q ∈ (runOps r0 ops).queues, ∀ m ∈ q.2, Src (traceHist r0 ops) q.1 m := by
  intro q hq m hm
  rcases chain_entries (chain_hist ops r0) q hq m hm with ⟨q0, hq0, _, _⟩ | h
  · rw [(create_empty h0).2.2.1] at hq0; cases hq0
  · exact h

/-- Every message a client reads (at the end of the step for input `op`, after the history `ops` from a fresh
    realm) was appended to its queue by an action of the history -/
theorem read_src {cfg : Config} {r0 : Realm} (h0 : Realm.create cfg = some r0) (ops : List Op) (op : Op) :
    ∀ q ∈ ((runOps r0 ops).step op).1.out, ∀ m ∈ q.2, Src (traceHist r0 (ops ++ [op])) q.1 m := by
  intro q hq m hm
  obtain ⟨tr, p, e, hc, hs⟩ := traceStep_flush (runOps r0 ops) op
  rw [hs] at hq
  have hq' : q ∈ p.queues := (flush_entries p).2 q hq
  have hchain : Chain r0 (traceHist r0 ops ++ tr) p := (chain_hist ops r0).append hc
  have hsub : ∀ x ∈ traceHist r0 ops ++ tr, x ∈ traceHist r0 (ops ++ [op]) := by
    intro x hx
    rw [traceHist_append]
    show x ∈ traceHist r0 ops ++ (traceStep (runOps r0 ops) op ++ [])
    rw [List.append_nil, e]
    rcases List.mem_append.mp hx with h | h
    · exact List.mem_append_left _ h
    · exact List.mem_append_right _ (List.mem_append_left _ h)
  rcases chain_entries hchain q hq' m hm with ⟨q0, hq0, _, _⟩ | h
  · rw [(create_empty h0).2.2.1] at hq0; cases hq0
  · exact h.mono hsub

theorem Shaped.no_events {r r' : Realm} {sc : Script} (h : Shaped r sc r') (he : EvOk r.broker sc) {k : SessKey}
    {i : Nat} (hnot : ¬ r.broker.isMember k i) : eventsOf i (r'.queueOf k) = eventsOf i (r.queueOf k) := by
  unfold eventsOf
  rw [h.spec.queueOf_taken, List.filterMap_append, msgsTo_no_events, List.append_nil]
  intro x hx hto hev
  exact hnot (hto ▸ (he x ((taken_sublist _ _).subset hx) i hev).1)

/-- A broker-facing step produces no EVENT of subscription `i` for a session `k` that is not a member
    of `i` when the step begins (not even if the step is `k`'s own SUBSCRIBE creating the membership:
    the SUBSCRIBED reply comes first and the meta events of that step go to the others). -/
theorem handleB_no_events {r : Realm} (hb : BrokerInv r.broker) (m : BMsg) (k : SessKey) (i : Nat)
    (hnot : ¬ r.broker.isMember k i) : eventsOf i ((handleB r m).queueOf k) = eventsOf i (r.queueOf k) :=
  (shaped_handleB r m).no_events (evOk_bScript hb m) hnot

theorem handleB_binv {r : Realm} (hb : BrokerInv r.broker) (m : BMsg) : BrokerInv (handleB r m).broker :=
  (shaped_handleB r m).broker ▸ hb.run _

/-- "EVENTs for (k, i) are only produced while k is a member of i": over any sequence of broker-facing
    steps of any sessions, if `k` is not a member of subscription `i` at the beginning of each step,
    the EVENTs of `i` in `k`'s queue are the same at the end as at the start. -/
theorem runB_no_events (k : SessKey) (i : Nat) : ∀ (l : List BMsg) {r : Realm}, BrokerInv r.broker →
    (∀ pre m post, l = pre ++ m :: post → ¬ (runB r pre).broker.isMember k i) →
    eventsOf i ((runB r l).queueOf k) = eventsOf i (r.queueOf k)
  | [], _, _, _ => rfl
  | m :: rest, r, hb, hnot => by
    have ih := runB_no_events k i rest (handleB_binv hb m) fun pre m' post e =>
      hnot (m :: pre) m' post (by rw [e]; rfl)
    show eventsOf i ((runB (handleB r m) rest).queueOf k) = _
    rw [ih, handleB_no_events hb m k i (hnot [] m rest rfl)]

/-- The broker's view of a script: the single broker step it hands over, if any (`Rec.bkind`). -/
inductive BKind (b : Broker) (pc : Nat) : Script → Prop
  | quiet {sc : Script} (h : sc.bsteps = []) : BKind b pc sc
  | publish (r : Realm) (s : Session) (req : Nat) (opts : Dict) (topic : String) (args : List WVal) (kw : Dict)
      (hb : r.broker = b) (hp : r.pubCount = pc) (hacc : pubAccepted r s opts topic = true) :
      BKind b pc (publishScript r s req opts topic args kw)
  | subscribe (r : Realm) (s : Session) (req : Nat) (opts : Dict) (topic : String)
      (hb : r.broker = b) (hp : r.pubCount = pc)
      (hv : validUri r.broker.strict (opts.optString OptMatch) topic = true) :
      BKind b pc (subscribeScript r s req opts topic)
  | unsubscribe (r : Realm) (s : Session) (req sub : Nat) (hb : r.broker = b) (hp : r.pubCount = pc) :
      BKind b pc (unsubscribeScript r s req sub)

theorem bkind_dealerScript (b : Broker) (pc : Nat) (r : Realm) (o : DOut) : BKind b pc (dealerScript r o) := .quiet rfl

theorem Rec.IsLeave.script {x : Rec} {k : SessKey} {mode : LeaveMode} {s : Session} (h : x.IsLeave k mode s) :
    x.script = leaveScript { x.pre with tasks := x.pre.tasks.tail } k mode ∧
    x.post = ({ x.pre with tasks := x.pre.tasks.tail } : Realm).leave k mode ∧
    x.script.bsteps = [.removeSession k x.pre.pubCount] := by
  obtain ⟨r, a⟩ := x
  obtain ⟨ha, hb, hf⟩ := h
  dsimp only at ha hb hf
  subst ha
  have hb' : ¬ ({ r with tasks := r.tasks.tail } : Realm).busy k = true := fun e => Bool.false_ne_true (hb.symm.trans e)
  have e1 : (⟨r, .task (.leave k mode)⟩ : Rec).script = leaveScript { r with tasks := r.tasks.tail } k mode :=
    if_neg hb'
  refine ⟨e1, (runTask_leave ..).trans (if_neg hb'), ?_⟩
  rw [e1, leaveScript_some (r := { r with tasks := r.tasks.tail }) mode hf]

/-- Every atomic action hands the broker goroutine at most one step: nothing, an accepted publication, a valid
    SUBSCRIBE, an UNSUBSCRIBE (`BKind`) — or it is the departure of an attached session -/
theorem Rec.bkind (x : Rec) :
    BKind x.pre.broker x.pre.pubCount x.script ∨ ∃ k mode s, x.IsLeave k mode s := by
  have h := x.form
  generalize x.script = sc, x.call? = c?, x.pub? = p? at h
  cases h with
  | publish r s req opts topic args kw hs _ _ _ hacc =>
    exact .inl (publishScript_accepted hacc req args kw ▸ .publish r s req opts topic args kw hs.broker hs.pubCount hacc)
  | subscribe r s req opts topic hs hv =>
    exact .inl (subscribeScript_valid hv s req ▸ .subscribe r s req opts topic hs.broker hs.pubCount hv)
  | unsubscribe r s req sub hs => exact .inl (.unsubscribe r s req sub hs.broker hs.pubCount)
  | leave _ k mode s _ hl => exact .inr ⟨k, mode, s, hl⟩
  | _ => exact .inl (.quiet rfl)

theorem Rec.of_subscribe (x : Rec) {k : SessKey} {req : Nat} {topic m : String} {p : Nat}
    (hmem : BStep.subscribe k req topic m p ∈ x.script.bsteps) :
    x.script.bsteps = [.subscribe k req topic m x.pre.pubCount] ∧ p = x.pre.pubCount ∧
    x.script.offers = (x.pre.broker.syncSubscribe k req topic m x.pre.pubCount).2.1 := by
  have h := x.form
  generalize x.script = sc, x.call? = c?, x.pub? = p? at h hmem ⊢
  cases h with
  | subscribe r s q opts t hs hv =>
    simp only [List.mem_singleton, BStep.subscribe.injEq] at hmem
    obtain ⟨rfl, rfl, rfl, rfl, rfl⟩ := hmem
    rw [← hs.broker, ← hs.pubCount]
    exact ⟨rfl, rfl, rfl⟩
  | _ => simp [unsubscribeScript, dealerScript, timerScript] at hmem

theorem Rec.of_unsubscribe (x : Rec) {k : SessKey} {req sub p : Nat}
    (hmem : BStep.unsubscribe k req sub p ∈ x.script.bsteps) :
    x.script.bsteps = [.unsubscribe k req sub x.pre.pubCount] ∧ p = x.pre.pubCount ∧
    x.script.offers = (x.pre.broker.syncUnsubscribe k req sub x.pre.pubCount).2.1 := by
  have h := x.form
  generalize x.script = sc, x.call? = c?, x.pub? = p? at h hmem ⊢
  cases h with
  | unsubscribe r s q sub' hs =>
    simp only [unsubscribeScript, List.mem_singleton, BStep.unsubscribe.injEq] at hmem
    obtain ⟨rfl, rfl, rfl, rfl⟩ := hmem
    rw [← hs.broker, ← hs.pubCount]
    exact ⟨rfl, rfl, rfl⟩
  | _ => simp [dealerScript, timerScript] at hmem

theorem Rec.of_removeSession (x : Rec) {k : SessKey} {p : Nat} (hmem : BStep.removeSession k p ∈ x.script.bsteps) :
    ∃ mode s, x.IsLeave k mode s := by
  have h := x.form
  generalize x.script = sc, x.call? = c?, x.pub? = p? at h hmem
  cases h with
  | leave r k' mode s hs hl =>
    simp only [List.mem_singleton, BStep.removeSession.injEq] at hmem
    exact ⟨mode, s, hmem.1 ▸ hl⟩
  | _ => simp [unsubscribeScript, dealerScript, timerScript] at hmem

end Nexus.L2.WpE
