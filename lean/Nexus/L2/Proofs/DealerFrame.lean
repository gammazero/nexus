/-
  Frame properties of the dealer's `sync*` functions: what a step cannot change.  CANCEL, YIELD and INVOCATION
  ERROR only shrink the state (`Shrinks`, of which `StateSub` is the part used here); CALL, REGISTER, UNREGISTER and
  session removal each get the statement of what else they may touch.
-/
import Nexus.L2.Proofs.DealerTimer
import Nexus.L2.Proofs.DealerInvoke

namespace Nexus.L2
open Gen.N

theorem dispatch_sub {env : DEnv} {s : DState} {v : Invk} (hv : v ∈ s.d.invs) (caller : SessKey) (req : Nat)
    (callee : SessKey) (invReq timeout : Nat) (m : Msg) :
    StateSub s (dispatch env s caller req callee invReq v timeout m).st :=
  (dispatch_shrinks hv ..).sub

theorem syncRemoveSession_frame {env : DEnv} {s : DState} (h : DealerInv s) (k : SessKey) :
    (syncRemoveSession env s k).st.invGen = s.invGen ∧
    (∀ v' ∈ (syncRemoveSession env s k).st.d.invs, ∃ v ∈ s.d.invs, v.shapeC = v'.shapeC) ∧
    (∀ id c, calleeRel (syncRemoveSession env s k).st.d.regs id c ↔ calleeRel s.d.regs id c ∧ c ≠ k) := by
  obtain ⟨s1, _, rfl, _, hrel, he⟩ := removeSession_mid (env := env) h k
  rw [he]
  have hsub (s1 : DState) := ((cancelServed_shrinks env k s.d.invs s1).trans
    (dropCalls_shrinks k (cancelServed env s1 k s.d.invs).1.d.calls _)).sub
  exact ⟨(hsub _).gen, (hsub _).invs, fun id c => by rw [(hsub _).regs]; exact hrel id c⟩

theorem syncRemoveSession_no_inv {env : DEnv} {s : DState} (h : DealerInv s) (k : SessKey) :
    ∀ v' ∈ (syncRemoveSession env s k).st.d.invs, v'.callee ≠ k := by
  intro v' hv' hk
  obtain ⟨v, hv, hs⟩ := (syncRemoveSession_frame (env := env) h k).2.1 v' hv'
  simp only [Invk.shapeC, Prod.mk.injEq] at hs
  have hinv := (syncRemoveSession_inv (env := env) h k).1
  have hc := (hinv.call.inv_call hv').1
  exact (syncRemoveSession_calls h k _ hc).2.2 v hv (hs.2.2.1.trans hk) hs.2.1

/-- what a CALL (for call `c`) can change besides `calls`: cursors of registrations, one new invocation (with the
    next id of its callee's generator), that generator -/
structure CallFrame (s : DState) (c : ReqId) (s' : DState) : Prop where
  gen : ∀ k, genOf s.invGen k ≤ genOf s'.invGen k
  regs : s'.d.regs.map Reg.shape = s.d.regs.map Reg.shape
  invs : ∀ v' ∈ s'.d.invs, (∃ v ∈ s.d.invs, v.shapeC = v'.shapeC) ∨
    (v'.callId = c ∧ c ∉ s.d.calls ∧ v'.id = ⟨v'.callee, genOf s.invGen v'.callee + 1⟩ ∧
      calleeRel s.d.regs v'.regId v'.callee)

theorem CallFrame.of_sub {s S s' : DState} {c : ReqId} (hS : CallFrame s c S) (hs : StateSub S s') :
    CallFrame s c s' := by
  refine ⟨fun k => hs.gen ▸ hS.gen k, hs.regs ▸ hS.regs, fun v' hv' => ?_⟩
  obtain ⟨w, hw, hws⟩ := hs.invs v' hv'
  rcases hS.invs w hw with ⟨v, hv, hvs⟩ | hnew
  · exact .inl ⟨v, hv, hvs.trans hws⟩
  · simp only [Invk.shapeC, Prod.mk.injEq] at hws
    rw [hws.1, hws.2.1, hws.2.2.1, hws.2.2.2.1] at hnew
    exact .inr hnew

theorem Opens.frame {s S : DState} {c : ReqId} (h : DealerInv s) (o : Opens s c S) : CallFrame s c S := by
  cases o with
  | same => exact ⟨fun _ => Nat.le_refl _, rfl, fun v hv => .inl ⟨v, hv, rfl⟩⟩
  | cursor hm hp =>
    exact ⟨fun _ => Nat.le_refl _, setReg_shape h.reg.regs.ids hm (pickCallee_shape hp).1, fun v hv => .inl ⟨v, hv, rfl⟩⟩
  | @record reg reg' callee rnd opts hm hp hc =>
    refine ⟨fun k => genOf_le_invGenNext _ _ _, setReg_shape h.reg.regs.ids hm (pickCallee_shape hp).1, fun w hw => ?_⟩
    rcases List.mem_append.1 (show w ∈ s.d.invs ++ [_] from hw) with hw | hw
    · exact .inl ⟨w, hw, rfl⟩
    · rw [List.mem_singleton.1 hw]
      exact .inr ⟨rfl, hc, newInvk_id .., reg, hm, rfl, (pickCallee_mem hp).1⟩

theorem syncCall_frame {env : DEnv} {s : DState} (h : DealerInv s) (caller : SessKey) (req : Nat) (opts : Dict)
    (proc : String) (args : List WVal) (kw : Dict) (rnd : Nat) :
    CallFrame s ⟨caller, req⟩ (syncCall env s caller req opts proc args kw rnd).st := by
  obtain ⟨S, ho, hm⟩ := syncCall_moves (env := env) h caller req opts proc args kw rnd
  exact (ho.frame h).of_sub hm.shrinks.sub

/-- REGISTER either is refused (state unchanged, one ERROR) or answers REGISTERED(req, id) and makes the sender a
    callee of exactly that registration -/
theorem syncRegister_registered {s : DState} (h : DealerInv s) (callee : SessKey) (req : Nat) (proc m invoke : String)
    (disclose fwd wampURI : Bool) :
    (∃ id, (syncRegister s callee req proc m invoke disclose fwd wampURI).sends = [⟨callee, .registered req id⟩] ∧
      ∀ id' k, calleeRel (syncRegister s callee req proc m invoke disclose fwd wampURI).st.d.regs id' k →
        calleeRel s.d.regs id' k ∨ (k = callee ∧ id' = id)) ∨
    ((syncRegister s callee req proc m invoke disclose fwd wampURI).st = s ∧
      (syncRegister s callee req proc m invoke disclose fwd wampURI).sends =
        [⟨callee, errMsg tREGISTER req ErrProcedureAlreadyExists⟩]) := by
  apply syncRegister_cases (P := fun o =>
    (∃ id, o.sends = [⟨callee, .registered req id⟩] ∧
      ∀ id' k, calleeRel o.st.d.regs id' k → calleeRel s.d.regs id' k ∨ (k = callee ∧ id' = id)) ∨
    (o.st = s ∧ o.sends = [⟨callee, errMsg tREGISTER req ErrProcedureAlreadyExists⟩]))
  · intro _
    refine .inl ⟨s.d.nextReg + 1, rfl, ?_⟩
    rintro id' k ⟨r, hr, h1, h2⟩
    rcases List.mem_append.1 hr with hr | hr
    · exact .inl ⟨r, hr, h1, h2⟩
    · simp only [List.mem_singleton] at hr; subst hr
      exact .inr ⟨by simpa using h2, h1.symm⟩
  · intro _ _ _; exact .inr ⟨rfl, rfl⟩
  · intro reg hf _ _ _
    have hm := ((findProc_eq_some h.reg.regs.keys).1 hf).1
    refine .inl ⟨reg.id, rfl, fun id' k hx => ?_⟩
    rcases (calleeRel_setReg hm _ id' k).1 hx with ⟨_, hx'⟩ | ⟨rfl, hc⟩
    · exact .inl hx'
    · rcases List.mem_append.1 hc with hc | hc
      · exact .inl ⟨reg, hm, rfl, hc⟩
      · exact .inr ⟨by simpa using hc, rfl⟩

theorem syncRegister_callees {s : DState} (h : DealerInv s) (callee : SessKey) (req : Nat) (proc m invoke : String)
    (disclose fwd wampURI : Bool) (id : Nat) (k : SessKey)
    (hc : calleeRel (syncRegister s callee req proc m invoke disclose fwd wampURI).st.d.regs id k) :
    calleeRel s.d.regs id k ∨ k = callee := by
  rcases syncRegister_registered h callee req proc m invoke disclose fwd wampURI with ⟨_, _, hr⟩ | ⟨he, _⟩
  · exact (hr id k hc).imp_right (·.1)
  · exact .inl (he ▸ hc)

theorem syncUnregister_frame {s : DState} (h : DealerInv s) (callee : SessKey) (req regId : Nat) :
    (syncUnregister s callee req regId).st.invGen = s.invGen ∧
    (syncUnregister s callee req regId).st.d.invs = s.d.invs ∧
    (∀ id k, calleeRel (syncUnregister s callee req regId).st.d.regs id k ↔
      calleeRel s.d.regs id k ∧ ¬ (k = callee ∧ id = regId)) := by
  obtain ⟨_, he, _, hrel⟩ := syncUnregister_regs h callee req regId
  rw [he]
  exact ⟨rfl, rfl, hrel⟩

def IsRegisterStep (s : DState) (o : DOut) (k : SessKey) : Prop :=
  ∃ req proc m invoke disclose fwd wampURI, o = syncRegister s k req proc m invoke disclose fwd wampURI

/-- What no step does: move an id generator back; store an invocation that was not stored before with the same id,
    call and callee, other than the one a CALL creates (whose id is the next one of its callee's generator); make a
    session a callee other than by its own REGISTER. -/
structure StepFrame (s : DState) (o : DOut) : Prop where
  gen : ∀ k, genOf s.invGen k ≤ genOf o.st.invGen k
  invs : ∀ v' ∈ o.st.d.invs, (∃ v ∈ s.d.invs, v.shapeC = v'.shapeC) ∨
    (v'.callId ∉ s.d.calls ∧ IsCallStep s o v'.callId ∧ v'.id = ⟨v'.callee, genOf s.invGen v'.callee + 1⟩ ∧
      calleeRel s.d.regs v'.regId v'.callee)
  callees : ∀ id k, calleeRel o.st.d.regs id k → calleeRel s.d.regs id k ∨ IsRegisterStep s o k

theorem StepFrame.of_sub {s : DState} {o : DOut} (hs : StateSub s o.st) : StepFrame s o :=
  ⟨fun k => by rw [hs.gen]; exact Nat.le_refl _, fun v' hv' => .inl (hs.invs v' hv'), fun _ _ hc => .inl (hs.regs ▸ hc)⟩

theorem DStep.frame {s : DState} {o : DOut} (h : DealerInv s) (st : DStep s o) : StepFrame s o := by
  cases st with
  | register callee req proc m invoke disclose fwd wampURI hk =>
    obtain ⟨_, _, _, he⟩ := syncRegister_st s callee req proc m invoke disclose fwd wampURI
    refine ⟨fun k => by rw [he]; exact Nat.le_refl _, fun v' hv' => .inl ⟨v', by rw [he] at hv'; exact hv', rfl⟩,
      fun id k hc => ?_⟩
    rcases syncRegister_callees h callee req proc m invoke disclose fwd wampURI id k hc with hx | rfl
    · exact .inl hx
    · exact .inr ⟨req, proc, m, invoke, disclose, fwd, wampURI, rfl⟩
  | unregister callee req regId =>
    obtain ⟨hg, hi, hr⟩ := syncUnregister_frame h callee req regId
    exact ⟨fun k => by rw [hg]; exact Nat.le_refl _, fun v' hv' => .inl ⟨v', hi ▸ hv', rfl⟩,
      fun id k hc => .inl ((hr id k).1 hc).1⟩
  | call env caller req opts proc args kw rnd =>
    obtain ⟨hg, hr, hi⟩ := syncCall_frame (env := env) h caller req opts proc args kw rnd
    refine ⟨hg, fun v' hv' => ?_, fun id k hc => .inl ((calleeRel_congr hr id k).1 hc)⟩
    rcases hi v' hv' with hx | ⟨h1, h2, h3, h4⟩
    · exact .inl hx
    · exact .inr ⟨h1 ▸ h2, ⟨env, opts, proc, args, kw, rnd, by rw [h1]⟩, h3, h4⟩
  | cancel => exact .of_sub (syncCancel_shrinks ..).sub
  | yield => exact .of_sub (syncYield_shrinks ..).sub
  | error => exact .of_sub (syncError_shrinks ..).sub
  | removeSession env k =>
    obtain ⟨hg, hi, hr⟩ := syncRemoveSession_frame (env := env) h k
    exact ⟨fun k' => by rw [hg]; exact Nat.le_refl _, fun v' hv' => .inl (hi v' hv'),
      fun id k' hc => .inl ((hr id k').1 hc).1⟩
  | dropTimers => exact .of_sub ⟨rfl, rfl, fun v hv => ⟨v, hv, rfl⟩⟩

/-- a YIELD by the owner of the invocation is answered towards the caller of that call and the yielding
    callee only -/
theorem yield_recipients {env : DEnv} {s : DState} (h : DealerInv s) {v : Invk} (hv : v ∈ s.d.invs) (opts : Dict)
    (args : List WVal) (kw : Dict) (progress canRetry : Bool) :
    ∀ x ∈ (syncYield env s v.id.sess v.id.req opts args kw progress canRetry).sends,
      x.to = v.callId.sess ∨ x.to = v.id.sess := by
  have hcallee : v.callee = v.id.sess := h.call.callee v hv
  rw [syncYield_owner h hv]
  refine yieldOut_cases (P := fun o => ∀ x ∈ o.sends, x.to = v.callId.sess ∨ x.to = v.id.sess)
    h opts args kw progress canRetry hv rfl ?_ ?_ ?_ ?_ ?_ ?_
  · intro _ x hx
    rcases List.mem_cons.1 hx with rfl | hx
    · exact .inl rfl
    · rw [List.mem_singleton.1 hx]; exact .inr rfl
  · intro _ _ x hx
    rcases List.mem_append.1 hx with hx | hx
    · rw [List.mem_singleton.1 hx]; exact .inr rfl
    · split at hx
      · cases hx
      · rw [List.mem_singleton.1 hx]; exact .inl rfl
  · intro _ _ _ x hx; rw [List.mem_singleton.1 hx]; exact .inl rfl
  · intro _ _ x hx; cases hx
  · intro _ _ _ x hx; cases hx
  · intro _ _ _ x hx
    rcases List.mem_append.1 hx with hx | hx
    · split at hx
      · rw [List.mem_singleton.1 hx]; exact .inr hcallee
      · cases hx
    · rw [List.mem_singleton.1 hx]; exact .inl rfl

theorem DStep.sends_kind {s : DState} {o : DOut} (st : DStep s o) (x : Send) (hx : x ∈ o.sends) :
    (x.msg.isInvocation = true →
      ∃ env caller req opts proc args kw rnd, o = syncCall env s caller req opts proc args kw rnd) ∧
    (x.msg.isResult = true →
      ∃ env callee req opts args kw progress canRetry, o = syncYield env s callee req opts args kw progress canRetry) := by
  -- the steps that send neither
  have plain {A B : Prop} (hp : x.msg.isPlain = true) : (x.msg.isInvocation = true → A) ∧ (x.msg.isResult = true → B) :=
    ⟨fun e => (by rw [(Msg.isPlain_kinds hp).1] at e; cases e), fun e => (by rw [(Msg.isPlain_kinds hp).2] at e; cases e)⟩
  have neither {A B : Prop} {k : SessKey} (h : DSend s k false false x) :
      (x.msg.isInvocation = true → A) ∧ (x.msg.isResult = true → B) :=
    ⟨fun e => (nomatch h.kinds.1 e), fun e => (nomatch h.kinds.2 e)⟩
  cases st with
  | register => exact neither (syncRegister_sends _ _ _ _ _ _ _ _ _ x hx)
  | unregister => exact neither (syncUnregister_sends _ _ _ _ x hx)
  | call env caller req opts proc args kw rnd =>
    exact ⟨fun _ => ⟨env, caller, req, opts, proc, args, kw, rnd, rfl⟩,
      fun e => (nomatch (syncCall_sends _ _ _ _ _ _ _ _ _ x hx).kinds.2 e)⟩
  | cancel => exact plain (syncCancel_sends _ _ _ _ _ _ _ x hx).2
  | yield env callee req opts args kw progress canRetry =>
    exact ⟨fun e => (nomatch (syncYield_sends _ _ _ _ _ _ _ _ _ x hx).kinds.1 e),
      fun _ => ⟨env, callee, req, opts, args, kw, progress, canRetry, rfl⟩⟩
  | error => exact plain (syncError_sends _ _ _ _ _ _ _ x hx).2
  | removeSession => exact plain (syncRemoveSession_plain _ _ _ x hx)
  | dropTimers => cases hx

theorem DStep.invocation_is_call {s : DState} {o : DOut} (st : DStep s o) (x : Send)
    (hx : x ∈ o.sends) (hi : x.msg.isInvocation = true) :
    ∃ env caller req opts proc args kw rnd, o = syncCall env s caller req opts proc args kw rnd :=
  (st.sends_kind x hx).1 hi

/-- Where an INVOCATION comes from.  An INVOCATION(r, g, …) sent to `x.to` by any step of the dealer either opens an
    invocation — `r` is the next id of that callee's generator, which the step advances to `r`; every invocation
    stored for that callee has a smaller id; and `x.to` is a callee of registration `g` — or continues a stored one:
    an invocation with the id `(x.to, r)` is stored, `x.to` is its callee and `g` the registration id recorded in it. -/
theorem DStep.invocation_origin {s : DState} {o : DOut} (h : DealerInv s) (st : DStep s o) {x : Send}
    (hx : x ∈ o.sends) {r g : Nat} {d : Dict} {a : List WVal} {kw : Dict} (hm : x.msg = .invocation r g d a kw) :
    (r = genOf s.invGen x.to + 1 ∧ genOf o.st.invGen x.to = r ∧
      (∀ v ∈ s.d.invs, v.id.sess = x.to → v.id.req < r) ∧ calleeRel s.d.regs g x.to) ∨
    (∃ v ∈ s.d.invs, v.id = ⟨x.to, r⟩ ∧ v.callee = x.to ∧ v.regId = g) := by
  have hi : x.msg.isInvocation = true := by rw [hm]; rfl
  obtain ⟨env, caller, req, opts, proc, args, kw', rnd, rfl⟩ := st.invocation_is_call x hx hi
  revert hx
  refine syncCall_cases (env := env) (P := fun o => x ∈ o.sends →
      (r = genOf s.invGen x.to + 1 ∧ genOf o.st.invGen x.to = r ∧
        (∀ v ∈ s.d.invs, v.id.sess = x.to → v.id.req < r) ∧ calleeRel s.d.regs g x.to) ∨
      (∃ v ∈ s.d.invs, v.id = ⟨x.to, r⟩ ∧ v.callee = x.to ∧ v.regId = g))
    h caller req opts proc args kw' rnd ?_ ?_ ?_ ?_ ?_ ?_ ?_ ?_
  · intro _ hx
    simp only [progressAbort, List.mem_singleton] at hx; subst hx; cases hi
  · intro iid v0 _ _ hv hvi _ hve _ hx
    simp only [List.mem_singleton] at hx; subst hx
    obtain ⟨rfl, rfl, -⟩ := Msg.invocation.inj hm
    exact .inr ⟨v0, hv, by rw [hve, hvi], rfl, rfl⟩
  · intro iid v0 _ _ _ _ _ _ _ hx
    simp only [fullOut, List.mem_singleton] at hx; subst hx; cases hi
  · intro _ _ _ hx
    simp only [List.mem_singleton] at hx; subst hx; cases hi
  · intro reg reg' callee e _ _ _ _ _ _ _ hx
    simp only [List.mem_singleton] at hx; subst hx; cases hi
  · intro reg reg' callee _ _ _ _ _ _ _ hx
    simp only [List.mem_singleton] at hx; subst hx; cases hi
  · intro reg reg' callee _ _ _ hmem hp _ _ _ hx
    simp only [List.mem_singleton] at hx; subst hx
    obtain ⟨rfl, rfl, -⟩ := Msg.invocation.inj hm
    -- a stored id of that callee is at most the generator's value
    refine .inl ⟨rfl, ?_, fun v hv (hvs : v.id.sess = callee) => Nat.lt_succ_of_le (hvs ▸ (h.aux.gen v hv).2),
      reg, hmem, rfl, (pickCallee_mem hp).1⟩
    show genOf (armTimer env _ caller req _ _).invGen callee = _
    unfold armTimer
    split <;> simp [recordCall, genOf_invGenNext]
  · intro reg reg' callee _ _ _ _ _ _ _ _ hx
    simp only [fullOut, List.mem_singleton] at hx; subst hx; cases hi

/-- a call id enters `calls` only through the CALL that carries it -/
theorem DStep.calls_sub {s : DState} {o : DOut} (h : DealerInv s) (st : DStep s o) (c : ReqId)
    (hc : c ∈ o.st.d.calls) : c ∈ s.d.calls ∨ IsCallStep s o c := by
  cases st with
  | register => rw [syncRegister_calls] at hc; exact Or.inl hc
  | unregister => rw [syncUnregister_calls] at hc; exact Or.inl hc
  | call env caller req opts proc args kw rnd =>
    rcases syncCall_calls_sub h caller req opts proc args kw rnd c hc with hc | rfl
    · exact Or.inl hc
    · exact Or.inr ⟨env, opts, proc, args, kw, rnd, rfl⟩
  | cancel => exact Or.inl ((syncCancel_shrinks ..).calls c hc)
  | yield => exact Or.inl ((syncYield_shrinks ..).calls c hc)
  | error => exact Or.inl ((syncError_shrinks ..).calls c hc)
  | removeSession => exact Or.inl (syncRemoveSession_calls h _ c hc).1
  | dropTimers => exact Or.inl hc

end Nexus.L2
