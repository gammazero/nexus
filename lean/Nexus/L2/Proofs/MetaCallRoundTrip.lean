/-
  The steps of the meta-call round trip.  A CALL of a registered meta procedure is routed
  to the meta session (`syncCall` → INVOCATION to key 0 → `trySend` ⇒ `.metaInvoke` task); the task runs `metaProc`
  on the realm state at that moment and queues the answer as a `.metaMsg` task; that task is the meta session's
  YIELD / ERROR, which the dealer turns into the caller's RESULT / ERROR.  The composition is
  `C18_call_roundtrip_partial` (Props/C18).
-/
import Nexus.L2.Proofs.LeaveRegEvents

namespace Nexus.L2.Realm.WpA
open Nexus.L2 Nexus.L2.Realm Nexus.Gen.N Nexus.L2.WpA

theorem runTask_metaInvoke_some {r : Realm} {req reg : Nat} {d : Dict} {a : List WVal} {kw : Dict}
    {reg' : Nat} {proc : String} (h : r.metaProcs.find? (fun p => p.1 == reg) = some (reg', proc)) :
    r.runTask (.metaInvoke req reg d a kw) =
      (metaProc r proc req d a kw).2.addTasks [.metaMsg (metaProc r proc req d a kw).1] := by
  rw [runTask_metaInvoke, h]

theorem runTask_metaInvoke_none {r : Realm} {req reg : Nat} {d : Dict} {a : List WVal} {kw : Dict}
    (h : r.metaProcs.find? (fun p => p.1 == reg) = none) :
    r.runTask (.metaInvoke req reg d a kw) = r.addTasks [.metaMsg (mErr req ErrNoSuchProcedure)] := by
  rw [runTask_metaInvoke, h]

theorem runTask_metaMsg_yield (r : Realm) (hk : r.metaS.key = metaKey) (req : Nat) (a : List WVal) (kw : Dict) :
    r.runTask (.metaMsg (mYield req a kw)) = handleYield r r.metaS req [] a kw := by
  rw [runTask_metaMsg]
  unfold handleMsg
  rw [authzGate_meta r r.metaS _ hk]
  rfl

theorem runTask_metaMsg_err (r : Realm) (hk : r.metaS.key = metaKey) (req : Nat) (uri : String) :
    r.runTask (.metaMsg (mErr req uri)) = handleError r r.metaS req [] uri [] [] := by
  rw [runTask_metaMsg]
  unfold handleMsg
  rw [authzGate_meta r r.metaS _ hk]
  rfl

theorem metaProc_answer (r : Realm) (proc : String) (req : Nat) (details : Dict) (args : List WVal) (kw : Dict) :
    (∃ a kw', (metaProc r proc req details args kw).1 = mYield req a kw') ∨
    (∃ uri, (metaProc r proc req details args kw).1 = mErr req uri) := by
  have h := metaProc_step r proc req details args kw
  generalize metaProc r proc req details args kw = o at h ⊢
  cases h with
  | err uri => exact .inr ⟨uri, rfl⟩
  | same a kw' => exact .inl ⟨a, kw', rfl⟩
  | kill _ _ _ _ _ _ a => exact .inl ⟨a, [], rfl⟩
  | modify | testaments => exact .inl ⟨[], [], rfl⟩

/-- no effect detaches a client or changes its capabilities -/
theorem metaStep_caps {r : Realm} {proc : String} {req : Nat} {o : Msg × Realm} (e : MetaStep r proc req o)
    {k : SessKey} {c : Session} (h : r.clients.find? (fun c => c.key == k) = some c) :
    ∃ c', o.2.clients.find? (fun c => c.key == k) = some c' ∧ c'.cap = c.cap := by
  cases e with
  | modify _ k0 d =>
    have hcomp : ((fun c : Session => c.key == k) ∘
        fun c : Session => if (c.key == k0) = true then { c with details := d } else c) = fun c => c.key == k := by
      funext c
      simp only [Function.comp]
      split <;> rfl
    simp only [List.find?_map, hcomp, h, Option.map_some]
    exact ⟨_, rfl, by split <;> rfl⟩
  | _ => exact ⟨c, h, rfl⟩

theorem metaProc_tasks_nokill (r : Realm) (proc : String) (req : Nat) (details : Dict) (args : List WVal) (kw : Dict)
    (hnk : isKillProc proc = false) :
    (metaProc r proc req details args kw).2.tasks = r.tasks ∧
    (metaProc r proc req details args kw).2.ending = r.ending := by
  have h := metaProc_step r proc req details args kw
  generalize metaProc r proc req details args kw = o at h ⊢
  cases h with
  | kill hp =>
    simp only [isKillProc, Bool.or_eq_false_iff] at hnk
    rcases hp with h | h | h <;> simp [hnk] at h
  | _ => exact ⟨rfl, rfl⟩

theorem trySend_meta_invocation (r : Realm) (a b : Nat) (c : Dict) (d : List WVal) (e : Dict) :
    r.trySend ⟨metaKey, .invocation a b c d e⟩ = { r with tasks := r.tasks ++ [.metaInvoke a b c d e] } := by
  unfold trySend
  rw [if_pos rfl]

/-- the caller's view of the meta session's answer: YIELD ↦ RESULT, ERROR ↦ ERROR(CALL), with the CALL's request id -/
def callerReply (req : Nat) : Msg → Msg
  | .yield _ _ args kw => .result req [] args kw
  | .error _ _ details err args kw => .error tCALL req details err args kw
  | m => m

theorem armTimer_mem {env : DEnv} {s : DState} {v : Invk} (hv : v ∈ s.d.invs) (caller : SessKey) (req t : Nat) :
    ∃ v' ∈ (armTimer env s caller req v t).d.invs, v'.id = v.id ∧ v'.callId = v.callId :=
  have ⟨_, h⟩ := armTimer_stores (env := env) hv caller req t
  ⟨_, h, rfl, rfl⟩

theorem applyD_reply {r : Realm} (ht : r.tasks = []) (o : DOut) {k : SessKey} {c : Session} {m : Msg}
    (hk : k ≠ metaKey) (hc : r.clients.find? (fun c => c.key == k) = some c) (hroom : r.queueLen k < c.cap)
    (hs : o.sends = [⟨k, m⟩]) (hm : o.metaPubs = []) (ha : o.aborts = []) (hp : o.panic = none) :
    (r.applyD o).tasks = [] ∧ (r.applyD o).queueOf k = r.queueOf k ++ [m] := by
  rw [applyD_plain r o hm ha hp, hs, deliver_cons, deliver_nil]
  refine ⟨(trySend_tasks_of (dmetaTask_of_ne hk)).trans ht, ?_⟩
  rw [queueOf_trySend, if_pos]
  · rfl
  · refine ⟨rfl, hk, c, hc, ?_⟩
    have := queueLen_eq r k
    show (r.queueOf k).length < c.cap
    omega

/-- The call half: `dealer.call` for a plain CALL (no progress, no payload passthru) whose best match is a
    registration of the meta session alone, with caller disclosure on (every meta registration): the call is
    recorded and exactly one task is queued — the invocation of that registration with a fresh invocation id, the
    details built for the meta session (caller disclosed), the CALL's payload.  Nothing is sent. -/
theorem handleCall_meta {r : Realm} {c : Session} {req : Nat} {opts : Dict} {proc : String}
    (args : List WVal) (kw : Dict) {reg : Reg}
    (hb : r.ds.d.byCall? ⟨c.key, req⟩ = none) (hm : r.ds.d.matchProcedure proc = some reg)
    (hcal : reg.callees = [metaKey]) (hdis : reg.disclose = true)
    (hprog : opts.optFlag OptProgress = false) (hppt : pptScheme opts = "") :
    handleCall r c req opts proc args kw =
      { r with ds := armTimer r.denv
                   (recordCall { r.ds with d := r.ds.d.setReg reg } (newInvk r.ds reg c.key req metaKey opts) metaKey)
                   c.key req (newInvk r.ds reg c.key req metaKey opts) (routerTimeout r.denv reg metaKey opts),
               tasks := r.tasks ++ [.metaInvoke (genOf r.ds.invGen metaKey + 1) reg.id
                                      (invDetails r.denv reg c.key metaKey opts proc) args kw] } := by
  have hfull : r.denv.full metaKey = false := by
    show r.isFull metaKey = false
    unfold isFull
    rw [if_pos rfl]
  have hr : callRefusal r.denv r.ds.d.allowDisclose reg c.key metaKey opts = none := by
    unfold callRefusal
    simp [hprog, hppt, hdis]
  unfold handleCall
  rw [syncCall_picked args kw hm (by rw [hprog]; rfl) hb (pickCallee_single hcal r.rnd),
    firstChunk_ok args kw reg hr hfull, applyD_plain _ _ rfl rfl rfl, deliver_cons, deliver_nil, trySend_meta_invocation]

/-- the INVOCATION details built for a registration with caller disclosure (every meta registration) carry the
    caller's session id under `caller` — which is what `callerOf` hands to the meta procedure -/
theorem invDetails_caller (env : DEnv) (reg : Reg) (caller callee : SessKey) (opts : Dict) (proc : String)
    (hd : reg.disclose = true) :
    Dict.get? (invDetails env reg caller callee opts proc) "caller" = some (sidVal caller) := by
  have hdis : disclosed env reg callee opts = true := by unfold disclosed; rw [hd]; rfl
  obtain ⟨h12, h13, h23⟩ := roleKeys_distinct (.inr rfl)
  rw [show ("caller" : String) = RoleCaller from rfl, invDetails_get?_identity _ _ _ _ _ _ (.head _), hdis, if_pos rfl,
    discloseCaller, discloseInto_get? _ _ _ _ _ h12 h13 h23, if_pos rfl]
  rfl

end Nexus.L2.Realm.WpA
