/-
  The case analysis of `syncYield`, once: the equations of the three branches that end early (`syncYield_unknown`,
  `_foreign`, `_noCaller`), and the elimination principle `syncYield_cases` that hands every branch its conditions and
  its exact output.
-/
import Nexus.L2.Dealer

namespace Nexus.L2
open Gen.N

def yieldDetails (opts : Dict) (progress : Bool) : Dict :=
  if pptScheme opts != "" then pptInto opts (if progress then [(OptProgress, .bool true)] else [])
  else (if progress then [(OptProgress, .bool true)] else [])

def yieldPptCalleeBad (env : DEnv) (callee : SessKey) (opts : Dict) : Bool :=
  pptScheme opts != "" && !hasFeat env callee RoleCallee FeaturePayloadPassthruMode
def yieldPptCallerBad (env : DEnv) (caller : SessKey) (opts : Dict) : Bool :=
  pptScheme opts != "" && !hasFeat env caller RoleCaller FeaturePayloadPassthruMode

/-- state after the YIELD's own bookkeeping: a non-progress YIELD stops the timer -/
def yieldTimer (s : DState) (progress : Bool) (v : Invk) : DState := if progress then s else s.cancelTimer v.timer

/-- … and forgets the call -/
def yieldFinish (s : DState) (progress : Bool) (v : Invk) (iid : ReqId) : DState :=
  if progress then yieldTimer s progress v
  else { yieldTimer s progress v with d := (yieldTimer s progress v).d.forget v.callId iid }

section
variable {env : DEnv} {s : DState} {callee : SessKey} {req : Nat} {opts : Dict} (args : List WVal) (kw : Dict)
  (progress canRetry : Bool)

theorem syncYield_unknown (hf : s.d.findInv ⟨callee, req⟩ = none) :
    syncYield env s callee req opts args kw progress canRetry =
      if progress && !env.full callee then
        { st := s, sends := [⟨callee, .interrupt req [(OptMode, .str CancelModeKillNoWait)]⟩] }
      else { st := s } := by
  unfold syncYield
  simp only [hf]

variable {v : Invk} (hf : s.d.findInv ⟨callee, req⟩ = some v)
include hf

theorem syncYield_foreign (he : v.callee ≠ callee) :
    syncYield env s callee req opts args kw progress canRetry = { st := s } := by
  unfold syncYield
  simp only [hf]
  rw [if_pos (by simpa using he)]

variable (he : v.callee = callee)
include he

theorem syncYield_noCaller (hc : v.callId ∉ s.d.calls) :
    syncYield env s callee req opts args kw progress canRetry = { st := yieldFinish s progress v ⟨callee, req⟩ } := by
  unfold syncYield
  simp only [hf]
  rw [if_neg (by simp [he]), if_pos (by simpa using hc)]
  rfl

end

theorem syncYield_cases {P : DOut → Prop} (env : DEnv) (s : DState) (callee : SessKey) (req : Nat) (opts : Dict)
    (args : List WVal) (kw : Dict) (progress canRetry : Bool)
    (unknown : s.d.findInv ⟨callee, req⟩ = none → (progress && !env.full callee) = false → P { st := s })
    (interrupt : s.d.findInv ⟨callee, req⟩ = none → (progress && !env.full callee) = true →
      P { st := s, sends := [⟨callee, .interrupt req [(OptMode, .str CancelModeKillNoWait)]⟩] })
    (foreign : ∀ v, s.d.findInv ⟨callee, req⟩ = some v → v.callee ≠ callee → P { st := s })
    (noCaller : ∀ v, s.d.findInv ⟨callee, req⟩ = some v → v.callee = callee → v.callId ∉ s.d.calls →
      P { st := yieldFinish s progress v ⟨callee, req⟩ })
    (calleeBad : ∀ v, s.d.findInv ⟨callee, req⟩ = some v → v.callee = callee → v.callId ∈ s.d.calls →
      yieldPptCalleeBad env callee opts = true →
      P { st := { (yieldTimer s progress v).cancelTimer v.timer with
                  d := ((yieldTimer s progress v).cancelTimer v.timer).d.forget v.callId ⟨callee, req⟩ }
          sends := [⟨v.callId.sess, .error tCALL v.callId.req [("error", .str "<text>")] ErrFeatureNotSupported [] []⟩,
                    ⟨callee, abortMsg "<text>"⟩]
          aborts := [callee] })
    (callerBad : ∀ v, s.d.findInv ⟨callee, req⟩ = some v → v.callee = callee → v.callId ∈ s.d.calls →
      yieldPptCalleeBad env callee opts = false → yieldPptCallerBad env v.callId.sess opts = true →
      P { st := yieldFinish s progress v ⟨callee, req⟩
          sends := [⟨callee, .error tYIELD req [("error", .str "<text>")] ErrFeatureNotSupported [] []⟩] ++
                   (if progress then [] else
                     [⟨v.callId.sess, .error tCALL v.callId.req [("error", .str "<text>")] ErrFeatureNotSupported [] []⟩]) })
    (deliver : ∀ v, s.d.findInv ⟨callee, req⟩ = some v → v.callee = callee → v.callId ∈ s.d.calls →
      yieldPptCalleeBad env callee opts = false → yieldPptCallerBad env v.callId.sess opts = false →
      env.full v.callId.sess = false →
      P { st := yieldFinish s progress v ⟨callee, req⟩
          sends := [⟨v.callId.sess, .result v.callId.req (yieldDetails opts progress) args kw⟩] })
    (retry : ∀ v, s.d.findInv ⟨callee, req⟩ = some v → v.callee = callee → v.callId ∈ s.d.calls →
      yieldPptCalleeBad env callee opts = false → yieldPptCallerBad env v.callId.sess opts = false →
      env.full v.callId.sess = true → canRetry = true →
      P { st := yieldTimer s progress v, again := true })
    (giveup : ∀ v, s.d.findInv ⟨callee, req⟩ = some v → v.callee = callee → v.callId ∈ s.d.calls →
      yieldPptCalleeBad env callee opts = false → yieldPptCallerBad env v.callId.sess opts = false →
      env.full v.callId.sess = true → canRetry = false →
      P { syncCancel env (yieldTimer s progress v) v.callId.sess v.callId.req CancelModeKillNoWait ErrCanceled [] with
          st := if progress then
              (syncCancel env (yieldTimer s progress v) v.callId.sess v.callId.req CancelModeKillNoWait ErrCanceled []).st
            else
              { (syncCancel env (yieldTimer s progress v) v.callId.sess v.callId.req CancelModeKillNoWait ErrCanceled []).st with
                d := (syncCancel env (yieldTimer s progress v) v.callId.sess v.callId.req CancelModeKillNoWait ErrCanceled []).st.d.forget
                  v.callId ⟨callee, req⟩ } }) :
    P (syncYield env s callee req opts args kw progress canRetry) := by
  cases hf : s.d.findInv ⟨callee, req⟩ with
  | none =>
    rw [syncYield_unknown args kw progress canRetry hf]
    cases hp : progress && !env.full callee
    · exact unknown hf hp
    · exact interrupt hf hp
  | some v =>
    by_cases he : v.callee = callee
    case neg => rw [syncYield_foreign args kw progress canRetry hf he]; exact foreign v hf he
    by_cases hc : v.callId ∈ s.d.calls
    case neg => rw [syncYield_noCaller args kw progress canRetry hf he hc]; exact noCaller v hf he hc
    unfold syncYield
    simp only [hf]
    rw [if_neg (by simp [he]), if_neg (by simpa using hc)]
    cases h1 : yieldPptCalleeBad env callee opts <;> unfold yieldPptCalleeBad at h1
    case true => rw [if_pos h1]; exact calleeBad v hf he hc h1
    rw [if_neg (by simp [h1])]
    cases h2 : yieldPptCallerBad env v.callId.sess opts <;> unfold yieldPptCallerBad at h2
    case true => rw [if_pos h2]; exact callerBad v hf he hc h1 h2
    rw [if_neg (by simp [h2])]
    cases h3 : env.full v.callId.sess
    case false => rw [if_pos (by simp)]; exact deliver v hf he hc h1 h2 h3
    rw [if_neg (by simp)]
    cases canRetry
    case true => exact retry v hf he hc h1 h2 h3 rfl
    case false => exact giveup v hf he hc h1 h2 h3 rfl

end Nexus.L2
