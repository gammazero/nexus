/-
  C18: the sessions a kill procedure ends, given declaratively (`killTargets`, `endSessions`),
  and `killWhere` in these terms.  The full results of the four kill procedures are `C18_kill_exact`,
  `C18_kill_exact_session` and `C18_kill_errors` (Props/C18).
-/
import Nexus.L2.Proofs.RealmMeta

namespace Nexus.L2.Realm
open Nexus.L2 Nexus.Gen.N

namespace WpA

/-- the sessions a kill procedure with (declarative) selector `P` ends: the attached sessions that
    satisfy `P` and are not already ending, in `clients` order -/
noncomputable def killTargets (r : Realm) (P : Session → Prop) : List Session :=
  open Classical in r.clients.filter (fun c => decide (P c ∧ c.key ∉ r.ending))

/-- `r` after the sessions `vs` have been told to end with GOODBYE `g`: one `leave … (.killed g all)` task
    per session appended in order, their keys appended to `ending`; nothing else changes -/
def endSessions (r : Realm) (vs : List Session) (g : Msg) (all : Bool) : Realm :=
  { r with tasks := r.tasks ++ vs.map (fun c => Task.leave c.key (.killed g all)),
           ending := r.ending ++ vs.map (·.key) }

/-- `endSessions` field by field: one `leave` task and one `ending` mark per session of `vs`, in order, are
    appended; clients, broker, dealer state, queues and testaments stay -/
theorem endSessions_tasks (r : Realm) (vs : List Session) (g : Msg) (all : Bool) :
    (endSessions r vs g all).tasks = r.tasks ++ vs.map (fun c => Task.leave c.key (.killed g all)) ∧
    (endSessions r vs g all).ending = r.ending ++ vs.map (·.key) ∧
    (endSessions r vs g all).clients = r.clients ∧ (endSessions r vs g all).broker = r.broker ∧
    (endSessions r vs g all).ds = r.ds ∧ (endSessions r vs g all).queues = r.queues ∧
    (endSessions r vs g all).testaments = r.testaments := ⟨rfl, rfl, rfl, rfl, rfl, rfl, rfl⟩

theorem endSessions_nil (r : Realm) (g : Msg) (all : Bool) : endSessions r [] g all = r := by
  unfold endSessions; simp

end WpA
open WpA

theorem mem_killTargets (r : Realm) (P : Session → Prop) (c : Session) :
    c ∈ killTargets r P ↔ c ∈ r.clients ∧ P c ∧ c.key ∉ r.ending := by
  unfold killTargets
  simp only [List.mem_filter, decide_eq_true_eq]

theorem killTargets_sublist (r : Realm) (P : Session → Prop) : (killTargets r P).Sublist r.clients := by
  unfold killTargets; exact List.filter_sublist

theorem killWhere_exact (r : Realm) (sel : Session → Bool) (P : Session → Prop) (g : Msg) (ka : Bool)
    (h : ∀ c ∈ r.clients, sel c = true ↔ P c) :
    r.killWhere sel g ka = ((killTargets r P).length, endSessions r (killTargets r P) g ka) := by
  rw [← show r.clients.filter (fun c => sel c && !r.ending.contains c.key) = killTargets r P from
    List.filter_congr fun c hc => by simp [← h c hc]]
  rfl

theorem kill_apply (r : Realm) (sel : SessKey → Dict → Bool) (P : Session → Prop) (g : Msg) (ka : Bool)
    (h : ∀ c ∈ r.clients, sel c.key c.details = true ↔ P c) :
    (view r).victims sel = (killTargets r P).length ∧
      (MetaEff.kill sel g ka).apply r = endSessions r (killTargets r P) g ka := by
  have e := killWhere_exact r (fun c => sel c.key c.details) P g ka h
  exact ⟨(view_victims r sel g ka).trans (congrArg Prod.fst e), congrArg Prod.snd e⟩

theorem kill_run (r : Realm) (req : Nat) (sel : SessKey → Dict → Bool) (P : Session → Prop) (g : Msg) (ka : Bool)
    (h : ∀ c ∈ r.clients, sel c.key c.details = true ↔ P c) :
    (MetaOut.ok [.int ((view r).victims sel)] [] (.kill sel g ka)).run r req =
      (mYield req [.int (killTargets r P).length], endSessions r (killTargets r P) g ka) := by
  obtain ⟨e1, e2⟩ := kill_apply r sel P g ka h
  show (mYield req [.int ((view r).victims sel)], (MetaEff.kill sel g ka).apply r) = _
  rw [e1, e2]

theorem kill_victims (r : Realm) (sel : SessKey → Dict → Bool) (Q : Session → Prop) (g : Msg) (ka : Bool)
    (hsel : ∀ c : Session, sel c.key c.details = true → Q c) :
    ∃ victims : List Session,
      (MetaEff.kill sel g ka).apply r =
        { r with tasks := r.tasks ++ victims.map (fun c => Task.leave c.key (.killed g ka)),
                 ending := r.ending ++ victims.map (·.key) } ∧
      ∀ c ∈ victims, c ∈ r.clients ∧ Q c ∧ c.key ∉ r.ending :=
  ⟨killTargets r (fun c => sel c.key c.details = true), (kill_apply r sel _ g ka fun _ _ => Iff.rfl).2, fun c hc =>
    have h := (mem_killTargets ..).mp hc
    ⟨h.1, hsel c h.2.1, h.2.2⟩⟩

theorem killBySel_iff (details : Dict) (key v : String) (c : Session) :
    MetaView.killBySel details key v c.key c.details = true ↔
      callerOf details ≠ some (sidOf c.key) ∧ c.details.get? key = some (.str v) := by
  unfold MetaView.killBySel
  simp only [Bool.and_eq_true, bne_iff_ne, ne_eq, eq_comm (a := some (sidOf c.key))]
  refine and_congr_right fun _ => ?_
  split <;> simp_all

end Nexus.L2.Realm
