/-
  What one atomic action of the realm model does to the control fields
  (`ending`, `tasks`, `retries`, `deferred`, `inbox`, `clients`, `metaS`, `now`, …), as opposed to the
  broker/dealer tables and the queues which the sibling proof files describe.

  `Eff P Q r r'`: `r'` is `r` after an action of a session handler —
    * configuration, meta-procedure map, meta session, clock, clients, deferred departures,
      closed peers, ghosts and the random oracle are untouched (the testament table too for every
      message handler: `handleMsg_testaments`; it is not part of `Eff` because `takeTestaments`, a stage
      of `leave`, is described with the same relation);
    * `ending`, `tasks`, `retries`, `inbox` are only appended to;
    * every key appended to `ending`, every `leave` task appended and every sender appended to `inbox`
      satisfies `P`; every other task appended is a `metaPub` or a `metaInvoke` (never a `metaMsg`, an
      `inMsg`); every `Retry` appended satisfies `Q`.
  Every message handler of session `s` is an `Eff (· = s.key)`: who can be ended by a message is its
  sender, nobody else (C04).
-/
import Nexus.L2.Proofs.RealmPublish
import Nexus.L2.Proofs.RealmQueue
import Nexus.L2.Proofs.DealerRealmRpc

namespace Nexus.L2.WpC
open Nexus.L2 Nexus.L2.Realm Nexus.Gen.N

/-- a task an action may append: a departure of a session satisfying `P`, a meta event, a meta invocation -/
def NewTask (P : SessKey → Prop) : Task → Prop
  | .leave j _ => P j
  | .metaPub _ => True
  | .metaInvoke .. => True
  | .metaMsg _ => False
  | .inMsg .. => False

theorem NewTask.mono {P P' : SessKey → Prop} (h : ∀ j, P j → P' j) : ∀ {t : Task}, NewTask P t → NewTask P' t
  | .leave j _, ht => h j ht
  | .metaPub _, _ => trivial
  | .metaInvoke .., _ => trivial
  | .metaMsg _, ht => ht
  | .inMsg .., ht => ht

/-- `l'` is `l` with elements satisfying `p` appended.  `Eff`, `MetaAct` and `LeaveCtl` say so, spelt out, of the lists
    of the realm that an action only appends to. -/
def Grown {α : Type} (p : α → Prop) (l l' : List α) : Prop := ∃ e, l' = l ++ e ∧ ∀ x ∈ e, p x

section
variable {α : Type} {p q : α → Prop} {l l' l'' : List α}

theorem Grown.of_eq (h : l' = l) : Grown p l l' := ⟨[], by rw [h]; simp, fun _ h => nomatch h⟩

theorem Grown.trans (h1 : Grown p l l') (h2 : Grown p l' l'') : Grown p l l'' := by
  obtain ⟨e1, rfl, p1⟩ := h1
  obtain ⟨e2, rfl, p2⟩ := h2
  exact ⟨e1 ++ e2, List.append_assoc .., List.forall_mem_append.mpr ⟨p1, p2⟩⟩

theorem Grown.mono (h : Grown p l l') (hpq : ∀ x, p x → q x) : Grown q l l' :=
  let ⟨e, he, pe⟩ := h
  ⟨e, he, fun x hx => hpq x (pe x hx)⟩

theorem Grown.eq_of_never (h : Grown (fun _ => False) l l') : l' = l := by
  obtain ⟨e, rfl, pe⟩ := h
  rw [List.eq_nil_iff_forall_not_mem.mpr pe, List.append_nil]

theorem Grown.subset (h : Grown p l l') : ∀ x ∈ l, x ∈ l' := by
  obtain ⟨e, rfl, _⟩ := h
  exact fun _ hx => List.mem_append_left _ hx

theorem Grown.mem (h : Grown p l l') {x : α} (hx : x ∈ l') : x ∈ l ∨ p x := by
  obtain ⟨e, rfl, pe⟩ := h
  exact (List.mem_append.mp hx).imp id (pe x)

/-- what holds of the old elements and of whatever may be appended holds of all -/
theorem Grown.forall (h : Grown p l l') (hl : ∀ x ∈ l, q x) (hp : ∀ x, p x → q x) : ∀ x ∈ l', q x := by
  obtain ⟨e, rfl, pe⟩ := h
  exact List.forall_mem_append.mpr ⟨hl, fun x hx => hp x (pe x hx)⟩

end

structure Eff (P : SessKey → Prop) (Q : Retry → Prop) (r r' : Realm) : Prop where
  cfg : r'.cfg = r.cfg
  metaProcs : r'.metaProcs = r.metaProcs
  metaS : r'.metaS = r.metaS
  now : r'.now = r.now
  clients : r'.clients = r.clients
  deferred : r'.deferred = r.deferred
  closedPeers : r'.closedPeers = r.closedPeers
  ghosts : r'.ghosts = r.ghosts
  rnd : r'.rnd = r.rnd
  inbox : ∃ ib, r'.inbox = r.inbox ++ ib ∧ ∀ e ∈ ib, P e.1
  ending : ∃ e, r'.ending = r.ending ++ e ∧ ∀ j ∈ e, P j
  tasks : ∃ ts, r'.tasks = r.tasks ++ ts ∧ ∀ t ∈ ts, NewTask P t
  retries : ∃ xs, r'.retries = r.retries ++ xs ∧ ∀ x ∈ xs, Q x

variable {P P' : SessKey → Prop} {Q Q' : Retry → Prop}

theorem Eff.refl (r : Realm) : Eff P Q r r :=
  ⟨rfl, rfl, rfl, rfl, rfl, rfl, rfl, rfl, rfl, Grown.of_eq rfl, Grown.of_eq rfl, Grown.of_eq rfl, Grown.of_eq rfl⟩

theorem eff_tables (r : Realm) (b : Broker) (d : DState) (n : Nat) (tst : List (SessKey × TBucket)) :
    Eff P Q r { r with broker := b, ds := d, pubCount := n, testaments := tst } :=
  ⟨rfl, rfl, rfl, rfl, rfl, rfl, rfl, rfl, rfl, Grown.of_eq rfl, Grown.of_eq rfl, Grown.of_eq rfl, Grown.of_eq rfl⟩

theorem Eff.trans {a b c : Realm} (h1 : Eff P Q a b) (h2 : Eff P Q b c) : Eff P Q a c :=
  ⟨h2.cfg.trans h1.cfg, h2.metaProcs.trans h1.metaProcs, h2.metaS.trans h1.metaS, h2.now.trans h1.now,
    h2.clients.trans h1.clients, h2.deferred.trans h1.deferred,
    h2.closedPeers.trans h1.closedPeers, h2.ghosts.trans h1.ghosts, h2.rnd.trans h1.rnd,
    Grown.trans h1.inbox h2.inbox, Grown.trans h1.ending h2.ending, Grown.trans h1.tasks h2.tasks,
    Grown.trans h1.retries h2.retries⟩

theorem Eff.mono {r r' : Realm} (h : Eff P Q r r') (hp : ∀ j, P j → P' j) (hq : ∀ x, Q x → Q' x) : Eff P' Q' r r' :=
  ⟨h.cfg, h.metaProcs, h.metaS, h.now, h.clients, h.deferred, h.closedPeers, h.ghosts, h.rnd,
    Grown.mono h.inbox fun e => hp e.1, Grown.mono h.ending hp, Grown.mono h.tasks fun _ => NewTask.mono hp,
    Grown.mono h.retries hq⟩

theorem Eff.ending_of_never {r r' : Realm} (h : Eff (fun _ => False) Q r r') : r'.ending = r.ending :=
  Grown.eq_of_never h.ending

theorem Eff.retries_of_never {r r' : Realm} (h : Eff P (fun _ => False) r r') : r'.retries = r.retries :=
  Grown.eq_of_never h.retries

theorem Eff.isClient {r r' : Realm} (h : Eff P Q r r') (k : SessKey) : r'.isClient k ↔ r.isClient k := by
  unfold Realm.isClient; rw [h.clients]

theorem eff_of_frame {r r' : Realm} (hf : SendFrame r r')
    (ht : ∃ ts, r'.tasks = r.tasks ++ ts ∧ ∀ t ∈ ts, ∃ a b c d e, t = Task.metaInvoke a b c d e) : Eff P Q r r' := by
  obtain ⟨ts, e, o⟩ := ht
  refine ⟨hf.cfg, hf.metaProcs, hf.metaS, hf.now, hf.clients, hf.deferred, hf.closedPeers, hf.ghosts,
    hf.rnd, Grown.of_eq hf.inbox, Grown.of_eq hf.ending,
    ⟨ts, e, ?_⟩, Grown.of_eq hf.retries⟩
  intro t ht
  obtain ⟨a, b, c, d, e, rfl⟩ := o t ht
  trivial

theorem eff_trySend (r : Realm) (s : Send) : Eff P Q r (r.trySend s) :=
  eff_of_frame (trySend_frame r s) ⟨_, dtrySend_tasks r s, fun _ ht => dmetaTask_shape ht⟩

theorem eff_deliver (ss : List Send) (r : Realm) : Eff P Q r (r.deliver ss) :=
  eff_of_frame (deliver_frame ss r) ⟨_, ddeliver_tasks ss r, fun _ ht => dmetaTasks_shape ht⟩

theorem eff_setPanic (r : Realm) (p : Option String) : Eff P Q r (r.setPanic p) :=
  eff_of_frame (setPanic_frame r p) (Grown.of_eq (setPanic_tasks r p))

theorem eff_applyD (r : Realm) (o : DOut) (ha : ∀ j ∈ o.aborts, P j) : Eff P Q r (r.applyD o) := by
  have hf : SendFrame ({ r with ds := o.st } : Realm) (({ r with ds := o.st } : Realm).deliver o.sends) := deliver_frame _ _
  have hp := setPanic_frame ({ (({ r with ds := o.st } : Realm).deliver o.sends) with
          tasks := (({ r with ds := o.st } : Realm).deliver o.sends).tasks ++
            (o.metaPubs.map Task.metaPub ++ o.aborts.map (fun k => Task.leave k .aborted)),
          ending := (({ r with ds := o.st } : Realm).deliver o.sends).ending ++ o.aborts } : Realm) o.panic
  rw [← applyD_eq] at hp
  refine ⟨hp.cfg.trans hf.cfg, hp.metaProcs.trans hf.metaProcs, hp.metaS.trans hf.metaS, hp.now.trans hf.now,
    hp.clients.trans hf.clients, hp.deferred.trans hf.deferred,
    hp.closedPeers.trans hf.closedPeers, hp.ghosts.trans hf.ghosts, hp.rnd.trans hf.rnd,
    Grown.of_eq (dapplyD_inbox r o), ⟨o.aborts, dapplyD_ending r o, ha⟩,
    ⟨_, by rw [dapplyD_tasks, List.append_assoc, List.append_assoc], ?_⟩,
    Grown.of_eq (dapplyD_retries r o)⟩
  intro t ht
  rcases List.mem_append.mp ht with h | h
  · obtain ⟨a, b, c, d, e, rfl⟩ := dmetaTasks_shape h; trivial
  · rcases List.mem_append.mp h with h | h
    · obtain ⟨p, _, rfl⟩ := List.mem_map.mp h; trivial
    · obtain ⟨j, hj, rfl⟩ := List.mem_map.mp h
      exact ha j hj

theorem eff_applyD_nil {r : Realm} {o : DOut} (h : o.aborts = []) : Eff P Q r (r.applyD o) :=
  eff_applyD r o (by rw [h]; exact fun _ hj => nomatch hj)

/-- who is told to end has its departure queued: by the dealer's abort … -/
theorem applyD_aborted (r : Realm) (o : DOut) {j : SessKey} (hj : j ∈ o.aborts) :
    ∃ mode, Task.leave j mode ∈ (r.applyD o).tasks :=
  ⟨.aborted, dapplyD_tasks r o ▸ List.mem_append_right _ (List.mem_map.mpr ⟨j, hj, rfl⟩)⟩

/-- … and by its own handler or the loss of its transport -/
theorem ended_leaves (r : Realm) (k : SessKey) (mode : LeaveMode) : ∃ m, Task.leave k m ∈ (r.ended k mode).tasks :=
  ⟨mode, List.mem_append_right _ (.head _)⟩

theorem eff_end (r : Realm) (k : SessKey) (mode : LeaveMode) (hk : P k) :
    Eff P Q r (r.ended k mode) :=
  { Eff.refl r with
    ending := ⟨[k], rfl, List.forall_mem_singleton.mpr hk⟩
    tasks := ⟨[.leave k mode], rfl, List.forall_mem_singleton.mpr hk⟩ }

theorem eff_brokerStep (r : Realm) (b : Broker) (n : Nat) (sends : List Send) :
    Eff P Q r (({ r with broker := b, pubCount := n } : Realm).deliver sends) :=
  (eff_tables r b r.ds n r.testaments).trans (eff_deliver _ _)

theorem eff_handlePublish (r : Realm) (s : Session) (req : Nat) (opts : Dict) (topic : String) (args : List WVal)
    (kw : Dict) (hs : (pptScheme opts != "" && !s.hasFeature RolePublisher FeaturePayloadPassthruMode) = true → P s.key) :
    Eff P Q r (handlePublish r s req opts topic args kw) :=
  handlePublish_cases r s req opts topic args kw (Eff.refl _) (fun _ _ => eff_trySend _ _)
    (fun _ hp => (eff_trySend r _).trans (eff_end _ s.key .aborted (hs hp)))
    (fun _ _ _ => eff_brokerStep r _ _ _)

/-- the `Retry` entry `handleYield` creates: the YIELD as it was received, first turn 1 ms later -/
def freshRetry (now : Nat) (k : SessKey) (req : Nat) (opts : Dict) (args : List WVal) (kw : Dict) : Retry :=
  { callee := k, req := req, opts := opts, args := args, kw := kw, progress := opts.optFlag OptProgress,
    start := now, next := now + yieldRetryDelayMs, delay := yieldRetryDelayMs }

theorem eff_handleYield (r : Realm) (s : Session) (req : Nat) (opts : Dict) (args : List WVal) (kw : Dict)
    (hs : ∀ j ∈ (syncYield r.denv r.ds s.key req opts args kw (opts.optFlag OptProgress) true).aborts, P j)
    (hq : (syncYield r.denv r.ds s.key req opts args kw (opts.optFlag OptProgress) true).again = true →
      Q (freshRetry r.now s.key req opts args kw)) : Eff P Q r (handleYield r s req opts args kw) := by
  unfold handleYield
  extract_lets progress o r1
  have h1 : Eff P Q r r1 := eff_applyD _ _ hs
  split
  · rename_i ha
    refine h1.trans { Eff.refl (P := P) (Q := Q) r1 with retries := ⟨[_], rfl, ?_⟩ }
    intro x hx
    rw [List.mem_singleton.mp hx]
    have : r1.now = r.now := h1.now
    rw [this]
    exact hq ha
  · exact h1

/-- A `Retry` appended by the handling in `r` of message `m` of session `k`, with `r'` the state afterwards: the entry
    of a YIELD to which the dealer answered "again", and the only one appended. -/
def YieldRetry (r r' : Realm) (k : SessKey) (m : Msg) (x : Retry) : Prop :=
  ∃ req opts args kw, m = .yield req opts args kw ∧ x = freshRetry r.now k req opts args kw ∧
    (syncYield r.denv r.ds k req opts args kw (opts.optFlag OptProgress) true).again = true ∧
    r'.retries = r.retries ++ [x]

/-- The `P` of a handler's `Eff` speaks of the state afterwards: whoever a message ends is its sender and has its
    departure queued (`EndPending.eff` reads "marked as ending, hence pending" off it). -/
theorem Eff.of_handles {k : SessKey} {m : Msg} {r r' : Realm} (h : Handles k m r r') :
    Eff (fun j => j = k ∧ ∃ mode, Task.leave j mode ∈ r'.tasks) (YieldRetry r r' k m) r r' := by
  cases h with
  | same => exact .refl r
  | reply e => exact eff_trySend _ _
  | quit mode _ => exact eff_end _ _ _ ⟨rfl, ended_leaves ..⟩
  | replyQuit e mode _ => exact (eff_trySend _ _).trans (eff_end _ _ _ ⟨rfl, ended_leaves ..⟩)
  | dealer st => exact eff_applyD _ _ fun j hj => ⟨st.aborts j hj, applyD_aborted r _ hj⟩
  | yield s hs req opts args kw hm =>
    subst hs
    refine eff_handleYield _ _ _ _ _ _ (fun j hj => ⟨syncYield_aborts _ _ _ _ _ _ _ _ _ j hj, ?_⟩)
      fun ha => ⟨req, opts, args, kw, hm, rfl, ha, ?_⟩
    all_goals rw [handleYield_eq]; dsimp only
    · split <;> exact applyD_aborted r _ hj
    · rw [if_pos ha, dapplyD_retries, dapplyD_now]; rfl
  | broker st ack e =>
    split
    · exact (eff_brokerStep _ _ _ _).trans (eff_trySend _ _)
    · exact eff_brokerStep _ _ _ _

/-- Who can be ended by a message: its sender.  Whatever message `m` the handler of session `s` processes
    (authorization gate included): the only key that can be appended to `ending`, the only session a
    `leave` task can be queued for, is `s.key`; the only `Retry` that can be created is the one of a YIELD
    of `s`; clients, deferred departures and the meta session are untouched (the testaments too:
    `handleMsg_testaments`). -/
theorem eff_handleMsg (r : Realm) (s : Session) (m : Msg) :
    Eff (fun j => j = s.key ∧ ∃ mode, Task.leave j mode ∈ (handleMsg r s m).tasks) (YieldRetry r (handleMsg r s m) s.key m)
      r (handleMsg r s m) :=
  .of_handles (handleMsg_handles r s m)

theorem eff_recvMsg (r : Realm) (k : SessKey) (m : Msg) :
    Eff (fun j => j = k ∧ r.isClient k ∧ r.ending.contains k = false)
      (fun x => YieldRetry r (r.recvMsg k m) k m x ∧ r.isClient k ∧ r.ending.contains k = false ∧ r.busy k = false) r
      (r.recvMsg k m) := by
  refine recvMsg_cases (C := fun q => Eff _ (fun x => YieldRetry r q k m x ∧ _) r q) r k m (Eff.refl _)
    (fun s hs he _ _ => ?_) (fun s hs he hb => ?_)
  · exact { Eff.refl r with
      inbox := ⟨[(k, m)], rfl, List.forall_mem_singleton.mpr ⟨rfl, isClient_of_find hs, he⟩⟩ }
  · have hk : s.key = k := (find?_key hs).2
    have hc : r.isClient k := isClient_of_find hs
    exact (eff_handleMsg r s m).mono (fun j hj => ⟨hj.1.trans hk, hc, he⟩) (fun x hx => ⟨hk ▸ hx, hc, he, hb⟩)

end Nexus.L2.WpC
