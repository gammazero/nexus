/-
  What happens to a queued meta publication (testament, on_join, on_leave,
  registration meta events) when its task runs: published through the meta session exactly as
  requested — or dropped silently (invalid topic; disclose_me in a realm that disallows it).

  The testament case, for C05: `runTask (.metaPub (testamentPub t))` is
  `broker.publish(metaSess, PUBLISH{0, opts, topic, args, kw})`:
  * valid topic, disclose_me allowed or not requested, meta session with the publisher's payload
    passthru feature: the publication `testamentPublication r t` is handed to the broker and its
    EVENTs are delivered (`runTask_testament_ok`); the acknowledgement a testament may ask for
    (`acknowledge: true` in its publish options) goes to the meta session, which drops it;
  * invalid topic / disclose_me refused: nothing at all happens, also when an acknowledgement was
    requested (the ERROR is for the meta session, which drops it) (`WpA.metaPublish_invalid`,
    `WpA.metaPublish_refused`).
-/
import Nexus.L2.Proofs.RealmPublish
import Nexus.L2.Proofs.ReachableRealm
import Nexus.L2.Proofs.LeaveTables

namespace Nexus.L2.Realm.WpA
open Nexus.L2 Nexus.L2.Realm Nexus.Gen.N

/-- the acknowledgement (PUBLISHED or ERROR) of a publication by the meta session changes nothing: `trySend`
    ignores what is addressed to the meta session unless it is an INVOCATION -/
theorem deliver_ack_meta (r : Realm) (opts : Dict) (x : Send) (h : x.to = metaKey)
    (hm : ∀ a b c d e, x.msg ≠ .invocation a b c d e) : r.deliver (ackList opts x) = r := by
  unfold ackList
  split
  · rw [deliver_cons, deliver_nil, trySend, if_pos h]
    split
    · rename_i a b c d e he; exact absurd he (hm a b c d e)
    · rfl
  · rfl

theorem pptRefused_of_feature (s : Session) (opts : Dict)
    (h : s.hasFeature RolePublisher FeaturePayloadPassthruMode = true) : pptRefused s opts = false := by
  unfold pptRefused; rw [h]; simp

theorem runTask_metaPub_eq (r : Realm) (p : MetaPub) :
    r.runTask (.metaPub p) = r.metaPublish p ∧
    r.metaPublish p = handlePublish r r.metaS 0 p.opts p.topic p.args p.kw := ⟨rfl, rfl⟩

/-- **What a meta publication does**: `handlePublish_spec` for the meta session, whose acknowledgements change
    nothing — an invalid topic or a refused `disclose_me` drops the publication and nobody is told; otherwise
    one publication id is drawn, the broker publishes `pubOf r r.metaS …` and its EVENTs are delivered. -/
theorem metaPublish_spec (r : Realm) (p : MetaPub) (hk : r.metaS.key = metaKey) :
    r.metaPublish p =
      if validUri r.broker.strict "" p.topic = false then r
      else if pptRefused r.metaS p.opts = true then
        (r.trySend ⟨r.metaS.key, abortMsg "<text>"⟩).ended r.metaS.key .aborted
      else if discloseRefused r p.opts = true then r
      else
        ({ r with pubCount := r.pubCount + 1,
                  broker := (r.broker.syncPublish r.session? r.now (pubOf r r.metaS p.opts p.topic p.args p.kw)).1 } : Realm).deliver
          (r.broker.syncPublish r.session? r.now (pubOf r r.metaS p.opts p.topic p.args p.kw)).2 := by
  unfold metaPublish
  rw [handlePublish_spec, deliver_append, deliver_ack_meta _ _ ⟨_, .published ..⟩ hk nofun,
    deliver_ack_meta r _ ⟨_, invalidUriErr ..⟩ hk nofun, deliver_ack_meta r _ ⟨_, errMsg ..⟩ hk nofun]

theorem metaPublish_ok (r : Realm) (p : MetaPub) (hk : r.metaS.key = metaKey)
    (hf : r.metaS.hasFeature RolePublisher FeaturePayloadPassthruMode = true)
    (hv : validUri r.broker.strict "" p.topic = true) (hd : discloseRefused r p.opts = false) :
    r.metaPublish p =
      ({ r with pubCount := r.pubCount + 1,
                broker := (r.broker.syncPublish r.session? r.now (pubOf r r.metaS p.opts p.topic p.args p.kw)).1 } : Realm).deliver
        (r.broker.syncPublish r.session? r.now (pubOf r r.metaS p.opts p.topic p.args p.kw)).2 := by
  rw [metaPublish_spec r p hk, hv, pptRefused_of_feature _ _ hf, hd]; rfl

theorem metaPublish_invalid (r : Realm) (p : MetaPub) (hk : r.metaS.key = metaKey)
    (hv : validUri r.broker.strict "" p.topic = false) : r.metaPublish p = r := by
  rw [metaPublish_spec r p hk, if_pos hv]

theorem metaPublish_refused (r : Realm) (p : MetaPub) (hk : r.metaS.key = metaKey)
    (hf : r.metaS.hasFeature RolePublisher FeaturePayloadPassthruMode = true)
    (hv : validUri r.broker.strict "" p.topic = true) (hd : discloseRefused r p.opts = true) :
    r.metaPublish p = r := by
  rw [metaPublish_spec r p hk, hv, pptRefused_of_feature _ _ hf, hd]; rfl

end Nexus.L2.Realm.WpA

namespace Nexus.L2
namespace WpC
open Gen.N Realm

/-- the publication the broker is handed for the testament `t` when its publish task runs in state `r`:
    published by the meta session under the next publication id, with the testament's own options
    (`exclude_me` is irrelevant for the meta session, which subscribes to nothing) -/
def testamentPublication (r : Realm) (t : Testament) : Publication :=
  { publisher := metaKey, pubDetails := r.metaS.details, topic := t.topic, pubId := pubBase + r.pubCount,
    args := t.args, kw := t.kw, opts := t.opts,
    excludePub := (match t.opts.get? OptExcludeMe with
      | some (.bool b) => b
      | _ => true),
    disclose := t.opts.optFlag OptDiscloseMe,
    baseDetails := if pptScheme t.opts != "" then pptInto t.opts [] else [] }

theorem pubOf_testament {r : Realm} (hm : r.metaS.key = metaKey) (t : Testament) :
    pubOf r r.metaS t.opts t.topic t.args t.kw = testamentPublication r t := by
  unfold pubOf testamentPublication
  rw [hm]
  rfl

theorem runTask_testament_ok {r : Realm} (hm : r.metaS.key = metaKey) (t : Testament)
    (hv : validUri r.broker.strict "" t.topic = true)
    (hd : t.opts.optFlag OptDiscloseMe = false ∨ r.broker.allowDisclose = true)
    (hf : r.metaS.hasFeature RolePublisher FeaturePayloadPassthruMode = true) :
    r.runTask (.metaPub (testamentPub t)) =
      ({ r with pubCount := r.pubCount + 1,
                broker := (r.broker.syncPublish r.session? r.now (testamentPublication r t)).1 } : Realm).deliver
        (r.broker.syncPublish r.session? r.now (testamentPublication r t)).2 := by
  have hdr : discloseRefused r t.opts = false := by
    unfold discloseRefused
    rcases hd with h | h <;> simp [h]
  have e := WpA.metaPublish_ok r (testamentPub t) hm hf hv hdr
  dsimp only [testamentPub] at e
  rw [pubOf_testament hm t] at e
  exact e

theorem publish_sends_no_task (b : Broker) (sess : SessKey → Option Session) (now : Nat) (p : Publication) :
    (b.syncPublish sess now p).2.filterMap dmetaTask = [] := by
  rw [List.filterMap_eq_nil_iff]
  intro x hx
  obtain ⟨s, k, c, _, rfl⟩ := (mem_syncPublish_sends b sess now p x).mp hx
  unfold dmetaTask expectedEvent
  split <;> rfl

end WpC
end Nexus.L2
