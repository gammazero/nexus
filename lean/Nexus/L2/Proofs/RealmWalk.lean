/-
  The atomic actions of a realm, stated once.  `Realm.Keeps B J`: in a realm satisfying `B`, every
  atomic action of the realm's goroutines — one task run off the head of the task list, one call
  timer or yield retry firing, the clock moving, `flush`, the model's fuel markers — keeps `J`.
  Such a `J` holds along `drain`, `advance` and `step` (`Keeps.drain`, `.advance`, `.step`); an
  invariant that needs another one is stated relative to it and the two are joined by `Keeps.and`.
  A reflexive, transitive two-state relation that every action satisfies is kept from any start
  (`Keeps.of_rel`).

  Two instances to copy for a new invariant.  `TestamentsAttached` (RealmLeave), kept under `Sound`: the
  fields it reads (`.of_same`), a meta procedure (`.metaEffect`), then `runTask_testaments`,
  `stepOp_testaments`, `timerDue_`/`retryDue_testaments`, `flush_testaments`, put together in
  `TestamentsAttached.keeps`; `Sound.reachable` gives it of every reachable realm.  `EndPending`, kept under
  `Ctl`: `.congr`, `.runHead`, `.stepOp`, `.timerDue`/`.retryDue`, `.keeps`, then `Ctl.reachable`.  A new
  two-state relation comes off the handlers' normal form by one `of_handles` (RealmHandles).  Try `Eff` first: what
  an action appends to `ending`, `tasks`, `inbox`, `retries` is an `Eff` for suitable `P`, `Q`, which may speak of the
  state afterwards (`Eff.of_handles`, read by `EndPending.eff`).  Otherwise copy `Good` (RealmInv), which needs an
  invariant at the start state; `Handled` and `Acts` are inductive (a closure of moves): copy those only when the
  relation has to be of that kind.

  Which tool.  An invariant of one run: `Keeps` over the weakest base that proves it — `True`, `RealmInv`
  (`rinv_keeps`), `Sound`, `Ctl` — and then `.step`, `Sound.reachable`, `Ctl.reachable`.  Two runs: `Sim`; its fields
  `tasks`, `due`, `clock` make both runs hold the same tasks, timers and clock, so it fits "same inputs, different
  hidden state" only (`OpRel`, StallHist: equal inputs, or one switch of x's reading for another).  The input and
  handler halves of a two-run proof are case splits of their own (`eqoff_dispatch`, `eqoff_stepOp`,
  `eqoff_runTask`): `Handles` speaks of one run and forgets which branch was taken.  "An input has its effect by
  the end of a step that is no tick": `step_quiescent` (ControlInv) with a predicate for what is still owed, as
  `Leaving` (instances `step_gone`, SessionEnd, and `step_isolated`, StepIsolation).  "By the end of a tick": `Adv`
  (DealerRealm; C13) or `Keeps.advance`.  "Isolation" is three techniques: a frame argument within one run
  (`Phase` with `step_quiescent`: StepIsolation, C04), two runs in lockstep (`Sim`: Stall*, C07), confinement
  (`Conf`, RealmFrame: C11).

  `Realm.Sim B R O` is the same for two runs in lockstep: `R` relates their states, every atomic action done on
  both sides keeps it while the first run is within the invariant `B`, and `flush` shows `O`-related observations.
-/
import Nexus.L2.Proofs.RealmBase

namespace Nexus.L2
namespace Realm

/-- the realm after an input and everything it causes, before the clients read.  `10000` is the timed-event
    fuel of `Realm.step`. -/
def quiesce (r : Realm) : Op → Realm
  | .tick ms => advance 10000 r (r.now + ms)
  | op => drain taskFuel (stepOp r op)

/-- `Realm.step` in one equation; `step_tick` and `step_of_not_tick` are its two cases, for rewriting -/
theorem step_eq (r : Realm) (op : Op) : r.step op = (r.quiesce op).flush := by
  cases op <;> rfl

theorem step_tick (r : Realm) (ms : Nat) : r.step (.tick ms) = flush (advance 10000 r (r.now + ms)) := rfl

theorem step_of_not_tick (r : Realm) (op : Op) (h : ∀ ms, op ≠ .tick ms) :
    r.step op = flush (drain taskFuel (stepOp r op)) := by
  cases op <;> first | rfl | exact absurd rfl (h _)

/-- the model's own panics: the two strings `drain` and `advance` put into `panic` when they run out of fuel -/
def FuelMark (m : String) : Prop := m = "model: task fuel exhausted" ∨ m = "model: timed-event fuel exhausted"

/-- In `timer` and `retry`, `r` is the realm after `advance` has moved the clock to the event's time, while
    `advance` picked the event before it; `nextDue` does not read `now`, so `hd` is stated of `r` all the
    same (`Keeps.fireDue` hands over the `hd` of the realm before the jump: the same proposition, by unfolding). -/
structure Keeps (B J : Realm → Prop) : Prop where
  task : ∀ {r : Realm} {t : Task} {ts : List Task}, r.tasks = t :: ts → B r → J r → J (runTask { r with tasks := ts } t)
  timer : ∀ {r : Realm} {limit : Nat} {t : Timer}, nextDue r limit = some (.timer t) → B r → J r → J (r.timerDue t)
  retry : ∀ {r : Realm} {limit : Nat} {x : Retry}, nextDue r limit = some (.retry x) → B r → J r → J (r.retryDue x)
  now : ∀ {r : Realm} (n : Nat), B r → J r → J { r with now := n }
  fuel : ∀ {r : Realm} {m : String}, FuelMark m → B r → J r → J (r.setPanic (some m))
  flush : ∀ {r : Realm}, B r → J r → J r.flush.2

namespace Keeps
variable {A B J : Realm → Prop}

/-- an invariant and one that relies on it, together -/
theorem and (kb : Keeps A B) (kj : Keeps (fun r => A r ∧ B r) J) : Keeps A (fun r => B r ∧ J r) where
  task ht a h := ⟨kb.task ht a h.1, kj.task ht ⟨a, h.1⟩ h.2⟩
  timer hd a h := ⟨kb.timer hd a h.1, kj.timer hd ⟨a, h.1⟩ h.2⟩
  retry hd a h := ⟨kb.retry hd a h.1, kj.retry hd ⟨a, h.1⟩ h.2⟩
  now n a h := ⟨kb.now n a h.1, kj.now n ⟨a, h.1⟩ h.2⟩
  fuel hm a h := ⟨kb.fuel hm a h.1, kj.fuel hm ⟨a, h.1⟩ h.2⟩
  flush a h := ⟨kb.flush a h.1, kj.flush ⟨a, h.1⟩ h.2⟩

theorem weaken {B' : Realm → Prop} (k : Keeps B J) (hb : ∀ r, B' r → B r) : Keeps B' J where
  task ht b h := k.task ht (hb _ b) h
  timer hd b h := k.timer hd (hb _ b) h
  retry hd b h := k.retry hd (hb _ b) h
  now n b h := k.now n (hb _ b) h
  fuel hm b h := k.fuel hm (hb _ b) h
  flush b h := k.flush (hb _ b) h

/-- an invariant that holds by itself, and one that holds under it -/
theorem over (kb : Keeps (fun _ => True) B) (kj : Keeps B J) : Keeps (fun _ => True) (fun r => B r ∧ J r) :=
  kb.and (kj.weaken fun _ h => h.2)

theorem of_rel {R : Realm → Realm → Prop} (trans : ∀ {a b c}, R a b → R b c → R a c)
    (step : ∀ a, Keeps (fun r => B r ∧ r = a) (R a)) (refl : ∀ a, R a a) (r0 : Realm) : Keeps B (R r0) where
  task ht b h := trans h ((step _).task ht ⟨b, rfl⟩ (refl _))
  timer hd b h := trans h ((step _).timer hd ⟨b, rfl⟩ (refl _))
  retry hd b h := trans h ((step _).retry hd ⟨b, rfl⟩ (refl _))
  now n b h := trans h ((step _).now n ⟨b, rfl⟩ (refl _))
  fuel hm b h := trans h ((step _).fuel hm ⟨b, rfl⟩ (refl _))
  flush b h := trans h ((step _).flush ⟨b, rfl⟩ (refl _))

variable (k : Keeps (fun _ => True) J)
include k

/-- `drain_keeps` (RealmBase.lean) is the bare induction, for what task runs keep but other actions do not
    (`drain_now`, `drain_retry`, `drain_quiescent`) -/
theorem drain (fuel : Nat) {r : Realm} : J r → J (drain fuel r) :=
  drain_keeps (fun _ h => k.fuel (.inl rfl) trivial h) (fun _ _ _ ht h => k.task ht trivial h) fuel

/-- one timed event of `advance`, with the tasks it causes -/
theorem fireDue {r : Realm} {target : Nat} {d : Due} (hd : nextDue r target = some d) (h : J r) : J (fireDue r d) :=
  k.drain _ (match d with
    | .timer _ => k.timer hd trivial (k.now _ trivial h)
    | .retry _ => k.retry hd trivial (k.now _ trivial h))

theorem advance : ∀ (fuel : Nat) {r : Realm} (target : Nat), J r → J (advance fuel r target)
  | 0, _, target, h => k.fuel (.inr rfl) trivial (k.now target trivial h)
  | fuel + 1, r, target, h => by
    cases hd : nextDue r target with
    | none => rw [advance_none hd]; exact k.now target trivial h
    | some d => rw [advance_some hd]; exact advance fuel target (k.fireDue hd h)

/-- one external input run to quiescence, given what the input itself does (`stepOp` of a `tick` is the identity) -/
theorem quiesce {r : Realm} {op : Op} (input : J (r.stepOp op)) : J (r.quiesce op) := by
  cases op
  case tick ms => exact k.advance _ _ input
  all_goals exact k.drain _ input

theorem step {r : Realm} {op : Op} (input : J (r.stepOp op)) : J (r.step op).2 :=
  step_eq r op ▸ k.flush trivial (k.quiesce input)

end Keeps

/-- Two runs in lockstep, the first within an invariant `B` that every action keeps (`base`): related states have
    the same pending tasks, the same next timed event and the same clock, so that `drain` and `advance` take the
    same turns in both; every atomic action done on both sides keeps `R`, and `flush` shows `O`-related observations. -/
structure Sim (B : Realm → Prop) (R : Realm → Realm → Prop) (O : Observed → Observed → Prop) : Prop where
  base : Keeps (fun _ => True) B
  tasks : ∀ {r r' : Realm}, R r r' → r'.tasks = r.tasks
  due : ∀ {r r' : Realm} (limit : Nat), R r r' → nextDue r' limit = nextDue r limit
  clock : ∀ {r r' : Realm}, R r r' → r'.now = r.now
  task : ∀ {r r' : Realm} {t : Task} {ts : List Task}, r.tasks = t :: ts → B r → R r r' →
    R (runTask { r with tasks := ts } t) (runTask { r' with tasks := ts } t)
  timer : ∀ {r r' : Realm} {limit : Nat} {t : Timer}, nextDue r limit = some (.timer t) → B r → R r r' →
    R (r.timerDue t) (r'.timerDue t)
  retry : ∀ {r r' : Realm} {limit : Nat} {x : Retry}, nextDue r limit = some (.retry x) → B r → R r r' →
    R (r.retryDue x) (r'.retryDue x)
  now : ∀ {r r' : Realm} (n : Nat), B r → R r r' → R { r with now := n } { r' with now := n }
  fuel : ∀ {r r' : Realm} {m : String}, FuelMark m → B r → R r r' → R (r.setPanic (some m)) (r'.setPanic (some m))
  flush : ∀ {r r' : Realm}, B r → R r r' → R r.flush.2 r'.flush.2 ∧ O r.flush.1 r'.flush.1

variable {B : Realm → Prop} {R : Realm → Realm → Prop} {O : Observed → Observed → Prop}

theorem Sim.drain (h : Sim B R O) : ∀ (fuel : Nat) {r r' : Realm}, B r → R r r' → R (drain fuel r) (drain fuel r')
  | 0, r, r', hb, hr => by
    rw [drain_zero, drain_zero, h.tasks hr]
    split
    · exact hr
    · exact h.fuel (.inl rfl) hb hr
  | fuel + 1, r, r', hb, hr => by
    cases ht : r.tasks with
    | nil => rw [drain_succ_nil _ _ ht, drain_succ_nil _ _ ((h.tasks hr).trans ht)]; exact hr
    | cons t ts =>
      rw [drain_succ_cons _ _ t ts ht, drain_succ_cons _ _ t ts ((h.tasks hr).trans ht)]
      exact h.drain fuel (h.base.task ht ⟨⟩ hb) (h.task ht hb hr)

/-- one timed event of `advance` on both sides, with the tasks it causes -/
theorem Sim.fireDue (h : Sim B R O) {r r' : Realm} {target : Nat} {d : Due} (hd : nextDue r target = some d) (hb : B r)
    (hr : R r r') : R (fireDue r d) (fireDue r' d) := by
  unfold Realm.fireDue
  rw [h.clock hr]
  have hn := h.base.now (max r.now d.time) ⟨⟩ hb
  have hm := h.now (max r.now d.time) hb hr
  cases d with
  | timer t => exact h.drain _ (h.base.timer hd ⟨⟩ hn) (h.timer hd hn hm)
  | retry x => exact h.drain _ (h.base.retry hd ⟨⟩ hn) (h.retry hd hn hm)

theorem Sim.advance (h : Sim B R O) : ∀ (fuel : Nat) {r r' : Realm} (target : Nat), B r → R r r' →
    R (advance fuel r target) (advance fuel r' target)
  | 0, r, r', target, hb, hr => h.fuel (.inr rfl) (h.base.now target ⟨⟩ hb) (h.now target hb hr)
  | fuel + 1, r, r', target, hb, hr => by
    have e := h.due target hr
    cases hd : nextDue r target with
    | none => rw [advance_none hd, advance_none (e.trans hd)]; exact h.now target hb hr
    | some d =>
      rw [advance_some hd, advance_some (e.trans hd)]
      exact h.advance fuel target (h.base.fireDue hd hb) (h.fireDue hd hb hr)

/-- one input on each side (both a `tick` of the same length, or neither a `tick`), given what the inputs themselves do -/
theorem Sim.step (h : Sim B R O) {r r' : Realm} {op op' : Op} (ht : ∀ ms, op = .tick ms ↔ op' = .tick ms)
    (hb : B (r.stepOp op)) (input : R (r.stepOp op) (r'.stepOp op')) :
    B (r.step op).2 ∧ R (r.step op).2 (r'.step op').2 ∧ O (r.step op).1 (r'.step op').1 := by
  refine ⟨h.base.step hb, ?_⟩
  by_cases hk : ∃ ms, op = .tick ms
  · obtain ⟨ms, rfl⟩ := hk
    obtain rfl := (ht ms).mp rfl
    rw [step_tick, step_tick, show r'.now = r.now from h.clock input]
    exact h.flush (h.base.advance _ _ hb) (h.advance _ _ hb input)
  · rw [step_of_not_tick r op (fun ms e => hk ⟨ms, e⟩), step_of_not_tick r' op' (fun ms e => hk ⟨ms, (ht ms).mpr e⟩)]
    exact h.flush (h.base.drain _ hb) (h.drain _ hb input)

end Realm
end Nexus.L2
