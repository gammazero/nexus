/-
  Event history (C20, and the history clause of C12): what publishing does to a store, that a
  store and its subscription survive every step (`step_store`; the retention invariant over runs is
  `C20_retention_invariant`), the stores `preInit` creates (`preInit_configured`, `preInit_entries`).
-/
import Nexus.L2.Proofs.BrokerDeliver

namespace Nexus.L2
open Gen.N

theorem lastN_length {α : Type} (n : Nat) (l : List α) : (lastN n l).length = min n l.length := by
  unfold lastN; simp; omega

theorem lastN_of_le {α : Type} (n : Nat) (l : List α) (h : l.length ≤ n) : lastN n l = l := by
  unfold lastN; rw [Nat.sub_eq_zero_of_le h]; rfl

theorem save_lastN (h : Hist) (L : List HistEntry) (e : HistEntry) (hl : 0 < h.limit)
    (he : h.entries = lastN h.limit L) : (h.save e).entries = lastN h.limit (L ++ [e]) := by
  rw [Hist.save_entries, he, lastN_length]
  unfold lastN
  by_cases hc : L.length ≥ h.limit
  · rw [if_pos (by omega)]
    rw [List.drop_drop, List.length_append, List.length_singleton, List.drop_append_of_le_length (by omega)]
    congr 2
    omega
  · rw [if_neg (by omega)]
    have h1 : L.length - h.limit = 0 := by omega
    have h2 : (L ++ [e]).length - h.limit = 0 := by simp; omega
    rw [h1, h2]; rfl

theorem histEntryOf_eq_retainedEntry (p : Publication) (s : Sub) (now : Nat) :
    histEntryOf p s s.isPattern now = retainedEntry s now p := by
  unfold histEntryOf retainedEntry eventDetails
  cases s.isPattern <;> rfl

theorem foldl_histUpd1_filter (now : Nat) (p : Publication) (l : List (Sub × Bool)) (h : Hist) :
    l.foldl (histUpd1 now p) h = (l.filter (fun x => x.1.id == h.sub)).foldl (histUpd1 now p) h := by
  induction l generalizing h with
  | nil => rfl
  | cons a l ih =>
    rw [List.foldl_cons, List.filter_cons]
    by_cases hid : (a.1.id == h.sub) = true
    · rw [if_pos hid, List.foldl_cons, ih, histUpd1_sub]
    · have hsame : histUpd1 now p h a = h := by
        unfold histUpd1
        rw [if_neg]
        intro hc
        simp only [Bool.and_eq_true, beq_iff_eq] at hc
        exact hid (beq_iff_eq.mpr hc.2.symm)
      rw [if_neg hid, hsame, ih]

theorem matching_foldl_store {b : Broker} (hb : BrokerInv b) (now : Nat) (p : Publication) {s : Sub}
    (hs : s ∈ b.subs) (h : Hist) (hh : h.sub = s.id) :
    (b.matching p.topic).foldl (histUpd1 now p) h =
      if s.matchesTopic p.topic = true ∧ p.unrestricted = true
      then h.save (retainedEntry s now p) else h := by
  rw [foldl_histUpd1_filter, hh, matching_filter_id hb.ids_nodup hs]
  by_cases hm : s.matchesTopic p.topic = true
  · rw [if_pos hm, List.foldl_cons, List.foldl_nil]
    unfold histUpd1
    simp only [hh, hm, beq_self_eq_true, Bool.and_true, true_and, histEntryOf_eq_retainedEntry]
  · rw [if_neg hm, if_neg fun hc => hm hc.1]; rfl

theorem step_frame {b : Broker} (hb : BrokerInv b) (e : BStep) :
    b.nextSub ≤ (b.step e).nextSub ∧
    (∀ s' ∈ (b.step e).subs,
      (∃ s ∈ b.subs, s'.id = s.id ∧ s'.topic = s.topic ∧ s'.«match» = s.«match») ∨ b.nextSub < s'.id) := by
  have hold : ∀ {l : List Sub}, l = b.subs → ∀ s' ∈ l,
      (∃ s ∈ b.subs, s'.id = s.id ∧ s'.topic = s.topic ∧ s'.«match» = s.«match») ∨ b.nextSub < s'.id :=
    fun h s' hs' => Or.inl ⟨s', h ▸ hs', rfl, rfl, rfl⟩
  cases e with
  | publish sess now p =>
    obtain ⟨h1, _, h3⟩ := syncPublish_tables b sess now p
    exact ⟨Nat.le_of_eq h3.symm, hold h1⟩
  | subscribe k req topic m pub0 =>
    simp only [Broker.step]
    rcases b.syncSubscribe_spec k req topic m pub0 with
      ⟨_, _, _, e⟩ | ⟨sub, hf, _, e⟩ | ⟨_, e⟩ <;> rw [e]
    · exact ⟨Nat.le_refl _, hold rfl⟩
    · refine ⟨Nat.le_refl _, fun s' hs' => ?_⟩
      rcases Broker.mem_subs_setSub.mp hs' with ⟨rfl, _⟩ | ⟨h, _⟩
      · exact .inl ⟨sub, (findTopic_some hf).1, rfl, rfl, rfl⟩
      · exact .inl ⟨s', h, rfl, rfl, rfl⟩
    · refine ⟨Nat.le_succ _, fun s' hs' => ?_⟩
      rcases List.mem_append.mp hs' with h | h
      · exact Or.inl ⟨s', h, rfl, rfl, rfl⟩
      · rw [List.mem_singleton.mp h]; exact Or.inr (Nat.lt_succ_self _)
  | unsubscribe k req subId pub0 =>
    obtain ⟨_, _, h1, _, h3⟩ := syncUnsubscribe_stripped hb.ids_nodup k req subId pub0
    exact ⟨Nat.le_of_eq h3.symm, fun s' hs' => Or.inl (subs_stripped h1 s' hs')⟩
  | removeSession k pub0 =>
    obtain ⟨_, _, h1, _, h3, _⟩ := syncRemoveSession_state hb k pub0
    exact ⟨Nat.le_of_eq h3.symm, fun s' hs' => Or.inl (subs_stripped h1 s' hs')⟩

theorem step_subs_origin {b : Broker} (hb : BrokerInv b) (e : BStep) :
    ∀ s' ∈ (b.step e).subs,
      (∃ s ∈ b.subs, s'.id = s.id ∧ s'.topic = s.topic ∧ s'.«match» = s.«match») ∨ b.nextSub < s'.id :=
  (step_frame hb e).2

theorem removeMembers_hist (k : SessKey) : ∀ (l : List Nat) (b : Broker) (p : Nat), (b.removeMembers k p l).1.hist = b.hist
  | [], _, _ => rfl
  | id :: ids, b, p => by
    simp only [Broker.removeMembers]
    rw [removeMembers_hist k ids]
    cases hf : b.findId id with
    | none => rw [removeMember_unknown hf]
    | some sub => rw [removeMember_sends hf]; exact (afterDepart_fields b k sub).1

/-- only a publication writes to the stores; this needs no invariant -/
theorem step_hist_nonpublish (b : Broker) (e : BStep)
    (hne : ∀ sess now p, e ≠ .publish sess now p) : (b.step e).hist = b.hist := by
  cases e with
  | publish sess now p => exact absurd rfl (hne sess now p)
  | subscribe k req topic m pub0 =>
    show (b.syncSubscribe k req topic m pub0).1.hist = _
    rcases b.syncSubscribe_spec k req topic m pub0 with ⟨_, _, _, e⟩ | ⟨_, _, _, e⟩ | ⟨_, e⟩ <;> rw [e] <;> rfl
  | unsubscribe k req subId pub0 =>
    show (b.syncUnsubscribe k req subId pub0).1.hist = _
    rcases b.syncUnsubscribe_spec k req subId pub0 with ⟨_, e⟩ | ⟨sub, _, _, e⟩ <;> rw [e]
    exact (afterDepart_fields b k sub).1
  | removeSession k pub0 =>
    show (b.syncRemoveSession k pub0).1.hist = _
    cases hg : idxGet b.index k with
    | none => rw [syncRemoveSession_none _ hg]
    | some ids => rw [syncRemoveSession_some _ hg]; exact removeMembers_hist k ids _ _

theorem step_store_sub {b : Broker} (hb : BrokerInv b) (e : BStep) {h : Hist}
    {s : Sub} (hs : s ∈ b.subs) (hid : s.id = h.sub) {h' : Hist} (hh' : h' ∈ (b.step e).hist) (hsub : h'.sub = h.sub) :
    ∃ s' ∈ (b.step e).subs, s'.id = s.id ∧ s'.topic = s.topic ∧ s'.«match» = s.«match» := by
  obtain ⟨s', hs', hid'⟩ := (hb.step e).hist_sub h' hh'
  refine ⟨s', hs', by rw [hid', hsub, hid], ?_⟩
  rcases step_subs_origin hb e s' hs' with ⟨s'', hs'', h1, h2, h3⟩ | hfresh
  · have : s'' = s := eq_of_id_eq hb.ids_nodup hs'' hs (by rw [← h1, hid', hsub, hid])
    subst this
    exact ⟨h2, h3⟩
  · have := (hb.ids_pos s hs).2
    rw [hid', hsub, ← hid] at hfresh
    omega

theorem retained_cons (s : Sub) (e : BStep) (rest : List BStep) :
    retained s (e :: rest) = retained s [e] ++ retained s rest := by
  cases e with
  | publish sess now p =>
    simp only [retained]
    split <;> simp
  | _ => simp [retained]

theorem retained_congr {s s' : Sub} (h1 : s'.id = s.id) (h2 : s'.topic = s.topic) (h3 : s'.«match» = s.«match») :
    retained s' = retained s := by
  have : s' = { s with members := s'.members } := by
    cases s'; cases s; simp_all
  funext steps
  rw [this]
  induction steps with
  | nil => rfl
  | cons e rest ih =>
    cases e with
    | publish sess now p =>
      simp only [retained]
      rw [ih]
      rfl
    | _ => simp only [retained]; exact ih

theorem step_store {b : Broker} (hb : BrokerInv b) (e : BStep) {h : Hist} (hh : h ∈ b.hist)
    {s : Sub} (hs : s ∈ b.subs) (hid : s.id = h.sub) (hl : 0 < h.limit) (L : List HistEntry)
    (he : h.entries = lastN h.limit L) :
    ∃ h' ∈ (b.step e).hist, h'.sub = h.sub ∧ h'.limit = h.limit ∧
      h'.entries = lastN h.limit (L ++ retained s [e]) ∧
      ∃ s' ∈ (b.step e).subs, s'.id = s.id ∧ s'.topic = s.topic ∧ s'.«match» = s.«match» := by
  have hnp : ∀ e', (∀ sess now p, e' ≠ .publish sess now p) → h ∈ (b.step e').hist :=
    fun e' hne => by rw [step_hist_nonpublish b e' hne]; exact hh
  cases e with
  | publish sess now p =>
    have hhist : (b.step (.publish sess now p)).hist =
        b.hist.map (fun h => (b.matching p.topic).foldl (histUpd1 now p) h) := syncPublish_hist b sess now p
    have hh' : (b.matching p.topic).foldl (histUpd1 now p) h ∈ (b.step (.publish sess now p)).hist := by
      rw [hhist]; exact List.mem_map.mpr ⟨h, hh, rfl⟩
    refine ⟨_, hh', ?_, ?_, ?_, ?_⟩
    · exact (histUpd_foldl_inv now p _ h).1
    · exact (histUpd_foldl_inv now p _ h).2.1
    · rw [matching_foldl_store hb now p hs h hid.symm]
      simp only [retained, Bool.and_assoc]
      change _ = lastN h.limit (L ++ if (s.matchesTopic p.topic && p.unrestricted) = true then _ else _)
      simp only [Bool.and_eq_true]
      split
      · exact save_lastN h L _ hl he
      · rw [List.append_nil]; exact he
    · exact step_store_sub hb _ hs hid hh' (histUpd_foldl_inv now p _ h).1
  | _ =>
    exact ⟨h, hnp _ (by intros; simp), rfl, rfl, by simpa [retained] using he,
      step_store_sub hb _ hs hid (hnp _ (by intros; simp)) rfl⟩

theorem preInit_entries : ∀ (cfg : List (String × String × Nat)) (b : Broker),
    (∀ h ∈ b.hist, h.entries = []) → ∀ h ∈ (b.preInit cfg).hist, h.entries = []
  | [], b, hb => by simpa [Broker.preInit] using hb
  | (topic, m, limit) :: rest, b, hb => by
    unfold Broker.preInit
    cases hf : b.findTopic topic (matchKind m) with
    | none =>
      apply preInit_entries rest
      intro h hh
      rcases List.mem_append.mp hh with h1 | h1
      · exact hb h h1
      · simp at h1; subst h1; rfl
    | some sub =>
      apply preInit_entries rest
      intro h hh
      rcases List.mem_append.mp hh with h1 | h1
      · exact hb h (List.mem_filter.mp h1).1
      · simp at h1; subst h1; rfl

/-- The hypothesis on `cfg` is needed: an entry that names the subscription's (topic, policy) replaces
    its store. -/
theorem preInit_configured : ∀ (cfg : List (String × String × Nat)) {b : Broker}, BrokerInv b →
    ∀ {h : Hist}, h ∈ b.hist → ∀ {s : Sub}, s ∈ b.subs → s.id = h.sub →
    (∀ c ∈ cfg, ¬(c.1 = s.topic ∧ matchKind c.2.1 = s.kind)) →
    h ∈ (b.preInit cfg).hist ∧ s ∈ (b.preInit cfg).subs
  | [], _, _, _, hh, _, hs, _, _ => by simpa [Broker.preInit] using ⟨hh, hs⟩
  | (topic, m, limit) :: rest, b, hb, h, hh, s, hs, hid, hno => by
    unfold Broker.preInit
    have hno' : ∀ c ∈ rest, ¬(c.1 = s.topic ∧ matchKind c.2.1 = s.kind) :=
      fun c hc => hno c (List.mem_cons_of_mem _ hc)
    have hthis := hno (topic, m, limit) (List.mem_cons_self ..)
    cases hf : b.findTopic topic (matchKind m) with
    | none =>
      exact preInit_configured rest (hb.preInit_step_new topic m limit hf)
        (List.mem_append_left _ hh) (List.mem_append_left _ hs) hid hno'
    | some sub =>
      obtain ⟨hsub, hk, ht⟩ := findTopic_some hf
      have hne : h.sub ≠ sub.id := by
        intro he
        have : s = sub := eq_of_id_eq hb.ids_nodup hs hsub (hid.trans he)
        subst this
        exact hthis ⟨ht.symm, hk.symm⟩
      refine preInit_configured rest (hb.preInit_step_old limit hsub)
        (List.mem_append_left _ (List.mem_filter.mpr ⟨hh, by simpa using hne⟩)) hs hid hno'

/-- no stored event names its publisher: `histEntryOf` renders the event for no receiver, so it is enough that
    `baseDetails` carries no publisher key (`hbase` of `HistClean.step`) -/
def HistClean (b : Broker) : Prop :=
  ∀ h ∈ b.hist, ∀ e ∈ h.entries, ∀ key, isPublisherKey key → e.details.get? key = none

theorem foldl_histUpd1_entries (now : Nat) (p : Publication) (l : List (Sub × Bool)) (h : Hist) :
    ∀ e ∈ (l.foldl (histUpd1 now p) h).entries, e ∈ h.entries ∨ ∃ x ∈ l, e = histEntryOf p x.1 x.2 now := by
  induction l generalizing h with
  | nil => intro e he; exact Or.inl he
  | cons x l ih =>
    intro e he
    simp only [List.foldl_cons] at he
    rcases ih _ e he with h1 | ⟨y, hy, rfl⟩
    · unfold histUpd1 at h1
      split at h1
      · rw [Hist.save_entries] at h1
        rcases List.mem_append.mp h1 with h2 | h2
        · left; split at h2
          · exact List.mem_of_mem_drop h2
          · exact h2
        · right; exact ⟨x, List.mem_cons_self .., by simpa using h2⟩
      · exact Or.inl h1
    · right; exact ⟨y, List.mem_cons_of_mem _ hy, rfl⟩

theorem HistClean.step {b : Broker} (hc : HistClean b) (e : BStep)
    (hbase : ∀ sess now p, e = .publish sess now p → ∀ key, isPublisherKey key → p.baseDetails.get? key = none) :
    HistClean (b.step e) := by
  cases e with
  | publish sess now p =>
    intro h hh en hen key hkey
    have hhist : (b.step (.publish sess now p)).hist =
        b.hist.map (fun h => (b.matching p.topic).foldl (histUpd1 now p) h) := syncPublish_hist b sess now p
    rw [hhist] at hh
    obtain ⟨h0, hh0, rfl⟩ := List.mem_map.mp hh
    rcases foldl_histUpd1_entries now p _ h0 en hen with h1 | ⟨x, _, rfl⟩
    · exact hc h0 hh0 en h1 key hkey
    · exact eventDetails_get?_pubkey_none p x.2 none key hkey (hbase sess now p rfl key hkey) rfl
  | _ => unfold HistClean; rw [step_hist_nonpublish _ _ (by intros; simp)]; exact hc

theorem HistClean.run (steps : List BStep) : ∀ {b : Broker}, HistClean b →
    (∀ sess now p, BStep.publish sess now p ∈ steps →
      ∀ key, isPublisherKey key → p.baseDetails.get? key = none) → HistClean (b.run steps) := by
  induction steps with
  | nil => intro b hc _; exact hc
  | cons e rest ih =>
    intro b hc hbase
    exact ih (hc.step e (fun sess now p he => hbase sess now p (he ▸ List.mem_cons_self ..)))
      (fun sess now p hm => hbase sess now p (List.mem_cons_of_mem _ hm))

theorem retained_filter_publish (s : Sub) (steps : List BStep) :
    retained s steps = retained s (steps.filter BStep.isPublish) := by
  induction steps with
  | nil => rfl
  | cons e rest ih =>
    cases e with
    | publish sess now p =>
      simp only [List.filter_cons, BStep.isPublish, if_true, retained]
      rw [ih]
    | _ => simp only [List.filter_cons, BStep.isPublish, retained]; exact ih

theorem retainedEntry_topic (s : Sub) (now : Nat) (p : Publication) :
    (retainedEntry s now p).details.get? "topic" =
      if s.isPattern then some (.str p.topic) else p.baseDetails.get? "topic" := by
  unfold retainedEntry
  cases s.isPattern <;> simp [Dict.get?_set]

end Nexus.L2
