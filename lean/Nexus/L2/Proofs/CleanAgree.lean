/-
  C09: the two models of `realm.cleanSessionDetails` agree.

  `cleanSessionDetails` (router/realm.go:1222-1276) is modelled twice:
    * `Nexus.Auth.cleanSessionDetails metaStrict inc`  (Nexus/Auth/Model.lean) — the copy the C09
      theorems `clean_preserves_identity`, `clean_hides_transport_auth` are about;
    * `Nexus.L2.Realm.cleanDetails r`                  (Nexus/L2/Realm.lean)  — the copy that
      `wamp.session.get` and `wamp.session.on_join` of the L2 model actually use.
  This file bridges them.  It reads from Realm.lean only the definition `Realm.cleanDetails` and the
  two configuration fields it reads (`r.cfg.metaStrict`, `r.cfg.metaInc`).

  Result: the two copies are equal except on one family of inputs: `transport` is a dictionary
  whose `auth` is a dictionary and which has no other key.  Go leaves `altTrans` a nil `wamp.Dict`
  there (realm.go:1263-1273: `var altTrans wamp.Dict`, allocated only when a key other than `auth`
  is seen); the Auth copy renders that as `.null`, the L2 copy as `.dict []`.  `WVal` has no
  typed-nil map, so neither is "the" right one: a nil `wamp.Dict` serialises as null (JSON `null`,
  msgpack/CBOR nil) — the Auth copy is what a remote peer receives — while an in-process peer
  receives a (nil) map it can range over — the L2 copy.  The harness equates the two by its
  null/empty-dict normalisation.
-/
import Nexus.Auth.Lemmas
import Nexus.L2.Realm

namespace Nexus.C09
open Nexus

/-- The inputs on which the two models differ: `transport` is a dictionary, its `auth` is a
    dictionary, and `auth` is its only key (more precisely: every key of it is `auth`). -/
def StripsToNothing (d : Dict) : Prop :=
  ∃ t a, Auth.dictChild d "transport" = some t ∧ Auth.dictChild t "auth" = some a ∧
    t.filter (fun kv => kv.1 != "auth") = []

private theorem l2_clean (r : L2.Realm) (d : Dict) :
    r.cleanDetails d =
      match d.get? "transport" with
      | some (.dict t) =>
        match Dict.get? t "auth" with
        | some (.dict _) =>
          (Auth.picked r.cfg.metaStrict r.cfg.metaInc d).set "transport" (.dict (t.filter (fun kv => kv.1 != "auth")))
        | _ => Auth.picked r.cfg.metaStrict r.cfg.metaInc d
      | _ => Auth.picked r.cfg.metaStrict r.cfg.metaInc d := by
  rfl

private theorem dictChild_eq_some {d : Dict} {k : String} {c : Dict} :
    Auth.dictChild d k = some c ↔ d.get? k = some (.dict c) := by
  unfold Auth.dictChild
  split
  · rename_i c' hc; rw [hc]; simp
  · rename_i hne; exact ⟨fun h => (nomatch h), fun h => absurd h (hne c)⟩

/-- `clean_models_agree`: the model of `cleanSessionDetails` the C09 theorems are
    about (`Auth.cleanSessionDetails`) and the one `wamp.session.get` / `on_join` of the L2 model use
    (`Realm.cleanDetails`) return the same dictionary for the realm's `MetaStrict` /
    `MetaIncludeSessionDetails` configuration, for every details dictionary from which stripping
    `transport.auth` leaves at least one other transport detail (in particular: whenever there is
    no `transport`, or it is not a dictionary, or it has no dictionary-valued `auth`). -/
theorem clean_models_agree (r : L2.Realm) (d : Dict)
    (h : ∀ t a, Auth.dictChild d "transport" = some t → Auth.dictChild t "auth" = some a →
      t.filter (fun kv => kv.1 != "auth") ≠ []) :
    Auth.cleanSessionDetails r.cfg.metaStrict r.cfg.metaInc d = r.cleanDetails d := by
  rw [Auth.cleanSessionDetails_eq, l2_clean]
  cases ht : d.get? "transport" with
  | none => rfl
  | some v =>
    cases v with
    | dict t =>
      dsimp only
      cases ha : Dict.get? t "auth" with
      | none => rfl
      | some a =>
        cases a with
        | dict a =>
          have hne := h t a (dictChild_eq_some.mpr ht) (dictChild_eq_some.mpr ha)
          have he : (t.filter (fun kv => kv.1 != "auth")).isEmpty = false := by
            cases hf : t.filter (fun kv => kv.1 != "auth") with
            | nil => exact absurd hf hne
            | cons _ _ => rfl
          dsimp only
          rw [he]
          rfl
        | _ => rfl
    | _ => rfl

/-- the hypothesis of `clean_models_agree` is met, non-trivially: `transport.auth` is there, is
    stripped, and `transport.type` stays — both copies show `transport = {type: ws}` -/
example :
    Auth.cleanSessionDetails true ["x"]
        [("session", .int 7), ("authid", .str "alice"), ("x", .int 1), ("y", .int 2),
         ("transport", .dict [("type", .str "ws"), ("auth", .dict [("cookie", .str "c")])])] =
      ({ cfg := { metaStrict := true, metaInc := ["x"] } } : L2.Realm).cleanDetails
        [("session", .int 7), ("authid", .str "alice"), ("x", .int 1), ("y", .int 2),
         ("transport", .dict [("type", .str "ws"), ("auth", .dict [("cookie", .str "c")])])] ∧
    Auth.cleanSessionDetails true ["x"]
        [("session", .int 7), ("authid", .str "alice"), ("x", .int 1), ("y", .int 2),
         ("transport", .dict [("type", .str "ws"), ("auth", .dict [("cookie", .str "c")])])] =
      [("session", .int 7), ("authid", .str "alice"), ("transport", .dict [("type", .str "ws")]), ("x", .int 1)] :=
  ⟨rfl, rfl⟩

/-- The details of a websocket session: `WebsocketServer` hands `AttachClient` the transport details
    `wamp.Dict{"auth": authDict}` and nothing else (router/websocketserver.go:345), so once cookie
    tracking or request capture made `authDict` non-nil this is the shape of every websocket
    session's `transport`. -/
def wsDetails : Dict :=
  [("session", .int 7), ("authid", .str "alice"),
   ("transport", .dict [("auth", .dict [("cookie", .str "c")])])]

/-- `clean_models_disagree_witness`: on `wsDetails` the two models genuinely differ — the Auth copy
    shows `transport: null`, the L2 copy `transport: {}`.  (Go: a nil `wamp.Dict`, realm.go:1263-1273;
    see the header for why `WVal` cannot say which is right.) -/
theorem clean_models_disagree_witness :
    Auth.cleanSessionDetails false [] wsDetails =
      [("session", .int 7), ("authid", .str "alice"), ("transport", .null)] ∧
    ({} : L2.Realm).cleanDetails wsDetails =
      [("session", .int 7), ("authid", .str "alice"), ("transport", .dict [])] ∧
    Auth.cleanSessionDetails ({} : L2.Realm).cfg.metaStrict ({} : L2.Realm).cfg.metaInc wsDetails ≠
      ({} : L2.Realm).cleanDetails wsDetails ∧
    StripsToNothing wsDetails := by
  refine ⟨rfl, rfl, ?_, ⟨[("auth", .dict [("cookie", .str "c")])], [("cookie", .str "c")], rfl, rfl, rfl⟩⟩
  intro h
  cases (h : [("session", WVal.int 7), ("authid", .str "alice"), ("transport", .null)] =
    [("session", .int 7), ("authid", .str "alice"), ("transport", .dict [])])

/-- `clean_models_agree_modulo_nil`: what the difference is, in every case.  Either the input is
    not of the family `StripsToNothing` and the two copies are equal, or it is, and then the L2
    copy shows `transport = {}` where the Auth copy shows `transport = null`, everything else
    being equal (the Auth copy is the L2 copy with `transport` overwritten by `null`). -/
theorem clean_models_agree_modulo_nil (r : L2.Realm) (d : Dict) :
    (¬ StripsToNothing d ∧
      Auth.cleanSessionDetails r.cfg.metaStrict r.cfg.metaInc d = r.cleanDetails d) ∨
    (StripsToNothing d ∧
      Auth.cleanSessionDetails r.cfg.metaStrict r.cfg.metaInc d = (r.cleanDetails d).set "transport" .null ∧
      (r.cleanDetails d).get? "transport" = some (.dict []) ∧
      (Auth.cleanSessionDetails r.cfg.metaStrict r.cfg.metaInc d).get? "transport" = some .null) := by
  by_cases hs : StripsToNothing d
  · refine Or.inr ⟨hs, ?_⟩
    obtain ⟨t, a, ht, ha, hf⟩ := hs
    rw [dictChild_eq_some] at ht ha
    rw [Auth.cleanSessionDetails_eq, l2_clean]
    simp only [ht, ha, hf, List.isEmpty_nil, if_true]
    exact ⟨(Dict.set_set _ _ _ _).symm, Dict.get?_set_self _ _ _, Dict.get?_set_self _ _ _⟩
  · refine Or.inl ⟨hs, clean_models_agree r d ?_⟩
    intro t a h1 h2 h3
    exact hs ⟨t, a, h1, h2, h3⟩

/-- `clean_models_agree_iff`: the exact condition — the two models of `cleanSessionDetails` return
    the same dictionary if and only if the input is NOT of the family "`transport` is a dictionary
    whose only key is a dictionary-valued `auth`". -/
theorem clean_models_agree_iff (r : L2.Realm) (d : Dict) :
    Auth.cleanSessionDetails r.cfg.metaStrict r.cfg.metaInc d = r.cleanDetails d ↔ ¬ StripsToNothing d := by
  constructor
  · intro h hs
    rcases clean_models_agree_modulo_nil r d with ⟨hn, _⟩ | ⟨_, _, h2, h3⟩
    · exact hn hs
    · rw [h, h2] at h3
      simp at h3
  · intro hs
    rcases clean_models_agree_modulo_nil r d with ⟨_, he⟩ | ⟨hs', _⟩
    · exact he
    · exact absurd hs' hs

/-- Key by key: every key other than `transport` is shown alike by the two models — in particular
    the session id and the four identity keys, so `clean_preserves_identity` (stated for the Auth
    copy) transfers to `wamp.session.get` / `on_join` of the L2 model. -/
theorem clean_models_agree_get? (r : L2.Realm) (d : Dict) {k : String} (hk : k ≠ "transport") :
    (Auth.cleanSessionDetails r.cfg.metaStrict r.cfg.metaInc d).get? k = (r.cleanDetails d).get? k := by
  rcases clean_models_agree_modulo_nil r d with ⟨_, he⟩ | ⟨_, he, _⟩
  · rw [he]
  · rw [he, Dict.get?_set_ne _ _ (Ne.symm hk)]

end Nexus.C09
