/-
  The caller-side reply stream of the dealer model (vocabulary of property C02) and what each `sync*` function
  contributes to it (`ReplyOK`); the episode of one call over blocks of steps that obey it (`Blocks`: progressive
  RESULTs, then at most one final reply, with which the call is gone); which branch of `syncCall` is taken
  (`syncCall_nomatch/picked/later`); `calls` grows only by the CALL being processed (`*_calls`).
-/
import Nexus.L2.Proofs.DealerTimer
import Nexus.Base.Lemmas

namespace Nexus.L2
open Gen.N

theorem pptInto_progress (opts d : Dict) : Dict.optFlag (pptInto opts d) OptProgress = Dict.optFlag d OptProgress := by
  unfold Dict.optFlag
  rw [pptInto_get?_of_ne opts d (by decide) (by decide) (by decide) (by decide)]

/-- the request id a message answers, if it is a reply to a CALL: RESULT, or ERROR of type CALL -/
def Msg.replyReq : Msg → Option Nat
  | .result r _ _ _ => some r
  | .error typ r _ _ _ _ => if typ = tCALL then some r else none
  | _ => none

/-- final reply = RESULT without `progress: true`, or ERROR (of type CALL) -/
def Msg.isFinalReply : Msg → Bool
  | .result _ d _ _ => !d.optFlag OptProgress
  | .error typ _ _ _ _ _ => typ == tCALL
  | _ => false

/-- the call (caller session, request) a queued message is a reply to -/
def Send.replyTo (x : Send) : Option ReqId := x.msg.replyReq.map (fun r => ⟨x.to, r⟩)

def repliesFor (c : ReqId) (sends : List Send) : List Send := sends.filter (fun x => x.replyTo == some c)
def finalsFor (c : ReqId) (sends : List Send) : List Send := (repliesFor c sends).filter (fun x => x.msg.isFinalReply)
def progsFor (c : ReqId) (sends : List Send) : List Send := (repliesFor c sends).filter (fun x => !x.msg.isFinalReply)

@[simp] theorem callErr_replyTo (c : ReqId) (details : Dict) (err : String) (args : List WVal) (kw : Dict) :
    (callErr c details err args kw).replyTo = some c := by
  simp [callErr, Send.replyTo, Msg.replyReq]

@[simp] theorem callErr_final (c : ReqId) (details : Dict) (err : String) (args : List WVal) (kw : Dict) :
    (callErr c details err args kw).msg.isFinalReply = true := by
  simp [callErr, Msg.isFinalReply]

theorem repliesFor_append (c : ReqId) (l l' : List Send) : repliesFor c (l ++ l') = repliesFor c l ++ repliesFor c l' := by
  simp [repliesFor]

theorem repliesFor_eq_nil {c : ReqId} {l : List Send} (h : ∀ x ∈ l, x.replyTo ≠ some c) : repliesFor c l = [] := by
  unfold repliesFor
  rw [List.filter_eq_nil_iff]
  intro x hx; simpa using h x hx

theorem repliesFor_eq (c : ReqId) (l : List Send) :
    repliesFor c l = (l.filter (fun x => x.replyTo.isSome)).filter (fun x => x.replyTo == some c) := by
  rw [repliesFor, List.filter_filter]
  refine List.filter_congr fun x _ => ?_
  cases x.replyTo <;> simp

theorem interruptOf_replyTo (v : Invk) (i : ReqId) (mode reason : String) : (interruptOf v i mode reason).replyTo = none := rfl

theorem repliesFor_cons (c : ReqId) (x : Send) (l : List Send) :
    repliesFor c (x :: l) = if x.replyTo = some c then x :: repliesFor c l else repliesFor c l := by
  unfold repliesFor
  by_cases h : x.replyTo = some c <;> simp [h]

@[simp] theorem repliesFor_nil (c : ReqId) : repliesFor c [] = [] := rfl

/-- the reply discipline of one step towards call `c`; `fresh` says that the step is the CALL
    that introduces `c` -/
structure ReplyOK (s : DState) (o : DOut) (c : ReqId) (fresh : Prop) : Prop where
  /-- at most one reply per step -/
  one : (repliesFor c o.sends).length ≤ 1
  /-- only for a pending call (or the CALL being processed) -/
  known : repliesFor c o.sends ≠ [] → c ∈ s.d.calls ∨ fresh
  /-- a final reply goes with the removal of the call -/
  final : finalsFor c o.sends ≠ [] → c ∉ o.st.d.calls
  /-- a progressive result leaves the call pending -/
  prog : progsFor c o.sends ≠ [] → c ∈ s.d.calls ∧ c ∈ o.st.d.calls

theorem ReplyOK.of_nil {s : DState} {o : DOut} {c : ReqId} {fresh : Prop} (h : repliesFor c o.sends = []) :
    ReplyOK s o c fresh :=
  ⟨by simp [h], by simp [h], by simp [finalsFor, h], by simp [progsFor, h]⟩

theorem ReplyOK.of_none {s : DState} {o : DOut} (c : ReqId) (fresh : Prop)
    (hs : o.sends.filter (fun y => y.replyTo.isSome) = []) : ReplyOK s o c fresh :=
  .of_nil (by rw [repliesFor_eq, hs]; rfl)

theorem repliesFor_of_single {l : List Send} {x : Send} {c0 : ReqId} (hs : l.filter (fun y => y.replyTo.isSome) = [x])
    (hx : x.replyTo = some c0) (c : ReqId) : repliesFor c l = if c0 = c then [x] else [] := by
  rw [repliesFor_eq, hs]
  by_cases hc : c0 = c <;> simp [hx, hc]

/-- a step whose only reply is `x`, a final reply to the call `c0`, which it removes -/
theorem ReplyOK.of_final {s : DState} {o : DOut} (c : ReqId) (fresh : Prop) {c0 : ReqId} {x : Send}
    (hs : o.sends.filter (fun y => y.replyTo.isSome) = [x]) (hx : x.replyTo = some c0)
    (hf : x.msg.isFinalReply = true) (hk : c0 ∈ s.d.calls ∨ (c0 = c → fresh)) (hr : c0 ∉ o.st.d.calls) :
    ReplyOK s o c fresh := by
  have h := repliesFor_of_single hs hx c
  by_cases hc : c0 = c
  · subst hc
    rw [if_pos rfl] at h
    exact ⟨by simp [h], fun _ => hk.imp_right (· rfl), fun _ => hr, by simp [progsFor, h, hf]⟩
  · exact .of_nil (by rw [h, if_neg hc])

/-- a step whose only reply is `x`, a progressive result for the call `c0`, which stays -/
theorem ReplyOK.of_prog {s : DState} {o : DOut} (c : ReqId) (fresh : Prop) {c0 : ReqId} {x : Send}
    (hs : o.sends.filter (fun y => y.replyTo.isSome) = [x]) (hx : x.replyTo = some c0)
    (hf : x.msg.isFinalReply = false) (hk : c0 ∈ s.d.calls) (hr : c0 ∈ o.st.d.calls) : ReplyOK s o c fresh := by
  have h := repliesFor_of_single hs hx c
  by_cases hc : c0 = c
  · subst hc
    rw [if_pos rfl] at h
    exact ⟨by simp [h], fun _ => Or.inl hk, by simp [finalsFor, h, hf], fun _ => ⟨hk, hr⟩⟩
  · exact .of_nil (by rw [h, if_neg hc])

/-- the field `final` in the form `Blocks.cons` takes -/
theorem ReplyOK.final' {s : DState} {o : DOut} {c : ReqId} {fresh : Prop} (h : ReplyOK s o c fresh)
    (hf : ∃ y ∈ repliesFor c o.sends, y.msg.isFinalReply = true) : c ∉ o.st.d.calls :=
  let ⟨_, hy, hf⟩ := hf
  h.final (List.ne_nil_of_mem (List.mem_filter.mpr ⟨hy, hf⟩))

/-- Blocks of dealer steps seen from one call: `l` lists the replies each block sends for it, `p`/`r` say whether
    it is pending before/after.  Each block obeys the reply discipline and none opens the call anew: at most one
    reply, only while pending; a final reply ends the pending; pending after only if before.  The steps of a
    dealer run are such blocks (`Run.blocks`), and so are the atomic actions of a history (`Chain.blocks`). -/
inductive Blocks : Prop → List (List Send) → Prop → Prop
  | nil (p : Prop) : Blocks p [] p
  | cons {p q r : Prop} {reps : List Send} {l : List (List Send)} (one : reps.length ≤ 1) (known : reps ≠ [] → p)
      (final : (∃ y ∈ reps, y.msg.isFinalReply = true) → ¬ q) (sub : q → p) (rest : Blocks q l r) :
      Blocks p (reps :: l) r

theorem Blocks.quiet {p r : Prop} {l : List (List Send)} (h : Blocks p l r) (hp : ¬ p) : l.flatten = [] ∧ ¬ r := by
  induction h with
  | nil => exact ⟨rfl, hp⟩
  | cons _ known _ sub _ ih =>
    obtain ⟨h1, h2⟩ := ih fun hq => hp (sub hq)
    rw [List.flatten_cons, h1, List.append_nil]
    exact ⟨Classical.not_not.1 fun hne => hp (known hne), h2⟩

/-- The replies to one call: progressive RESULTs, then at most one final reply, with which `gone` holds. -/
def Episode (l : List Send) (gone : Prop) : Prop :=
  ∃ ps f, l = ps ++ f ∧ (∀ y ∈ ps, y.msg.isFinalReply = false) ∧
    (f = [] ∨ ∃ y, f = [y] ∧ y.msg.isFinalReply = true ∧ gone)

/-- A block that may open the call, in front of an episode: no reply leaves the episode as it is, a progressive
    one goes in front of it, and after a final one — the call is gone — nothing follows. -/
theorem Blocks.episode_cons {q r : Prop} {reps : List Send} {l : List (List Send)} (one : reps.length ≤ 1)
    (final : (∃ y ∈ reps, y.msg.isFinalReply = true) → ¬ q) (rest : Blocks q l r)
    (ih : Episode l.flatten (¬ r)) : Episode (reps :: l).flatten (¬ r) := by
  rw [List.flatten_cons]
  match reps, one, final with
  | [], _, _ => exact ih
  | [y], _, final =>
    cases hf : y.msg.isFinalReply with
    | true =>
      obtain ⟨hempty, hr⟩ := rest.quiet (final ⟨y, List.mem_singleton_self y, hf⟩)
      exact ⟨[], [y], by rw [hempty]; rfl, fun _ hy => (nomatch hy), Or.inr ⟨y, rfl, hf, hr⟩⟩
    | false =>
      obtain ⟨ps, f, h1, h2, h3⟩ := ih
      exact ⟨y :: ps, f, by rw [h1]; rfl, List.forall_mem_cons.mpr ⟨hf, h2⟩, h3⟩
  | _ :: _ :: _, one, _ => exact absurd one (by simp)

/-- The replies of blocks towards one call are an episode, at the end of which the call is gone. -/
theorem Blocks.episode {p r : Prop} {l : List (List Send)} (h : Blocks p l r) : Episode l.flatten (¬ r) := by
  induction h with
  | nil => exact ⟨[], [], rfl, fun _ hy => (nomatch hy), Or.inl rfl⟩
  | cons one _ final _ rest ih => exact Blocks.episode_cons one final rest ih

theorem mem_forget_calls {d : Dealer} {c c' i : ReqId} : c' ∈ (d.forget c i).calls ↔ c' ∈ d.calls ∧ c' ≠ c := by
  simp

theorem syncError_replyOK {s : DState} (h : DealerInv s) (callee : SessKey) (req : Nat) (details : Dict) (err : String)
    (args : List WVal) (kw : Dict) (c : ReqId) (fresh : Prop) :
    ReplyOK s (syncError s callee req details err args kw) c fresh := by
  cases hf : s.d.findInv ⟨callee, req⟩ with
  | none => rw [syncError_none _ _ _ _ hf]; exact .of_none c fresh rfl
  | some v =>
    rw [syncError_some h.call _ _ _ _ hf]
    exact .of_final c fresh (x := callErr v.callId details err args kw) rfl (by simp) (by simp)
      (Or.inl (h.call.inv_call (findInv_some_mem hf).1).1) (by simp)

theorem syncCancel_replyOK {env : DEnv} {s : DState} (caller : SessKey) (req : Nat)
    (mode reason : String) (errArgs : List WVal) (c : ReqId) (fresh : Prop) :
    ReplyOK s (syncCancel env s caller req mode reason errArgs) c fresh := by
  refine syncCancel_cases (P := fun o => ReplyOK s o c fresh) env s caller req mode reason errArgs (.of_none c fresh rfl)
    fun i v hc _ _ _ => ?_
  refine cancelOut_cases (P := fun o => ReplyOK s o c fresh) (.of_none c fresh rfl) fun intr hi => ?_
  exact .of_final c fresh (x := callErr ⟨caller, req⟩ [] reason errArgs []) (by rcases hi with rfl | rfl <;> rfl)
    (by simp) (by simp) (Or.inl hc) (by simp)

theorem yieldDetails_progress (opts : Dict) (progress : Bool) :
    (yieldDetails opts progress).optFlag OptProgress = progress := by
  unfold yieldDetails
  split
  · rw [pptInto_progress]; cases progress <;> rfl
  · cases progress <;> rfl

@[simp] theorem abort_replyTo (k : SessKey) (t : String) : (⟨k, abortMsg t⟩ : Send).replyTo = none := rfl
@[simp] theorem yieldErr_replyTo (k : SessKey) (r : Nat) (d : Dict) (e : String) (a : List WVal) (kw : Dict) :
    (⟨k, .error tYIELD r d e a kw⟩ : Send).replyTo = none := rfl

@[simp] theorem interrupt_replyTo (k : SessKey) (r : Nat) (d : Dict) : (⟨k, .interrupt r d⟩ : Send).replyTo = none := rfl
@[simp] theorem result_replyTo (k : SessKey) (r : Nat) (d : Dict) (a : List WVal) (kw : Dict) :
    (⟨k, .result r d a kw⟩ : Send).replyTo = some ⟨k, r⟩ := rfl

@[simp] theorem invocation_replyTo (k : SessKey) (r g : Nat) (d : Dict) (a : List WVal) (kw : Dict) :
    (⟨k, .invocation r g d a kw⟩ : Send).replyTo = none := rfl
attribute [simp] interruptOf_replyTo

@[simp] theorem pptErr_replyTo (c : ReqId) : (pptErr c).replyTo = some c := by simp [pptErr]
@[simp] theorem pptErr_final (c : ReqId) : (pptErr c).msg.isFinalReply = true := by simp [pptErr]

theorem syncYield_replyOK {env : DEnv} {s : DState} (h : DealerInv s) (callee : SessKey) (req : Nat) (opts : Dict)
    (args : List WVal) (kw : Dict) (progress canRetry : Bool) (c : ReqId) (fresh : Prop) :
    ReplyOK s (syncYield env s callee req opts args kw progress canRetry) c fresh := by
  cases hf : s.d.findInv ⟨callee, req⟩ with
  | none =>
    rw [syncYield_unknown args kw progress canRetry hf]
    split <;> exact .of_none c fresh rfl
  | some v =>
    rw [syncYield_some' h.call opts args kw progress canRetry hf]
    obtain ⟨hv, hi⟩ := findInv_some_mem hf
    have hpend : v.callId ∈ s.d.calls := (h.call.inv_call hv).1
    refine yieldOut_cases (P := fun o => ReplyOK s o c fresh) h opts args kw progress canRetry hv hi ?_ ?_ ?_ ?_ ?_ ?_
    · intro _
      exact .of_final c fresh (x := pptErr v.callId) rfl (by simp) (by simp) (Or.inl hpend) (by simp)
    · intro _ _
      cases progress
      · exact .of_final c fresh (x := pptErr v.callId) rfl (by simp) (by simp) (Or.inl hpend) (by simp [yieldFinish_calls])
      · exact .of_none c fresh rfl
    · intro _ _ _
      cases progress
      · exact .of_final c fresh (x := ⟨v.callId.sess, .result v.callId.req (yieldDetails opts false) args kw⟩) rfl rfl
          (by simp [Msg.isFinalReply, yieldDetails_progress]) (Or.inl hpend) (by simp [yieldFinish_calls])
      · exact .of_prog c fresh (x := ⟨v.callId.sess, .result v.callId.req (yieldDetails opts true) args kw⟩) rfl rfl
          (by simp [Msg.isFinalReply, yieldDetails_progress]) hpend (by simp [yieldFinish_calls, hpend])
    · intro _ _; exact .of_none c fresh rfl
    · intro _ _ _; exact .of_none c fresh rfl
    · intro _ _ _
      refine .of_final c fresh (x := callErr v.callId [] ErrCanceled [] []) ?_ (by simp) (by simp) (Or.inl hpend) (by simp)
      split <;> rfl

theorem syncCall_replyOK {env : DEnv} {s : DState} (h : DealerInv s) (caller : SessKey) (req : Nat) (opts : Dict)
    (proc : String) (args : List WVal) (kw : Dict) (rnd : Nat) (c : ReqId) :
    ReplyOK s (syncCall env s caller req opts proc args kw rnd) c (c = ⟨caller, req⟩) := by
  -- the CALL is refused or cannot be delivered: ERROR to the caller, the call not (or no longer) pending
  have hfin : ∀ (o : DOut) (d : Dict) (e : String) (a : List WVal), o.sends = [callErr ⟨caller, req⟩ d e a []] →
      (⟨caller, req⟩ : ReqId) ∉ o.st.d.calls → ReplyOK s o c (c = ⟨caller, req⟩) := fun o d e a hs hgone =>
    .of_final c _ (x := callErr ⟨caller, req⟩ d e a []) (by rw [hs]; rfl) (by simp) (by simp) (Or.inr Eq.symm) hgone
  refine syncCall_cases (env := env) (P := fun o => ReplyOK s o c (c = ⟨caller, req⟩)) h caller req opts proc args kw rnd
    ?_ ?_ ?_ ?_ ?_ ?_ ?_ ?_
  · intro _; exact .of_none c _ rfl
  · intros; exact .of_none c _ rfl
  · intros; exact hfin _ _ _ _ rfl (by simp [fullOut])
  · intro _ hc0 _; exact hfin _ _ _ _ rfl hc0
  · intro reg reg' callee e _ hc0 _ _ _ _ _; exact hfin _ _ _ _ rfl hc0
  · intros; exact .of_none c _ rfl
  · intros; exact .of_none c _ rfl
  · intro reg reg' callee _ hc0 _ _ _ _ _ _
    exact hfin _ _ _ _ rfl (by rw [fullOut_fresh_calls hc0]; exact hc0)

theorem syncRemoveSession_sends {env : DEnv} {s : DState} (h : DealerInv s) (k : SessKey) :
    (syncRemoveSession env s k).sends = (s.d.invs.filter (fun v => v.callee == k)).map (fun v => goneErr v.callId) := by
  obtain ⟨s1, _, rfl, h1, _, he⟩ := removeSession_mid (env := env) h k
  rw [he]
  have hspec := cancelServed_spec env k s.d.invs _ h1 h.call.invCalls (fun v hv _ => ⟨v, hv, rfl, rfl, rfl⟩)
  refine hspec.1.trans (congrArg _ (List.filter_congr fun v hv => ?_))
  have : v.callId ∈ s.d.calls := (h.call.inv_call hv).1
  simp [this]

/-- The calls pending after the removal of session `k`: those of other callers that `k` does not serve. -/
theorem mem_syncRemoveSession_calls {env : DEnv} {s : DState} (h : DealerInv s) (k : SessKey) (c : ReqId) :
    c ∈ (syncRemoveSession env s k).st.d.calls ↔
      c ∈ s.d.calls ∧ c.sess ≠ k ∧ ∀ v ∈ s.d.invs, v.callee = k → v.callId ≠ c := by
  obtain ⟨s1, _, rfl, h1, _, he⟩ := removeSession_mid (env := env) h k
  have hspec := (cancelServed_spec env k s.d.invs _ h1 h.call.invCalls (fun v hv _ => ⟨v, hv, rfl, rfl, rfl⟩)).2.1 c
  rw [he]
  show c ∈ (dropCalls _ k _).d.calls ↔ _
  rw [mem_dropCalls_calls, hspec]
  show (c ∈ s.d.calls ∧ _) ∧ _ ↔ _
  exact ⟨fun ⟨⟨a, b⟩, g⟩ => ⟨a, g ⟨a, b⟩, b⟩, fun ⟨a, g, b⟩ => ⟨⟨a, b⟩, fun _ => g⟩⟩

theorem syncRemoveSession_calls {env : DEnv} {s : DState} (h : DealerInv s) (k : SessKey) (c : ReqId)
    (hc : c ∈ (syncRemoveSession env s k).st.d.calls) :
    c ∈ s.d.calls ∧ c.sess ≠ k ∧ ∀ v ∈ s.d.invs, v.callee = k → v.callId ≠ c :=
  (mem_syncRemoveSession_calls h k c).1 hc

theorem syncRemoveSession_calls_keep {env : DEnv} {s : DState} (h : DealerInv s) (k : SessKey) (c : ReqId)
    (hc : c ∈ s.d.calls) (hs : c.sess ≠ k) (hv : ∀ v ∈ s.d.invs, v.callee = k → v.callId ≠ c) :
    c ∈ (syncRemoveSession env s k).st.d.calls :=
  (mem_syncRemoveSession_calls h k c).2 ⟨hc, hs, hv⟩

@[simp] theorem goneErr_replyTo (c : ReqId) : (goneErr c).replyTo = some c := by simp [goneErr]
@[simp] theorem goneErr_final (c : ReqId) : (goneErr c).msg.isFinalReply = true := by simp [goneErr]

theorem repliesFor_map_goneErr (c : ReqId) (l : List Invk) :
    repliesFor c (l.map (fun v => goneErr v.callId)) =
      (l.filter (fun v => v.callId == c)).map (fun v => goneErr v.callId) := by
  unfold repliesFor
  rw [List.filter_map]
  congr 1

theorem syncRemoveSession_replies {env : DEnv} {s : DState} (h : DealerInv s) (k : SessKey) (c : ReqId) :
    (repliesFor c (syncRemoveSession env s k).sends = [] ∧ ∀ v ∈ s.d.invs, v.callee = k → v.callId ≠ c) ∨
    (repliesFor c (syncRemoveSession env s k).sends = [goneErr c] ∧ ∃ v ∈ s.d.invs, v.callee = k ∧ v.callId = c) := by
  rw [syncRemoveSession_sends h, repliesFor_map_goneErr]
  have hnd : ((s.d.invs.filter (fun v => v.callee == k)).map (·.callId)).Nodup := nodup_map_filter _ _ h.call.invCalls
  rcases filter_key_nodup (f := fun v : Invk => v.callId) hnd c with ⟨h1, h2⟩ | ⟨v, hv, hvc, h1⟩
  · left
    refine ⟨by rw [h1]; rfl, fun v hv hk => h2 v (List.mem_filter.2 ⟨hv, by simpa using hk⟩)⟩
  · right
    have hv' := List.mem_filter.1 hv
    exact ⟨by rw [h1]; simp [hvc], v, hv'.1, by simpa using hv'.2, hvc⟩

theorem syncRemoveSession_replyOK {env : DEnv} {s : DState} (h : DealerInv s) (k : SessKey) (c : ReqId) (fresh : Prop) :
    ReplyOK s (syncRemoveSession env s k) c fresh := by
  rcases syncRemoveSession_replies (env := env) h k c with ⟨h1, _⟩ | ⟨h1, v, hv, hk, hvc⟩
  · exact ReplyOK.of_nil h1
  · exact ⟨by simp [h1], fun _ => Or.inl (hvc ▸ (h.call.inv_call hv).1),
      fun _ hc => (syncRemoveSession_calls h k c hc).2.2 v hv hk hvc, by simp [progsFor, h1]⟩

theorem syncRegister_no_reply (s : DState) (callee : SessKey) (req : Nat) (proc m invoke : String)
    (disclose fwd wampURI : Bool) (c : ReqId) :
    repliesFor c (syncRegister s callee req proc m invoke disclose fwd wampURI).sends = [] :=
  syncRegister_cases (P := fun o => repliesFor c o.sends = []) s callee req proc m invoke disclose fwd wampURI
    (fun _ => rfl) (fun _ _ _ => rfl) (fun _ _ _ _ _ => rfl)

theorem syncUnregister_no_reply (s : DState) (callee : SessKey) (req regId : Nat) (c : ReqId) :
    repliesFor c (syncUnregister s callee req regId).sends = [] :=
  syncUnregister_cases (P := fun o => repliesFor c o.sends = []) s callee req regId (fun _ => rfl) (fun _ _ _ => rfl)

/-- the step is the CALL (first or later chunk) with call id `c` -/
def IsCallStep (s : DState) (o : DOut) (c : ReqId) : Prop :=
  ∃ env opts proc args kw rnd, o = syncCall env s c.sess c.req opts proc args kw rnd

theorem ReplyOK.mono_fresh {s : DState} {o : DOut} {c : ReqId} {f f' : Prop} (h : ReplyOK s o c f) (hf : f → f') :
    ReplyOK s o c f' :=
  ⟨h.one, fun hn => (h.known hn).imp id hf, h.final, h.prog⟩

theorem DStep.replyOK {s : DState} {o : DOut} (h : DealerInv s) (st : DStep s o) (c : ReqId) :
    ReplyOK s o c (IsCallStep s o c) := by
  cases st with
  | register => exact ReplyOK.of_nil (syncRegister_no_reply ..)
  | unregister => exact ReplyOK.of_nil (syncUnregister_no_reply ..)
  | call env caller req opts proc args kw rnd =>
    refine (syncCall_replyOK h caller req opts proc args kw rnd c).mono_fresh ?_
    rintro rfl
    exact ⟨env, opts, proc, args, kw, rnd, rfl⟩
  | cancel => exact syncCancel_replyOK ..
  | yield => exact syncYield_replyOK h ..
  | error => exact syncError_replyOK h ..
  | removeSession => exact syncRemoveSession_replyOK h ..
  | dropTimers => exact ReplyOK.of_nil rfl

/-- CALL to a procedure that resolves to nothing (not a chunk of a pending call): refused -/
theorem syncCall_nomatch {env : DEnv} {s : DState} (caller : SessKey) (req : Nat) (opts : Dict) {proc : String}
    (args : List WVal) (kw : Dict) (rnd : Nat) (hm : s.d.matchProcedure proc = none)
    (hb : s.d.byCall? ⟨caller, req⟩ = none) :
    syncCall env s caller req opts proc args kw rnd =
      { st := s, sends := [callErr ⟨caller, req⟩ [] ErrNoSuchProcedure [] []] } := by
  rw [syncCall_eq, hb]
  simp only [hm]
  rfl

theorem syncCall_picked {env : DEnv} {s : DState} {caller : SessKey} {req : Nat} {opts : Dict} {proc : String}
    (args : List WVal) (kw : Dict) {rnd : Nat} {reg reg' : Reg} {callee : SessKey}
    (hm : s.d.matchProcedure proc = some reg)
    (hprog : (opts.optFlag OptProgress && !hasFeat env caller RoleCaller FeatureProgCallInvocations) = false)
    (hb : s.d.byCall? ⟨caller, req⟩ = none) (hp : pickCallee reg rnd = some (callee, reg')) :
    syncCall env s caller req opts proc args kw rnd = firstChunk env s reg caller req opts proc args kw callee reg' := by
  have hne : reg.callees.isEmpty = false := List.isEmpty_eq_false_iff_exists_mem.2 ⟨_, (pickCallee_mem hp).1⟩
  rw [syncCall_eq, hb]
  simp only [hm, hne, hprog, hp, Bool.false_eq_true, if_false]

/-- a later chunk of a pending call is routed without looking at the chunk's URI -/
theorem syncCall_later {env : DEnv} {s : DState} {caller : SessKey} {req : Nat} {opts : Dict} (proc : String)
    (args : List WVal) (kw : Dict) (rnd : Nat) {iid : ReqId} {v0 : Invk}
    (hprog : (opts.optFlag OptProgress && !hasFeat env caller RoleCaller FeatureProgCallInvocations) = false)
    (hb : s.d.byCall? ⟨caller, req⟩ = some iid) (hf : s.d.findInv iid = some v0) :
    syncCall env s caller req opts proc args kw rnd = laterChunk env s caller req opts args kw iid v0 := by
  rw [syncCall_eq, hb]
  simp only [hf, hprog, Bool.false_eq_true, if_false]

theorem syncCall_calls_sub {env : DEnv} {s : DState} (h : DealerInv s) (caller : SessKey) (req : Nat) (opts : Dict)
    (proc : String) (args : List WVal) (kw : Dict) (rnd : Nat) (c : ReqId)
    (hc : c ∈ (syncCall env s caller req opts proc args kw rnd).st.d.calls) : c ∈ s.d.calls ∨ c = ⟨caller, req⟩ := by
  obtain ⟨S, ho, hm⟩ := syncCall_moves (env := env) h caller req opts proc args kw rnd
  have := hm.shrinks.calls c hc
  cases ho with
  | same => exact .inl this
  | cursor => exact .inl this
  | record => exact (List.mem_append.1 this).imp_right List.mem_singleton.1

theorem syncRegister_calls (s : DState) (callee : SessKey) (req : Nat) (proc m invoke : String)
    (disclose fwd wampURI : Bool) : (syncRegister s callee req proc m invoke disclose fwd wampURI).st.d.calls = s.d.calls := by
  obtain ⟨_, _, _, h⟩ := syncRegister_st s callee req proc m invoke disclose fwd wampURI
  rw [h]

theorem syncUnregister_calls (s : DState) (callee : SessKey) (req regId : Nat) :
    (syncUnregister s callee req regId).st.d.calls = s.d.calls := by
  obtain ⟨_, h⟩ := syncUnregister_st s callee req regId
  rw [h]

/-- a non-progress YIELD by the owning callee, caller able to receive: exactly one final reply
    (RESULT, or ERROR feature_not_supported when payload passthru is misused), call removed -/

theorem yield_final {env : DEnv} {s : DState} (h : DealerInv s) {v : Invk} (hv : v ∈ s.d.invs) (opts : Dict)
    (args : List WVal) (kw : Dict) (canRetry : Bool) (hfull : env.full v.callId.sess = false) :
    ∃ x, repliesFor v.callId (syncYield env s v.id.sess v.id.req opts args kw false canRetry).sends = [x] ∧
      x.msg.isFinalReply = true ∧ v.callId ∉ (syncYield env s v.id.sess v.id.req opts args kw false canRetry).st.d.calls := by
  rw [syncYield_owner h hv]
  refine yieldOut_cases (P := fun o => ∃ x, repliesFor v.callId o.sends = [x] ∧ x.msg.isFinalReply = true ∧
    v.callId ∉ o.st.d.calls) h opts args kw false canRetry hv rfl ?_ ?_ ?_ ?_ ?_ ?_
  · intro _
    exact ⟨pptErr v.callId, by simp [repliesFor_cons], by simp, by simp⟩
  · intro _ _
    exact ⟨pptErr v.callId, by simp [repliesFor_cons], by simp, by simp [yieldFinish_calls]⟩
  · intro _ _ _
    refine ⟨⟨v.callId.sess, .result v.callId.req (yieldDetails opts false) args kw⟩, ?_, ?_, by simp [yieldFinish_calls]⟩
    · have hrt : (⟨v.callId.sess, Msg.result v.callId.req (yieldDetails opts false) args kw⟩ : Send).replyTo = some v.callId := rfl
      simp [repliesFor_cons, hrt]
    · simp [Msg.isFinalReply, yieldDetails_progress]
  -- in the other branches the caller's queue is full
  all_goals intro hf'; rw [hfull] at hf'; cases hf'

/-- a progressive YIELD by the owning callee, caller able to receive and passthru not misused: one progressive
    RESULT with the payload, call stays -/

theorem yield_progress {env : DEnv} {s : DState} (h : DealerInv s) {v : Invk} (hv : v ∈ s.d.invs) (opts : Dict)
    (args : List WVal) (kw : Dict) (canRetry : Bool) (hfull : env.full v.callId.sess = false)
    (h1 : yieldPptCalleeBad env v.id.sess opts = false) (h2 : yieldPptCallerBad env v.callId.sess opts = false) :
    syncYield env s v.id.sess v.id.req opts args kw true canRetry =
      { st := s, sends := [⟨v.callId.sess, .result v.callId.req (yieldDetails opts true) args kw⟩] } := by
  rw [syncYield_owner h hv, yieldOut_deliver args kw true canRetry v h1 h2 hfull]
  rfl

end Nexus.L2
