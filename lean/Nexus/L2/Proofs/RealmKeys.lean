/-
  Session keys of reachable realms.

  `Realm.stepOp` treats the inputs that cannot occur as no-ops: a `join` under the meta session's key or
  under the key of an attached client (session ids are drawn by the router), a `drop` of a key that names
  no attached client (only an attached client has a transport to lose).  Hence, for every history of
  inputs (`Realm.Reachable`, no side condition on the keys the inputs use):

    * no client is stored under the meta session's key            (`MetaSafe.noClient`, MetaSafe.lean)
    * the keys of the attached clients are pairwise distinct       (`keys_nodup`, here)
    * every key in `ending` is the key of an attached client       (`CtlInv.ending`, ControlInv.lean)

  collected in `Realm.Reachable.clients_wf`, with the look-up corollaries used by the property files
  (`session?` of a client key is `client?`, `find?` by key finds the client itself), and
  `Realm.Reachable.refs_wf`: the realm's per-session tables (`ending`, `deferred`, `inbox`,
  `testaments`) refer to attached clients only, `retries` to attached clients or the meta session.
-/
import Nexus.L2.Proofs.ControlInv
import Nexus.L2.Proofs.RealmQueue
import Nexus.L2.Proofs.RealmLeave

namespace Nexus.L2.WpC
open Nexus.L2 Nexus.L2.Realm Nexus.Gen.N

def keys (r : Realm) : List SessKey := r.clients.map (·.key)

theorem keys_taskAct {r r' : Realm} (h : TaskAct r r') : (keys r').Sublist (keys r) := by
  cases h with
  | eff h => unfold keys; rw [h.clients]; exact List.Sublist.refl _
  | invoke h => unfold keys; rw [h.keys]; exact List.Sublist.refl _
  | defer k mode hk hb => exact List.Sublist.refl _
  | leave k mode s hk hf hb =>
    have lc := leave_ctl mode hf
    unfold keys; rw [lc.clients]
    exact List.filter_sublist.map _
  | none => exact List.Sublist.refl _

theorem keys_nodup_keeps : Keeps Ctl (fun q => (keys q).Nodup) where
  task ht b h := (keys_taskAct (runTask_act (b.2.tail ht).1.safe _ (b.2.tail ht).2)).nodup h
  timer {q _ t} _ _ h := by unfold keys at h ⊢; rw [(Handled.timerDue q t).clients]; exact h
  retry {q _ x} _ _ h := by unfold keys at h ⊢; rw [(Handled.retryDue q x).clients]; exact h
  now _ _ h := h
  fuel {q _} _ _ h := by unfold keys at h ⊢; rw [(setPanic_frame q _).clients]; exact h
  flush _ h := h

theorem keys_nodup_stepOp {r : Realm} (hm : MetaSafe r) (h : (keys r).Nodup) (op : Op) : (keys (r.stepOp op)).Nodup := by
  refine stepOp_cases (C := fun q => (keys q).Nodup) r op h (fun k _ _ _ _ _ _ hk => ?_)
    (fun k m _ => (keys_taskAct (runTask_act hm (.inMsg k m) trivial)).nodup h)
    (fun k g _ hg _ => ?_) (fun _ _ _ => h) (fun _ => h)
  · show (List.map (·.key) (r.clients ++ [_])).Nodup
    rw [List.map_append, List.nodup_append]
    refine ⟨h, List.pairwise_singleton _ _, fun a ha b hb => ?_⟩
    obtain ⟨c, hc, rfl⟩ := List.mem_map.mp ha
    rw [List.mem_singleton.mp hb]
    exact hk c hc
  · show (List.map _ (List.map _ _)).Nodup
    rw [map_update_keys k g hg.key]; exact h

theorem keys_nodup_step {r : Realm} (hi : RealmInv r) (hp : FuelOnly r.panic) (hc : CtlInv r) (h : (keys r).Nodup)
    (op : Op) : (keys (r.step op).2).Nodup :=
  Ctl.step keys_nodup_keeps ⟨⟨hi, hp⟩, hc⟩ (keys_nodup_stepOp hc.safe h op)

end Nexus.L2.WpC

namespace Nexus.L2.Realm
open Nexus.L2.WpC

theorem Reachable.keys_nodup {cfg : Config} {r : Realm} (h : Reachable cfg r) : (r.clients.map (·.key)).Nodup :=
  Ctl.reachable keys_nodup_keeps (fun _ hc => by
      show (List.map _ _).Nodup; rw [(create_rinv hc).clients]; exact List.nodup_nil)
    (fun _ op hc h => keys_nodup_stepOp hc.2.safe h op) h

theorem Reachable.clients_wf {cfg : Config} {r : Realm} (h : Reachable cfg r) :
    (∀ c ∈ r.clients, c.key ≠ metaKey) ∧ (r.clients.map (·.key)).Nodup ∧
    (∀ k ∈ r.ending, r.clients.any (·.key == k) = true) := by
  refine ⟨h.metaSafe.noClient, h.keys_nodup, ?_⟩
  intro k hk
  obtain ⟨c, hc, e⟩ := h.ctl.ending k hk
  exact List.any_eq_true.mpr ⟨c, hc, by simp [e]⟩

theorem Reachable.refs_wf {cfg : Config} {r : Realm} (h : Reachable cfg r) :
    (∀ k ∈ r.ending, r.isClient k) ∧
    (∀ d ∈ r.deferred, r.isClient d.1 ∧ r.busy d.1 = true) ∧
    (∀ e ∈ r.inbox, r.isClient e.1) ∧
    (∀ t ∈ r.testaments, r.isClient t.1) ∧
    (∀ x ∈ r.retries, x.callee = metaKey ∨ r.isClient x.callee) := by
  have hi := h.inv.1
  have hc := h.ctl
  refine ⟨hc.ending, ?_, ?_, h.testaments, hi.retr⟩
  · intro d hd
    have hb := hc.defBusy d hd
    refine ⟨?_, hb⟩
    obtain ⟨x, hx, hxk⟩ := List.any_eq_true.mp hb
    have hxk' : x.callee = d.1 := by simpa using hxk
    rcases hi.retr x hx with hm | hcl
    · exact absurd (hxk' ▸ hm) (hc.safe.deferred d hd)
    · exact hxk' ▸ hcl
  · intro e he
    obtain ⟨⟨c, hcm, hck, _⟩, _⟩ := hi.inb e he
    exact ⟨c, hcm, hck⟩

theorem Reachable.client_ne_meta {cfg : Config} {r : Realm} (h : Reachable cfg r) {k : SessKey} (hk : r.isClient k) :
    k ≠ metaKey := h.metaSafe.client_ne hk

theorem Reachable.find?_client {cfg : Config} {r : Realm} (h : Reachable cfg r) {c : Session} (hc : c ∈ r.clients) :
    r.clients.find? (fun s => s.key == c.key) = some c :=
  client?_of_mem h.keys_nodup hc

theorem Reachable.session?_client {cfg : Config} {r : Realm} (h : Reachable cfg r) {c : Session} (hc : c ∈ r.clients) :
    r.session? c.key = some c := by
  unfold Realm.session?
  rw [if_neg (h.metaSafe.noClient c hc)]
  exact h.find?_client hc

theorem Reachable.client?_ne_meta {cfg : Config} {r : Realm} (h : Reachable cfg r) {k : SessKey} {c : Session}
    (hc : r.client? k = some c) : k ≠ metaKey :=
  h.metaSafe.client_ne (isClient_of_find hc)

theorem Reachable.find?_ne_meta {cfg : Config} {r : Realm} (h : Reachable cfg r) {k : SessKey} {c : Session}
    (hc : r.clients.find? (fun s => s.key == k) = some c) : k ≠ metaKey :=
  h.client?_ne_meta (r := r) hc

theorem Reachable.session?_of_client? {cfg : Config} {r : Realm} (h : Reachable cfg r) {k : SessKey} {c : Session}
    (hc : r.client? k = some c) : r.session? k = some c := by
  unfold Realm.session?
  rw [if_neg (h.client?_ne_meta hc)]
  exact hc

theorem Reachable.find?_meta {cfg : Config} {r : Realm} (h : Reachable cfg r) :
    r.clients.find? (fun s => s.key == metaKey) = none := by
  apply List.find?_eq_none.mpr
  intro c hc
  simpa using h.metaSafe.noClient c hc

theorem Reachable.session?_eq {cfg : Config} {r : Realm} (h : Reachable cfg r) (k : SessKey) :
    (k ≠ metaKey → r.session? k = r.client? k) ∧ r.client? metaKey = none ∧ r.session? metaKey = some r.metaS := by
  refine ⟨fun hk => ?_, ?_, ?_⟩
  · unfold Realm.session? Realm.client?; rw [if_neg hk]
  · exact h.find?_meta
  · unfold Realm.session?; rw [if_pos rfl]

end Nexus.L2.Realm
