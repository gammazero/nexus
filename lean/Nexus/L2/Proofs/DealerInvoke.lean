/-
  The INVOCATION messages `syncCall` sends: which, to whom, with which fields (C03, C12, C13_forward); and what
  every `sync*` function sends, to whom and of which kinds (`DSend`, `sync*_sends`), whatever the state.
-/
import Nexus.L2.Proofs.DealerReply

namespace Nexus.L2
open Gen.N

theorem discloseInto_get?_other (role : String) (sid : Nat) (pd d : Dict) {k : String} (h1 : k ≠ role)
    (h2 : k ≠ role ++ "_authid") (h3 : k ≠ role ++ "_authrole") :
    Dict.get? (discloseInto role sid pd d) k = Dict.get? d k := by
  unfold discloseInto
  simp only
  cases pd.get? "authrole" <;> cases pd.get? "authid" <;>
    simp only [Dict.get?_set_ne _ _ (Ne.symm h1), Dict.get?_set_ne _ _ (Ne.symm h2), Dict.get?_set_ne _ _ (Ne.symm h3)]

def identityKeys : List String := [RoleCaller, RoleCaller ++ "_authid", RoleCaller ++ "_authrole"]

theorem identityKeys_eq : identityKeys = ["caller", "caller_authid", "caller_authrole"] := by decide

/-- was the caller disclosed in the INVOCATION details built by `syncCall` -/
def disclosed (env : DEnv) (reg : Reg) (callee : SessKey) (opts : Dict) : Bool :=
  reg.disclose || (opts.optFlag OptDiscloseMe && hasFeat env callee RoleCallee FeatureCallerIdent)

/-- the details before the caller's identity is (or is not) added -/
def baseDetails (opts : Dict) : Dict :=
  if pptScheme opts != "" then pptInto opts [(OptProgress, .bool (opts.optFlag OptProgress))]
  else [(OptProgress, .bool (opts.optFlag OptProgress))]

theorem baseDetails_get? (opts : Dict) {k : String} (h0 : k ≠ OptProgress) (h1 : k ≠ OptPPTScheme)
    (h2 : k ≠ OptPPTSerializer) (h3 : k ≠ OptPPTCipher) (h4 : k ≠ OptPPTKeyId) : Dict.get? (baseDetails opts) k = none := by
  unfold baseDetails
  split
  · rw [pptInto_get?_of_ne _ _ h1 h2 h3 h4]; simp [Dict.get?, Ne.symm h0]
  · simp [Dict.get?, Ne.symm h0]

theorem invDetails_eq (env : DEnv) (reg : Reg) (caller callee : SessKey) (opts : Dict) (proc : String) :
    invDetails env reg caller callee opts proc =
      let d1 := if disclosed env reg callee opts then discloseCaller env caller (baseDetails opts) else baseDetails opts
      let d2 := if opts.optFlag OptReceiveProgress && hasFeat env callee RoleCallee FeatureProgCallResults &&
                   hasFeat env callee RoleCallee FeatureCallCanceling
                then Dict.set d1 OptReceiveProgress (.bool true) else d1
      let d3 := if reg.«match» != MatchExact then Dict.set d2 OptProcedure (.str proc) else d2
      if optTimeout opts > 0 && forwardsTimeout env reg callee then Dict.set d3 OptTimeout (.int (optTimeout opts)) else d3 := by
  unfold invDetails disclosed baseDetails
  simp only
  cases reg.disclose <;> cases (opts.optFlag OptDiscloseMe && hasFeat env callee RoleCallee FeatureCallerIdent) <;> rfl

theorem invDetails_base_get? (env : DEnv) (reg : Reg) (caller callee : SessKey) (opts : Dict) {k : String}
    (hk : k = OptReceiveProgress ∨ k = OptProcedure ∨ k = OptTimeout) :
    Dict.get? (if disclosed env reg callee opts then discloseCaller env caller (baseDetails opts) else baseDetails opts) k =
      none := by
  have hb : Dict.get? (baseDetails opts) k = none := by
    rcases hk with rfl | rfl | rfl <;>
      exact baseDetails_get? opts (by decide) (by decide) (by decide) (by decide) (by decide)
  split
  · rw [← hb]
    rcases hk with rfl | rfl | rfl <;> exact discloseInto_get?_other _ _ _ _ (by decide) (by decide) (by decide)
  · exact hb

theorem invDetails_get?_identity (env : DEnv) (reg : Reg) (caller callee : SessKey) (opts : Dict) (proc : String)
    {k : String} (hk : k ∈ identityKeys) :
    Dict.get? (invDetails env reg caller callee opts proc) k =
      if disclosed env reg callee opts then Dict.get? (discloseCaller env caller (baseDetails opts)) k else none := by
  rw [invDetails_eq]
  simp only
  have hne : OptTimeout ≠ k ∧ OptProcedure ≠ k ∧ OptReceiveProgress ≠ k ∧ k ≠ OptProgress ∧ k ≠ OptPPTScheme ∧
      k ≠ OptPPTSerializer ∧ k ≠ OptPPTCipher ∧ k ≠ OptPPTKeyId := by
    rw [identityKeys_eq] at hk
    simp only [List.mem_cons, List.not_mem_nil, or_false] at hk
    rcases hk with rfl | rfl | rfl <;> decide
  obtain ⟨n1, n2, n3, n4, n5, n6, n7, n8⟩ := hne
  rw [Dict.get?_ite_set_ne _ _ _ n1, Dict.get?_ite_set_ne _ _ _ n2, Dict.get?_ite_set_ne _ _ _ n3]
  split
  · rfl
  · exact baseDetails_get? opts n4 n5 n6 n7 n8

theorem invDetails_get?_timeout (env : DEnv) (reg : Reg) (caller callee : SessKey) (opts : Dict) (proc : String) :
    Dict.get? (invDetails env reg caller callee opts proc) OptTimeout =
      if optTimeout opts > 0 && forwardsTimeout env reg callee then some (.int (optTimeout opts)) else none := by
  rw [invDetails_eq]
  simp only
  split
  · exact Dict.get?_set_self _ _ _
  · rw [Dict.get?_ite_set_ne _ _ _ (by decide), Dict.get?_ite_set_ne _ _ _ (by decide)]
    exact invDetails_base_get? env reg caller callee opts (Or.inr (Or.inr rfl))

theorem invDetails_get?_procedure (env : DEnv) (reg : Reg) (caller callee : SessKey) (opts : Dict) (proc : String) :
    Dict.get? (invDetails env reg caller callee opts proc) OptProcedure =
      if reg.«match» != MatchExact then some (.str proc) else none := by
  rw [invDetails_eq]
  simp only
  rw [Dict.get?_ite_set_ne _ _ _ (by decide)]
  split
  · exact Dict.get?_set_self _ _ _
  · rw [Dict.get?_ite_set_ne _ _ _ (by decide)]
    exact invDetails_base_get? env reg caller callee opts (Or.inr (Or.inl rfl))

theorem invDetails_get?_receive_progress (env : DEnv) (reg : Reg) (caller callee : SessKey) (opts : Dict) (proc : String) :
    Dict.get? (invDetails env reg caller callee opts proc) OptReceiveProgress =
      if opts.optFlag OptReceiveProgress && hasFeat env callee RoleCallee FeatureProgCallResults &&
         hasFeat env callee RoleCallee FeatureCallCanceling then some (.bool true) else none := by
  rw [invDetails_eq]
  simp only
  rw [Dict.get?_ite_set_ne _ _ _ (by decide), Dict.get?_ite_set_ne _ _ _ (by decide)]
  split
  · exact Dict.get?_set_self _ _ _
  · exact invDetails_base_get? env reg caller callee opts (Or.inl rfl)

def Msg.isInvocation : Msg → Bool
  | .invocation .. => true
  | _ => false

def Msg.isResult : Msg → Bool
  | .result .. => true
  | _ => false

@[simp] theorem callErr_not_inv (c : ReqId) (d : Dict) (e : String) (a : List WVal) (k : Dict) :
    (callErr c d e a k).msg.isInvocation = false := rfl

@[simp] theorem interruptOf_not_inv (v : Invk) (i : ReqId) (m r : String) : (interruptOf v i m r).msg.isInvocation = false := rfl

/-- What an INVOCATION sent by `syncCall` for the CALL (caller, req, opts, proc, args, kw) looks like. -/
inductive InvocationOf (env : DEnv) (s : DState) (caller : SessKey) (req : Nat) (opts : Dict) (proc : String)
    (args : List WVal) (kw : Dict) (rnd : Nat) : Send → Prop
  /-- first (or only) chunk: a callee of the best-matching registration chosen by its policy, a fresh
      invocation id, the registration's id, details built for this callee, payload unchanged -/
  | first (reg reg' : Reg) (callee : SessKey) (hm : s.d.matchProcedure proc = some reg)
      (hb : s.d.byCall? ⟨caller, req⟩ = none) (hp : pickCallee reg rnd = some (callee, reg'))
      (hr : callRefusal env s.d.allowDisclose reg caller callee opts = none) (hf : env.full callee = false) :
      InvocationOf env s caller req opts proc args kw rnd
        ⟨callee, .invocation (genOf s.invGen callee + 1) reg.id (invDetails env reg caller callee opts proc) args kw⟩
  /-- later chunk of a pending progressive call: the stored callee, invocation id and registration id (the chunk's
      URI plays no role) -/
  | later (iid : ReqId) (v0 : Invk) (hb : s.d.byCall? ⟨caller, req⟩ = some iid) (hfi : s.d.findInv iid = some v0)
      (hf : env.full v0.callee = false) :
      InvocationOf env s caller req opts proc args kw rnd
        ⟨v0.callee, .invocation iid.req v0.regId [(OptProgress, .bool (opts.optFlag OptProgress))] args kw⟩

/-- A CALL yields at most one INVOCATION, and if it sends one, that is the only message of the step and it
    has one of the two forms of `InvocationOf`. -/

theorem syncCall_invocations {env : DEnv} {s : DState} (h : DealerInv s) (caller : SessKey) (req : Nat) (opts : Dict)
    (proc : String) (args : List WVal) (kw : Dict) (rnd : Nat) (x : Send)
    (hx : x ∈ (syncCall env s caller req opts proc args kw rnd).sends) (hi : x.msg.isInvocation = true) :
    (syncCall env s caller req opts proc args kw rnd).sends = [x] ∧
      InvocationOf env s caller req opts proc args kw rnd x := by
  revert hx
  refine syncCall_cases (env := env)
    (P := fun o => x ∈ o.sends → o.sends = [x] ∧ InvocationOf env s caller req opts proc args kw rnd x)
    h caller req opts proc args kw rnd ?_ ?_ ?_ ?_ ?_ ?_ ?_ ?_
  · intro _ hx
    simp only [progressAbort, List.mem_singleton] at hx; subst hx; cases hi
  · intro iid v0 hb hfi _ _ _ _ hf hx
    simp only [List.mem_singleton] at hx; subst hx
    exact ⟨rfl, .later iid v0 hb hfi hf⟩
  · intro iid v0 _ _ _ _ _ _ _ hx
    simp only [fullOut, List.mem_singleton] at hx; subst hx; cases hi
  · intro _ _ _ hx
    simp only [List.mem_singleton] at hx; subst hx; cases hi
  · intro reg reg' callee e _ _ _ _ _ _ _ hx
    simp only [List.mem_singleton] at hx; subst hx; cases hi
  · intro reg reg' callee _ _ _ _ _ _ _ hx
    simp only [List.mem_singleton] at hx; subst hx; cases hi
  · intro reg reg' callee hb _ hm _ hp _ hr hf hx
    simp only [List.mem_singleton] at hx; subst hx
    exact ⟨rfl, .first reg reg' callee hm hb hp hr hf⟩
  · intro reg reg' callee _ _ _ _ _ _ _ _ hx
    simp only [fullOut, List.mem_singleton] at hx; subst hx; cases hi

/-- the kinds of message the dealer sends besides INVOCATION and RESULT -/
def Msg.isPlain : Msg → Bool
  | .registered .. | .unregistered .. | .error .. | .abort .. | .interrupt .. => true
  | _ => false

/-- What the dealer sends in a step of the acting session `k`: to a session of its tables or to `k`; REGISTERED,
    UNREGISTERED, ERROR, ABORT or INTERRUPT — an INVOCATION only if `inv` (a CALL), a RESULT only if `res` (a YIELD). -/
structure DSend (s : DState) (k : SessKey) (inv res : Bool) (x : Send) : Prop where
  to : s.refs x.to ∨ x.to = k
  kind : x.msg.isPlain = true ∨ (inv = true ∧ x.msg.isInvocation = true) ∨ (res = true ∧ x.msg.isResult = true)

/-- `x` is one of the plain kinds and goes to a session of the tables (whoever acts) -/
def PlainTo (s : DState) (x : Send) : Prop := s.refs x.to ∧ x.msg.isPlain = true

section
variable {s : DState} {k : SessKey} {inv res : Bool}

theorem PlainTo.dsend {x : Send} (h : PlainTo s x) : DSend s k inv res x := ⟨.inl h.1, .inl h.2⟩

theorem DSend.weaken {x : Send} (h : DSend s k false false x) : DSend s k inv res x :=
  ⟨h.to, .inl (h.kind.resolve_right fun h' => h'.elim (fun h' => nomatch h'.1) (fun h' => nomatch h'.1))⟩

theorem DSend.own (m : Msg) (hm : m.isPlain = true) : DSend s k inv res ⟨k, m⟩ := ⟨.inr rfl, .inl hm⟩

theorem refs_caller {c : ReqId} (hc : c ∈ s.d.calls) : s.refs c.sess := .inr (.inl ⟨c, hc, rfl⟩)

theorem refs_callee {v : Invk} (hv : v ∈ s.d.invs) : s.refs v.callee := .inr (.inr (.inl ⟨v, hv, rfl⟩))

end

theorem Msg.isPlain_kinds {m : Msg} (h : m.isPlain = true) : m.isInvocation = false ∧ m.isResult = false := by
  cases m <;> first | exact ⟨rfl, rfl⟩ | cases h

/-- an INVOCATION comes from a CALL only, a RESULT from a YIELD only -/
theorem DSend.kinds {s : DState} {k : SessKey} {inv res : Bool} {x : Send} (h : DSend s k inv res x) :
    (x.msg.isInvocation = true → inv = true) ∧ (x.msg.isResult = true → res = true) := by
  rcases h.kind with hp | ⟨hi, hm⟩ | ⟨hr, hm⟩
  · exact ⟨fun e => (by rw [(Msg.isPlain_kinds hp).1] at e; cases e), fun e => (by rw [(Msg.isPlain_kinds hp).2] at e; cases e)⟩
  · exact ⟨fun _ => hi, fun e => by cases hx : x.msg <;> simp [hx, Msg.isInvocation, Msg.isResult] at hm e⟩
  · exact ⟨fun e => by cases hx : x.msg <;> simp [hx, Msg.isInvocation, Msg.isResult] at hm e, fun _ => hr⟩

/-- an INVOCATION ERROR sends at most the ERROR to the caller of a pending call -/
theorem syncError_sends_caller (s : DState) (callee : SessKey) (req : Nat) (details : Dict) (err : String)
    (args : List WVal) (kw : Dict) :
    ∀ x ∈ (syncError s callee req details err args kw).sends, x.msg.isPlain = true ∧ ∃ c ∈ s.d.calls, x.to = c.sess := by
  apply syncError_cases (P := fun o => ∀ x ∈ o.sends, x.msg.isPlain = true ∧ ∃ c ∈ s.d.calls, x.to = c.sess)
  · intro _ x hx; cases hx
  · intro v _ x hx
    split at hx
    · rename_i hc
      rw [List.mem_singleton.1 hx]
      exact ⟨rfl, v.callId, hc, rfl⟩
    · cases hx

theorem syncError_sends (s : DState) (callee : SessKey) (req : Nat) (details : Dict) (err : String)
    (args : List WVal) (kw : Dict) : ∀ x ∈ (syncError s callee req details err args kw).sends, PlainTo s x := by
  intro x hx
  obtain ⟨hm, c, hc, ht⟩ := syncError_sends_caller s callee req details err args kw x hx
  exact ⟨ht ▸ refs_caller hc, hm⟩

/-- a CANCEL sends INTERRUPT to the callee and ERROR to the caller of the pending call -/
theorem syncCancel_sends (env : DEnv) (s : DState) (caller : SessKey) (req : Nat) (mode reason : String)
    (errArgs : List WVal) : ∀ x ∈ (syncCancel env s caller req mode reason errArgs).sends, PlainTo s x := by
  refine syncCancel_cases (P := fun o => ∀ x ∈ o.sends, PlainTo s x) env s caller req mode reason errArgs (fun _ h => nomatch h) ?_
  intro i v hc _ hf _
  have hcallee : PlainTo s (interruptOf v i mode reason) := ⟨refs_callee (findInv_some_mem hf).1, rfl⟩
  have hcaller : PlainTo s (callErr ⟨caller, req⟩ [] reason errArgs []) := ⟨refs_caller hc, rfl⟩
  refine cancelOut_cases (P := fun o => ∀ x ∈ o.sends, PlainTo s x) (List.forall_mem_singleton.2 hcallee) ?_
  rintro _ (rfl | rfl)
  · exact List.forall_mem_singleton.2 hcaller
  · exact forall_mem_pair hcallee hcaller

/-- … at most those two -/
theorem syncCancel_sends_length (env : DEnv) (s : DState) (caller : SessKey) (req : Nat) (mode reason : String)
    (errArgs : List WVal) : (syncCancel env s caller req mode reason errArgs).sends.length ≤ 2 := by
  refine syncCancel_cases (P := fun o => o.sends.length ≤ 2) env s caller req mode reason errArgs (Nat.zero_le _) ?_
  intro i v _ _ _ _
  exact cancelOut_cases (P := fun o => o.sends.length ≤ 2) (by simp) (by rintro _ (rfl | rfl) <;> simp)

theorem syncRegister_sends (s : DState) (callee : SessKey) (req : Nat) (proc m invoke : String)
    (disclose fwd wampURI : Bool) :
    ∀ x ∈ (syncRegister s callee req proc m invoke disclose fwd wampURI).sends, DSend s callee false false x := by
  apply syncRegister_cases (P := fun o => ∀ x ∈ o.sends, DSend s callee false false x) <;>
    (intros; rename_i x hx; rw [List.mem_singleton.1 hx]; exact DSend.own _ (by rfl))

theorem syncUnregister_sends (s : DState) (callee : SessKey) (req regId : Nat) :
    ∀ x ∈ (syncUnregister s callee req regId).sends, DSend s callee false false x := by
  apply syncUnregister_cases (P := fun o => ∀ x ∈ o.sends, DSend s callee false false x) <;>
    (intros; rename_i x hx; rw [List.mem_singleton.1 hx]; exact DSend.own _ (by rfl))

/-- a YIELD answers towards the caller of the call and the yielding callee -/
theorem syncYield_sends (env : DEnv) (s : DState) (callee : SessKey) (req : Nat) (opts : Dict)
    (args : List WVal) (kw : Dict) (progress canRetry : Bool) :
    ∀ x ∈ (syncYield env s callee req opts args kw progress canRetry).sends, DSend s callee false true x := by
  have caller {v : Invk} (hc : v.callId ∈ s.d.calls) (m : Msg) (hm : m.isPlain = true) :
      DSend s callee false true ⟨v.callId.sess, m⟩ := ⟨.inl (refs_caller hc), .inl hm⟩
  apply syncYield_cases (P := fun o => ∀ x ∈ o.sends, DSend s callee false true x)
  case unknown | foreign | noCaller | retry => intros; rename_i hx; cases hx
  case interrupt => intro _ _; exact List.forall_mem_singleton.2 (DSend.own _ (by rfl))
  case calleeBad => intro v _ _ hc _; exact forall_mem_pair (caller hc _ (by rfl)) (DSend.own _ (by rfl))
  case callerBad =>
    intro v _ _ hc _ _
    cases progress
    · exact forall_mem_pair (DSend.own _ (by rfl)) (caller hc _ (by rfl))
    · exact List.forall_mem_singleton.2 (DSend.own _ (by rfl))
  case deliver =>
    intro v _ _ hc _ _ _
    exact List.forall_mem_singleton.2 ⟨.inl (refs_caller hc), .inr (.inr ⟨rfl, rfl⟩)⟩
  case giveup =>
    intro v _ _ _ _ _ _ _ x hx
    have := syncCancel_sends _ _ _ _ _ _ _ x hx
    exact ⟨.inl ((yieldTimer_shrinks s progress v).refs _ this.1), .inl this.2⟩

/-- a CALL sends the INVOCATION to a callee of the matching registration (a later chunk: to the stored callee), or
    answers the caller -/
theorem syncCall_sends (env : DEnv) (s : DState) (caller : SessKey) (req : Nat) (opts : Dict) (proc : String)
    (args : List WVal) (kw : Dict) (rnd : Nat) :
    ∀ x ∈ (syncCall env s caller req opts proc args kw rnd).sends, DSend s caller true false x := by
  have own (m : Msg) (hm : m.isPlain = true) : ∀ x ∈ [(⟨caller, m⟩ : Send)], DSend s caller true false x :=
    List.forall_mem_singleton.2 (DSend.own _ hm)
  have inv (to : SessKey) (hto : s.refs to) (r g : Nat) (d : Dict) :
      ∀ x ∈ [(⟨to, .invocation r g d args kw⟩ : Send)], DSend s caller true false x :=
    List.forall_mem_singleton.2 ⟨.inl hto, .inr (.inl ⟨rfl, rfl⟩)⟩
  -- the callee has no room: the ERROR goes to the caller of a call pending in `S`
  have full (S : DState) (hS : ∀ c ∈ S.d.calls, c ∈ s.d.calls ∨ c = ⟨caller, req⟩) (callee : SessKey) (r : Nat) :
      ∀ x ∈ (syncError S callee r [] ErrNetworkFailure [.str "<text>"] []).sends, DSend s caller true false x := by
    intro x hx
    obtain ⟨hm, c, hc, ht⟩ := syncError_sends_caller S callee r _ _ _ _ x hx
    refine ⟨?_, .inl hm⟩
    rcases hS c hc with hc | rfl
    · exact .inl (ht ▸ refs_caller hc)
    · exact .inr ht
  -- `syncCall_cases` needs the invariant: the branches of `syncCall_eq` are walked instead
  rw [syncCall_eq]
  split
  · split
    · exact fun _ h => nomatch h
    · rename_i v0 hf
      split
      · exact own _ (by rfl)
      · unfold laterChunk dispatchL
        dsimp only
        split
        -- `by exact`: the calls of the state with the flag updated are those of `s` only after unfolding
        · exact full _ (fun c hc => .inl (by exact hc)) _ _
        · exact inv _ (refs_callee (findInv_some_mem hf).1) _ _ _
  · split
    · exact own _ (by rfl)
    · rename_i reg hm
      split
      · exact own _ (by rfl)
      · split
        · exact own _ (by rfl)
        · split
          · exact fun _ h => nomatch h
          · rename_i callee reg' hp
            rw [firstChunk_eq]
            unfold dispatch
            split
            · exact own _ (by rfl)
            · exact own _ (by rfl)
            · split
              · exact full _ (fun c hc => (List.mem_append.1 hc).imp_right List.mem_singleton.1) _ _
              · exact inv _ (.inl ⟨reg.id, reg, matchProcedure_mem hm, rfl, (pickCallee_mem hp).1⟩) _ _ _

theorem cancelServed_sends (env : DEnv) (k : SessKey) : ∀ (l : List Invk) (s : DState),
    ∀ x ∈ (cancelServed env s k l).2, PlainTo s x
  | [], _ => fun _ h => nomatch h
  | invk :: rest, s => by
    by_cases hc : (invk.callee != k || !s.d.calls.contains invk.callId) = true
    · rw [cancelServed_cons_skip rest hc]; exact cancelServed_sends env k rest s
    · rw [cancelServed_cons_hit rest hc]
      -- the state in which the call is cancelled, and the state after it, have no session the tables had not
      have h0 := uncancelServed_shrinks s invk
      intro x hx
      rcases List.mem_append.1 hx with hx | hx
      · have := syncCancel_sends _ _ _ _ _ _ _ x hx
        exact ⟨h0.refs _ this.1, this.2⟩
      · have := cancelServed_sends env k rest _ x hx
        exact ⟨(h0.trans (syncCancel_shrinks ..)).refs _ this.1, this.2⟩

theorem syncRemoveSession_plain (env : DEnv) (s : DState) (k : SessKey) :
    ∀ x ∈ (syncRemoveSession env s k).sends, x.msg.isPlain = true := by
  unfold syncRemoveSession
  dsimp only
  exact fun x hx => (cancelServed_sends env k _ _ x hx).2

end Nexus.L2
