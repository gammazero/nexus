/-
  The broker invariant `BrokerInv` (DESIGN.md Appendix B): stated, proved for the
  pre-initialised broker and proved to be preserved by every `sync*` transition of
  `Nexus.L2.Broker`.

  Assumption (explicit): the subscription id generator does not wrap — `nextSub` is a
  `Nat` in the model, the `< 2^53` bound of `wamp.IDGen` is not modelled.

  A new broker invariant can go one of two ways.  (a) A new field of `BrokerInv`: the seven positional
  `refine ⟨…⟩` over its ten fields (`publish`, `subscribe_join`, `subscribe`, `empty`, `preInit_step_new`,
  `preInit_step_old`, `stripped`) each get a slot; it then holds in every realm (`RealmInv.binv`) and, through
  `KeysOk`, in every realm of a router.  (b) A predicate of its own with `X.step` / `X.run` over `BStep` and `X` of the pre-initialised
  broker, brought to realms by `reachable_run` (ReachableRealm) — as `HistClean` (BrokerHist), `HistFresh`
  (ReachableRealm), `BFlags` (ConfigFlags).  That reaches `Realm.Reachable` only, and it cannot relate the state to
  what was sent: `Broker.step` drops the sends (for those go through `Script` / `Trace`).
-/
import Nexus.L2.Proofs.BrokerSpec
import Nexus.L2.Proofs.DealerList

namespace Nexus.L2
open Gen.N

structure IdxWF (ix : List (SessKey × List Nat)) : Prop where
  keys : (ix.map (·.1)).Nodup
  nonempty : ∀ e ∈ ix, e.2 ≠ []
  ids : ∀ e ∈ ix, e.2.Nodup

def idxRel (ix : List (SessKey × List Nat)) (k : SessKey) (id : Nat) : Prop :=
  id ∈ (idxGet ix k).getD []

theorem idxGet_nil (k : SessKey) : idxGet [] k = none := rfl

theorem idxGet_cons (e : SessKey × List Nat) (ix) (k : SessKey) :
    idxGet (e :: ix) k = if e.1 = k then some e.2 else idxGet ix k := by
  unfold idxGet
  by_cases h : e.1 = k <;> simp [h]

/-! The dealer's index is the same structure: `idxRel ix k id` is `id ∈ idxIds ix k`, and the lemmas
    about `idxAdd`/`idxDel`/`idxDrop` are those of DealerList; `IdxWF` asks in addition that no entry
    is empty. -/

theorem IdxWF.ok {ix} (hw : IdxWF ix) : IdxOk ix := ⟨hw.keys, hw.ids⟩

theorem IdxWF.drop {ix} (hw : IdxWF ix) (k : SessKey) : IdxWF (idxDrop ix k) :=
  ⟨(idxDrop_ok hw.ok k).keys, fun e he => hw.nonempty e (List.mem_filter.mp he).1, (idxDrop_ok hw.ok k).ids⟩

theorem idxRel_drop {ix} (hw : IdxWF ix) (k k' : SessKey) (id : Nat) :
    idxRel (idxDrop ix k) k' id ↔ idxRel ix k' id ∧ k' ≠ k :=
  mem_idxIds_idxDrop hw.ok

theorem IdxWF.del {ix} (hw : IdxWF ix) (k : SessKey) (id : Nat) : IdxWF (idxDel ix k id) := by
  refine ⟨(idxDel_ok hw.ok k id).keys, ?_, (idxDel_ok hw.ok k id).ids⟩
  intro e he
  unfold idxDel at he
  simp only [List.mem_filter, List.mem_map] at he
  obtain ⟨⟨p, hp, rfl⟩, h2⟩ := he
  by_cases h : (p.1 == k) = true
  · rw [if_pos h] at h2 ⊢
    intro hnil
    rw [show (k, p.2.filter (· != id)).2 = [] from hnil] at h2
    simp at h2
  · rw [if_neg h]; exact hw.nonempty p hp

theorem IdxWF.add {ix} (hw : IdxWF ix) (k : SessKey) (id : Nat) : IdxWF (idxAdd ix k id) := by
  refine ⟨(idxAdd_ok hw.ok k id).keys, ?_, (idxAdd_ok hw.ok k id).ids⟩
  unfold idxAdd
  cases idxGet ix k with
  | none =>
    intro e he
    rcases List.mem_append.mp he with h | h
    · exact hw.nonempty e h
    · rw [List.mem_singleton.mp h]; exact List.cons_ne_nil _ _
  | some ids =>
    simp only
    split
    · exact hw.nonempty
    · intro e he
      obtain ⟨p, hp, rfl⟩ := List.mem_map.mp he
      by_cases h : (p.1 == k) = true
      · rw [if_pos h]; exact List.append_ne_nil_of_right_ne_nil _ (List.cons_ne_nil _ _)
      · rw [if_neg h]; exact hw.nonempty p hp

theorem idxRel_add {ix} (hw : IdxWF ix) (k k' : SessKey) (id id' : Nat) :
    idxRel (idxAdd ix k id) k' id' ↔ idxRel ix k' id' ∨ (k' = k ∧ id' = id) :=
  mem_idxIds_idxAdd hw.ok

def Broker.isMember (b : Broker) (k : SessKey) (id : Nat) : Prop :=
  ∃ s ∈ b.subs, s.id = id ∧ k ∈ s.members

structure BrokerInv (b : Broker) : Prop where
  ids_nodup : (b.subs.map (·.id)).Nodup
  ids_pos : ∀ s ∈ b.subs, 0 < s.id ∧ s.id ≤ b.nextSub
  topic_unique : ∀ s ∈ b.subs, ∀ t ∈ b.subs, s.topic = t.topic → s.kind = t.kind → s = t
  members_nodup : ∀ s ∈ b.subs, s.members.Nodup
  index_wf : IdxWF b.index
  index_iff : ∀ k id, idxRel b.index k id ↔ b.isMember k id
  empty_hist : ∀ s ∈ b.subs, s.members = [] → b.hasHist s.id = true
  hist_sub : ∀ h ∈ b.hist, ∃ s ∈ b.subs, s.id = h.sub
  hist_nodup : (b.hist.map (·.sub)).Nodup
  hist_len : ∀ h ∈ b.hist, 0 < h.limit → h.entries.length ≤ h.limit

theorem findTopic_some {b : Broker} {t : String} {k : MatchKind} {s : Sub}
    (h : b.findTopic t k = some s) : s ∈ b.subs ∧ s.kind = k ∧ s.topic = t := by
  unfold Broker.findTopic at h
  have h1 := List.mem_of_find?_eq_some h
  have h2 := List.find?_some h
  simp at h2
  exact ⟨h1, h2.1, h2.2⟩

theorem findTopic_none {b : Broker} {t : String} {k : MatchKind} :
    b.findTopic t k = none ↔ ∀ s ∈ b.subs, ¬(s.kind = k ∧ s.topic = t) := by
  unfold Broker.findTopic
  simp

theorem syncUnsubscribe_not_member {b : Broker} {k : SessKey} {subId : Nat} (h : ¬ b.isMember k subId) (req pub0 : Nat) :
    b.syncUnsubscribe k req subId pub0 = (b, [⟨k, errMsg tUNSUBSCRIBE req ErrNoSuchSubscription⟩], 0) :=
  syncUnsubscribe_err_state b k req subId pub0 fun sub hf hk => h ⟨sub, (findId_some hf).1, (findId_some hf).2, hk⟩

theorem eq_of_id_eq {l : List Sub} (hn : (l.map (·.id)).Nodup) {s t : Sub}
    (hs : s ∈ l) (ht : t ∈ l) (h : s.id = t.id) : s = t :=
  nodup_map_inj hn hs ht h

theorem findTopic_of_mem {b : Broker} (hb : BrokerInv b) {s : Sub} (hs : s ∈ b.subs) :
    b.findTopic s.topic s.kind = some s := by
  cases h : b.findTopic s.topic s.kind with
  | none => exact absurd ⟨rfl, rfl⟩ (findTopic_none.1 h s hs)
  | some t =>
    obtain ⟨h1, h2, h3⟩ := findTopic_some h
    rw [hb.topic_unique t h1 s hs h3 h2]

theorem findId_of_mem {b : Broker} (hn : (b.subs.map (·.id)).Nodup) {s : Sub} (hs : s ∈ b.subs) :
    b.findId s.id = some s :=
  (find?_key_eq_some (f := fun s : Sub => s.id) hn).2 ⟨hs, rfl⟩

theorem isMember_iff_findId {b : Broker} (hn : (b.subs.map (·.id)).Nodup) {k : SessKey} {id : Nat} :
    b.isMember k id ↔ ∃ sub, b.findId id = some sub ∧ k ∈ sub.members :=
  ⟨fun ⟨s, hs, hid, hk⟩ => ⟨s, hid ▸ findId_of_mem hn hs, hk⟩,
   fun ⟨s, hf, hk⟩ => ⟨s, (findId_some hf).1, (findId_some hf).2, hk⟩⟩

theorem findId_delSub_ne (b : Broker) {id id' : Nat} (h : id' ≠ id) : (b.delSub id).findId id' = b.findId id' :=
  find?_key_filter_ne (f := fun x : Sub => x.id) b.subs h

theorem findId_setSub_ne (b : Broker) (s : Sub) {id' : Nat} (h : id' ≠ s.id) : (b.setSub s).findId id' = b.findId id' :=
  find?_key_replace_ne (f := fun x : Sub => x.id) b.subs rfl h

theorem findId_afterDepart_ne (b : Broker) (k : SessKey) (sub : Sub) {id' : Nat} (h : id' ≠ sub.id) :
    (afterDepart b k sub).findId id' = b.findId id' := by
  unfold afterDepart
  split
  · exact findId_delSub_ne b h
  · exact findId_setSub_ne b _ h

@[simp] theorem Hist.save_sub (h : Hist) (e : HistEntry) : (h.save e).sub = h.sub := rfl
@[simp] theorem Hist.save_limit (h : Hist) (e : HistEntry) : (h.save e).limit = h.limit := rfl

theorem Hist.save_entries (h : Hist) (e : HistEntry) :
    (h.save e).entries = (if h.entries.length ≥ h.limit then h.entries.drop 1 else h.entries) ++ [e] := rfl

theorem Hist.save_length (h : Hist) (e : HistEntry) (hl : 0 < h.limit) (hb : h.entries.length ≤ h.limit) :
    (h.save e).entries.length ≤ h.limit := by
  rw [Hist.save_entries]
  split <;> simp <;> omega

theorem histUpd1_sub (now : Nat) (p : Publication) (h : Hist) (x : Sub × Bool) : (histUpd1 now p h x).sub = h.sub := by
  unfold histUpd1; split <;> rfl

theorem histUpd1_limit (now : Nat) (p : Publication) (h : Hist) (x : Sub × Bool) :
    (histUpd1 now p h x).limit = h.limit := by
  unfold histUpd1; split <;> rfl

theorem histUpd_foldl_inv (now : Nat) (p : Publication) (l : List (Sub × Bool)) (h : Hist) :
    (l.foldl (histUpd1 now p) h).sub = h.sub ∧ (l.foldl (histUpd1 now p) h).limit = h.limit ∧
    (0 < h.limit → h.entries.length ≤ h.limit → (l.foldl (histUpd1 now p) h).entries.length ≤ h.limit) := by
  induction l generalizing h with
  | nil => simp
  | cons x l ih =>
    simp only [List.foldl_cons]
    have h2 := histUpd1_limit now p h x
    have h3 : 0 < h.limit → h.entries.length ≤ h.limit → (histUpd1 now p h x).entries.length ≤ h.limit := by
      intro a c; unfold histUpd1; split
      · exact Hist.save_length h _ a c
      · exact c
    obtain ⟨i1, i2, i3⟩ := ih (histUpd1 now p h x)
    refine ⟨i1.trans (histUpd1_sub now p h x), i2.trans h2, ?_⟩
    intro a c
    rw [h2] at i3
    exact i3 a (h3 a c)

theorem BrokerInv.publish {b : Broker} (hb : BrokerInv b) (sess : SessKey → Option Session) (now : Nat)
    (p : Publication) : BrokerInv (b.syncPublish sess now p).1 := by
  rw [syncPublish_eq]
  -- only the stores change, and each keeps its subscription id and limit
  have hsub : (b.hist.map fun h => (b.matching p.topic).foldl (histUpd1 now p) h).map (·.sub) = b.hist.map (·.sub) := by
    rw [List.map_map]
    exact List.map_congr_left fun h _ => (histUpd_foldl_inv now p _ h).1
  have hhas : ∀ id, ({ b with hist := b.hist.map fun h => (b.matching p.topic).foldl (histUpd1 now p) h } : Broker).hasHist id =
      b.hasHist id := by
    intro id
    have : ∀ l : List Hist, l.any (fun h => h.sub == id) = (l.map (·.sub)).any (· == id) := by
      intro l; simp [List.any_map]; rfl
    unfold Broker.hasHist
    rw [this, this, hsub]
  refine ⟨hb.ids_nodup, hb.ids_pos, hb.topic_unique, hb.members_nodup, hb.index_wf, hb.index_iff, ?_, ?_,
    by rw [hsub]; exact hb.hist_nodup, ?_⟩
  · intro s hm he; rw [hhas]; exact hb.empty_hist s hm he
  · intro h hm
    obtain ⟨h0, hm0, rfl⟩ := List.mem_map.mp hm
    rw [(histUpd_foldl_inv now p _ h0).1]
    exact hb.hist_sub h0 hm0
  · intro h hm
    obtain ⟨h0, hm0, rfl⟩ := List.mem_map.mp hm
    obtain ⟨_, i2, i3⟩ := histUpd_foldl_inv now p (b.matching p.topic) h0
    rw [i2]
    exact fun hl => i3 hl (hb.hist_len h0 hm0 hl)

theorem isMember_congr_subs {b b' : Broker} (h : b'.subs = b.subs) (k id) : b'.isMember k id ↔ b.isMember k id := by
  unfold Broker.isMember; rw [h]

theorem BrokerInv.subs_append {b : Broker} (hb : BrokerInv b) {new : Sub} (hid : new.id = b.nextSub + 1)
    (hf : b.findTopic new.topic new.kind = none) (hms : new.members.Nodup) :
    ((b.subs ++ [new]).map (·.id)).Nodup ∧
    (∀ s ∈ b.subs ++ [new], 0 < s.id ∧ s.id ≤ b.nextSub + 1) ∧
    (∀ s ∈ b.subs ++ [new], ∀ t ∈ b.subs ++ [new], s.topic = t.topic → s.kind = t.kind → s = t) ∧
    (∀ s ∈ b.subs ++ [new], s.members.Nodup) := by
  have hnone := findTopic_none.1 hf
  refine ⟨?_, ?_, ?_, ?_⟩
  · simp only [List.map_append, List.map_cons, List.map_nil]
    rw [List.nodup_append]
    refine ⟨hb.ids_nodup, by simp, ?_⟩
    intro a ha c hc
    obtain ⟨s, hs, rfl⟩ := List.mem_map.mp ha
    have := (hb.ids_pos s hs).2
    rw [List.mem_singleton.mp hc, hid]; omega
  · intro s hs
    rcases List.mem_append.mp hs with h | h
    · have := hb.ids_pos s h; omega
    · rw [List.mem_singleton.mp h, hid]; omega
  · intro s hs t ht h1 h2
    simp only [List.mem_append, List.mem_singleton] at hs ht
    rcases hs with hs | rfl <;> rcases ht with ht | rfl
    · exact hb.topic_unique s hs t ht h1 h2
    · exact absurd ⟨h2, h1⟩ (hnone s hs)
    · exact absurd ⟨h2.symm, h1.symm⟩ (hnone t ht)
    · rfl
  · intro s hs
    rcases List.mem_append.mp hs with h | h
    · exact hb.members_nodup s h
    · rw [List.mem_singleton.mp h]; exact hms

/-- The table after the join is the old one with `sub` replaced (`hmem`), under the same ids (`hids`): every field
    of the invariant is checked on the replaced entry and carried over for the others; the index gains `(k, sub.id)`
    on both sides of `index_iff`. -/
theorem BrokerInv.subscribe_join {b : Broker} (hb : BrokerInv b) (k : SessKey) {sub : Sub}
    (hs : sub ∈ b.subs) (hk : k ∉ sub.members) : BrokerInv (afterJoin b k sub) := by
  unfold afterJoin
  have hmem : ∀ t, t ∈ (b.setSub { sub with members := sub.members ++ [k] }).subs ↔
      (t = { sub with members := sub.members ++ [k] }) ∨ (t ∈ b.subs ∧ t.id ≠ sub.id) := fun t =>
    Broker.mem_subs_setSub.trans (or_congr_left (and_iff_left ⟨sub, hs, rfl⟩))
  have hids : (b.setSub { sub with members := sub.members ++ [k] }).subs.map (·.id) = b.subs.map (·.id) :=
    Broker.setSub_map _ fun _ _ h => h.symm
  refine ⟨by rw [hids]; exact hb.ids_nodup, ?_, ?_, ?_, hb.index_wf.add _ _, ?_, ?_, ?_, hb.hist_nodup, hb.hist_len⟩
  · intro s hs'
    rcases (hmem s).mp hs' with rfl | ⟨h, _⟩
    · exact hb.ids_pos sub hs
    · exact hb.ids_pos s h
  · intro s hs' t ht h1 h2
    rcases (hmem s).mp hs' with rfl | ⟨hs1, hs2⟩ <;> rcases (hmem t).mp ht with rfl | ⟨ht1, ht2⟩
    · rfl
    · exact absurd (congrArg Sub.id (hb.topic_unique sub hs t ht1 h1 h2)).symm ht2
    · exact absurd (congrArg Sub.id (hb.topic_unique s hs1 sub hs h1 h2)) hs2
    · exact hb.topic_unique s hs1 t ht1 h1 h2
  · intro s hs'
    rcases (hmem s).mp hs' with rfl | ⟨h, _⟩
    · simp only
      rw [List.nodup_append]
      refine ⟨hb.members_nodup sub hs, by simp, ?_⟩
      intro a ha c hc; simp at hc; subst hc; intro h; subst h; exact hk ha
    · exact hb.members_nodup s h
  · intro k' id
    show idxRel (idxAdd b.index k sub.id) k' id ↔ _
    rw [idxRel_add hb.index_wf, hb.index_iff]
    unfold Broker.isMember
    constructor
    · rintro (⟨s, hs1, h1, h2⟩ | ⟨rfl, rfl⟩)
      · by_cases h : s.id = sub.id
        · have := eq_of_id_eq hb.ids_nodup hs1 hs h; subst this
          exact ⟨_, (hmem _).mpr (Or.inl rfl), h1, by simp [h2]⟩
        · exact ⟨s, (hmem _).mpr (Or.inr ⟨hs1, h⟩), h1, h2⟩
      · exact ⟨_, (hmem _).mpr (Or.inl rfl), rfl, by simp⟩
    · rintro ⟨s, hs', h1, h2⟩
      rcases (hmem s).mp hs' with rfl | ⟨hs1, _⟩
      · simp at h1 h2
        rcases h2 with h2 | h2
        · exact Or.inl ⟨sub, hs, h1, h2⟩
        · exact Or.inr ⟨h2, h1.symm⟩
      · exact Or.inl ⟨s, hs1, h1, h2⟩
  · intro s hs' he
    rcases (hmem s).mp hs' with rfl | ⟨h, _⟩
    · simp at he
    · exact hb.empty_hist s h he
  · intro h hm
    obtain ⟨s, hs1, he⟩ := hb.hist_sub h hm
    by_cases hh : s.id = sub.id
    · exact ⟨_, (hmem _).mpr (Or.inl rfl), by simpa [← hh] using he⟩
    · exact ⟨s, (hmem _).mpr (Or.inr ⟨hs1, hh⟩), he⟩

theorem BrokerInv.subscribe {b : Broker} (hb : BrokerInv b) (k : SessKey) (req : Nat) (topic m : String)
    (pub0 : Nat) : BrokerInv (b.syncSubscribe k req topic m pub0).1 := by
  rcases b.syncSubscribe_spec k req topic m pub0 with
    ⟨_, _, _, e⟩ | ⟨sub, hf, hk, e⟩ | ⟨hf, e⟩ <;> rw [e]
  · exact hb
  · exact hb.subscribe_join k (findTopic_some hf).1 hk
  · unfold afterCreate newSub
    obtain ⟨h1, h2, h3, h4⟩ := hb.subs_append (new := ⟨b.nextSub + 1, topic, m, [k]⟩) rfl hf (List.pairwise_singleton _ _)
    refine ⟨h1, h2, h3, h4, hb.index_wf.add _ _, ?_, ?_, ?_, hb.hist_nodup, hb.hist_len⟩
    · intro k' id
      rw [idxRel_add hb.index_wf, hb.index_iff]
      unfold Broker.isMember
      simp only [List.mem_append, List.mem_singleton]
      constructor
      · rintro (⟨s, hs, h1, h2⟩ | ⟨rfl, rfl⟩)
        · exact ⟨s, Or.inl hs, h1, h2⟩
        · exact ⟨_, Or.inr rfl, rfl, by simp⟩
      · rintro ⟨s, hs | rfl, h1, h2⟩
        · exact Or.inl ⟨s, hs, h1, h2⟩
        · simp at h1 h2; exact Or.inr ⟨h2, h1.symm⟩
    · intro s hs he
      rcases List.mem_append.mp hs with h | h
      · exact hb.empty_hist s h he
      · simp at h; subst h; simp at he
    · intro h hm
      obtain ⟨s, hs, he⟩ := hb.hist_sub h hm
      exact ⟨s, List.mem_append_left _ hs, he⟩

theorem BrokerInv.empty (strict allowDisclose : Bool) :
    BrokerInv ({ strict := strict, allowDisclose := allowDisclose } : Broker) := by
  refine ⟨by simp, by simp, by simp, by simp, ⟨by simp, by simp, by simp⟩, ?_, by simp, by simp, by simp, by simp⟩
  intro k id
  simp [idxRel, idxGet, Broker.isMember]

theorem hasHist_append (b : Broker) (l : List Hist) (id : Nat) :
    ({ b with hist := b.hist ++ l } : Broker).hasHist id = (b.hasHist id || l.any (fun h => h.sub == id)) := by
  simp [Broker.hasHist]

theorem BrokerInv.preInit_step_new {b : Broker} (hb : BrokerInv b) (topic m : String) (limit : Nat)
    (hf : b.findTopic topic (matchKind m) = none) :
    BrokerInv { b with subs := b.subs ++ [{ id := b.nextSub + 1, topic := topic, «match» := m, members := [] }],
                       nextSub := b.nextSub + 1,
                       hist := b.hist ++ [{ sub := b.nextSub + 1, limit := limit, entries := [] }] } := by
  have hfresh : ∀ s ∈ b.subs, s.id ≠ b.nextSub + 1 := fun s hs => by have := (hb.ids_pos s hs).2; omega
  obtain ⟨h1, h2, h3, h4⟩ := hb.subs_append (new := ⟨b.nextSub + 1, topic, m, []⟩) rfl hf List.nodup_nil
  refine ⟨h1, h2, h3, h4, hb.index_wf, ?_, ?_, ?_, ?_, ?_⟩
  · intro k' id
    rw [hb.index_iff]
    unfold Broker.isMember
    simp only [List.mem_append, List.mem_singleton]
    constructor
    · rintro ⟨s, hs, h1, h2⟩; exact ⟨s, Or.inl hs, h1, h2⟩
    · rintro ⟨s, hs | rfl, h1, h2⟩
      · exact ⟨s, hs, h1, h2⟩
      · simp at h2
  · intro s hs he
    rw [hasHist_iff]
    rcases List.mem_append.mp hs with h | h
    · obtain ⟨x, hx, hx2⟩ := hasHist_iff.mp (hb.empty_hist s h he)
      exact ⟨x, List.mem_append_left _ hx, hx2⟩
    · simp at h; subst h; exact ⟨_, List.mem_append_right _ (List.mem_singleton.mpr rfl), rfl⟩
  · intro h hm
    rcases List.mem_append.mp hm with hm | hm
    · obtain ⟨s, hs, he⟩ := hb.hist_sub h hm
      exact ⟨s, List.mem_append_left _ hs, he⟩
    · simp at hm; subst hm
      exact ⟨_, List.mem_append_right _ (List.mem_singleton.mpr rfl), rfl⟩
  · simp only [List.map_append, List.map_cons, List.map_nil]
    rw [List.nodup_append]
    refine ⟨hb.hist_nodup, by simp, ?_⟩
    intro a ha c hc; simp at hc; subst hc
    obtain ⟨h, hh, rfl⟩ := List.mem_map.mp ha
    obtain ⟨s, hs, he⟩ := hb.hist_sub h hh
    rw [← he]; exact hfresh s hs
  · intro h hm
    rcases List.mem_append.mp hm with hm | hm
    · exact hb.hist_len h hm
    · simp at hm; subst hm; simp

theorem BrokerInv.preInit_step_old {b : Broker} (hb : BrokerInv b) (limit : Nat) {sub : Sub}
    (hs : sub ∈ b.subs) :
    BrokerInv { b with hist := (b.hist.filter (fun h => h.sub != sub.id)) ++
                                [{ sub := sub.id, limit := limit, entries := [] }] } := by
  refine ⟨hb.ids_nodup, hb.ids_pos, hb.topic_unique, hb.members_nodup, hb.index_wf, hb.index_iff, ?_, ?_, ?_, ?_⟩
  · intro s hs' he
    obtain ⟨x, hx, hx2⟩ := hasHist_iff.mp (hb.empty_hist s hs' he)
    rw [hasHist_iff]
    by_cases h : s.id = sub.id
    · exact ⟨_, List.mem_append_right _ (List.mem_singleton.mpr rfl), h.symm⟩
    · refine ⟨x, List.mem_append_left _ (List.mem_filter.mpr ⟨hx, ?_⟩), hx2⟩
      simp [hx2, h]
  · intro h hm
    rcases List.mem_append.mp hm with hm | hm
    · exact hb.hist_sub h (List.mem_filter.mp hm).1
    · simp at hm; subst hm; exact ⟨sub, hs, rfl⟩
  · simp only [List.map_append, List.map_cons, List.map_nil]
    rw [List.nodup_append]
    refine ⟨(List.filter_sublist.map _).nodup hb.hist_nodup, by simp, ?_⟩
    intro a ha c hc; simp at hc; subst hc
    obtain ⟨h, hh, rfl⟩ := List.mem_map.mp ha
    simpa using (List.mem_filter.mp hh).2
  · intro h hm
    rcases List.mem_append.mp hm with hm | hm
    · exact hb.hist_len h (List.mem_filter.mp hm).1
    · simp at hm; subst hm; simp

theorem BrokerInv.preInit' : ∀ (cfg : List (String × String × Nat)) {b : Broker}, BrokerInv b →
    BrokerInv (b.preInit cfg)
  | [], b, hb => by simpa [Broker.preInit] using hb
  | (topic, m, limit) :: rest, b, hb => by
    unfold Broker.preInit
    cases hf : b.findTopic topic (matchKind m) with
    | none => exact BrokerInv.preInit' rest (hb.preInit_step_new topic m limit hf)
    | some sub => exact BrokerInv.preInit' rest (hb.preInit_step_old limit (findTopic_some hf).1)

theorem BrokerInv.preInit (strict allowDisclose : Bool) (cfg : List (String × String × Nat)) :
    BrokerInv (({ strict := strict, allowDisclose := allowDisclose } : Broker).preInit cfg) :=
  BrokerInv.preInit' cfg (BrokerInv.empty strict allowDisclose)

/-- Session `k` leaves subscription `s`; `s` itself goes with its last member unless it keeps a history store.
    UNSUBSCRIBE, one iteration of the removal loop and session removal all turn the table into
    `subs.filterMap (stripIf k P)`, for `P` = this id / this id / the ids `k` is a member of (`*_state`). -/
def Broker.strip (b : Broker) (k : SessKey) (s : Sub) : Option Sub :=
  if (s.members.filter (· != k)).isEmpty && !b.hasHist s.id then none
  else some { s with members := s.members.filter (· != k) }

def Broker.stripIf (b : Broker) (k : SessKey) (P : Nat → Bool) (s : Sub) : Option Sub :=
  if P s.id then b.strip k s else some s

theorem stripIf_some {b : Broker} {k : SessKey} {P : Nat → Bool} {s s' : Sub} (h : b.stripIf k P s = some s') :
    s'.id = s.id ∧ s'.topic = s.topic ∧ s'.«match» = s.«match» ∧
    (∀ k', k' ∈ s'.members ↔ k' ∈ s.members ∧ ¬(k' = k ∧ P s.id = true)) ∧
    (s.members.Nodup → s'.members.Nodup) ∧
    (s'.members = [] → s.members = [] ∨ b.hasHist s.id = true) := by
  unfold Broker.stripIf at h
  by_cases hp : P s.id = true
  · rw [if_pos hp] at h
    unfold Broker.strip at h
    split at h
    · simp at h
    · rename_i hc
      simp at h; subst h
      refine ⟨rfl, rfl, rfl, ?_, fun hn => hn.filter _, ?_⟩
      · intro k'; simp [hp]
      · intro he; simp only at he; right
        simp only [he, List.isEmpty_nil, Bool.true_and, Bool.not_eq_true'] at hc
        simpa using hc
  · rw [if_neg hp] at h
    simp at h; subst h
    refine ⟨rfl, rfl, rfl, ?_, id, Or.inl⟩
    intro k'; simp [hp]

theorem mem_stripped {b b' : Broker} {k : SessKey} {P : Nat → Bool}
    (hsubs : b'.subs = b.subs.filterMap (b.stripIf k P)) {s' : Sub} :
    s' ∈ b'.subs ↔ ∃ s ∈ b.subs, b.stripIf k P s = some s' := by
  rw [hsubs]; simp [List.mem_filterMap]

theorem subs_stripped {b b' : Broker} {k : SessKey} {P : Nat → Bool}
    (hsubs : b'.subs = b.subs.filterMap (b.stripIf k P)) :
    ∀ s' ∈ b'.subs, ∃ s ∈ b.subs, s'.id = s.id ∧ s'.topic = s.topic ∧ s'.«match» = s.«match» := by
  intro s' hs'
  obtain ⟨s, hs, he⟩ := (mem_stripped hsubs).mp hs'
  exact ⟨s, hs, (stripIf_some he).1, (stripIf_some he).2.1, (stripIf_some he).2.2.1⟩

theorem stripIf_kind {b : Broker} {k : SessKey} {P : Nat → Bool} {s s' : Sub} (h : b.stripIf k P s = some s') :
    s'.kind = s.kind := by
  unfold Sub.kind; rw [(stripIf_some h).2.2.1]

theorem stripIf_isSome_of_member {b : Broker} {k k' : SessKey} {P : Nat → Bool} {s : Sub}
    (hm : k' ∈ s.members) (hne : ¬(k' = k ∧ P s.id = true)) : ∃ s', b.stripIf k P s = some s' := by
  unfold Broker.stripIf
  by_cases hp : P s.id = true
  · rw [if_pos hp]
    unfold Broker.strip
    have : k' ∈ s.members.filter (· != k) := by
      simp only [List.mem_filter, bne_iff_ne, ne_eq]
      exact ⟨hm, fun h => hne ⟨h, hp⟩⟩
    have hne' : (s.members.filter (· != k)).isEmpty = false := by
      cases hl : s.members.filter (· != k) with
      | nil => rw [hl] at this; simp at this
      | cons _ _ => rfl
    simp [hne']
  · rw [if_neg hp]; exact ⟨s, rfl⟩

theorem filterMap_map_sublist {α β γ : Type} (g : α → Option β) (f : α → γ) (f' : β → γ)
    (h : ∀ x y, g x = some y → f' y = f x) (l : List α) :
    ((l.filterMap g).map f').Sublist (l.map f) := by
  induction l with
  | nil => simp
  | cons a l ih =>
    simp only [List.filterMap_cons, List.map_cons]
    cases hg : g a with
    | none => exact ih.cons _
    | some y => simp only [List.map_cons]; rw [h a y hg]; exact ih.cons_cons _

theorem stripIf_ids_nodup {b : Broker} (hn : (b.subs.map (·.id)).Nodup) (k : SessKey) (P : Nat → Bool) :
    ((b.subs.filterMap (b.stripIf k P)).map (·.id)).Nodup :=
  (filterMap_map_sublist _ Sub.id Sub.id (fun _ _ h => (stripIf_some h).1) _).nodup hn

theorem isMember_stripped {b b' : Broker} {k : SessKey} {P : Nat → Bool}
    (hsubs : b'.subs = b.subs.filterMap (b.stripIf k P)) (k' : SessKey) (id : Nat) :
    b'.isMember k' id ↔ b.isMember k' id ∧ ¬(k' = k ∧ P id = true) := by
  have hmem : ∀ s', s' ∈ b'.subs ↔ ∃ s ∈ b.subs, b.stripIf k P s = some s' := fun _ => mem_stripped hsubs
  unfold Broker.isMember
  constructor
  · rintro ⟨s', hs', h1, h2⟩
    obtain ⟨s, hs, he⟩ := (hmem s').mp hs'
    have := ((stripIf_some he).2.2.2.1 k').mp h2
    rw [(stripIf_some he).1] at h1
    subst h1
    exact ⟨⟨s, hs, rfl, this.1⟩, this.2⟩
  · rintro ⟨⟨s, hs, h1, h2⟩, hne⟩
    subst h1
    obtain ⟨s', he⟩ := stripIf_isSome_of_member (b := b) h2 hne
    exact ⟨s', (hmem s').mpr ⟨s, hs, he⟩, (stripIf_some he).1, ((stripIf_some he).2.2.2.1 k').mpr ⟨h2, hne⟩⟩

/-- The invariant survives `k` leaving the subscriptions selected by `P`, provided the index is
    updated accordingly. -/
theorem BrokerInv.stripped {b : Broker} (hb : BrokerInv b) (b' : Broker) (k : SessKey) (P : Nat → Bool)
    (hsubs : b'.subs = b.subs.filterMap (b.stripIf k P)) (hhist : b'.hist = b.hist)
    (hnext : b'.nextSub = b.nextSub) (hwf : IdxWF b'.index)
    (hrel : ∀ k' id, idxRel b'.index k' id ↔ idxRel b.index k' id ∧ ¬(k' = k ∧ P id = true)) :
    BrokerInv b' := by
  have hmem : ∀ s', s' ∈ b'.subs ↔ ∃ s ∈ b.subs, b.stripIf k P s = some s' := fun _ => mem_stripped hsubs
  have hhas : ∀ id, b'.hasHist id = b.hasHist id := by intro id; unfold Broker.hasHist; rw [hhist]
  refine ⟨?_, ?_, ?_, ?_, hwf, ?_, ?_, ?_, by rw [hhist]; exact hb.hist_nodup, by rw [hhist]; exact hb.hist_len⟩
  · rw [hsubs]; exact stripIf_ids_nodup hb.ids_nodup k P
  · intro s' hs'
    obtain ⟨s, hs, he⟩ := (hmem s').mp hs'
    rw [(stripIf_some he).1, hnext]; exact hb.ids_pos s hs
  · intro s' hs' t' ht' h1 h2
    obtain ⟨s, hs, he⟩ := (hmem s').mp hs'
    obtain ⟨t, ht, he'⟩ := (hmem t').mp ht'
    have : s = t := hb.topic_unique s hs t ht
      (by rw [← (stripIf_some he).2.1, ← (stripIf_some he').2.1]; exact h1)
      (by rw [← stripIf_kind he, ← stripIf_kind he']; exact h2)
    subst this
    rw [he] at he'; exact Option.some.inj he'
  · intro s' hs'
    obtain ⟨s, hs, he⟩ := (hmem s').mp hs'
    exact (stripIf_some he).2.2.2.2.1 (hb.members_nodup s hs)
  · intro k' id
    rw [hrel, hb.index_iff, isMember_stripped hsubs]
  · intro s' hs' hemp
    obtain ⟨s, hs, he⟩ := (hmem s').mp hs'
    rw [hhas, (stripIf_some he).1]
    rcases (stripIf_some he).2.2.2.2.2 hemp with h | h
    · exact hb.empty_hist s hs h
    · exact h
  · intro h hm
    rw [hhist] at hm
    obtain ⟨s, hs, he⟩ := hb.hist_sub h hm
    obtain ⟨s', hs'⟩ : ∃ s', b.stripIf k P s = some s' := by
      unfold Broker.stripIf Broker.strip
      split
      · simp [hasHist_iff.mpr ⟨h, hm, he.symm⟩]
      · exact ⟨s, rfl⟩
    exact ⟨s', (hmem s').mpr ⟨s, hs, hs'⟩, (stripIf_some hs').1.trans he⟩

theorem filterMap_stripIf_of_false {b : Broker} {k : SessKey} {P : Nat → Bool} {l : List Sub}
    (h : ∀ s ∈ l, P s.id = false) : l.filterMap (b.stripIf k P) = l := by
  conv => rhs; rw [← List.filterMap_some (l := l)]
  exact filterMap_congr fun x hx => by simp [Broker.stripIf, h x hx]

/-- taking `k` out of one subscription, by UNSUBSCRIBE or on departure, is `stripIf` under that one id -/
theorem afterDepart_state {b : Broker} (hn : (b.subs.map (·.id)).Nodup) (k : SessKey) {sub : Sub} (hs : sub ∈ b.subs) :
    (afterDepart b k sub).subs = b.subs.filterMap (b.stripIf k (· == sub.id)) ∧
    (afterDepart b k sub).hist = b.hist ∧ (afterDepart b k sub).nextSub = b.nextSub ∧
    (afterDepart b k sub).index = b.index := by
  have key : ∀ x ∈ b.subs, x.id = sub.id → x = sub := fun x hx h => eq_of_id_eq hn hx hs h
  refine ⟨?_, afterDepart_fields b k sub⟩
  unfold afterDepart departDeletes
  split
  · rename_i hc
    unfold Broker.delSub
    simp only
    rw [← List.filterMap_eq_filter]
    apply filterMap_congr
    intro x hx
    unfold Broker.stripIf Broker.strip
    by_cases h : x.id = sub.id
    · have := key x hx h; subst this; simp [hc]
    · simp [h]
  · rename_i hc
    unfold Broker.setSub
    simp only
    rw [← List.filterMap_eq_map]
    apply filterMap_congr
    intro x hx
    unfold Broker.stripIf Broker.strip
    by_cases h : x.id = sub.id
    · have := key x hx h; subst this; simp [hc]
    · simp [h]

theorem syncUnsubscribe_state {b : Broker} (hn : (b.subs.map (·.id)).Nodup) (k : SessKey) (req subId pub0 : Nat)
    {sub : Sub} (hf : b.findId subId = some sub) (hk : k ∈ sub.members) :
    (b.syncUnsubscribe k req subId pub0).1.subs = b.subs.filterMap (b.stripIf k (· == subId)) ∧
    (b.syncUnsubscribe k req subId pub0).1.hist = b.hist ∧
    (b.syncUnsubscribe k req subId pub0).1.nextSub = b.nextSub ∧
    (b.syncUnsubscribe k req subId pub0).1.index = idxDel b.index k subId := by
  obtain ⟨hs, rfl⟩ := findId_some hf
  rw [syncUnsubscribe_member hf hk]
  obtain ⟨h1, h2, h3, _⟩ := afterDepart_state hn k hs
  exact ⟨h1, h2, h3, rfl⟩

/-- UNSUBSCRIBE, successful or not: a refused one is the `P` that selects nothing. -/
theorem syncUnsubscribe_stripped {b : Broker} (hn : (b.subs.map (·.id)).Nodup) (k : SessKey) (req subId pub0 : Nat) :
    ∃ P : Nat → Bool, (∀ id, P id = true → id = subId) ∧
      (b.syncUnsubscribe k req subId pub0).1.subs = b.subs.filterMap (b.stripIf k P) ∧
      (b.syncUnsubscribe k req subId pub0).1.hist = b.hist ∧
      (b.syncUnsubscribe k req subId pub0).1.nextSub = b.nextSub := by
  rcases b.syncUnsubscribe_spec k req subId pub0 with ⟨_, e⟩ | ⟨sub, hf, hk, _⟩
  · rw [e]
    exact ⟨fun _ => false, fun _ h => Bool.noConfusion h,
      (filterMap_stripIf_of_false (P := fun _ => false) fun _ _ => rfl).symm, rfl, rfl⟩
  · obtain ⟨h1, h2, h3, _⟩ := syncUnsubscribe_state hn k req subId pub0 hf hk
    exact ⟨(· == subId), fun id h => by simpa using h, h1, h2, h3⟩

theorem BrokerInv.unsubscribe {b : Broker} (hb : BrokerInv b) (k : SessKey) (req subId pub0 : Nat) :
    BrokerInv (b.syncUnsubscribe k req subId pub0).1 := by
  rcases b.syncUnsubscribe_spec k req subId pub0 with ⟨_, e⟩ | ⟨sub, hf, hk, _⟩
  · rw [e]; exact hb
  · obtain ⟨h1, h2, h3, h4⟩ := syncUnsubscribe_state hb.ids_nodup k req subId pub0 hf hk
    refine hb.stripped _ k (· == subId) h1 h2 h3 (by rw [h4]; exact hb.index_wf.del _ _) ?_
    intro k' id
    rw [h4]
    exact (mem_idxIds_idxDel hb.index_wf.ok).trans (by simp [idxRel, idxIds])

theorem stripIf_congr_hist {b b' : Broker} (h : b'.hist = b.hist) (k : SessKey) (P : Nat → Bool) :
    b'.stripIf k P = b.stripIf k P := by
  funext s
  unfold Broker.stripIf Broker.strip Broker.hasHist
  rw [h]

theorem removeMember_state {b : Broker} (hn : (b.subs.map (·.id)).Nodup) (k : SessKey) (id pub0 : Nat) :
    (b.removeMember k id pub0).1.subs = b.subs.filterMap (b.stripIf k (· == id)) ∧
    (b.removeMember k id pub0).1.hist = b.hist ∧
    (b.removeMember k id pub0).1.nextSub = b.nextSub ∧
    (b.removeMember k id pub0).1.index = b.index := by
  cases hf : b.findId id with
  | none =>
    rw [removeMember_unknown hf]
    exact ⟨(filterMap_stripIf_of_false fun x hx => by simpa using findId_none.1 hf x hx).symm, rfl, rfl, rfl⟩
  | some sub =>
    obtain ⟨hs, rfl⟩ := findId_some hf
    rw [removeMember_sends hf]
    exact afterDepart_state hn k hs

theorem strip_strip {b : Broker} {k : SessKey} {x y : Sub} (h : b.strip k x = some y) : b.strip k y = some y := by
  unfold Broker.strip at h ⊢
  split at h
  · cases h
  · rename_i hc
    cases h
    simp only [List.filter_filter, Bool.and_self]
    rw [if_neg hc]

theorem stripIf_bind (b : Broker) (k : SessKey) (P Q : Nat → Bool) (x : Sub) :
    (b.stripIf k P x).bind (b.stripIf k Q) = b.stripIf k (fun i => P i || Q i) x := by
  unfold Broker.stripIf
  by_cases hp : P x.id = true
  · simp only [hp, if_true, Bool.true_or]
    cases hs : b.strip k x with
    | none => rfl
    | some y =>
      simp only [Option.bind_some]
      split
      · exact strip_strip hs
      · rfl
  · simp [hp]

/-- The loop composes: stripping by `P` and then by `Q` is stripping by their disjunction (`stripIf_bind`), and no
    iteration touches `hist`, on which `strip` depends (`stripIf_congr_hist`). -/
theorem removeMembers_state (k : SessKey) : ∀ (l : List Nat) (b : Broker) (pub0 : Nat),
    (b.subs.map (·.id)).Nodup →
    (b.removeMembers k pub0 l).1.subs = b.subs.filterMap (b.stripIf k (fun id => l.contains id)) ∧
    (b.removeMembers k pub0 l).1.hist = b.hist ∧
    (b.removeMembers k pub0 l).1.nextSub = b.nextSub ∧
    (b.removeMembers k pub0 l).1.index = b.index
  | [], b, pub0, _ => ⟨(filterMap_stripIf_of_false fun _ _ => rfl).symm, rfl, rfl, rfl⟩
  | id :: rest, b, pub0, hn => by
    obtain ⟨h1, h2, h3, h4⟩ := removeMember_state hn k id pub0
    have hn1 : ((b.removeMember k id pub0).1.subs.map (·.id)).Nodup := by
      rw [h1]; exact stripIf_ids_nodup hn k _
    obtain ⟨i1, i2, i3, i4⟩ := removeMembers_state k rest (b.removeMember k id pub0).1
      (pub0 + (b.removeMember k id pub0).2.2) hn1
    simp only [Broker.removeMembers]
    refine ⟨?_, i2.trans h2, i3.trans h3, i4.trans h4⟩
    rw [i1, h1, stripIf_congr_hist h2, List.filterMap_filterMap]
    exact filterMap_congr fun x _ => by
      rw [stripIf_bind]; congr

theorem syncRemoveSession_state {b : Broker} (hb : BrokerInv b) (k : SessKey) (pub0 : Nat) :
    ∃ P : Nat → Bool, (∀ id, P id = true ↔ b.isMember k id) ∧
      (b.syncRemoveSession k pub0).1.subs = b.subs.filterMap (b.stripIf k P) ∧
      (b.syncRemoveSession k pub0).1.hist = b.hist ∧
      (b.syncRemoveSession k pub0).1.nextSub = b.nextSub ∧
      (b.syncRemoveSession k pub0).1.index = idxDrop b.index k := by
  have hP : ∀ id : Nat, ((idxGet b.index k).getD []).contains id = true ↔ b.isMember k id := fun id => by
    rw [← hb.index_iff, List.contains_iff_mem]; rfl
  unfold Broker.syncRemoveSession
  cases hg : idxGet b.index k with
  | none =>
    rw [hg] at hP
    refine ⟨fun id => ([] : List Nat).contains id, hP,
      (filterMap_stripIf_of_false (P := fun id => ([] : List Nat).contains id) fun _ _ => rfl).symm, rfl, rfl, ?_⟩
    exact (List.filter_eq_self.mpr fun p hp => by simpa using idxGet_eq_none.1 hg p hp).symm
  | some ids =>
    rw [hg] at hP
    obtain ⟨h1, h2, h3, h4⟩ := removeMembers_state k ids { b with index := idxDrop b.index k } pub0 hb.ids_nodup
    exact ⟨fun id => ids.contains id, hP, h1.trans (congrArg (List.filterMap · b.subs) (stripIf_congr_hist rfl _ _)), h2, h3, h4⟩

theorem BrokerInv.removeSession {b : Broker} (hb : BrokerInv b) (k : SessKey) (pub0 : Nat) :
    BrokerInv (b.syncRemoveSession k pub0).1 := by
  obtain ⟨P, hP, h1, h2, h3, h4⟩ := syncRemoveSession_state hb k pub0
  refine hb.stripped _ k P h1 h2 h3 (h4 ▸ hb.index_wf.drop k) fun k' id => ?_
  rw [h4, idxRel_drop hb.index_wf]
  refine and_congr_right fun a => ⟨fun c h => c h.1, fun c h => c ⟨h, ?_⟩⟩
  subst h
  exact (hP id).mpr ((hb.index_iff k' id).mp a)

/- A new broker step (`BStep`, BrokerSpec) needs an arm here and in `step_frame`, `step_store`, `HistClean.step`
   (BrokerHist), `run_flags` (ConfigFlags), `step_isMember_other` (TraceInv) and `C20.mem_retained`, and a `tells_*` lemma
   (BrokerMetaEvent). -/
theorem BrokerInv.step {b : Broker} (hb : BrokerInv b) (e : BStep) : BrokerInv (b.step e) := by
  cases e with
  | publish sess now p => exact hb.publish sess now p
  | subscribe k req topic m pub0 => exact hb.subscribe k req topic m pub0
  | unsubscribe k req subId pub0 => exact hb.unsubscribe k req subId pub0
  | removeSession k pub0 => exact hb.removeSession k pub0

theorem BrokerInv.run {b : Broker} (hb : BrokerInv b) (steps : List BStep) : BrokerInv (b.run steps) := by
  unfold Broker.run
  induction steps generalizing b with
  | nil => exact hb
  | cons e rest ih => exact ih (hb.step e)

namespace WpA

theorem bk_run_cons (b : Broker) (e : BStep) (rest : List BStep) : b.run (e :: rest) = (b.step e).run rest := rfl

theorem bk_run_append (b : Broker) (l1 l2 : List BStep) : b.run (l1 ++ l2) = (b.run l1).run l2 := by
  unfold Broker.run; rw [List.foldl_append]

end WpA

end Nexus.L2
