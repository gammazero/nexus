/-
  Whoever is marked as ending has its departure pending (or deferred).

  Every key an action appends to `ending` comes with a `leave` task appended to `tasks` (all handlers, the
  dealer's aborts, the `kill*` meta procedures, `drop`); for the handlers and the dealer this is what the `P` of
  their `Eff` says (`Eff.of_handles`, `applyD_aborted`), and `EndPending.eff` reads it.  Hence the invariant
  `EndPending`: for every key in `ending` a `leave` task is pending or a departure is deferred (handler in
  the retry loop).  At quiescence (no pending task) only sessions with a deferred departure are still
  marked — whatever ended a session (lost transport, GOODBYE, violation, abort by broker or dealer, kill
  through the meta API), by the end of that step it has left unless its handler is in the retry loop.
-/
import Nexus.L2.Proofs.SessionEnd

namespace Nexus.L2.WpC
open Nexus.L2 Nexus.L2.Realm Nexus.Gen.N

def EndPending (r : Realm) : Prop :=
  ∀ k ∈ r.ending, (∃ mode, Task.leave k mode ∈ r.tasks) ∨ ∃ d ∈ r.deferred, d.1 = k

/-- no task and no deferred departure goes, and every new mark comes with a pending departure -/
theorem EndPending.grow {r r' : Realm} (h : EndPending r) (ht : ∀ t ∈ r.tasks, t ∈ r'.tasks) (hd : r'.deferred = r.deferred)
    (he : ∀ j ∈ r'.ending, j ∈ r.ending ∨ ∃ mode, Task.leave j mode ∈ r'.tasks) : EndPending r' := by
  intro k hk
  rcases he k hk with h0 | hm
  · exact (h k h0).imp (fun ⟨m, hm⟩ => ⟨m, ht _ hm⟩) fun hdef => hd ▸ hdef
  · exact Or.inl hm

theorem EndPending.congr {r r' : Realm} (h : EndPending r) (he : r'.ending = r.ending) (ht : r'.tasks = r.tasks)
    (hd : r'.deferred = r.deferred) : EndPending r' :=
  h.grow (fun _ hm => ht ▸ hm) hd fun _ hj => Or.inl (he ▸ hj)

/-- every action whose `Eff` ends only sessions whose departure it queues -/
theorem EndPending.eff {P : SessKey → Prop} {Q : Retry → Prop} {r r' : Realm} (h : EndPending r) (e : Eff P Q r r')
    (hp : ∀ j, P j → ∃ mode, Task.leave j mode ∈ r'.tasks) : EndPending r' :=
  h.grow (Grown.subset e.tasks) e.deferred fun _ hj => (Grown.mem e.ending hj).imp_right (hp _)

theorem EndPending.handles {k : SessKey} {m : Msg} {r r' : Realm} (h : EndPending r) (hh : Handles k m r r') :
    EndPending r' :=
  h.eff (.of_handles hh) fun _ hj => hj.2

theorem EndPending.recvMsg {r : Realm} (h : EndPending r) (k : SessKey) (m : Msg) : EndPending (r.recvMsg k m) :=
  recvMsg_cases r k m h (fun _ _ _ _ _ => h) fun s _ _ _ => h.handles (handleMsg_handles r s m)

theorem EndPending.metaInvoke {r : Realm} (h : EndPending r) (req reg : Nat) (details : Dict) (args : List WVal)
    (kw : Dict) : EndPending (r.runTask (.metaInvoke req reg details args kw)) := by
  -- all but `kill*` only queue their answer
  have answer {r' : Realm} (ht : ∀ t ∈ r.tasks, t ∈ r'.tasks) (hd : r'.deferred = r.deferred)
      (he : r'.ending = r.ending) : EndPending r' := h.grow ht hd fun _ hj => Or.inl (he ▸ hj)
  refine metaInvoke_cases r req reg details args kw (answer (fun _ => List.mem_append_left _) rfl rfl) fun proc o he => ?_
  cases he with
  | err | same | modify | testaments => exact answer (fun _ => List.mem_append_left _) rfl rfl
  | kill _ sel reason message all ka a =>
    refine h.grow (fun _ hm => List.mem_append_left _ (List.mem_append_left _ hm)) rfl fun j hj => ?_
    refine (List.mem_append.mp hj).imp_right fun hj => ?_
    obtain ⟨c, hcm, rfl⟩ := List.mem_map.mp hj
    exact ⟨.killed _ ka, List.mem_append_left _ (List.mem_append_right _ (List.mem_map.mpr ⟨c, hcm, rfl⟩))⟩

theorem EndPending.runHead {r : Realm} (hc : CtlInv r) (h : EndPending r) {t : Task} {ts : List Task}
    (ht : r.tasks = t :: ts) : EndPending (runTask { r with tasks := ts } t) := by
  -- witnesses among the remaining tasks: every key whose pending departure is not the head
  have hrest : ∀ k ∈ r.ending, (∀ mode, t ≠ Task.leave k mode) →
      (∃ mode, Task.leave k mode ∈ ts) ∨ ∃ d ∈ r.deferred, d.1 = k := by
    intro k hk hne
    rcases h k hk with ⟨m, hm⟩ | hd
    · rw [ht] at hm
      rcases List.mem_cons.mp hm with hm | hm
      · exact absurd hm.symm (hne m)
      · exact Or.inl ⟨m, hm⟩
    · exact Or.inr hd
  have hsame : (∀ k mode, t ≠ Task.leave k mode) → EndPending ({ r with tasks := ts } : Realm) :=
    fun hne k hk => hrest k hk (hne k)
  cases t with
  | metaPub p => exact (hsame (fun _ _ e => by cases e)).handles (handlePublish_handles ..)
  | metaMsg m => exact (hsame (fun _ _ e => by cases e)).handles (handleMsg_handles ..)
  | inMsg k m => exact (hsame (fun _ _ e => by cases e)).recvMsg _ _
  | metaInvoke a b c d e => exact (hsame (fun _ _ e => by cases e)).metaInvoke _ _ _ _ _
  | leave k mode =>
    rw [runTask_leave]
    split
    · -- deferred
      intro j hj
      by_cases hjk : j = k
      · exact Or.inr ⟨(k, mode), List.mem_append_right _ (List.mem_singleton.mpr rfl), hjk.symm⟩
      · rcases hrest j hj (fun m e => by cases e; exact hjk rfl) with h1 | ⟨d, hd, hdk⟩
        · exact Or.inl h1
        · exact Or.inr ⟨d, List.mem_append_left _ hd, hdk⟩
    · rename_i hb
      refine leave_cases { r with tasks := ts } k mode (fun hf j hj => ?_) fun s hf j hj => ?_
      · have hjk : j ≠ k := by
          intro e
          obtain ⟨c, hcm, hck⟩ := hc.ending j hj
          have := List.find?_eq_none.mp hf c hcm
          simp [hck, e] at this
        exact hrest j hj (fun m e => by cases e; exact hjk rfl)
      · have lc := leave_ctl (r := ({ r with tasks := ts } : Realm)) mode hf
        obtain ⟨ts', hts', _⟩ := lc.tasks
        rw [lc.ending] at hj
        obtain ⟨hj0, hne⟩ := List.mem_filter.mp hj
        have hjk : j ≠ k := by simpa using hne
        rcases hrest j hj0 (fun m e => by cases e; exact hjk rfl) with ⟨m, hm⟩ | ⟨d, hd, hdk⟩
        · exact Or.inl ⟨m, by rw [hts']; exact List.mem_append_left _ hm⟩
        · exact Or.inr ⟨d, by rw [lc.deferred]; exact hd, hdk⟩

theorem EndPending.stepOp {r : Realm} (h : EndPending r) (op : Op) : EndPending (r.stepOp op) :=
  stepOp_cases r op h (fun _ _ _ _ _ _ _ _ => h.grow (fun _ => List.mem_append_left _) rfl fun _ => Or.inl)
    (fun _ _ _ => h.recvMsg _ _) (fun _ _ _ _ _ => h)
    (fun k _ _ => h.eff (eff_end (P := (· = k)) (Q := fun _ => False) r k .lost rfl) fun _ e => e ▸ ended_leaves ..)
    (fun _ => h)

theorem EndPending.timerDue {r : Realm} (h : EndPending r) (t : Timer) : EndPending (r.timerDue t) :=
  h.eff (eff_timerDue (P := fun _ => False) (Q := fun _ => False) r t) fun _ => False.elim

theorem EndPending.retryDue {r : Realm} (h : EndPending r) (x : Retry) : EndPending (r.retryDue x) := by
  have h1 : EndPending ({ r with retries := r.retries.filter (fun y => y.callee != x.callee) } : Realm) := h
  have h2 : EndPending (retryMid r x) :=
    h1.eff (eff_applyD (P := (· ∈ (retryOut r x).aborts)) (Q := fun _ => False) _ _ fun _ => id) fun _ => applyD_aborted _ _
  refine retryDue_cases r x ?_ ?_
  · exact h2
  · -- a deferred departure of the callee becomes a pending task
    intro k hk
    rcases h2 k hk with ⟨m, hm⟩ | ⟨d, hd, hdk⟩
    · exact Or.inl ⟨m, List.mem_append_left _ (List.mem_append_left _ hm)⟩
    · by_cases hc : d.1 = x.callee
      · refine Or.inl ⟨d.2, List.mem_append_right _ (List.mem_map.mpr ⟨d, List.mem_filter.mpr ⟨hd, by simpa using hc⟩, ?_⟩)⟩
        rw [hdk]
      · exact Or.inr ⟨d, List.mem_filter.mpr ⟨hd, by simpa using hc⟩, hdk⟩

theorem EndPending.setPanic {r : Realm} (h : EndPending r) (p : Option String) : EndPending (r.setPanic p) :=
  have f := setPanic_frame r p
  h.congr f.ending (setPanic_tasks r p) f.deferred

theorem EndPending.keeps : Keeps Ctl EndPending where
  task ht b h := h.runHead b.2 ht
  timer _ _ h := h.timerDue _
  retry _ _ h := h.retryDue _
  now _ _ h := h.congr rfl rfl rfl
  fuel _ _ h := h.setPanic _
  flush _ h := h.congr rfl rfl rfl

theorem EndPending.advance : ∀ (fuel : Nat) {r : Realm} (target : Nat), RealmInv r → FuelOnly r.panic → CtlInv r →
    EndPending r → EndPending (advance fuel r target) :=
  fun fuel _ target hi hp hc h =>
    ((Ctl.keeps.over EndPending.keeps).advance fuel target ⟨⟨⟨hi, hp⟩, hc⟩, h⟩).2

theorem EndPending.step {r : Realm} (hi : RealmInv r) (hp : FuelOnly r.panic) (hc : CtlInv r) (h : EndPending r)
    (op : Op) (_hop : OpC r op) : EndPending (r.step op).2 := Ctl.step EndPending.keeps ⟨⟨hi, hp⟩, hc⟩ (h.stepOp op)

theorem _root_.Nexus.L2.Realm.Reachable.endPending {cfg : Config} {r : Realm} (h : Realm.Reachable cfg r) :
    EndPending r :=
  Ctl.reachable EndPending.keeps (fun _ hc k hk => by rw [(create_metaSafe hc).2.2] at hk; cases hk)
    (fun _ op _ h => h.stepOp op) h

theorem ReachableC.endPending {cfg : Config} {r : Realm} (h : ReachableC cfg r) : EndPending r :=
  h.reachable.endPending

theorem leaving_of_ending {r : Realm} (hc : CtlInv r) (h : EndPending r) {k : SessKey} (hk : k ∈ r.ending)
    (hb : r.busy k = false) : Leaving k r := by
  refine ⟨hb, fun _ => ⟨hk, ?_⟩⟩
  rcases h k hk with hm | ⟨d, hd, hdk⟩
  · exact hm
  · have := hc.defBusy d hd
    rw [hdk, hb] at this; cases this

end Nexus.L2.WpC
