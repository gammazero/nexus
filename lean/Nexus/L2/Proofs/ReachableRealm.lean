/-
  Consequences of `Evo` / `RealmInv` for every reachable realm:
  configuration flags and the meta session, the broker as a run of `BStep`s from the pre-initialised
  broker, freshness of the stored publication ids, coherence of the session table, and the message
  switch (`stepOp (.msg k m)` is the handler of `m`).
-/
import Nexus.L2.Proofs.BrokerEvolution

namespace Nexus.L2.WpA
open Nexus.L2 Nexus.L2.Realm Gen.N

theorem preInit_flags : ∀ (cfg : List (String × String × Nat)) (b : Broker), BFlags b (b.preInit cfg)
  | [], b => ⟨rfl, rfl⟩
  | (topic, m, limit) :: rest, b => by
    unfold Broker.preInit
    split
    · exact BFlags.trans (b := _) ⟨rfl, rfl⟩ (preInit_flags rest _)
    · exact BFlags.trans (b := _) ⟨rfl, rfl⟩ (preInit_flags rest _)

/-- in every reachable realm the four configuration flags are those of the configuration, the
    configuration itself is unchanged and the meta session is the one every realm starts with -/
theorem flags_const {cfg : Config} {r : Realm} (h : Realm.Reachable cfg r) :
    r.broker.allowDisclose = cfg.allowDisclose ∧ r.ds.d.allowDisclose = cfg.allowDisclose ∧
    r.broker.strict = cfg.strict ∧ r.ds.d.strict = cfg.strict ∧ r.cfg = cfg ∧ r.metaS = ({} : Realm).metaS := by
  obtain ⟨r0, h0, e⟩ := reachable_evo h
  have c := create_rinv h0
  obtain ⟨c3, c4⟩ := create_dflags h0
  obtain ⟨steps, hb, _⟩ := e.run
  have hf := run_flags steps r0.broker
  rw [← hb, c.broker] at hf
  have hf := (preInit_flags cfg.history _).trans hf
  exact ⟨hf.2, e.dfl.2.trans c4, hf.1, e.dfl.1.trans c3, e.cfg.trans c.cfg, e.metaS.trans c.metaS⟩

/-- the broker of a reachable realm is a run of broker steps from the pre-initialised broker; the
    publish steps carry increasing fresh ids below `pubBase + r.pubCount` -/
theorem reachable_run {cfg : Config} {r : Realm} (h : Realm.Reachable cfg r) :
    ∃ steps, r.broker =
      (({ strict := cfg.strict, allowDisclose := cfg.allowDisclose } : Broker).preInit cfg.history).run steps ∧
      Trace 0 steps r.pubCount := by
  obtain ⟨r0, h0, e⟩ := reachable_evo h
  obtain ⟨steps, hb, ht⟩ := e.run
  exact ⟨steps, by rw [hb, (create_rinv h0).broker], by rw [← (create_rinv h0).pubCount]; exact ht⟩

theorem create_historyOk {cfg : Config} {r : Realm} (h : Realm.create cfg = some r) :
    ∀ c ∈ cfg.history, validUri cfg.strict c.2.1 c.1 = true ∧ 0 < c.2.2 := by
  unfold Realm.create at h
  split at h
  · cases h
  · rename_i hok
    have hok' : historyOk cfg = true := by simpa using hok
    unfold historyOk at hok'
    intro c hc
    have := List.all_eq_true.mp hok' c hc
    obtain ⟨t, m, l⟩ := c
    simpa using this

/-- the ids stored in every history are strictly increasing and below `pubBase + n` -/
def HistFresh (b : Broker) (n : Nat) : Prop :=
  ∀ h ∈ b.hist, (h.entries.map (·.pub)).Pairwise (· < ·) ∧ ∀ e ∈ h.entries, e.pub < pubBase + n

theorem HistFresh.mono {b : Broker} {n m : Nat} (h : HistFresh b n) (hm : n ≤ m) : HistFresh b m :=
  fun x hx => ⟨(h x hx).1, fun e he => Nat.lt_of_lt_of_le ((h x hx).2 e he) (by omega)⟩

theorem histFresh_save {h : Hist} {e : HistEntry} {n m : Nat}
    (hp : (h.entries.map (·.pub)).Pairwise (· < ·)) (hb : ∀ x ∈ h.entries, x.pub < pubBase + n)
    (hm : n ≤ m) (he : e.pub = pubBase + m) :
    ((h.save e).entries.map (·.pub)).Pairwise (· < ·) ∧ ∀ x ∈ (h.save e).entries, x.pub < pubBase + (m + 1) := by
  rw [Hist.save_entries]
  generalize hl : (if h.entries.length ≥ h.limit then h.entries.drop 1 else h.entries) = l
  have hsub : l.Sublist h.entries := by
    subst hl
    split
    · exact List.drop_sublist _ _
    · exact .refl _
  have hlt : ∀ x ∈ l, x.pub < e.pub := fun x hx => by have := hb x (hsub.subset hx); omega
  refine ⟨?_, fun x hx => ?_⟩
  · rw [List.map_append, List.pairwise_append]
    exact ⟨hp.sublist (hsub.map _), List.pairwise_singleton .., by simpa using hlt⟩
  · rcases List.mem_append.mp hx with hx | hx
    · have := hlt x hx; omega
    · rw [List.mem_singleton.mp hx]; omega

theorem histFresh_step_publish {b : Broker} (hb : BrokerInv b) {n m : Nat} (hf : HistFresh b n) (hm : n ≤ m)
    (sess : SessKey → Option Session) (now : Nat) (p : Publication) (hp : p.pubId = pubBase + m) :
    HistFresh (b.step (.publish sess now p)) (m + 1) := by
  intro h' hh'
  rw [show (b.step (.publish sess now p)).hist = _ from syncPublish_hist b sess now p] at hh'
  obtain ⟨h0, hh0, rfl⟩ := List.mem_map.mp hh'
  obtain ⟨s, hs, hid⟩ := hb.hist_sub h0 hh0
  rw [matching_foldl_store hb now p hs h0 hid.symm]
  split
  · exact histFresh_save (hf h0 hh0).1 (hf h0 hh0).2 hm hp
  · exact hf.mono (Nat.le_succ_of_le hm) h0 hh0

theorem histFresh_run : ∀ (steps : List BStep) {b : Broker} {n n' : Nat}, BrokerInv b → HistFresh b n →
    Trace n steps n' → HistFresh (b.run steps) n'
  | [], b, n, n', _, hf, ht => hf.mono ht
  | e :: rest, b, n, n', hb, hf, ht => by
    show HistFresh ((b.step e).run rest) n'
    cases e with
    | publish sess now p =>
      obtain ⟨m, h1, h2, _, h4⟩ := ht
      exact histFresh_run rest (hb.step _) (histFresh_step_publish hb hf h1 sess now p h2) h4
    | _ =>
      refine histFresh_run rest (hb.step _) ?_ ht
      unfold HistFresh; rw [step_hist_nonpublish _ _ (by intros; simp)]; exact hf

/-- in a reachable realm every history store holds strictly increasing (hence distinct) publication
    ids, all of them already drawn (`< pubBase + pubCount`) -/
theorem store_pubs_fresh {cfg : Config} {r : Realm} (h : Realm.Reachable cfg r) : HistFresh r.broker r.pubCount := by
  obtain ⟨steps, hb, ht⟩ := reachable_run h
  rw [hb]
  refine histFresh_run steps (BrokerInv.preInit cfg.strict cfg.allowDisclose cfg.history) ?_ ht
  intro x hx
  have := preInit_entries cfg.history ({ strict := cfg.strict, allowDisclose := cfg.allowDisclose } : Broker)
    (by intro h hh; cases hh) x hx
  rw [this]
  exact ⟨List.Pairwise.nil, fun e he => nomatch he⟩

theorem hist_clean_reachable {cfg : Config} {r : Realm} (h : Realm.Reachable cfg r) : HistClean r.broker := by
  obtain ⟨steps, hb, ht⟩ := reachable_run h
  rw [hb]
  refine HistClean.run steps ?_
    (fun sess now p hm key hk => Trace.pubOk ht sess now p hm key (Or.inr hk))
  intro x hx e he
  rw [preInit_entries cfg.history _ (by intro h hh; cases hh) x hx] at he
  cases he

theorem sessCoherent_of_inv {r : Realm} (hm : r.metaS.key = metaKey) : SessCoherent r.session? := by
  intro k c h
  unfold session? at h
  split at h
  · rename_i hk
    cases h
    exact hm.trans hk.symm
  · exact (find?_key h).2

theorem stepOp_msg_dispatch (r : Realm) (k : SessKey) (s : Session) (m : Msg)
    (hc : r.client? k = some s) (he : r.ending.contains k = false) (hb : r.busy k = false)
    (ha : (authzGate r s m).1 = true) : r.stepOp (.msg k m) = Realm.dispatch r s m := by
  rw [stepOp_msg_handled m hc he hb, handleMsg_allowed ha]

end Nexus.L2.WpA

namespace Nexus.L2.Realm.WpA
open Nexus.L2 Nexus.L2.Realm Nexus.Gen.N

/-- the field `metaS` is never written: in every reachable realm the meta session is the session of `newRealm` -/
theorem reachable_metaS {cfg : Config} {r : Realm} (h : Realm.Reachable cfg r) : r.metaS = ({} : Realm).metaS :=
  (Nexus.L2.WpA.flags_const h).2.2.2.2.2

end Nexus.L2.Realm.WpA
