/-
  The dealer's messages as the realm delivers them (Nexus.L2.Realm): `Realm.deliver` appends the messages
  of a dealer action to the recipients' queues in order, dropping exactly those that meet a full queue;
  INVOCATIONs for the meta session become `metaInvoke` tasks, aborts become `leave … aborted` tasks.
  The yield retry loop (`Realm.handleYield` / `Realm.retryDue`).
-/
import Nexus.L2.Proofs.RealmQueue
import Nexus.L2.Proofs.DealerRealm
import Nexus.L2.Proofs.DealerTimer
import Nexus.L2.Proofs.BrokerMetaEvent

namespace Nexus.L2
open Gen.N

namespace Realm

/-- the router→client queue of session `k` (empty if it has none) -/
def dqueueOf (r : Realm) (k : SessKey) : List Msg :=
  match r.queues.find? (fun q => q.1 == k) with
  | some q => q.2
  | none => []

/-- the messages of a list of sends addressed to `k`, in order -/
def dmsgsTo (k : SessKey) (ss : List Send) : List Msg := (ss.filter (fun x => x.to == k)).map (·.msg)

/-- `dqueueOf` and `dmsgsTo` are `queueOf` and `msgsTo` of Nexus/L2/Proofs/RealmQueue.lean: every lemma there applies -/
theorem dqueueOf_eq : @dqueueOf = @queueOf := rfl
theorem dmsgsTo_eq : @dmsgsTo = @msgsTo := rfl

/-- the task an INVOCATION for the meta session becomes -/
def dmetaTask (x : Send) : Option Task :=
  if x.to = metaKey then
    match x.msg with
    | .invocation req reg details args kw => some (.metaInvoke req reg details args kw)
    | _ => none
  else none

theorem dtrySend_tasks (r : Realm) (x : Send) : (r.trySend x).tasks = r.tasks ++ (dmetaTask x).toList := by
  unfold trySend dmetaTask
  split
  · cases x.msg <;> simp
  · split
    · simp [setPanic_tasks]
    · split
      · simp
      · split <;> simp

theorem accept_eq_take (cap : Nat) : ∀ (ms q : List Msg), accept cap q ms = q ++ ms.take (cap - q.length)
  | [], q => by simp [accept]
  | m :: ms, q => by
    rw [accept_cons, accept_eq_take cap ms]
    by_cases h : q.length < cap
    · have : cap - q.length = (cap - (q ++ [m]).length) + 1 := by simp only [List.length_append, List.length_cons, List.length_nil]; omega
      rw [if_pos h, this, List.take_succ_cons]
      simp
    · have : cap - q.length = 0 := by omega
      rw [if_neg h, this, List.take_zero, List.take_zero]

theorem ddeliver_tasks : ∀ (ss : List Send) (r : Realm), (r.deliver ss).tasks = r.tasks ++ ss.filterMap dmetaTask
  | [], r => by simp [deliver]
  | x :: ss, r => by
    rw [deliver, ddeliver_tasks ss, dtrySend_tasks, List.filterMap_cons]
    cases dmetaTask x <;> simp

theorem dmetaTask_shape {x : Send} {t : Task} (h : t ∈ (dmetaTask x).toList) : ∃ a b c d e, t = Task.metaInvoke a b c d e := by
  unfold dmetaTask at h
  split at h
  · split at h
    · simp only [Option.toList_some, List.mem_singleton] at h
      exact ⟨_, _, _, _, _, h⟩
    · cases h
  · cases h

theorem dmetaTasks_shape {ss : List Send} {t : Task} (h : t ∈ ss.filterMap dmetaTask) :
    ∃ a b c d e, t = Task.metaInvoke a b c d e := by
  obtain ⟨x, _, hx⟩ := List.mem_filterMap.mp h
  exact dmetaTask_shape (by rw [hx]; simp)

theorem dmetaTask_of_ne {x : Send} (h : x.to ≠ metaKey) : dmetaTask x = none := by
  unfold dmetaTask; rw [if_neg h]

theorem dmetaTask_of_msg {x : Send} (h : ∀ a b c d e, x.msg ≠ .invocation a b c d e) : dmetaTask x = none := by
  unfold dmetaTask
  by_cases hk : x.to = metaKey
  · rw [if_pos hk]
    split
    · rename_i a b c d e he; exact absurd he (h a b c d e)
    · rfl
  · rw [if_neg hk]

theorem trySend_tasks_of {r : Realm} {x : Send} (h : dmetaTask x = none) : (r.trySend x).tasks = r.tasks := by
  rw [dtrySend_tasks, h]; simp

theorem deliver_tasks_of {r : Realm} {ss : List Send} (h : ∀ x ∈ ss, dmetaTask x = none) : (r.deliver ss).tasks = r.tasks := by
  rw [ddeliver_tasks]
  have : ss.filterMap dmetaTask = [] := by
    rw [List.filterMap_eq_nil_iff]; exact h
  rw [this]; simp

/-- After delivering `ss`, the queue of client `k` is its old content followed by the messages
    of `ss` addressed to `k`, in order, cut off where the queue's capacity is reached (later messages for a full
    queue are dropped; other sessions are not affected). -/
theorem ddeliver_queueOf {k : SessKey} {c : Session} (hk : k ≠ metaKey) (ss : List Send) (r : Realm)
    (hc : r.clients.find? (fun c => c.key == k) = some c) :
    (r.deliver ss).dqueueOf k = r.dqueueOf k ++ (dmsgsTo k ss).take (c.cap - r.queueLen k) := by
  rw [queueLen_eq, dqueueOf_eq, dmsgsTo_eq]
  exact (queueOf_deliver_client ss r k c hk hc).trans (accept_eq_take ..)

@[simp] theorem dapplyD_clients (r : Realm) (o : DOut) : (r.applyD o).clients = r.clients :=
  (congrArg Realm.clients (applyD_fields r o) :)
@[simp] theorem dapplyD_retries (r : Realm) (o : DOut) : (r.applyD o).retries = r.retries :=
  (congrArg Realm.retries (applyD_fields r o) :)
@[simp] theorem dapplyD_now (r : Realm) (o : DOut) : (r.applyD o).now = r.now :=
  (congrArg Realm.now (applyD_fields r o) :)
@[simp] theorem dapplyD_inbox (r : Realm) (o : DOut) : (r.applyD o).inbox = r.inbox :=
  (congrArg Realm.inbox (applyD_fields r o) :)
@[simp] theorem dapplyD_deferred (r : Realm) (o : DOut) : (r.applyD o).deferred = r.deferred :=
  (congrArg Realm.deferred (applyD_fields r o) :)
theorem dapplyD_ending (r : Realm) (o : DOut) : (r.applyD o).ending = r.ending ++ o.aborts :=
  (congrArg Realm.ending (applyD_fields r o) :)

/-- the queues after a dealer action: its `sends`, delivered in order -/
theorem dapplyD_queueOf (r : Realm) (o : DOut) {k : SessKey} {c : Session} (hk : k ≠ metaKey)
    (hc : r.clients.find? (fun c => c.key == k) = some c) :
    (r.applyD o).dqueueOf k = r.dqueueOf k ++ (dmsgsTo k o.sends).take (c.cap - r.queueLen k) := by
  have hq : ∀ (r' : Realm) (p : Option String), (r'.setPanic p).dqueueOf k = r'.dqueueOf k := fun r' p =>
    (congrArg (fun r'' : Realm => r''.dqueueOf k) (setPanic_fields r' p) :)
  unfold applyD
  rw [hq]
  exact ddeliver_queueOf hk o.sends { r with ds := o.st } hc

/-- the tasks after a dealer action: INVOCATIONs for the meta session, then the meta events, then one
    `leave … aborted` per aborted session -/
theorem dapplyD_tasks (r : Realm) (o : DOut) :
    (r.applyD o).tasks = r.tasks ++ o.sends.filterMap dmetaTask ++ o.metaPubs.map Task.metaPub ++
      o.aborts.map (fun k => Task.leave k .aborted) := by
  unfold applyD
  simp only [setPanic_tasks, addTasks]
  rw [ddeliver_tasks]

/-- the replies (RESULT / ERROR of type CALL) to request `req` among a list of messages -/
def qReplies (req : Nat) (ms : List Msg) : List Msg := ms.filter (fun m => m.replyReq == some req)

theorem dqReplies_msgsTo (c : ReqId) (ss : List Send) :
    qReplies c.req (dmsgsTo c.sess ss) = (repliesFor c ss).map (·.msg) := by
  unfold qReplies dmsgsTo repliesFor
  rw [List.filter_map, List.filter_filter]
  congr 1
  apply List.filter_congr
  intro x _
  obtain ⟨cs, cr⟩ := c
  cases hm : x.msg.replyReq with
  | none => simp [Send.replyTo, hm, Function.comp]
  | some r =>
    simp only [Send.replyTo, hm, Function.comp, Option.map_some]
    have hne : ∀ (a b : SessKey) (u v : Nat), ((⟨a, u⟩ : ReqId) == ⟨b, v⟩) = (decide (a = b) && decide (u = v)) := by
      intro a b u v
      show decide ((⟨a, u⟩ : ReqId) = ⟨b, v⟩) = _
      simp only [ReqId.mk.injEq, Bool.decide_and]
    by_cases h1 : x.to = cs <;> by_cases h2 : r = cr <;> simp [h1, h2, hne]

theorem qReplies_append (req : Nat) (a b : List Msg) : qReplies req (a ++ b) = qReplies req a ++ qReplies req b := by
  simp [qReplies]

theorem qReplies_of_none {req : Nat} {ms : List Msg} (h : ∀ m ∈ ms, m.replyReq = none) : qReplies req ms = [] := by
  unfold qReplies
  rw [List.filter_eq_nil_iff]
  intro m hm; simp [h m hm]

theorem replyReq_of_event {m : Msg} (h : m.eventSub? ≠ none) : m.replyReq = none := by
  cases m <;> first | rfl | exact absurd rfl h

theorem dmetaEvent_noreply (b : Broker) (t : String) (pid : Nat) (cause : SessKey) (args : List WVal) :
    ∀ x ∈ b.metaEvent t pid cause args, x.msg.replyReq = none :=
  fun x hx => replyReq_of_event (metaEvent_spec b t pid cause args x hx).1

theorem dbrokerRemove_noreply (b : Broker) (k : SessKey) (pub0 : Nat) :
    ∀ x ∈ (b.syncRemoveSession k pub0).2.1, x.msg.replyReq = none := by
  intro x hx
  obtain ⟨_, i, hi, _⟩ := WpE.syncRemoveSession_event hx
  exact replyReq_of_event (by rw [hi]; nofun)

theorem dmsgsTo_length_le (k : SessKey) (ss : List Send) : (dmsgsTo k ss).length ≤ ss.length := by
  unfold dmsgsTo; rw [List.length_map]; exact List.length_filter_le _ _

theorem dmem_msgsTo {k : SessKey} {ss : List Send} {m : Msg} (h : m ∈ dmsgsTo k ss) : ∃ x ∈ ss, x.to = k ∧ x.msg = m := by
  unfold dmsgsTo at h
  rcases List.mem_map.1 h with ⟨x, hx, rfl⟩
  have := List.mem_filter.1 hx
  exact ⟨x, this.1, by simpa using this.2, rfl⟩

theorem leaveSend_tasks {r : Realm} {k : SessKey} (hk : k ≠ metaKey) (mode : LeaveMode) :
    (leaveSend r k mode).tasks = r.tasks :=
  leaveSend_cases (P := fun x => x.tasks = r.tasks) r k mode rfl fun _ => trySend_tasks_of (dmetaTask_of_ne hk)

theorem syncYield_not_again (env : DEnv) (s : DState) (callee : SessKey) (req : Nat) (opts : Dict)
    (args : List WVal) (kw : Dict) (progress : Bool) :
    (syncYield env s callee req opts args kw progress false).again = false := by
  apply syncYield_cases (P := fun o => o.again = false)
  case retry => intros; contradiction
  case giveup =>
    intros
    apply syncCancel_cases (P := fun o => o.again = false) _ _ _ _ _ _ _ rfl
    intros
    exact cancelOut_cases (P := fun o => o.again = false) rfl fun _ _ => rfl
  all_goals intros; rfl

/-- a retry entry in phase `n` (n-th turn of the loop): it fires `2^n - 1` ms after the start, with delay `2^(n-1)`
    (`Phase`, of StepIsolation, is about something else: a departure within one step) -/
def InPhase (x : Retry) (n : Nat) : Prop := 1 ≤ n ∧ x.next + 1 = x.start + 2 ^ n ∧ x.delay = 2 ^ (n - 1)

def retryOut (r : Realm) (x : Retry) : DOut :=
  syncYield r.denv r.ds x.callee x.req x.opts x.args x.kw x.progress (decide (r.now - x.start < sendResultDeadlineMs))

def doubled (x : Retry) (now : Nat) : Retry := { x with next := now + x.delay * 2, delay := x.delay * 2 }

/-- the realm after the dealer's part of a turn of the retry loop: the callee's entries are out of the table and the
    dealer's answer (`retryOut`) is applied -/
def retryMid (r : Realm) (x : Retry) : Realm :=
  ({ r with retries := r.retries.filter (fun y => y.callee != x.callee) } : Realm).applyD (retryOut r x)

/-- `retryDue` as a term of the realm before it (it holds by `rfl`): the YIELD goes back to sleep with its delay doubled,
    or the handler is free again and reads what waited for it.  Everything else about a turn is read off this:
    `retryDue_cases` carries a predicate through the two outcomes, `retryDue_turn` gives the clock, the dealer's state,
    the retry table and who is busy afterwards, `retryDue_release` and `retryDue_holds` the task list, `inbox` and
    `deferred` in either outcome, all three in terms of `r`. -/
theorem retryDue_eq (r : Realm) (x : Retry) :
    r.retryDue x =
      if (retryOut r x).again then
        { retryMid r x with retries := (retryMid r x).retries ++ [doubled x (retryMid r x).now] }
      else
        { retryMid r x with
          deferred := (retryMid r x).deferred.filter (fun d => d.1 != x.callee)
          inbox := (retryMid r x).inbox.filter (fun d => d.1 != x.callee)
          tasks := (retryMid r x).tasks ++
            ((retryMid r x).inbox.filter (fun d => d.1 == x.callee)).map (fun d => Task.inMsg d.1 d.2) ++
            ((retryMid r x).deferred.filter (fun d => d.1 == x.callee)).map (fun d => Task.leave d.1 d.2) } := rfl

theorem retryDue_cases {C : Realm → Prop} (r : Realm) (x : Retry)
    (again : C { retryMid r x with retries := (retryMid r x).retries ++ [doubled x (retryMid r x).now] })
    (free : C { retryMid r x with
      deferred := (retryMid r x).deferred.filter (fun d => d.1 != x.callee)
      inbox := (retryMid r x).inbox.filter (fun d => d.1 != x.callee)
      tasks := (retryMid r x).tasks ++
        ((retryMid r x).inbox.filter (fun d => d.1 == x.callee)).map (fun d => Task.inMsg d.1 d.2) ++
        ((retryMid r x).deferred.filter (fun d => d.1 == x.callee)).map (fun d => Task.leave d.1 d.2) }) :
    C (r.retryDue x) := by
  rw [retryDue_eq]
  split
  · exact again
  · exact free

/-! `busy k`: the handler of `k` is in the retry loop.  It reads the retry table, and nothing else. -/

theorem busy_iff {r : Realm} {k : SessKey} : r.busy k = true ↔ ∃ x ∈ r.retries, x.callee = k := by
  unfold busy
  simp only [List.any_eq_true, beq_iff_eq]

theorem busy_false_iff {r : Realm} {k : SessKey} : r.busy k = false ↔ ∀ x ∈ r.retries, x.callee ≠ k := by
  rw [← Bool.not_eq_true, busy_iff]
  exact ⟨fun h x hx e => h ⟨x, hx, e⟩, fun h ⟨x, hx, e⟩ => h x hx e⟩

theorem busy_congr {r r' : Realm} (h : r'.retries = r.retries) (k : SessKey) : r'.busy k = r.busy k := by
  unfold busy; rw [h]

theorem busy_mono {r r' : Realm} {k : SessKey} (h : ∀ x ∈ r.retries, x ∈ r'.retries) (hb : r.busy k = true) :
    r'.busy k = true :=
  have ⟨x, hx, hxk⟩ := busy_iff.mp hb
  busy_iff.mpr ⟨x, h x hx, hxk⟩

/-- One turn of the retry loop, whenever it runs.  The dealer is asked once (`retryOut`); every entry of the callee
    leaves the table, and the entry comes back with its delay doubled exactly if the dealer answers "again", which it
    does only before the deadline.  So the callee is busy afterwards iff the answer was "again"; nobody else's
    handler is affected. -/
theorem retryDue_turn (r : Realm) (x : Retry) :
    (r.retryDue x).now = r.now ∧ (r.retryDue x).ds = (retryOut r x).st ∧
    (r.retryDue x).retries = r.retries.filter (fun y => y.callee != x.callee) ++
      (if (retryOut r x).again then [doubled x r.now] else []) ∧
    ((retryOut r x).again = true → r.now - x.start < sendResultDeadlineMs) ∧
    (∀ k, (r.retryDue x).busy k = if k = x.callee then (retryOut r x).again else r.busy k) := by
  have h3 : (r.retryDue x).now = r.now ∧ (r.retryDue x).ds = (retryOut r x).st ∧
      (r.retryDue x).retries = r.retries.filter (fun y => y.callee != x.callee) ++
        (if (retryOut r x).again then [doubled x r.now] else []) := by
    rw [retryDue_eq]
    split <;> simp only [retryMid, dapplyD_now, applyD_ds, dapplyD_retries, List.append_nil, doubled, true_and]
  refine ⟨h3.1, h3.2.1, h3.2.2, fun ha => Decidable.byContradiction fun hn => ?_, fun k => ?_⟩
  · unfold retryOut at ha
    rw [decide_eq_false hn, syncYield_not_again] at ha
    cases ha
  · unfold busy
    rw [h3.2.2, List.any_append, List.any_filter]
    by_cases hk : k = x.callee
    · subst hk
      cases (retryOut r x).again <;> simp [doubled]
    · -- the filter drops no entry of `k`
      have hk' : ¬ x.callee = k := fun e => hk e.symm
      have : ∀ y : Retry, (y.callee != x.callee && y.callee == k) = (y.callee == k) := fun y => by
        by_cases hy : y.callee = k <;> simp [hy, hk]
      cases (retryOut r x).again <;> simp [doubled, hk, hk', this]

theorem retryDue_ds (r : Realm) (x : Retry) : (r.retryDue x).ds = (retryOut r x).st := (retryDue_turn r x).2.1

theorem retryDue_busy (r : Realm) (x : Retry) : (r.retryDue x).busy x.callee = (retryOut r x).again :=
  ((retryDue_turn r x).2.2.2.2 _).trans (if_pos rfl)

/-- in phase `n`, fired on time, the loop may go on iff `n ≤ 15` (2^n - 1 < 60000) -/
theorem phase_canRetry {r : Realm} {x : Retry} {n : Nat} (hp : InPhase x n) (hnow : r.now = x.next) :
    decide (r.now - x.start < sendResultDeadlineMs) = decide (n ≤ 15) := by
  obtain ⟨h1, h2, _⟩ := hp
  have h15 : n ≤ 15 → 2 ^ n ≤ 2 ^ 15 := Nat.pow_le_pow_right (by omega)
  have h16 : 16 ≤ n → 2 ^ 16 ≤ 2 ^ n := Nat.pow_le_pow_right (by omega)
  apply decide_eq_decide.2
  unfold sendResultDeadlineMs
  omega

theorem phase_next {r : Realm} {x : Retry} {n : Nat} (hp : InPhase x n) (hnow : r.now = x.next) :
    InPhase (doubled x r.now) (n + 1) := by
  obtain ⟨h1, h2, h3⟩ := hp
  have e : 2 ^ n = 2 ^ (n - 1) * 2 := by
    rw [← Nat.pow_succ]; congr 1; omega
  refine ⟨by omega, ?_, ?_⟩
  · show r.now + x.delay * 2 + 1 = x.start + 2 ^ (n + 1)
    rw [Nat.pow_succ, hnow, h3]
    omega
  · show x.delay * 2 = 2 ^ (n + 1 - 1)
    rw [h3, Nat.add_sub_cancel, e]

/-- The turn fired on time in phase `n`: the dealer is asked with `canRetry = (n ≤ 15)`, the deadline has passed iff
    `n ≥ 16`; "again" moves the entry to phase `n + 1`, and from phase 16 on the answer is never "again". -/
theorem turn_on_time {r : Realm} {x : Retry} {n : Nat} (hp : InPhase x n) (hnow : r.now = x.next) :
    retryOut r x = syncYield r.denv r.ds x.callee x.req x.opts x.args x.kw x.progress (decide (n ≤ 15)) ∧
    (sendResultDeadlineMs ≤ r.now - x.start ↔ 16 ≤ n) ∧
    ((retryOut r x).again = true → n ≤ 15 ∧ InPhase (doubled x r.now) (n + 1)) ∧
    (16 ≤ n → (retryOut r x).again = false) := by
  have hcr := phase_canRetry hp hnow
  have hout : retryOut r x = syncYield r.denv r.ds x.callee x.req x.opts x.args x.kw x.progress (decide (n ≤ 15)) := by
    unfold retryOut; rw [hcr]
  have hiff := decide_eq_decide.mp hcr
  refine ⟨hout, by omega, fun ha => ⟨hiff.mp ((retryDue_turn r x).2.2.2.1 ha), phase_next hp hnow⟩, fun hn => ?_⟩
  rw [hout, decide_eq_false (by omega)]
  exact syncYield_not_again ..

/-- the turn in phase 16, 65535 ms after the start: the dealer is asked with `canRetry = false` -/
theorem retryOut_last {r : Realm} {x : Retry} (hp : InPhase x 16) (hnow : r.now = x.next) :
    r.now = x.start + 65535 ∧ sendResultDeadlineMs ≤ r.now - x.start ∧
    retryOut r x = syncYield r.denv r.ds x.callee x.req x.opts x.args x.kw x.progress false ∧
    (retryOut r x).again = false := by
  obtain ⟨t1, t2, _, t4⟩ := turn_on_time hp hnow
  have := hp.2.1
  exact ⟨by omega, t2.mpr (Nat.le_refl _), t1, t4 (Nat.le_refl _)⟩

/-- a message from a session whose handler is in the retry loop is not processed: it is appended to `inbox`
    when the session is attached, not ending and `buffered`; otherwise nothing happens at all -/
theorem recvMsg_busy (r : Realm) (k : SessKey) (m : Msg) (hb : r.busy k = true) :
    r.recvMsg k m =
      if ((r.clients.find? (fun c => c.key == k)).any (·.buffered) && !r.ending.contains k) = true
      then { r with inbox := r.inbox ++ [(k, m)] } else r := by
  rw [recvMsg_eq]
  cases r.clients.find? (fun c => c.key == k) with
  | none => rfl
  | some s =>
    cases r.ending.contains k <;> cases hbuf : s.buffered <;>
      simp only [hb, hbuf, if_true, if_false, Option.any_some, Bool.not_false, Bool.not_true, Bool.and_self,
        Bool.and_true, Bool.and_false, Bool.false_eq_true]

/-- the messages of session `k` waiting in the transport, oldest first -/
def inboxOf (r : Realm) (k : SessKey) : List Msg := (r.inbox.filter (fun d => d.1 == k)).map (·.2)

/-- the message of an attached, not ending, `buffered` session whose handler is busy is appended at
    the end of `inbox`; nothing else changes -/
theorem recvMsg_buffered {r : Realm} {k : SessKey} {s : Session} (m : Msg) (hb : r.busy k = true)
    (hf : r.clients.find? (fun c => c.key == k) = some s) (hbuf : s.buffered = true)
    (he : r.ending.contains k = false) :
    r.recvMsg k m = { r with inbox := r.inbox ++ [(k, m)] } := by
  rw [recvMsg_busy r k m hb, hf]
  simp only [Option.any_some, hbuf, he, Bool.not_false, Bool.and_self, if_true]

/-- … and for every other busy sender (a linked peer: not `buffered`; unknown; ending) nothing happens -/
theorem recvMsg_unbuffered {r : Realm} {k : SessKey} (m : Msg) (hb : r.busy k = true)
    (h : (∀ s, r.clients.find? (fun c => c.key == k) = some s → s.buffered = false) ∨ r.ending.contains k = true) :
    r.recvMsg k m = r := by
  rw [recvMsg_busy r k m hb]
  rcases h with h | h
  · cases hf : r.clients.find? (fun c => c.key == k) with
    | none => simp only [Option.any_none, Bool.false_and, Bool.false_eq_true, if_false]
    | some s => simp only [Option.any_some, h s hf, Bool.false_and, Bool.false_eq_true, if_false]
  · simp only [h, Bool.not_true, Bool.and_false, Bool.false_eq_true, if_false]

theorem inboxOf_append (r : Realm) (k : SessKey) (m : Msg) (k' : SessKey) :
    inboxOf ({ r with inbox := r.inbox ++ [(k, m)] } : Realm) k' = if k' = k then inboxOf r k' ++ [m] else inboxOf r k' := by
  unfold inboxOf
  by_cases h : k' = k
  · subst h; simp [List.filter_append]
  · have : ¬ k = k' := fun e => h e.symm
    simp [List.filter_append, h, this]

/-- the tasks made of the entries waiting for `k` are for `k`: `f k x` for each waiting `x`, in order -/
theorem keyed_tasks {β : Type} (f : SessKey → β → Task) (l : List (SessKey × β)) (k : SessKey) :
    (l.filter (fun d => d.1 == k)).map (fun d => f d.1 d.2) = ((l.filter (fun d => d.1 == k)).map (·.2)).map (f k) := by
  rw [List.map_map]
  apply List.map_congr_left
  intro d hd
  have : d.1 = k := by simpa using (List.mem_filter.mp hd).2
  simp [this]

/-- the tasks a turn of the retry loop itself queues (the dealer's part: invocations for the meta
    session, meta events, aborts) -/
def retryTasks (r : Realm) (x : Retry) : List Task :=
  (retryOut r x).sends.filterMap dmetaTask ++ (retryOut r x).metaPubs.map Task.metaPub ++
    (retryOut r x).aborts.map (fun k => Task.leave k .aborted)

/-- The loop ends (`again = false`): the handler of `x.callee` is free again.  After whatever the turn itself
    queued, the task list gets exactly that session's waiting messages as `inMsg` tasks in arrival
    order, then its deferred departures; `inbox` and `deferred` keep the other sessions' entries (in
    order) and no longer mention the callee. -/
theorem retryDue_release (r : Realm) (x : Retry) (ha : (retryOut r x).again = false) :
    (r.retryDue x).tasks =
      r.tasks ++ retryTasks r x ++ (inboxOf r x.callee).map (Task.inMsg x.callee) ++
        ((r.deferred.filter (fun d => d.1 == x.callee)).map (·.2)).map (Task.leave x.callee) ∧
    (r.retryDue x).inbox = r.inbox.filter (fun d => d.1 != x.callee) ∧
    (r.retryDue x).deferred = r.deferred.filter (fun d => d.1 != x.callee) ∧
    inboxOf (r.retryDue x) x.callee = [] ∧
    (∀ k, k ≠ x.callee → inboxOf (r.retryDue x) k = inboxOf r k) := by
  have hinb : (r.retryDue x).inbox = r.inbox.filter (fun d => d.1 != x.callee) := by
    rw [retryDue_eq]; simp only [ha, Bool.false_eq_true, if_false, retryMid, dapplyD_inbox]
  refine ⟨?_, hinb, ?_, ?_, ?_⟩
  · rw [retryDue_eq]
    simp only [ha, Bool.false_eq_true, if_false, retryMid, dapplyD_inbox, dapplyD_deferred, dapplyD_tasks]
    rw [keyed_tasks Task.inMsg, keyed_tasks Task.leave]
    simp only [retryTasks, inboxOf, List.append_assoc]
  · rw [retryDue_eq]; simp only [ha, Bool.false_eq_true, if_false, retryMid, dapplyD_deferred]
  · unfold inboxOf
    rw [hinb, List.filter_filter]
    have : (r.inbox.filter (fun d => (d.1 == x.callee) && (d.1 != x.callee))) = [] := by
      rw [List.filter_eq_nil_iff]; intro d _; simp
    rw [this]; rfl
  · intro k hk
    unfold inboxOf
    rw [hinb, List.filter_filter]
    congr 1
    apply List.filter_congr
    intro d _
    by_cases hd : d.1 = k
    · simp [hd, hk]
    · simp [hd]

/-- The loop goes on (`again = true`): nothing is released — `inbox` and `deferred` are untouched, the task
    list gets only what the turn itself queued. -/
theorem retryDue_holds (r : Realm) (x : Retry) (ha : (retryOut r x).again = true) :
    (r.retryDue x).tasks = r.tasks ++ retryTasks r x ∧ (r.retryDue x).inbox = r.inbox ∧
    (r.retryDue x).deferred = r.deferred := by
  rw [retryDue_eq]
  simp only [ha, if_true, retryMid, dapplyD_inbox, dapplyD_deferred, dapplyD_tasks, retryTasks, List.append_assoc]
  exact ⟨trivial, trivial, trivial⟩

theorem busy_of_mem {r : Realm} {x : Retry} (h : x ∈ r.retries) : r.busy x.callee = true :=
  busy_iff.mpr ⟨x, h, rfl⟩

end Realm
end Nexus.L2
