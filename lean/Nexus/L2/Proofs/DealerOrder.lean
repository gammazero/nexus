/-
  Ordering facts about runs of the dealer model (property C08, dealer half): a run cut in two (`Run.split`,
  `Run.head`), the per-recipient message stream of a run (`outStream`), the reply stream of one call (`replyStream`),
  and the steps of a run as blocks towards one call (`Run.blocks`).
-/
import Nexus.L2.Proofs.DealerFrame

namespace Nexus.L2
open Gen.N

theorem Run.split {s s' : DState} : ∀ {tr1 tr2 : List (DState × DOut)}, Run s (tr1 ++ tr2) s' →
    ∃ m, Run s tr1 m ∧ Run m tr2 s'
  | [], _, h => ⟨s, Run.nil s, h⟩
  | p :: tr1, tr2, h => by
    cases h with
    | cons st rest =>
      obtain ⟨m, h1, h2⟩ := Run.split rest
      exact ⟨m, Run.cons st h1, h2⟩

theorem Run.head {s s' : DState} {p : DState × DOut} {tr : List (DState × DOut)} (h : Run s (p :: tr) s') :
    p.1 = s ∧ DStep s p.2 ∧ Run p.2.st tr s' := by
  cases h with
  | cons st rest => exact ⟨rfl, st, rest⟩

theorem Run.gen_mono {s s' : DState} {tr : List (DState × DOut)} (run : Run s tr s') (h : DealerInv s) (k : SessKey) :
    genOf s.invGen k ≤ genOf s'.invGen k := by
  induction run with
  | nil => exact Nat.le_refl _
  | cons st _ ih => exact Nat.le_trans ((st.frame h).gen k) (ih (st.inv h))

def outStream (k : SessKey) (tr : List (DState × DOut)) : List Msg :=
  tr.flatMap (fun p => (p.2.sends.filter (fun x => x.to == k)).map (·.msg))

theorem outStream_append (k : SessKey) (a b : List (DState × DOut)) :
    outStream k (a ++ b) = outStream k a ++ outStream k b := by
  simp [outStream]

theorem outStream_cons (k : SessKey) (p : DState × DOut) (b : List (DState × DOut)) :
    outStream k (p :: b) = (p.2.sends.filter (fun x => x.to == k)).map (·.msg) ++ outStream k b := by
  simp [outStream]

def replyStream (c : ReqId) (tr : List (DState × DOut)) : List Send :=
  tr.flatMap (fun p => repliesFor c p.2.sends)

theorem replyStream_cons (c : ReqId) (p : DState × DOut) (b : List (DState × DOut)) :
    replyStream c (p :: b) = repliesFor c p.2.sends ++ replyStream c b := by
  simp [replyStream]

/-- the steps of a dealer run in which no CALL step opens `c` anew, as blocks towards `c` -/
theorem Run.blocks {s s' : DState} {tr : List (DState × DOut)} (c : ReqId) (run : Run s tr s') :
    DealerInv s → (∀ p ∈ tr, IsCallStep p.1 p.2 c → c ∈ p.1.d.calls) →
    Blocks (c ∈ s.d.calls) (tr.map fun p => repliesFor c p.2.sends) (c ∈ s'.d.calls) := by
  induction run with
  | nil s => exact fun _ _ => .nil _
  | @cons s o tr s' st _ ih =>
    intro h hno
    have hr := st.replyOK h c
    have hcall : c ∈ s.d.calls ∨ IsCallStep s o c → c ∈ s.d.calls :=
      fun hx => hx.elim id (hno (s, o) (List.mem_cons_self ..))
    exact .cons hr.one (fun hne => hcall (hr.known hne)) hr.final' (fun hc => hcall (st.calls_sub h c hc))
      (ih (st.inv h) fun p hp => hno p (List.mem_cons_of_mem _ hp))

end Nexus.L2
