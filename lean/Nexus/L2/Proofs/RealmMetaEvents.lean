/-
  Which meta events a state change produces: the exact send lists of SUBSCRIBE / UNSUBSCRIBE and of a
  session's departure (`Departure`), and the exact `metaPubs` of REGISTER, case by case (those of UNREGISTER:
  `C18_events_unregister`).

  A meta event leaves the router in one of two ways, whence "send lists" here and `metaPubs` there.  The broker
  announces a subscription change itself (broker.go `syncPubSubMeta`, `Broker.metaEvent`): the EVENTs to the
  subscribers of the meta topic are among the sends of the very action that changed the table.  Who receives them:
  BrokerMetaEvent; a departure as a whole: `C18_events_departure`.  The dealer and the realm hand a PUBLISH to the
  meta session instead (dealer.go `d.metaPeer.Send() <- pub`, realm.go `r.metaPeer.Send()`): the dealer's action
  returns `DOut.metaPubs`, and these, like the on_join / on_leave of `Realm.join` / `Realm.leave` and the
  testaments, become `Task.metaPub` tasks, run later by `metaPublish`.  Which are queued: here (REGISTER),
  `C18_events_unregister`, LeaveRegEvents (departure), `C18_events_join`, `C18_events_leave`; what running one
  does: MetaPublish and `C18_session_events_published`.  A new meta event follows one of the two.

  `Departure` is the broker's part only — a session taken out of its subscriptions by `syncRemoveSession` —, not
  the whole departure of a session (`Realm.leave`).
-/
import Nexus.L2.Proofs.RealmRefsBroker
import Nexus.L2.Proofs.DealerSteps

namespace Nexus.L2
open Gen.N

theorem removeMembers_cons (b : Broker) (k : SessKey) (p id : Nat) (ids : List Nat) :
    b.removeMembers k p (id :: ids) =
      (((b.removeMember k id p).1.removeMembers k (p + (b.removeMember k id p).2.2) ids).1,
       (b.removeMember k id p).2.1 ++ ((b.removeMember k id p).1.removeMembers k (p + (b.removeMember k id p).2.2) ids).2.1,
       (b.removeMember k id p).2.2 + ((b.removeMember k id p).1.removeMembers k (p + (b.removeMember k id p).2.2) ids).2.2) := rfl

/-- `Departure k b p ids b' sends n`: starting from broker `b` with `p` publication ids drawn, session `k`
    is taken out of the subscriptions `ids` one after the other; `sends` is, subscription by
    subscription in that order, `on_unsubscribe` followed by `on_delete` iff the subscription was
    deleted (each computed in the broker state reached so far, with consecutive publication ids) —
    and nothing else; `b'` is the final broker, `n` the number of publication ids drawn. -/
inductive Departure (k : SessKey) : Broker → Nat → List Nat → Broker → List Send → Nat → Prop
  | done (b : Broker) (p : Nat) : Departure k b p [] b [] 0
  | member {b : Broker} {p id : Nat} {ids : List Nat} {sub : Sub} {b' : Broker} {ss : List Send} {n : Nat} :
      b.findId id = some sub →
      Departure k (afterDepart b k sub) (p + departCount b k sub) ids b' ss n →
      Departure k b p (id :: ids) b' (departEvents b k sub p ++ ss) (departCount b k sub + n)

theorem removeMembers_departure (k : SessKey) : ∀ (ids : List Nat) (b : Broker) (p : Nat), ids.Nodup →
    (∀ id ∈ ids, (b.findId id).isSome = true) →
    Departure k b p ids (b.removeMembers k p ids).1 (b.removeMembers k p ids).2.1 (b.removeMembers k p ids).2.2
  | [], b, p, _, _ => Departure.done b p
  | id :: ids, b, p, hn, hall => by
    obtain ⟨sub, hf⟩ := Option.isSome_iff_exists.mp (hall id (List.mem_cons_self ..))
    have hid : sub.id = id := (findId_some hf).2
    rw [removeMembers_cons, removeMember_sends hf]
    refine Departure.member hf (removeMembers_departure k ids _ _ (List.nodup_cons.mp hn).2 ?_)
    intro id' hid'
    have hne : id' ≠ sub.id := by
      rw [hid]; rintro rfl; exact (List.nodup_cons.mp hn).1 hid'
    rw [findId_afterDepart_ne b k sub hne]
    exact hall id' (List.mem_cons_of_mem _ hid')

theorem syncRemoveSession_departure {b : Broker} (hb : BrokerInv b) {k : SessKey} (p : Nat) {ids : List Nat}
    (hg : idxGet b.index k = some ids) :
    ids.Nodup ∧ (∀ id, id ∈ ids ↔ b.isMember k id) ∧
    Departure k { b with index := idxDrop b.index k } p ids
      (b.syncRemoveSession k p).1 (b.syncRemoveSession k p).2.1 (b.syncRemoveSession k p).2.2 := by
  have hids : ids.Nodup := hb.index_wf.ids _ ((idxGet_eq_some hb.index_wf.keys).1 hg)
  have hmem : ∀ id, id ∈ ids ↔ b.isMember k id := by
    intro id
    rw [← hb.index_iff]; unfold idxRel; rw [hg]; simp
  refine ⟨hids, hmem, ?_⟩
  rw [syncRemoveSession_some p hg]
  refine removeMembers_departure k ids _ p hids ?_
  intro id hid
  obtain ⟨s, hs, hsid, _⟩ := (hmem id).mp hid
  show (b.subs.find? (fun s => s.id == id)).isSome = true
  rw [List.find?_isSome]
  exact ⟨s, hs, by simpa using hsid⟩

variable {s : DState} {callee : SessKey} {req : Nat} {proc m invoke : String} {disclose fwd wampURI : Bool}

theorem syncRegister_create (hf : s.d.findProc proc (matchKind m) = none) :
    (syncRegister s callee req proc m invoke disclose fwd wampURI).sends = [⟨callee, .registered req (s.d.nextReg + 1)⟩] ∧
    (syncRegister s callee req proc m invoke disclose fwd wampURI).metaPubs =
      if wampURI then [] else
        [ { topic := MetaEventRegOnCreate, args := [sidVal callee, regDetailsDict (s.d.nextReg + 1) proc m invoke] },
          { topic := MetaEventRegOnRegister, args := [sidVal callee, .int (s.d.nextReg + 1)] } ] :=
  syncRegister_cases (P := fun o => o.sends = _ ∧ o.metaPubs = _) s callee req proc m invoke disclose fwd wampURI
    (fun _ => ⟨rfl, rfl⟩) (fun _ h => nomatch hf.symm.trans h) (fun _ h => nomatch hf.symm.trans h)

theorem syncRegister_refused {reg : Reg} (hf : s.d.findProc proc (matchKind m) = some reg)
    (hr : reg.policy = "" ∨ reg.policy = InvokeSingle ∨ reg.policy ≠ invoke ∨ callee ∈ reg.callees) :
    syncRegister s callee req proc m invoke disclose fwd wampURI =
      { st := s, sends := [⟨callee, errMsg tREGISTER req ErrProcedureAlreadyExists⟩] } :=
  syncRegister_cases (P := fun o => o = _) s callee req proc m invoke disclose fwd wampURI
    (fun h => nomatch hf.symm.trans h) (fun _ _ _ => rfl) fun reg' h' hpol hinv hcal => by
      cases hf.symm.trans h'
      rcases hr with h | h | h | h
      · exact absurd (.inl h) hpol
      · exact absurd (.inr h) hpol
      · exact absurd hinv h
      · exact absurd h hcal

theorem syncRegister_shared {reg : Reg} (hf : s.d.findProc proc (matchKind m) = some reg)
    (h1 : reg.policy ≠ "") (h2 : reg.policy ≠ InvokeSingle) (h3 : reg.policy = invoke) (h4 : callee ∉ reg.callees) :
    (syncRegister s callee req proc m invoke disclose fwd wampURI).sends = [⟨callee, .registered req reg.id⟩] ∧
    (syncRegister s callee req proc m invoke disclose fwd wampURI).metaPubs =
      if wampURI then [] else [ { topic := MetaEventRegOnRegister, args := [sidVal callee, .int reg.id] } ] :=
  syncRegister_cases (P := fun o => o.sends = _ ∧ o.metaPubs = _) s callee req proc m invoke disclose fwd wampURI
    (fun h => nomatch hf.symm.trans h)
    (fun reg' h' hr => by
      cases hf.symm.trans h'
      rcases hr with (h | h) | h | h <;> contradiction)
    (fun reg' h' _ _ _ => by cases hf.symm.trans h'; exact ⟨rfl, rfl⟩)

end Nexus.L2
