/-
  What waits in the task list, in `deferred` and in `inbox`.

  `TasksOk P r` (for a predicate `P` on (session, message)):
    * the GOODBYE of a pending kill — carried by its `leave k (.killed g _)` task or, while the
      handler sleeps in the yield retry loop, by the `deferred` entry — is a GOODBYE;
    * an answer of the meta-procedure handler waiting as `metaMsg` task is a YIELD or an ERROR;
    * every message of a client waiting to be read (`inMsg` task, `inbox` entry) satisfies `P`.
  It holds in the state `Realm.create` builds and is kept by every atomic action, provided `P`
  holds for the message an external input `.msg k m` brings (`tasksOk_apply`).
  `KillOk` is the instance `P := True` (used for C08); C02 uses `P k m := .msg k m ∈ ops`.
-/
import Nexus.L2.Proofs.TraceEvents

namespace Nexus.L2.WpE
open Nexus.L2 Nexus.L2.Realm Gen.N
open Nexus.L2.WpC (Grown)

/-- What `TasksOk P` asks of one waiting task. -/
def TOk (P : SessKey → Msg → Prop) : Task → Prop
  | .leave _ (.killed g _) => isGoodbyeMsg g = true
  | .inMsg k m => P k m
  | .metaMsg m => m.isMetaAnswer = true
  | _ => True

/-- a task a handler, a departure, a timer or the dealer may append -/
def NewOk : Task → Prop
  | .leave _ (.killed g _) => isGoodbyeMsg g = true
  | .inMsg .. => False
  | .metaMsg m => m.isMetaAnswer = true
  | _ => True

theorem NewOk.tOk {P : SessKey → Msg → Prop} : ∀ {t : Task}, NewOk t → TOk P t
  | .leave _ mode, h => by cases mode <;> exact h
  | .inMsg .., h => h.elim
  | .metaMsg _, h | .metaPub _, h | .metaInvoke .., h => h

structure TasksOk (P : SessKey → Msg → Prop) (r : Realm) : Prop where
  tasks : ∀ t ∈ r.tasks, TOk P t
  deferred : ∀ d ∈ r.deferred, TOk P (.leave d.1 d.2)
  inbox : ∀ e ∈ r.inbox, P e.1 e.2

abbrev KillOk (r : Realm) : Prop := TasksOk (fun _ _ => True) r

/-- What an action may do to the waiting lists for `TasksOk` to survive (`TG.tasksOk`): `deferred` and `inbox`
    untouched, tasks only appended, each of them `NewOk` (`tasks` is `Grown NewOk r.tasks r'.tasks` spelt out). -/
structure TG (r r' : Realm) : Prop where
  deferred : r'.deferred = r.deferred
  inbox : r'.inbox = r.inbox
  tasks : ∃ ts, r'.tasks = r.tasks ++ ts ∧ ∀ t ∈ ts, NewOk t

theorem TG.refl (r : Realm) : TG r r := ⟨rfl, rfl, Grown.of_eq rfl⟩

theorem TG.trans {a b c : Realm} (h1 : TG a b) (h2 : TG b c) : TG a c :=
  ⟨h2.deferred.trans h1.deferred, h2.inbox.trans h1.inbox, Grown.trans h1.tasks h2.tasks⟩

variable {P : SessKey → Msg → Prop}

theorem TG.tasksOk {r r' : Realm} (h : TG r r') (hk : TasksOk P r) : TasksOk P r' :=
  ⟨Grown.forall h.tasks hk.tasks fun _ => NewOk.tOk, by rw [h.deferred]; exact hk.deferred,
    by rw [h.inbox]; exact hk.inbox⟩

theorem tg_same {r r' : Realm} (hd : r'.deferred = r.deferred) (hi : r'.inbox = r.inbox) (ht : r'.tasks = r.tasks) :
    TG r r' := ⟨hd, hi, Grown.of_eq ht⟩

theorem tg_add {r r' : Realm} (ts : List Task) (hd : r'.deferred = r.deferred) (hi : r'.inbox = r.inbox)
    (ht : r'.tasks = r.tasks ++ ts) (hg : ∀ t ∈ ts, NewOk t) : TG r r' := ⟨hd, hi, ts, ht, hg⟩

theorem tg_setPanic (r : Realm) (p : Option String) : TG r (r.setPanic p) :=
  tg_same (setPanic_frame r p).deferred (setPanic_frame r p).inbox (setPanic_tasks r p)

theorem dmetaTask_good (x : Send) : ∀ t ∈ (dmetaTask x).toList, NewOk t := by
  intro t ht
  unfold dmetaTask at ht
  split at ht
  · split at ht
    · simp only [Option.toList_some, List.mem_singleton] at ht; subst ht; trivial
    · cases ht
  · cases ht

theorem tg_trySend (r : Realm) (s : Send) : TG r (r.trySend s) :=
  tg_add _ (trySend_frame r s).deferred (trySend_frame r s).inbox (dtrySend_tasks r s) (dmetaTask_good s)

theorem tg_deliver : ∀ (ss : List Send) (r : Realm), TG r (r.deliver ss)
  | [], r => TG.refl r
  | s :: ss, r => (tg_trySend r s).trans (tg_deliver ss _)

theorem tg_applyD (r : Realm) (o : DOut) : TG r (r.applyD o) := by
  rw [applyD_eq]
  refine TG.trans ?_ (tg_setPanic _ _)
  have h1 : TG r ({ r with ds := o.st } : Realm) := tg_same rfl rfl rfl
  refine h1.trans ((tg_deliver o.sends _).trans ?_)
  refine tg_add _ rfl rfl rfl ?_
  intro t ht
  rcases List.mem_append.mp ht with h | h
  · obtain ⟨p, _, rfl⟩ := List.mem_map.mp h; trivial
  · obtain ⟨k, _, rfl⟩ := List.mem_map.mp h; trivial

theorem tg_tables (r : Realm) (b : Broker) (n : Nat) (ss : List Send) :
    TG r (({ r with broker := b, pubCount := n } : Realm).deliver ss) :=
  TG.trans (b := ({ r with broker := b, pubCount := n } : Realm)) (tg_same rfl rfl rfl) (tg_deliver _ _)

theorem tg_leaveTask (r : Realm) (k : SessKey) (mode : LeaveMode) (hm : NewOk (.leave k mode)) :
    TG r (r.ended k mode) :=
  tg_add [.leave k mode] rfl rfl rfl (by intro t ht; rw [List.mem_singleton.mp ht]; exact hm)

theorem TG.of_handles {k : SessKey} {m : Msg} {r r' : Realm} (h : Handles k m r r') : TG r r' := by
  cases h with
  | same => exact .refl r
  | reply e => exact tg_trySend r _
  | quit mode hq => exact tg_leaveTask r k _ (by cases mode <;> first | trivial | cases hq)
  | replyQuit e mode hq => exact (tg_trySend r _).trans (tg_leaveTask _ k _ (by cases mode <;> first | trivial | cases hq))
  | dealer st => exact tg_applyD ..
  | yield s hs req opts args kw hm =>
    rw [handleYield_eq]
    dsimp only
    split
    · exact (tg_applyD ..).trans (tg_same rfl rfl rfl)
    · exact tg_applyD ..
  | broker st ack e =>
    split
    · exact (tg_tables r _ _ _).trans (tg_trySend _ _)
    · exact tg_tables r _ _ _

theorem tasksOk_recvMsg {r : Realm} (h : TasksOk P r) (k : SessKey) (m : Msg) (hp : P k m) :
    TasksOk P (r.recvMsg k m) :=
  recvMsg_cases r k m h
    (fun _ _ _ _ _ => ⟨h.tasks, h.deferred, List.forall_mem_append.mpr ⟨h.inbox, List.forall_mem_singleton.mpr hp⟩⟩)
    fun _ _ _ _ => (TG.of_handles (handleMsg_handles ..)).tasksOk h

theorem tg_leave (r : Realm) (k : SessKey) (mode : LeaveMode) : TG r (r.leave k mode) := by
  refine leave_cases r k mode (fun _ => TG.refl r) fun s hf => ?_
  obtain ⟨r', h, e⟩ := leave_walk TG.refl TG.trans tg_trySend (fun _ _ _ _ _ => tg_same rfl rfl rfl) tg_setPanic
    (fun r _ => tg_applyD r _)
    (fun r ts hts => tg_add ts rfl rfl rfl fun t ht => by obtain ⟨p, rfl⟩ := hts t ht; trivial) mode hf
  exact e ▸ h.trans (tg_same rfl rfl rfl)

/-- a meta procedure has run and its answer waits as a `metaMsg` task: the answer is a YIELD or an ERROR, and a kill
    appends departures that carry a GOODBYE -/
theorem tg_metaStep {r : Realm} {proc : String} {req : Nat} {o : Msg × Realm} (e : MetaStep r proc req o) :
    TG r (o.2.addTasks [.metaMsg o.1]) := by
  have ha : NewOk (.metaMsg o.1) := by cases e <;> rfl
  refine TG.trans (b := o.2) ?_ (tg_add [_] rfl rfl rfl (List.forall_mem_singleton.mpr ha))
  cases e with
  | err | same => exact TG.refl r
  | kill =>
    refine tg_add _ rfl rfl rfl ?_
    intro t ht
    obtain ⟨c, _, rfl⟩ := List.mem_map.mp ht
    rfl
  | testaments | modify => exact tg_same rfl rfl rfl

theorem tasksOk_runTask {r : Realm} (h : TasksOk P r) (t : Task) (ht : TOk P t) : TasksOk P (r.runTask t) :=
  runTask_cases r t (fun k m e => tasksOk_recvMsg h k m (show TOk P (.inMsg k m) from e ▸ ht))
    (fun _ _ => (TG.of_handles (handlePublish_handles ..)).tasksOk h)
    (fun _ _ => (TG.of_handles (handleMsg_handles ..)).tasksOk h)
    (fun req reg d a kw _ => metaInvoke_cases r req reg d a kw
      (TG.tasksOk (r := r) (tg_add [_] rfl rfl rfl (List.forall_mem_singleton.mpr rfl)) h)
      fun _ _ e => (tg_metaStep e).tasksOk h)
    (fun k mode e _ => ⟨h.tasks, List.forall_mem_append.mpr ⟨h.deferred,
      List.forall_mem_singleton.mpr (show TOk P (.leave k mode) from e ▸ ht)⟩, h.inbox⟩)
    fun k mode _ _ => (tg_leave r k mode).tasksOk h

theorem tasksOk_stepOp {r : Realm} (h : TasksOk P r) (op : Op) (hop : ∀ k m, op = .msg k m → P k m) :
    TasksOk P (r.stepOp op) :=
  stepOp_cases r op h
    (fun _ _ _ _ _ _ _ _ => TG.tasksOk (r := r) (tg_add [_] rfl rfl rfl (List.forall_mem_singleton.mpr trivial)) h)
    (fun k m e => tasksOk_recvMsg h k m (hop k m e)) (fun _ _ _ _ _ => ⟨h.tasks, h.deferred, h.inbox⟩)
    (fun k _ _ => (tg_leaveTask r k .lost trivial).tasksOk h) (fun _ => ⟨h.tasks, h.deferred, h.inbox⟩)

/-- A turn of the retry loop is no `TG`: when the loop ends it moves the callee's `inbox` and `deferred` entries to
    the task list, where `TOk` asks of them what `TasksOk` asked before. -/
theorem tasksOk_retryDue {r : Realm} (h : TasksOk P r) (x : Retry) : TasksOk P (r.retryDue x) := by
  have h1 : TasksOk P (retryMid r x) :=
    ((tg_same rfl rfl rfl : TG r { r with retries := r.retries.filter (fun y => y.callee != x.callee) }).trans
      (tg_applyD _ _)).tasksOk h
  refine retryDue_cases r x ⟨h1.tasks, h1.deferred, h1.inbox⟩
    ⟨?_, fun d hd => h1.deferred d (List.mem_filter.mp hd).1, fun e he => h1.inbox e (List.mem_filter.mp he).1⟩
  intro t ht
  rcases List.mem_append.mp ht with ht | ht
  · rcases List.mem_append.mp ht with ht | ht
    · exact h1.tasks t ht
    · obtain ⟨d, hd, rfl⟩ := List.mem_map.mp ht
      exact h1.inbox d (List.mem_filter.mp hd).1
  · obtain ⟨d, hd, rfl⟩ := List.mem_map.mp ht
    exact h1.deferred d (List.mem_filter.mp hd).1

theorem tasksOk_apply {r : Realm} (h : TasksOk P r) (a : Act) (ht : ∀ t, a = .task t → r.tasks.head? = some t)
    (hop : ∀ k m, a = .op (.msg k m) → P k m) : TasksOk P (a.apply r) := by
  cases a with
  | op o => exact tasksOk_stepOp h o (fun k m e => hop k m (by rw [e]))
  | task t =>
    exact tasksOk_runTask (r := { r with tasks := r.tasks.tail })
      ⟨fun t ht => h.tasks t (List.mem_of_mem_tail ht), h.deferred, h.inbox⟩ t (h.tasks t (List.mem_of_mem_head? (ht t rfl)))
  | timer t =>
    show TasksOk P (Realm.timerDue _ t)
    unfold Realm.timerDue
    extract_lets ds1 r1
    exact ((tg_same rfl rfl rfl : TG r r1).trans (tg_applyD r1 _)).tasksOk h
  | retry y => exact tasksOk_retryDue (r := { r with now := max r.now y.next }) ⟨h.tasks, h.deferred, h.inbox⟩ y
  | flush =>
    show TasksOk P r.flush.2
    unfold Realm.flush
    exact ⟨h.tasks, h.deferred, h.inbox⟩
  | clock t => exact ⟨h.tasks, h.deferred, h.inbox⟩
  | fuel text => exact (tg_setPanic r _).tasksOk h

theorem killOk_apply {r : Realm} (h : KillOk r) (a : Act) (ht : ∀ t, a = .task t → r.tasks.head? = some t) :
    KillOk (a.apply r) := tasksOk_apply h a ht (fun _ _ _ => trivial)

end Nexus.L2.WpE
