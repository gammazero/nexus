/-
  TimerLive at realm level: in every reachable realm state, every pending, not cancelled invocation served by a
  client session that records a router-side timer has that timer live in the timer table — unless its callee's
  handler currently sits in the retry loop of a non-progress YIELD for that very invocation (`parked`).

  The invariant `TimerInv` is kept by every event of `Acts` (`DealerActs`), hence by `Realm.step`: the dealer
  actions that neither park nor fire let no recorded timer die (`LiveStep … none`), and the three events that touch
  the retry list or the timer table are treated here.

  Restriction to client callees (`Excused`: the meta session is exempt).  The model runs the meta session's YIELDs
  as `metaMsg` tasks without looking at `busy metaKey`, so the meta session can own two retry entries at once, and
  `retryDue` drops all entries of a callee when one of them fires.  For client
  sessions `recvMsg` guarantees one entry at most (`RetryUnique`).
-/
import Nexus.L2.Proofs.DealerActs

namespace Nexus.L2.WpB
open Nexus.L2 Nexus.L2.Realm Nexus.Gen.N

/-- invocation `i` is parked: the handler of its callee sits in the retry loop of a non-progress YIELD for it
    (the YIELD stopped the call's timer; the call ends when the loop ends) -/
def parked (r : Realm) (i : ReqId) : Prop :=
  ∃ x ∈ r.retries, x.callee = i.sess ∧ x.req = i.req ∧ x.progress = false

/-- invocations the liveness invariant does not speak about: those served by the meta session, and the parked ones -/
def Excused (r : Realm) (i : ReqId) : Prop := i.sess = metaKey ∨ parked r i

/-- a client session's handler is in the retry loop at most once -/
def RetryUnique (r : Realm) : Prop :=
  ∀ x ∈ r.retries, ∀ y ∈ r.retries, x.callee = y.callee → x.callee ≠ metaKey → x = y

/-- the hypothesis of the C13 theorems about timeouts.  `uniq` is there for `live`: `retryDue` drops every entry of
    the callee, which un-parks one invocation only if the callee has one entry. -/
structure TimerInv (r : Realm) : Prop where
  live : TimerLive (Excused r) r.ds
  uniq : RetryUnique r

/-- the dealer moved by steps that let no recorded timer die; the retry list is unchanged -/
def Quiet (r r' : Realm) : Prop := r'.retries = r.retries ∧ LiveStep r.ds r'.ds none

theorem Quiet.of_eq {r r' : Realm} (hd : r'.ds = r.ds) (hr : r'.retries = r.retries) : Quiet r r' :=
  ⟨hr, LiveStep.of_eq hd⟩

theorem TimerInv.quiet {r r' : Realm} (h : TimerInv r) (q : Quiet r r') : TimerInv r' := by
  refine ⟨?_, ?_⟩
  · intro i hd
    have := h.live.step0 q.2 i hd
    rcases this with hm | ⟨x, hx, h1, h2, h3⟩
    · exact Or.inl hm
    · exact Or.inr ⟨x, q.1 ▸ hx, h1, h2, h3⟩
  · intro x hx y hy
    rw [q.1] at hx hy
    exact h.uniq x hx y hy

theorem quiet_tasks (r : Realm) (ts : List Task) (en : List SessKey) :
    Quiet r { r with tasks := ts, ending := en } := Quiet.of_eq rfl rfl

/-- one more entry in the retry loop, for a callee that is the meta session or has none yet -/
theorem unique_append {l : List Retry} {x : Retry}
    (hl : ∀ a ∈ l, ∀ b ∈ l, a.callee = b.callee → a.callee ≠ metaKey → a = b)
    (hx : x.callee ≠ metaKey → ∀ a ∈ l, a.callee ≠ x.callee) :
    ∀ a ∈ l ++ [x], ∀ b ∈ l ++ [x], a.callee = b.callee → a.callee ≠ metaKey → a = b := by
  intro a ha b hb hab hne
  rcases List.mem_append.1 ha with ha | ha <;> rcases List.mem_append.1 hb with hb | hb
  · exact hl a ha b hb hab hne
  · rw [List.mem_singleton.1 hb] at hab
    exact absurd hab (hx (fun e => hne (hab.trans e)) a ha)
  · rw [List.mem_singleton.1 ha] at hab hne
    exact absurd hab.symm (hx hne b hb)
  · rw [List.mem_singleton.1 ha, List.mem_singleton.1 hb]

theorem handleYield_tinv {r : Realm} (hi : DealerInv r.ds) (h : TimerInv r) (s : Session)
    (hnb : s.key ≠ metaKey → ∀ x ∈ r.retries, x.callee ≠ s.key) (req : Nat) (opts : Dict) (args : List WVal) (kw : Dict) :
    TimerInv (handleYield r s req opts args kw) := by
  have hstep := syncYield_liveStep (env := r.denv) hi s.key req opts args kw (opts.optFlag OptProgress) true
  unfold handleYield
  extract_lets progress o r1
  have hr1 : r1.retries = r.retries := dapplyD_retries r o
  have hd1 : r1.ds = o.st := applyD_ds r o
  split
  · rename_i hag
    refine ⟨?_, ?_⟩
    · intro i hd
      have hd' : DeadInv o.st i := hd1 ▸ hd
      rcases hstep i hd' with hold | ⟨_, hp, rfl⟩
      · rcases h.live i hold with hm | ⟨x, hx, h1, h2, h3⟩
        · exact Or.inl hm
        · exact Or.inr ⟨x, List.mem_append_left _ (hr1 ▸ hx), h1, h2, h3⟩
      · exact Or.inr ⟨_, List.mem_append_right _ (List.mem_singleton.2 rfl), rfl, rfl, hp⟩
    · exact hr1 ▸ unique_append h.uniq hnb
  · rename_i hag
    refine ⟨?_, fun x hx y hy => h.uniq x (hr1 ▸ hx) y (hr1 ▸ hy)⟩
    intro i hd
    have hd' : DeadInv o.st i := hd1 ▸ hd
    rcases hstep i hd' with hold | ⟨ha, _, _⟩
    · rcases h.live i hold with hm | ⟨x, hx, h1, h2, h3⟩
      · exact Or.inl hm
      · exact Or.inr ⟨x, hr1 ▸ hx, h1, h2, h3⟩
    · exact absurd ha hag

/-- One turn of the retry loop.  If the turn ends the loop (`again = false`) of a non-progress YIELD, the invocation it
    was parked for is gone (`syncYield_final_gone`); otherwise it stays parked under the renewed entry. -/
theorem retryDue_tinv {r : Realm} (hi : DealerInv r.ds) (h : TimerInv r) {x : Retry} (hx : x ∈ r.retries) :
    TimerInv (r.retryDue x) := by
  have hstep : LiveStep r.ds (retryOut r x).st _ :=
    syncYield_liveStep (env := r.denv) hi x.callee x.req x.opts x.args x.kw x.progress
      (decide (r.now - x.start < sendResultDeadlineMs))
  obtain ⟨_, hds, hret, _, _⟩ := retryDue_turn r x
  have hfil : ∀ z ∈ r.retries.filter (fun y => y.callee != x.callee), z ∈ r.retries ∧ z.callee ≠ x.callee :=
    fun z hz => ⟨(List.mem_filter.1 hz).1, by simpa using (List.mem_filter.1 hz).2⟩
  refine ⟨?_, ?_⟩
  · intro i hd
    rw [hds] at hd
    have hkeep : ∀ y ∈ r.retries, y.callee ≠ x.callee → y ∈ (r.retryDue x).retries := fun y hy hne =>
      hret ▸ List.mem_append_left _ (List.mem_filter.2 ⟨hy, by simpa using hne⟩)
    have hrenew : (retryOut r x).again = true → doubled x r.now ∈ (r.retryDue x).retries := fun ha => by
      rw [hret, if_pos ha]
      exact List.mem_append_right _ (List.mem_singleton.2 rfl)
    rcases hstep i hd with hold | ⟨ha, hp, rfl⟩
    · rcases h.live i hold with hm | ⟨y, hy, h1, h2, h3⟩
      · exact Or.inl hm
      · by_cases hyx : y.callee = x.callee
        · by_cases hmeta : y.callee = metaKey
          · exact Or.inl (h1 ▸ hmeta)
          · have hyx' : y = x := h.uniq y hy x hx hyx hmeta
            subst hyx'
            cases hag : (retryOut r y).again
            · -- the loop ended: the invocation is gone
              exfalso
              obtain ⟨w, hw, hid, _⟩ := hd
              have hgone : ∀ w ∈ (retryOut r y).st.d.invs, w.id ≠ ⟨y.callee, y.req⟩ := by
                have := syncYield_final_gone (env := r.denv) hi y.callee y.req y.opts y.args y.kw
                  (decide (r.now - y.start < sendResultDeadlineMs))
                unfold retryOut at hag ⊢
                rw [h3] at hag ⊢
                exact this hag
              apply hgone w hw
              rw [hid]
              cases i
              simp only at h1 h2
              rw [h1, h2]
            · exact Or.inr ⟨_, hrenew hag, h1, h2, h3⟩
        · exact Or.inr ⟨y, hkeep y hy hyx, h1, h2, h3⟩
    · exact Or.inr ⟨_, hrenew ha, rfl, rfl, hp⟩
  · have huniq : ∀ a ∈ r.retries.filter (fun y => y.callee != x.callee),
        ∀ b ∈ r.retries.filter (fun y => y.callee != x.callee), a.callee = b.callee → a.callee ≠ metaKey → a = b :=
      fun a ha b hb => h.uniq a (hfil a ha).1 b (hfil b hb).1
    unfold RetryUnique
    rw [hret]
    cases (retryOut r x).again
    · rw [if_neg Bool.false_ne_true, List.append_nil]
      exact huniq
    · exact unique_append huniq (fun _ z hz => (hfil z hz).2)

theorem timerDue_tinv {r : Realm} (hi : DealerInv r.ds) (h : TimerInv r) {t : Timer} (ht : t ∈ r.ds.timers)
    (hc : t.canceled = false) : TimerInv (r.timerDue t) := by
  have hl := timerFire_liveStep (env := r.denv) hi ht hc ErrTimeout [.str "<text>"]
  refine h.quiet ⟨?_, ?_⟩
  · unfold timerDue
    simp only [dapplyD_retries]
  · rw [timerDue_ds]
    exact hl

theorem Acts.tinv {r r' : Realm} (a : Acts r r') (h : TimerInv r) : TimerInv r' := by
  induction a with
  | refl => exact h
  | same _ e1 e2 ih => exact ih.quiet (Quiet.of_eq e1 e2)
  | act _ _ hl e1 e2 ih => exact ih.quiet ⟨e2, e1 ▸ hl⟩
  | yield s req opts args kw _ hd hnb ih => exact handleYield_tinv hd ih s hnb req opts args kw
  | retry _ hd hx ih => exact retryDue_tinv hd ih hx
  | fire _ hd ht hc ih => exact timerDue_tinv hd ih ht hc

theorem registerMeta_invs : ∀ (ps : List String) (r : Realm), DealerInv r.ds →
    (registerMeta r ps).ds.d.invs = r.ds.d.invs
  | [], _, _ => rfl
  | p :: ps, r, h => by
    unfold registerMeta
    have h1 := syncRegister_inv h metaKey 0 p "" "" true false true (by decide)
    rw [registerMeta_invs ps _ h1]
    obtain ⟨_, _, _, he⟩ := syncRegister_st r.ds metaKey 0 p "" "" true false true
    rw [he]

theorem create_tinv {cfg : Config} {r : Realm} (h : Realm.create cfg = some r) : TimerInv r := by
  have hret := (create_rinv h).retries
  have hinv : r.ds.d.invs = [] := by
    rw [create_some h, registerMeta_invs _ _ (DealerInv.init _ _)]
  refine ⟨?_, ?_⟩
  · rintro i ⟨w, hw, _⟩
    rw [hinv] at hw; cases hw
  · intro x hx
    rw [hret] at hx; cases hx

theorem Reachable.tinv {cfg : Config} {r : Realm} (h : Realm.Reachable cfg r) : TimerInv r := by
  induction h with
  | init h => exact create_tinv h
  | step op hr ih => exact (acts_step hr.inv op).tinv ih

/-- the invariants hold in every state of a tick in which a timed event fires, and at its end -/
theorem Adv.inv {target : Nat} {r r' : Realm} {evs : List (Realm × Realm.Due)} (h : Adv target r evs r') :
    RealmInv r → FuelOnly r.panic → TimerInv r →
      (∀ p ∈ evs, RealmInv p.1 ∧ TimerInv p.1) ∧ RealmInv r' ∧ FuelOnly r'.panic ∧ TimerInv r' := by
  induction h with
  | done _ =>
    intro hi hp ht
    exact ⟨fun _ hp' => (by cases hp'),
      hi.same, hp,
      ht.quiet (Quiet.of_eq rfl rfl)⟩
  | fire hn _ ih =>
    intro hi hp ht
    obtain ⟨f1, f2, f3⟩ := acts_fireDue hi hp hn
    obtain ⟨g1, g2⟩ := ih f1 f2 (f3.tinv ht)
    refine ⟨?_, g2⟩
    intro p hp'
    rcases List.mem_cons.1 hp' with rfl | hp'
    · exact ⟨hi, ht⟩
    · exact g1 p hp'

end Nexus.L2.WpB
