/-
  Confinement of a realm's inputs and outputs to its own sessions (C11).

  `Realm.Conf P r`: every session key the realm `r` can emit output for — the attached
  sessions (`clients`), the owners of the router→client queues (`queues`) and the peers
  closed during the current step (`closedPeers`) — satisfies `P`.

  `Realm.Handled r r'` describes what the message handlers, dealer actions and timed events do to
  the realm (sends, and changes to fields `Conf` does not read); `Conf P` is kept along it, hence by
  every function of `Nexus.L2.Realm` (for a `join` the joining key must satisfy `P`), and
  everything `flush` shows to the outside concerns keys satisfying `P`.
-/
import Nexus.L2.Proofs.RealmHandles
import Nexus.L2.Proofs.RealmWalk

namespace Nexus.L2
namespace Realm
open Gen.N

def Conf (P : SessKey → Prop) (r : Realm) : Prop :=
  (∀ c ∈ r.clients, P c.key) ∧ (∀ q ∈ r.queues, P q.1) ∧ (∀ k ∈ r.closedPeers, P k)

variable {P : SessKey → Prop}

theorem Conf.mono {Q : SessKey → Prop} {r : Realm} (h : Conf P r) (hpq : ∀ k, P k → Q k) : Conf Q r :=
  ⟨fun c hc => hpq _ (h.1 c hc), fun q hq => hpq _ (h.2.1 q hq), fun k hk => hpq _ (h.2.2 k hk)⟩

/-- `r'` is `r` after sends and changes to fields other than `clients`, `queues`, `closedPeers`, `ghosts`:
    all that a message handler, a dealer action or a timed event does to the realm.  A property kept by
    `trySend` and indifferent to the other fields is therefore kept by all of these (`Conf.handled`,
    `QueueInv.handled`).  The constructor `frame` keeps these four fields; `SendFrame` (RealmQueue) is the
    complementary frame: there everything but `queues`, `tasks` and `panic` is kept. -/
inductive Handled : Realm → Realm → Prop
  | refl (r : Realm) : Handled r r
  | send {r r' : Realm} (s : Send) : Handled r r' → Handled r (r'.trySend s)
  | frame {r r' r'' : Realm} (h : Handled r r') (hc : r''.clients = r'.clients := by rfl)
      (hq : r''.queues = r'.queues := by rfl) (hp : r''.closedPeers = r'.closedPeers := by rfl)
      (hg : r''.ghosts = r'.ghosts := by rfl) : Handled r r''

namespace Handled

theorem trans {a b c : Realm} (h1 : Handled a b) (h2 : Handled b c) : Handled a c := by
  induction h2 with
  | refl => exact h1
  | send s _ ih => exact ih.send s
  | frame _ e1 e2 e3 e4 ih => exact ih.frame e1 e2 e3 e4

theorem of_frame {r r' r'' : Realm} (h : Handled r' r'') (hc : r'.clients = r.clients := by rfl)
    (hq : r'.queues = r.queues := by rfl) (hp : r'.closedPeers = r.closedPeers := by rfl)
    (hg : r'.ghosts = r.ghosts := by rfl) : Handled r r'' :=
  ((refl r).frame hc hq hp hg).trans h

theorem setPanic (r : Realm) (p : Option String) : Handled r (r.setPanic p) := by
  unfold Realm.setPanic
  split
  · exact (refl r).frame
  · exact refl r

theorem deliver (ss : List Send) : ∀ r : Realm, Handled r (r.deliver ss) := by
  induction ss with
  | nil => exact refl
  | cons s ss ih => exact fun r => ((refl r).send s).trans (ih _)

theorem applyD (r : Realm) (o : DOut) : Handled r (r.applyD o) := by
  unfold Realm.applyD
  extract_lets r1 r2 r3 r4 r5
  have h2 : Handled r r2 := (deliver o.sends r1).of_frame
  have h5 : Handled r r5 := h2.frame
  exact h5.trans (setPanic r5 o.panic)

theorem handleYield (r : Realm) (s : Session) (req : Nat) (opts : Dict) (args : List WVal) (kw : Dict) :
    Handled r (handleYield r s req opts args kw) := by
  rw [handleYield_eq]
  extract_lets o r'
  split
  · exact (applyD r _).frame
  · exact applyD r _

theorem of_handles {k : SessKey} {m : Msg} {r r' : Realm} (h : Handles k m r r') : Handled r r' := by
  cases h with
  | same => exact .refl r
  | reply e => exact (refl r).send _
  | quit mode _ => exact (refl r).frame
  | replyQuit e mode _ => exact ((refl r).send _).frame
  | dealer st => exact applyD _ _
  | yield s hs req opts args kw hm => exact handleYield ..
  | @broker b' n ss st ack e =>
    have h : Handled r (({ r with broker := b', pubCount := n } : Realm).deliver ss) := (deliver _ _).of_frame
    split
    · exact h.send _
    · exact h

theorem recvMsg (r : Realm) (k : SessKey) (m : Msg) : Handled r (r.recvMsg k m) :=
  recvMsg_cases r k m (refl r) (fun _ _ _ _ _ => (refl r).frame) (fun s _ _ _ => of_handles (handleMsg_handles r s m))

theorem retryDue (r : Realm) (x : Retry) : Handled r (r.retryDue x) := by
  unfold Realm.retryDue
  extract_lets r1 canRetry o r2
  have h2 : Handled r r2 := (applyD r1 o).of_frame
  split <;> exact h2.frame

theorem timerDue (r : Realm) (t : Timer) : Handled r (r.timerDue t) := by
  unfold Realm.timerDue
  extract_lets ds1 r1
  exact (applyD r1 _).of_frame

end Handled

theorem leave_handled {r : Realm} {k : SessKey} {s : Session} (mode : LeaveMode)
    (hf : r.clients.find? (fun c => c.key == k) = some s) : ∃ r', Handled r r' ∧ r.leave k mode = leaveClose r' s :=
  leave_walk .refl .trans (fun r x => (Handled.refl r).send x) (fun r _ _ _ _ => (Handled.refl r).frame)
    Handled.setPanic (fun r _ => .applyD r _) (fun r _ _ => (Handled.refl r).frame) mode hf

theorem Conf.trySend {r : Realm} (h : Conf P r) (s : Send) : Conf P (r.trySend s) := by
  unfold Realm.trySend
  split
  · split <;> exact h
  split
  · unfold Realm.setPanic
    split <;> exact h
  rename_i c hc
  split
  · exact h
  split
  · refine ⟨h.1, fun q' hq' => ?_, h.2.2⟩
    obtain ⟨q, hq, rfl⟩ := List.mem_map.mp hq'
    have := h.2.1 q hq
    split <;> exact this
  · refine ⟨h.1, fun q hq => ?_, h.2.2⟩
    rcases List.mem_append.mp hq with hq | hq
    · exact h.2.1 q hq
    · rw [List.mem_singleton.mp hq]
      exact (find?_key hc).2 ▸ h.1 c (find?_key hc).1

theorem Conf.handled {r r' : Realm} (h : Conf P r) (hh : Handled r r') : Conf P r' := by
  induction hh with
  | refl => exact h
  | send s _ ih => exact ih.trySend s
  | frame _ e1 e2 e3 _ ih =>
    unfold Conf
    rw [e1, e2, e3]
    exact ih

theorem Conf.leave {r : Realm} (h : Conf P r) (k : SessKey) (mode : LeaveMode) : Conf P (r.leave k mode) := by
  refine leave_cases r k mode (fun _ => h) fun s hf => ?_
  obtain ⟨r', hh, e⟩ := leave_handled mode hf
  rw [e]
  have h4 := h.handled hh
  refine ⟨fun c hc => h4.1 c (List.mem_filter.mp hc).1, h4.2.1, fun k' hk' => ?_⟩
  rcases List.mem_append.mp hk' with hk' | hk'
  · exact h4.2.2 k' hk'
  · rw [List.mem_singleton.mp hk']
    exact h.1 s (find?_key hf).1

/-- `Conf` sees the clients through their keys only -/
theorem Conf.of_keys {r r' : Realm} (h : Conf P r) (hc : r'.clients.map (·.key) = r.clients.map (·.key))
    (hq : r'.queues = r.queues) (hp : r'.closedPeers = r.closedPeers) : Conf P r' := by
  refine ⟨fun c hc' => ?_, hq ▸ h.2.1, hp ▸ h.2.2⟩
  have hk : c.key ∈ r.clients.map (·.key) := hc ▸ List.mem_map_of_mem (f := Session.key) hc'
  obtain ⟨c0, h0, e⟩ := List.mem_map.mp hk
  exact e ▸ h.1 c0 h0

theorem Conf.metaEffect {r : Realm} {proc : String} {req : Nat} {o : Msg × Realm} (h : Conf P r)
    (e : MetaStep r proc req o) : Conf P o.2 := by
  cases e with
  | err | same | kill | testaments => exact h
  | modify _ k d => exact h.of_keys (map_update_keys k _ (by intros; rfl) _) rfl rfl

theorem Conf.recvMsg {r : Realm} (h : Conf P r) (k : SessKey) (m : Msg) : Conf P (r.recvMsg k m) :=
  h.handled (.recvMsg r k m)

theorem Conf.runTask {r : Realm} (h : Conf P r) (t : Task) : Conf P (r.runTask t) :=
  runTask_cases r t (fun k m _ => h.recvMsg k m) (fun _ _ => h.handled (.of_handles (handlePublish_handles ..)))
    (fun _ _ => h.handled (.of_handles (handleMsg_handles ..))) 
    (fun req reg d a kw _ => metaInvoke_cases r req reg d a kw h fun _ _ e => (h.metaEffect e).handled (.frame (.refl _)))
    (fun _ _ _ _ => h) fun k mode _ _ => h.leave k mode

theorem Conf.stepOp {r : Realm} (h : Conf P r) (op : Op)
    (hj : ∀ k l d ro c, op = .join k l d ro c → P k) : Conf P (r.stepOp op) := by
  refine stepOp_cases r op h (fun k l d ro c e _ _ => ?_) (fun k m _ => h.recvMsg k m)
    (fun k g _ hg _ => h.of_keys (map_update_keys k g hg.key _) rfl rfl) (fun _ _ _ => h) (fun _ => h)
  have hk := hj k l d ro c e
  refine ⟨fun c hc => ?_, fun q hq => ?_, h.2.2⟩
  · rcases List.mem_append.mp hc with hc | hc
    · exact h.1 c hc
    · rw [List.mem_singleton.mp hc]; exact hk
  · rcases List.mem_append.mp hq with hq | hq
    · exact h.2.1 q hq
    · rw [List.mem_singleton.mp hq]; exact hk

theorem Conf.flush {r : Realm} (h : Conf P r) :
    Conf P r.flush.2 ∧ (∀ q ∈ r.flush.1.out, P q.1) ∧ (∀ k ∈ r.flush.1.closed, P k) := by
  obtain ⟨hq, hk⟩ := flush_sub r
  have pq : ∀ q ∈ r.flush.1.out ++ r.flush.2.queues, P q.1 := fun q hm =>
    (hq q hm).elim (h.2.1 q) fun ⟨_, q0, h0, e⟩ => e ▸ h.2.1 q0 h0
  exact ⟨⟨h.1, fun q hm => pq q (List.mem_append_right _ hm), fun k hm => h.2.2 k (hk k (List.mem_append_right _ hm))⟩,
    fun q hm => pq q (List.mem_append_left _ hm), fun k hm => h.2.2 k (hk k (List.mem_append_left _ hm))⟩

theorem Conf.keeps : Keeps (fun _ => True) (Conf P) where
  task {r _ ts} _ _ h := Conf.runTask (r := { r with tasks := ts }) h _
  timer _ _ h := h.handled (.timerDue ..)
  retry _ _ h := h.handled (.retryDue ..)
  now _ _ h := h
  fuel _ _ h := h.handled (.setPanic ..)
  flush _ h := h.flush.1

theorem Conf.advance : ∀ (fuel : Nat) {r : Realm} (target : Nat), Conf P r → Conf P (advance fuel r target) :=
  Conf.keeps.advance

/-- One external input: the realm stays confined to `P` and everything observed concerns
    sessions satisfying `P` (a joining key must satisfy `P`). -/
theorem Conf.step {r : Realm} (h : Conf P r) (op : Op)
    (hj : ∀ k l d ro c, op = .join k l d ro c → P k) :
    Conf P (r.step op).2 ∧ (∀ q ∈ (r.step op).1.out, P q.1) ∧ (∀ k ∈ (r.step op).1.closed, P k) :=
  step_eq r op ▸ (Conf.keeps.quiesce (h.stepOp op hj)).flush

end Realm
end Nexus.L2
