/-
  publishfilter.go: the filter built by `mkFilter` (model of `NewSimplePublishFilter`) from any
  options dict allows exactly the sessions that are not `ruledOut` (declarative, BrokerSpec).
-/
import Nexus.L2.Proofs.BrokerSpec

namespace Nexus.L2
open Gen.N

theorem mem_idList (opts : Dict) (key : String) (n : Nat) :
    n ∈ idList (opts.get? key) ↔ IsIdOf opts key n := by
  unfold idList IsIdOf
  cases h : opts.get? key with
  | none => simp
  | some v =>
    cases h2 : v.asList with
    | none => simp [h2]
    | some l => simp [h2, List.mem_filterMap]

theorem startsWith_iff_append (pfx k : String) :
    k.startsWith pfx = true ↔ ∃ attr, k = pfx ++ attr := by
  rw [String.startsWith_string_iff]
  constructor
  · rintro ⟨t, ht⟩
    refine ⟨String.ofList t, ?_⟩
    apply String.toList_inj.mp
    simp [String.toList_append, ht]
  · rintro ⟨attr, rfl⟩
    simp [String.toList_append]

theorem drop_prefix (pfx attr : String) : ((pfx ++ attr).drop pfx.length).toString = attr := by
  apply String.toList_inj.mp
  simp [String.toList_append, String.Slice.toString, String.toList_copy_drop, ← String.length_toList]

def strsOf (l : List WVal) : List String :=
  l.filterMap fun x => match x.asString with
    | some s => if s != "" then some s else none
    | none => none

theorem mem_strsOf (l : List WVal) (a : String) : a ∈ strsOf l ↔ a ≠ "" ∧ WVal.str a ∈ l := by
  unfold strsOf
  simp only [List.mem_filterMap]
  constructor
  · rintro ⟨x, hx, h⟩
    cases x <;> simp [WVal.asString] at h
    rename_i s
    obtain ⟨h1, rfl⟩ := h
    exact ⟨h1, hx⟩
  · rintro ⟨h1, h2⟩
    exact ⟨_, h2, by simp [WVal.asString, h1]⟩

theorem attrMap_eq (pfx : String) (opts : Dict) :
    attrMap pfx opts = opts.filterMap fun kv =>
      if kv.1.startsWith pfx then
        match kv.2.asList with
        | some vals => if (strsOf vals).isEmpty then none else some ((kv.1.drop pfx.length).toString, strsOf vals)
        | none => none
      else none := rfl

theorem mem_attrMap (pfx : String) (opts : Dict) (attr : String) (strs : List String) :
    (attr, strs) ∈ attrMap pfx opts ↔
      ∃ v l, (pfx ++ attr, v) ∈ opts ∧ v.asList = some l ∧ strs = strsOf l ∧ strs ≠ [] := by
  rw [attrMap_eq]
  simp only [List.mem_filterMap]
  constructor
  · rintro ⟨⟨k, v⟩, hm, h⟩
    simp only at h
    by_cases hp : k.startsWith pfx = true
    · rw [if_pos hp] at h
      obtain ⟨a, rfl⟩ := (startsWith_iff_append pfx k).mp hp
      cases hl : v.asList with
      | none => simp [hl] at h
      | some l =>
        simp only [hl] at h
        generalize hS : strsOf l = S at h
        cases S with
        | nil => simp at h
        | cons x xs =>
          simp only [List.isEmpty_cons, Bool.false_eq_true, if_false, Option.some.injEq, Prod.mk.injEq] at h
          obtain ⟨h1, h2⟩ := h
          rw [drop_prefix] at h1
          subst h1 h2
          exact ⟨v, l, hm, hl, hS.symm, by simp⟩
    · rw [if_neg hp] at h; simp at h
  · rintro ⟨v, l, hm, hl, rfl, hne⟩
    refine ⟨(pfx ++ attr, v), hm, ?_⟩
    simp only
    rw [if_pos ((startsWith_iff_append pfx _).mpr ⟨attr, rfl⟩), hl]
    simp only
    generalize strsOf l = S at hne
    cases S with
    | nil => exact absurd rfl hne
    | cons x xs =>
      simp only [List.isEmpty_cons, Bool.false_eq_true, if_false]
      rw [drop_prefix]

theorem sessAttr_spec (details : Dict) (attr a : String) :
    (sessAttr details attr = a ∧ a ≠ "") ↔ HasAttr details attr a := by
  unfold sessAttr HasAttr
  cases h : details.get? attr with
  | none =>
    simp only
    constructor
    · rintro ⟨h1, h2⟩; exact absurd h1.symm h2
    · rintro ⟨_, h2⟩; simp at h2
  | some v =>
    cases v with
    | str s =>
      simp only [WVal.asString, Option.getD_some, Option.some.injEq, WVal.str.injEq]
      constructor
      · rintro ⟨rfl, h⟩; exact ⟨h, rfl⟩
      · rintro ⟨h, rfl⟩; exact ⟨rfl, h⟩
    | _ =>
      simp only [WVal.asString]
      constructor
      · rintro ⟨h1, h2⟩; exact absurd h1.symm h2
      · rintro ⟨_, h2⟩; simp at h2

theorem allowed_eq (f : Filter) (sid : Nat) (details : Dict) :
    (f.allowed sid details = true) ↔
      (sid ∉ f.blIDs) ∧ (f.wlIDs = [] ∨ sid ∈ f.wlIDs) ∧
      (∀ e ∈ f.blMap, sessAttr details e.1 = "" ∨ sessAttr details e.1 ∉ e.2) ∧
      (∀ e ∈ f.wlMap, sessAttr details e.1 ≠ "" ∧ sessAttr details e.1 ∈ e.2) := by
  unfold Filter.allowed
  simp only [Bool.and_eq_true, Bool.not_eq_true', Bool.or_eq_true, List.all_eq_true, List.isEmpty_iff,
    List.contains_iff_mem, beq_iff_eq, bne_iff_ne, ne_eq, and_assoc]
  refine and_congr (by simp) (and_congr Iff.rfl (and_congr ?_ ?_)) <;>
    exact forall₂_congr fun e _ => by simp

theorem blMap_iff (opts : Dict) (details : Dict) :
    (∀ e ∈ attrMap "exclude_" opts, sessAttr details e.1 = "" ∨ sessAttr details e.1 ∉ e.2) ↔
    ¬ ∃ attr v l a, ("exclude_" ++ attr, v) ∈ opts ∧ v.asList = some l ∧
        HasAttr details attr a ∧ WVal.str a ∈ l := by
  constructor
  · rintro h ⟨attr, v, l, a, hm, hl, ha, hin⟩
    obtain ⟨hs, hne⟩ := (sessAttr_spec details attr a).mpr ha
    have hmem : a ∈ strsOf l := (mem_strsOf l a).mpr ⟨hne, hin⟩
    have := h (attr, strsOf l) ((mem_attrMap _ _ _ _).mpr ⟨v, l, hm, hl, rfl, List.ne_nil_of_mem hmem⟩)
    simp only [hs] at this
    rcases this with h1 | h1
    · exact hne h1
    · exact h1 hmem
  · rintro h ⟨attr, strs⟩ he
    obtain ⟨v, l, hm, hl, rfl, _⟩ := (mem_attrMap _ _ _ _).mp he
    simp only
    by_cases h0 : sessAttr details attr = ""
    · exact Or.inl h0
    · right
      intro hin
      apply h
      exact ⟨attr, v, l, sessAttr details attr, hm, hl, (sessAttr_spec _ _ _).mp ⟨rfl, h0⟩,
        ((mem_strsOf l _).mp hin).2⟩

theorem wlMap_iff (opts : Dict) (details : Dict) :
    (∀ e ∈ attrMap "eligible_" opts, sessAttr details e.1 ≠ "" ∧ sessAttr details e.1 ∈ e.2) ↔
    ¬ ∃ attr v l, ("eligible_" ++ attr, v) ∈ opts ∧ v.asList = some l ∧
        (∃ s, s ≠ "" ∧ WVal.str s ∈ l) ∧ ¬ ∃ a, HasAttr details attr a ∧ WVal.str a ∈ l := by
  constructor
  · rintro h ⟨attr, v, l, hm, hl, ⟨s, hs1, hs2⟩, hno⟩
    have hmem : s ∈ strsOf l := (mem_strsOf l s).mpr ⟨hs1, hs2⟩
    obtain ⟨h1, h2⟩ := h (attr, strsOf l) ((mem_attrMap _ _ _ _).mpr ⟨v, l, hm, hl, rfl, List.ne_nil_of_mem hmem⟩)
    simp only at h1 h2
    exact hno ⟨sessAttr details attr, (sessAttr_spec _ _ _).mp ⟨rfl, h1⟩, ((mem_strsOf l _).mp h2).2⟩
  · rintro h ⟨attr, strs⟩ he
    obtain ⟨v, l, hm, hl, rfl, hne⟩ := (mem_attrMap _ _ _ _).mp he
    simp only
    obtain ⟨s, hs⟩ := List.exists_mem_of_ne_nil _ hne
    have hs' := (mem_strsOf l s).mp hs
    apply Classical.byContradiction
    intro hc
    apply h
    refine ⟨attr, v, l, hm, hl, ⟨s, hs'.1, hs'.2⟩, ?_⟩
    rintro ⟨a, ha, hin⟩
    obtain ⟨e1, e2⟩ := (sessAttr_spec details attr a).mpr ha
    apply hc
    rw [e1]
    exact ⟨e2, (mem_strsOf l a).mpr ⟨e2, hin⟩⟩

theorem mkFilter_allowed_iff (opts : Dict) (sid : Nat) (details : Dict) :
    (mkFilter opts).allowed sid details = true ↔ ¬ ruledOut opts sid details := by
  rw [allowed_eq]
  unfold ruledOut
  simp only [not_or]
  have hbl : (mkFilter opts).blIDs = idList (opts.get? "exclude") := rfl
  have hwl : (mkFilter opts).wlIDs = idList (opts.get? "eligible") := rfl
  have hbm : (mkFilter opts).blMap = attrMap "exclude_" opts := rfl
  have hwm : (mkFilter opts).wlMap = attrMap "eligible_" opts := rfl
  rw [hbl, hwl, hbm, hwm, blMap_iff, wlMap_iff, mem_idList, mem_idList]
  refine and_congr Iff.rfl (and_congr ?_ Iff.rfl)
  constructor
  · rintro (h | h) ⟨⟨n, hn⟩, hs⟩
    · have := (mem_idList opts "eligible" n).mpr hn
      rw [h] at this; simp at this
    · exact hs h
  · intro h
    by_cases he : idList (opts.get? "eligible") = []
    · exact Or.inl he
    · right
      obtain ⟨n, hn⟩ := List.exists_mem_of_ne_nil _ he
      apply Classical.byContradiction
      intro hs
      exact h ⟨⟨n, (mem_idList _ _ _).mp hn⟩, hs⟩

end Nexus.L2
