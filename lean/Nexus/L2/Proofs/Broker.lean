/-
  What the broker's four actions (`BStep`, BrokerSpec) compute.  A publication is a fold of `histUpd1` over the
  subscriptions that match the topic (`matching`), with the EVENTs of each match (`eventsFor`) in that order
  (`syncPublish_eq`); SUBSCRIBE, UNSUBSCRIBE and the loop of session removal outcome by outcome, one equation each
  with the exact result.
-/
import Nexus.L2.Broker
import Nexus.L2.Proofs.Keyed

namespace Nexus.L2
open Gen.N

def Sub.matchesTopic (sub : Sub) (topic : String) : Bool :=
  match sub.kind with
  | .exact => sub.topic == topic
  | .pfx => prefixMatch topic sub.topic
  | .wild => wildcardMatch topic sub.topic

/-- `sendTopic`: pattern-based subscriptions get the publication's topic in the details. -/
def Sub.isPattern (sub : Sub) : Bool := sub.kind != .exact

theorem mem_matching (b : Broker) (topic : String) (sub : Sub) (st : Bool) :
    (sub, st) ∈ b.matching topic ↔ sub ∈ b.subs ∧ sub.matchesTopic topic = true ∧ st = sub.isPattern := by
  unfold Broker.matching Sub.matchesTopic Sub.isPattern
  simp only [List.mem_append, List.mem_map, List.mem_filter, Prod.mk.injEq]
  constructor
  · rintro ((⟨a, ⟨ha, hk⟩, rfl, rfl⟩ | ⟨a, ⟨ha, hk⟩, rfl, rfl⟩) | ⟨a, ⟨ha, hk⟩, rfl, rfl⟩)
    · simp only [Bool.and_eq_true, beq_iff_eq] at hk
      refine ⟨ha, ?_, ?_⟩ <;> simp [hk.1, hk.2]
    · simp only [Bool.and_eq_true, beq_iff_eq] at hk
      refine ⟨ha, ?_, ?_⟩ <;> simp [hk.1, hk.2]
    · simp only [Bool.and_eq_true, beq_iff_eq] at hk
      refine ⟨ha, ?_, ?_⟩ <;> simp [hk.1, hk.2]
  · rintro ⟨ha, hm, rfl⟩
    cases hk : sub.kind <;> simp only [hk] at hm ⊢
    · left; left; exact ⟨sub, ⟨ha, by simp [hk, hm]⟩, rfl, by simp⟩
    · left; right; exact ⟨sub, ⟨ha, by simp [hk, hm]⟩, rfl, by simp⟩
    · right; exact ⟨sub, ⟨ha, by simp [hk, hm]⟩, rfl, by simp⟩

def eventsFor (sess : SessKey → Option Session) (p : Publication) (f : Filter) (sub : Sub) (st : Bool) : List Send :=
  sub.members.filterMap fun k =>
    match sess k with
    | some s => if receives p f s then some ⟨k, mkEvent p sub st (some s)⟩ else none
    | none => none

theorem hasHist_iff {b : Broker} {id : Nat} : b.hasHist id = true ↔ ∃ h ∈ b.hist, h.sub = id := by
  unfold Broker.hasHist; simp

/-- the publication carries neither `exclude` nor `eligible` -/
def Publication.unrestricted (p : Publication) : Bool :=
  !(p.opts.contains BlacklistKey) && !(p.opts.contains WhitelistKey)

/-- the history entry `syncPubEvent` stores for subscription `sub` -/
def histEntryOf (p : Publication) (sub : Sub) (st : Bool) (now : Nat) : HistEntry :=
  { pub := p.pubId, sub := sub.id, details := eventDetails p st none, args := p.args, kw := p.kw, time := now }

def histUpd1 (now : Nat) (p : Publication) (h : Hist) (x : Sub × Bool) : Hist :=
  if p.unrestricted && h.sub == x.1.id then h.save (histEntryOf p x.1 x.2 now) else h

theorem pubEvent_eq (b : Broker) (sess : SessKey → Option Session) (now : Nat) (p : Publication)
    (f : Filter) (sub : Sub) (st : Bool) :
    b.pubEvent sess now p f sub st =
      ({ b with hist := b.hist.map (fun h => histUpd1 now p h (sub, st)) }, eventsFor sess p f sub st) := by
  unfold Broker.pubEvent eventsFor
  refine Prod.ext ?_ rfl
  dsimp only
  split
  · rename_i hc
    have hu : p.unrestricted = true := by
      simp only [Bool.and_eq_true] at hc
      exact Bool.and_eq_true _ _ ▸ ⟨hc.1.2, hc.2⟩
    simp [histUpd1, hu, histEntryOf]
  · rename_i hc
    -- no store of `sub`, or a restricted publication: every store stays as it is
    have : b.hist.map (fun h => histUpd1 now p h (sub, st)) = b.hist := by
      conv => rhs; rw [← List.map_id b.hist]
      refine List.map_congr_left fun h hm => if_neg fun hh => hc ?_
      simp only [Bool.and_eq_true, beq_iff_eq] at hh
      rw [hasHist_iff.mpr ⟨h, hm, hh.2⟩]
      exact hh.1
    rw [this]

theorem pubEvents_eq (sess : SessKey → Option Session) (now : Nat) (p : Publication) (f : Filter) :
    ∀ (l : List (Sub × Bool)) (b : Broker),
      b.pubEvents sess now p f l =
        ({ b with hist := b.hist.map (fun h => l.foldl (histUpd1 now p) h) },
         l.flatMap (fun x => eventsFor sess p f x.1 x.2))
  | [], b => by simp [Broker.pubEvents]
  | (sub, st) :: rest, b => by
    simp only [Broker.pubEvents, pubEvent_eq, pubEvents_eq sess now p f rest, List.flatMap_cons, List.foldl_cons,
      List.map_map]
    rfl

theorem syncPublish_eq (b : Broker) (sess : SessKey → Option Session) (now : Nat) (p : Publication) :
    b.syncPublish sess now p =
      ({ b with hist := b.hist.map (fun h => (b.matching p.topic).foldl (histUpd1 now p) h) },
       (b.matching p.topic).flatMap (fun x => eventsFor sess p (mkFilter p.opts) x.1 x.2)) :=
  pubEvents_eq sess now p _ _ b

theorem syncPublish_sends (b : Broker) (sess : SessKey → Option Session) (now : Nat) (p : Publication) :
    (b.syncPublish sess now p).2 =
      (b.matching p.topic).flatMap (fun x => eventsFor sess p (mkFilter p.opts) x.1 x.2) := by
  rw [syncPublish_eq]

theorem syncPublish_tables (b : Broker) (sess : SessKey → Option Session) (now : Nat) (p : Publication) :
    (b.syncPublish sess now p).1.subs = b.subs ∧
    (b.syncPublish sess now p).1.index = b.index ∧
    (b.syncPublish sess now p).1.nextSub = b.nextSub := by
  rw [syncPublish_eq]; exact ⟨rfl, rfl, rfl⟩

theorem syncPublish_hist (b : Broker) (sess : SessKey → Option Session) (now : Nat) (p : Publication) :
    (b.syncPublish sess now p).1.hist =
      b.hist.map (fun h => (b.matching p.topic).foldl (histUpd1 now p) h) := by
  rw [syncPublish_eq]

theorem findId_some {b : Broker} {id : Nat} {s : Sub}
    (h : b.findId id = some s) : s ∈ b.subs ∧ s.id = id :=
  find?_key_some (f := fun s : Sub => s.id) h

theorem findId_none {b : Broker} {id : Nat} : b.findId id = none ↔ ∀ s ∈ b.subs, s.id ≠ id :=
  find?_key_eq_none (f := fun s : Sub => s.id)

/-- the table after `setSub s`: `s` in the place of the entry with its id, if there is one -/
theorem Broker.mem_subs_setSub {b : Broker} {s t : Sub} :
    t ∈ (b.setSub s).subs ↔ (t = s ∧ ∃ x ∈ b.subs, x.id = s.id) ∨ (t ∈ b.subs ∧ t.id ≠ s.id) :=
  (mem_map_replace (f := fun x : Sub => x.id)).trans Or.comm

/-- `setSub s` keeps whatever `s` shares with the entry it replaces -/
theorem Broker.setSub_map {α : Type} {b : Broker} {s : Sub} (f : Sub → α) (h : ∀ x ∈ b.subs, x.id = s.id → f s = f x) :
    (b.setSub s).subs.map f = b.subs.map f :=
  map_update_map_eq (f := fun x : Sub => x.id) (u := fun _ => s) h

/-! SUBSCRIBE, UNSUBSCRIBE and one iteration of the loop in `syncRemoveSession` (`Broker.removeMember`), outcome by
    outcome: the broker each outcome leaves (`afterJoin`, `afterCreate`, `afterDepart`) and one equation per outcome.
    `syncSubscribe_spec` and `syncUnsubscribe_spec` are the case distinctions over them. -/

def newSub (b : Broker) (k : SessKey) (topic m : String) : Sub :=
  { id := b.nextSub + 1, topic := topic, «match» := m, members := [k] }

def afterCreate (b : Broker) (k : SessKey) (topic m : String) : Broker :=
  { b with subs := b.subs ++ [newSub b k topic m], nextSub := b.nextSub + 1, index := idxAdd b.index k (b.nextSub + 1) }

def afterJoin (b : Broker) (k : SessKey) (sub : Sub) : Broker :=
  { b.setSub { sub with members := sub.members ++ [k] } with
      index := idxAdd (b.setSub { sub with members := sub.members ++ [k] }).index k sub.id }

theorem syncSubscribe_create {b : Broker} {k : SessKey} {req : Nat} {topic m : String} {p : Nat}
    (hf : b.findTopic topic (matchKind m) = none) :
    b.syncSubscribe k req topic m p =
      (afterCreate b k topic m,
       [⟨k, .subscribed req (b.nextSub + 1)⟩] ++
         (afterCreate b k topic m).metaEvent MetaEventSubOnCreate (pubBase + p) k [sidVal k, subDetailsDict (newSub b k topic m)] ++
         (afterCreate b k topic m).metaEvent MetaEventSubOnSubscribe (pubBase + p + 1) k [sidVal k, .int (b.nextSub + 1)], 2) := by
  unfold Broker.syncSubscribe
  rw [hf]
  rfl

theorem syncSubscribe_join_sends {b : Broker} {k : SessKey} {req : Nat} {topic m : String} {p : Nat} {sub : Sub}
    (hf : b.findTopic topic (matchKind m) = some sub) (hk : k ∉ sub.members) :
    b.syncSubscribe k req topic m p =
      (afterJoin b k sub,
       [⟨k, .subscribed req sub.id⟩] ++
         (afterJoin b k sub).metaEvent MetaEventSubOnSubscribe (pubBase + p) k [sidVal k, .int sub.id], 1) := by
  unfold Broker.syncSubscribe
  rw [hf]
  exact if_neg (mt List.contains_iff_mem.mp hk)

theorem syncSubscribe_again {b : Broker} {k : SessKey} {req : Nat} {topic m : String} {p : Nat} {sub : Sub}
    (hf : b.findTopic topic (matchKind m) = some sub) (hk : k ∈ sub.members) :
    b.syncSubscribe k req topic m p = (b, [⟨k, .subscribed req sub.id⟩], 0) := by
  unfold Broker.syncSubscribe
  rw [hf]
  exact if_pos (List.contains_iff_mem.mpr hk)

theorem Broker.syncSubscribe_spec (b : Broker) (k : SessKey) (req : Nat) (topic m : String) (pub0 : Nat) :
    (∃ sub, b.findTopic topic (matchKind m) = some sub ∧ k ∈ sub.members ∧
      b.syncSubscribe k req topic m pub0 = (b, [⟨k, .subscribed req sub.id⟩], 0)) ∨
    (∃ sub, b.findTopic topic (matchKind m) = some sub ∧ k ∉ sub.members ∧
      b.syncSubscribe k req topic m pub0 =
        (afterJoin b k sub, ⟨k, .subscribed req sub.id⟩ ::
          (afterJoin b k sub).metaEvent MetaEventSubOnSubscribe (pubBase + pub0) k [sidVal k, .int sub.id], 1)) ∨
    (b.findTopic topic (matchKind m) = none ∧
      b.syncSubscribe k req topic m pub0 =
        (afterCreate b k topic m, ⟨k, .subscribed req (b.nextSub + 1)⟩ ::
          ((afterCreate b k topic m).metaEvent MetaEventSubOnCreate (pubBase + pub0) k
              [sidVal k, subDetailsDict (newSub b k topic m)] ++
           (afterCreate b k topic m).metaEvent MetaEventSubOnSubscribe (pubBase + pub0 + 1) k
              [sidVal k, .int (b.nextSub + 1)]), 2)) := by
  cases hf : b.findTopic topic (matchKind m) with
  | none => exact .inr (.inr ⟨rfl, syncSubscribe_create hf⟩)
  | some sub =>
    by_cases hk : k ∈ sub.members
    · exact .inl ⟨sub, rfl, hk, syncSubscribe_again hf hk⟩
    · exact .inr (.inl ⟨sub, rfl, hk, syncSubscribe_join_sends hf hk⟩)

def departDeletes (b : Broker) (k : SessKey) (sub : Sub) : Bool :=
  (sub.members.filter (· != k)).isEmpty && !b.hasHist sub.id

def afterDepart (b : Broker) (k : SessKey) (sub : Sub) : Broker :=
  if departDeletes b k sub then b.delSub sub.id
  else b.setSub { sub with members := sub.members.filter (· != k) }

def departEvents (b : Broker) (k : SessKey) (sub : Sub) (p : Nat) : List Send :=
  (afterDepart b k sub).metaEvent MetaEventSubOnUnsubscribe (pubBase + p) k [sidVal k, .int sub.id] ++
    (if departDeletes b k sub
     then (afterDepart b k sub).metaEvent MetaEventSubOnDelete (pubBase + p + 1) k [sidVal k, .int sub.id] else [])

def departCount (b : Broker) (k : SessKey) (sub : Sub) : Nat := if departDeletes b k sub then 2 else 1

theorem afterDepart_fields (b : Broker) (k : SessKey) (sub : Sub) :
    (afterDepart b k sub).hist = b.hist ∧ (afterDepart b k sub).nextSub = b.nextSub ∧
    (afterDepart b k sub).index = b.index := by
  unfold afterDepart; split <;> exact ⟨rfl, rfl, rfl⟩

/-- UNSUBSCRIBE by a member does to the subscription what a departure does, and says so in the same events -/
theorem syncUnsubscribe_member {b : Broker} {k : SessKey} {req subId p : Nat} {sub : Sub}
    (hf : b.findId subId = some sub) (hk : k ∈ sub.members) :
    b.syncUnsubscribe k req subId p =
      ({ afterDepart b k sub with index := idxDel b.index k subId },
       ⟨k, .unsubscribed req⟩ :: departEvents b k sub p, departCount b k sub) := by
  obtain rfl := (findId_some hf).2
  rw [← (afterDepart_fields b k sub).2.2]
  unfold Broker.syncUnsubscribe departEvents departCount afterDepart departDeletes
  rw [hf]
  simp only [List.contains_iff_mem.mpr hk, Bool.not_true, Bool.false_eq_true, if_false]
  by_cases hd : ((sub.members.filter (· != k)).isEmpty && !b.hasHist sub.id) = true
  · simp only [hd, if_true]; rfl
  · simp only [hd, Bool.false_eq_true, if_false, List.append_nil]; rfl

theorem syncUnsubscribe_err_state (b : Broker) (k : SessKey) (req subId pub0 : Nat)
    (h : ∀ sub, b.findId subId = some sub → k ∉ sub.members) :
    b.syncUnsubscribe k req subId pub0 = (b, [⟨k, errMsg tUNSUBSCRIBE req ErrNoSuchSubscription⟩], 0) := by
  unfold Broker.syncUnsubscribe
  cases hf : b.findId subId with
  | none => rfl
  | some sub => exact if_pos (by simpa using h sub hf)

theorem Broker.syncUnsubscribe_spec (b : Broker) (k : SessKey) (req subId pub0 : Nat) :
    ((∀ sub, b.findId subId = some sub → k ∉ sub.members) ∧
      b.syncUnsubscribe k req subId pub0 = (b, [⟨k, errMsg tUNSUBSCRIBE req ErrNoSuchSubscription⟩], 0)) ∨
    (∃ sub, b.findId subId = some sub ∧ k ∈ sub.members ∧
      b.syncUnsubscribe k req subId pub0 =
        ({ afterDepart b k sub with index := idxDel b.index k subId },
         ⟨k, .unsubscribed req⟩ :: departEvents b k sub pub0, departCount b k sub)) := by
  by_cases h : ∃ sub, b.findId subId = some sub ∧ k ∈ sub.members
  · obtain ⟨sub, hf, hk⟩ := h
    exact .inr ⟨sub, hf, hk, syncUnsubscribe_member hf hk⟩
  · exact .inl ⟨fun sub hf hk => h ⟨sub, hf, hk⟩, syncUnsubscribe_err_state b k req subId pub0 fun sub hf hk => h ⟨sub, hf, hk⟩⟩

theorem removeMember_sends {b : Broker} {k : SessKey} {subId p : Nat} {sub : Sub} (hf : b.findId subId = some sub) :
    b.removeMember k subId p = (afterDepart b k sub, departEvents b k sub p, departCount b k sub) := by
  obtain rfl := (findId_some hf).2
  unfold Broker.removeMember departEvents departCount afterDepart departDeletes
  rw [hf]
  simp only
  by_cases hd : ((sub.members.filter (· != k)).isEmpty && !b.hasHist sub.id) = true
  · simp only [hd, if_true]
  · simp only [hd, Bool.false_eq_true, if_false, List.append_nil]

theorem removeMember_unknown {b : Broker} {k : SessKey} {subId p : Nat} (hf : b.findId subId = none) :
    b.removeMember k subId p = (b, [], 0) := by
  unfold Broker.removeMember
  rw [hf]

theorem syncRemoveSession_none {b : Broker} {k : SessKey} (p : Nat) (hg : idxGet b.index k = none) :
    b.syncRemoveSession k p = (b, [], 0) := by
  unfold Broker.syncRemoveSession
  rw [hg]

theorem syncRemoveSession_some {b : Broker} {k : SessKey} (p : Nat) {ids : List Nat} (hg : idxGet b.index k = some ids) :
    b.syncRemoveSession k p = Broker.removeMembers { b with index := idxDrop b.index k } k p ids := by
  unfold Broker.syncRemoveSession
  rw [hg]

end Nexus.L2
