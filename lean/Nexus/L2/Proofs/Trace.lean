/-
  The ghost trace of a realm history.

  `Realm.step r op` runs one external input and then every internal task it caused, every timed
  event of a `tick` at its own instant, and finally lets the clients read (`flush`).  Here the
  sequence of atomic actions it performs is made explicit, as a function of the state and the input:

      traceStep r op : List Rec          Rec = (state the action starts in, the action)
      traceHist r ops                    the same along a list of inputs

  An action is an external input reaching its handler (`.op`), an internal task (`.task`), a call
  timer firing (`.timer`), a turn of the yield retry loop (`.retry`), the clients reading (`.flush`),
  the clock being set at the end of a tick (`.clock`) or the model's fuel running out (`.fuel`).
  `Rec.post` is the state the action ends in; consecutive records chain (`Chain`), and the chain of
  `traceStep r op` leads from `r` to `(r.step op).2` (`chain_step`, `chain_hist`).

  Each record has a script (`Rec.script`, Nexus/L2/Proofs/Script.lean): the broker steps, the dealer
  steps and the offers to `trySend` of the action, given explicitly.  `Rec.spec`: the action changes broker,
  publication counter and dealer state by its script, and — every action but `flush` — the queue table by handing
  the offers to `trySend`, plus the empty queue a fresh `join` creates (`Rec.newQueue`); these are the clauses of
  `Spec`, stated one by one.  `Rec.call?` and `Rec.pub?` read off an action the CALL it handles and the publication
  it hands to the broker, if any.

  To prove a property of histories, start from
    * `chain_hist ops r : Chain r (traceHist r ops) (runOps r ops)`, for any `r`, with `Chain.invariant` (what every
      record keeps holds where every action starts, and at the end) or an induction over `Chain`;
    * `traceHist_forall`: what the records are (the inputs of the history, the oldest task, …; `Rec.wf`, TraceInv.lean);
    * per record `x`: `x.spec`, and `x.form` (TraceEvents.lean: which of nine forms script, CALL and publication
      have), used by inversion —
          have h := x.form; generalize x.script = sc, x.call? = c?, x.pub? = p? at h ⊢; cases h
      (`cases` wants variables as indices; after `rw [hc] at h` with `hc : x.call? = some c` only the form with a
      CALL survives, by its index alone);
    * along a history: `hist_tables` (here); `hist_inv`, `hist_evOk`, `hist_entries`, `read_src` (TraceInv.lean);
      `hist_tasksOk`, `chain_episode` (TraceReplies.lean); `retained_trace` (TracePubs.lean).  `hist_inv` and
      `hist_evOk` are invariants and start from any `Realm.Reachable` state; `hist_entries`, `read_src` and
      `hist_tasksOk` say that what waits or is read came from this very history, and start from `Realm.create`.
  `Shaped` (Script.lean) beside `Spec`: the handlers are proved `Shaped`, which composes (`Shaped.trans` needs the
  `clients` clause for `deliver_qcongr`); a departure changes `clients`, so a record satisfies `Spec` only
  (`Shaped.spec`), and everything downstream takes `Spec`.
  `Keeps` (RealmWalk.lean) walks the same actions for state predicates, but no lemma carries a `Keeps` instance along
  a trace (`traceHist_forall` lacks the `nextDue` premise of `Keeps.timer`/`retry`): here a one-state invariant
  comes from `x.spec` (`BrokerInv.run`, `Run.inv`: `chain_inv`, `Rec.dinv_post`) or from a lemma over `Act.apply`
  (`tasksOk_apply`, `act_frame`).
-/
import Nexus.L2.Proofs.Script

namespace Nexus.L2.WpE
open Nexus.L2 Nexus.L2.Realm Gen.N
open Nexus.L2.WpA (Trace PubOk bk_run_append)

/-- like `Shaped`, without the session table (a departure removes the session at its very end) -/
structure Spec (r : Realm) (sc : Script) (r' : Realm) : Prop where
  broker : r'.broker = r.broker.run sc.bsteps
  pubs : Trace r.pubCount sc.bsteps r'.pubCount
  dealer : Run r.ds sc.dsteps r'.ds
  queues : r'.queues = (r.deliver sc.offers).queues

theorem Shaped.spec {r r' : Realm} {sc : Script} (h : Shaped r sc r') : Spec r sc r' :=
  ⟨h.broker, h.pubs, h.dealer, h.queues⟩

/-- as `Still`, the session table aside -/
structure Calm (r r' : Realm) : Prop where
  broker : r'.broker = r.broker
  pubCount : r'.pubCount = r.pubCount
  ds : r'.ds = r.ds
  queues : r'.queues = r.queues

theorem Calm.spec {r r' : Realm} (h : Calm r r') : Spec r {} r' :=
  ⟨h.broker, by rw [h.pubCount]; exact Nat.le_refl _, by rw [h.ds]; exact .nil _, h.queues⟩

theorem Spec.refl (r : Realm) : Spec r {} r := (Shaped.refl r).spec

theorem Spec.still_left {a b c : Realm} {s : Script} (h1 : Still a b) (h2 : Spec b s c) : Spec a s c :=
  ⟨by rw [h2.broker, h1.broker], by rw [← h1.pubCount]; exact h2.pubs, by rw [← h1.ds]; exact h2.dealer,
   by rw [h2.queues]; exact deliver_qcongr _ h1.clients h1.queues⟩

theorem spec_leave (r : Realm) (k : SessKey) (mode : LeaveMode) : Spec r (leaveScript r k mode) (r.leave k mode) := by
  unfold leaveScript
  cases hf : r.clients.find? (fun c => c.key == k) with
  | none => rw [leave_none mode hf]; exact Spec.refl r
  | some s =>
    rw [leave_eq mode hf]
    refine ⟨rfl, ?_, .cons (.removeSession _ k) (.nil _), rfl⟩
    show r.pubCount ≤ _
    split
    · exact Nat.le_refl _
    · exact Nat.le_add_right _ _

/-- a call timer fires: it leaves the timer table, and `syncCancel(killnowait, wamp.error.timeout)` runs -/
def timerScript (r : Realm) (t : Timer) : Script :=
  { dsteps := [(r.ds, { st := { r.ds with timers := r.ds.timers.filter (fun y => y.id != t.id) } }),
               ({ r.ds with timers := r.ds.timers.filter (fun y => y.id != t.id) },
                syncCancel r.denv { r.ds with timers := r.ds.timers.filter (fun y => y.id != t.id) } t.caller t.req
                  CancelModeKillNoWait ErrTimeout [.str "<text>"])],
    offers := (syncCancel r.denv { r.ds with timers := r.ds.timers.filter (fun y => y.id != t.id) } t.caller t.req
                  CancelModeKillNoWait ErrTimeout [.str "<text>"]).sends }

theorem shaped_timerDue (r : Realm) (t : Timer) : Shaped r (timerScript r t) (r.timerDue t) := by
  let ds1 : DState := { r.ds with timers := r.ds.timers.filter (fun y => y.id != t.id) }
  let r1 : Realm := { r with ds := ds1 }
  have e : r.timerDue t =
      r1.applyD (syncCancel r1.denv r1.ds t.caller t.req CancelModeKillNoWait ErrTimeout [.str "<text>"]) := rfl
  rw [e]
  have hrun : Run r.ds [(r.ds, ({ st := ds1 } : DOut))] ds1 :=
    .cons (.dropTimers (fun y => y.id != t.id)) (.nil ds1)
  have h1 : Shaped r { dsteps := [(r.ds, { st := ds1 })] } r1 := ⟨rfl, Nat.le_refl _, hrun, rfl, rfl⟩
  have h2 := shaped_applyD r1 (syncCancel r1.denv r1.ds t.caller t.req CancelModeKillNoWait ErrTimeout [.str "<text>"])
    (.cancel ..)
  exact h1.trans h2

/-- one turn of the yield retry loop: `syncYield` again -/
def retryScript (r : Realm) (x : Retry) : Script := dealerScript r (retryOut r x)

theorem shaped_retryDue (r : Realm) (x : Retry) : Shaped r (retryScript r x) (r.retryDue x) := by
  let r0 : Realm := { r with retries := r.retries.filter (fun y => y.callee != x.callee) }
  have h : Shaped r (dealerScript r (retryOut r x)) (retryMid r x) :=
    Shaped.still_left (b := r0) ⟨rfl, rfl, rfl, rfl, rfl⟩ (shaped_applyD r0 (retryOut r x) (.yield ..))
  exact retryDue_cases r x (h.still_right ⟨rfl, rfl, rfl, rfl, rfl⟩) (h.still_right ⟨rfl, rfl, rfl, rfl, rfl⟩)

/-- an internal task (the state is the one with the task already taken off the list) -/
def taskScript (r : Realm) : Task → Script
  | .metaPub p => publishScript r r.metaS 0 p.opts p.topic p.args p.kw
  | .metaInvoke .. => {}
  | .metaMsg m => msgScript r r.metaS m
  | .leave k mode => if r.busy k then {} else leaveScript r k mode
  | .inMsg k m => recvScript r k m

theorem calm_metaStep {r : Realm} {proc : String} {req : Nat} {o : Msg × Realm} (e : MetaStep r proc req o) : Calm r o.2 := by
  cases e <;> exact ⟨rfl, rfl, rfl, rfl⟩

theorem spec_runTask (r : Realm) (t : Task) : Spec r (taskScript r t) (r.runTask t) := by
  cases t with
  | metaPub p => exact (shaped_handlePublish ..).spec
  | metaInvoke req reg details args kw =>
    exact metaInvoke_cases r req reg details args kw (Calm.spec ⟨rfl, rfl, rfl, rfl⟩) fun _ _ e =>
      have c := calm_metaStep e
      Calm.spec ⟨c.broker, c.pubCount, c.ds, c.queues⟩
  | metaMsg m => exact (shaped_handleMsg ..).spec
  | leave k mode =>
    rw [runTask_leave]
    show Spec r (if r.busy k then {} else leaveScript r k mode) _
    split
    · exact Calm.spec ⟨rfl, rfl, rfl, rfl⟩
    · exact spec_leave r k mode
  | inMsg k m => exact (shaped_recvMsg ..).spec

/-- an external input reaching the realm -/
def opScript (r : Realm) : Op → Script
  | .msg k m => recvScript r k m
  | _ => {}

/-- the queue a fresh `join` creates -/
def opQueue (r : Realm) : Op → List (SessKey × List Msg)
  | .join k _ _ _ _ => if k == metaKey || r.clients.any (fun c => c.key == k) then [] else [(k, [])]
  | _ => []

inductive Act where
  /-- an external input reaches the realm (its handler, if it is a message) -/
  | op (op : Op)
  /-- the oldest internal task runs -/
  | task (t : Task)
  /-- a call timer fires, at its deadline -/
  | timer (t : Timer)
  /-- one turn of the yield retry loop, at its time -/
  | retry (x : Retry)
  /-- the clients read -/
  | flush
  /-- the end of a tick: the clock is set -/
  | clock (t : Nat)
  /-- the model's fuel ran out -/
  | fuel (text : String)

/-- the state an action ends in -/
def Act.apply (r : Realm) : Act → Realm
  | .op o => r.stepOp o
  | .task t => runTask { r with tasks := r.tasks.tail } t
  | .timer t => ({ r with now := max r.now t.deadline } : Realm).timerDue t
  | .retry x => ({ r with now := max r.now x.next } : Realm).retryDue x
  | .flush => r.flush.2
  | .clock t => { r with now := t }
  | .fuel text => r.setPanic (some text)

structure Rec where
  pre : Realm
  act : Act

def Rec.post (x : Rec) : Realm := x.act.apply x.pre

def Rec.script (x : Rec) : Script :=
  match x.act with
  | .op o => opScript x.pre o
  | .task t => taskScript { x.pre with tasks := x.pre.tasks.tail } t
  | .timer t => timerScript { x.pre with now := max x.pre.now t.deadline } t
  | .retry y => retryScript { x.pre with now := max x.pre.now y.next } y
  | _ => {}

/-- the call id, if the handler of `s` reads a CALL that passes the gate -/
def msgCall (r : Realm) (s : Session) (m : Msg) : Option ReqId :=
  if (authzGate r s m).1 then
    (match m with
     | .call req _ _ _ _ => some ⟨s.key, req⟩
     | _ => none)
  else none

def recvCall (r : Realm) (k : SessKey) (m : Msg) : Option ReqId :=
  match r.clients.find? (fun c => c.key == k) with
  | none => none
  | some s => if r.ending.contains k then none else if r.busy k then none else msgCall r s m

/-- the call id, if the action is the handler of a session reading a CALL message that passes the gate -/
def Rec.call? (x : Rec) : Option ReqId :=
  match x.act with
  | .op (.msg k m) => recvCall x.pre k m
  | .task (.inMsg k m) => recvCall { x.pre with tasks := x.pre.tasks.tail } k m
  | .task (.metaMsg m) => msgCall { x.pre with tasks := x.pre.tasks.tail } x.pre.metaS m
  | _ => none

/-- an accepted publication: the state in which `broker.publish` runs, the publishing session, the PUBLISH contents -/
structure PubRec where
  r : Realm
  s : Session
  opts : Dict
  topic : String
  args : List WVal
  kw : Dict

/-- what is handed to the broker goroutine -/
def PubRec.pub (p : PubRec) : Publication := pubOf p.r p.s p.opts p.topic p.args p.kw

/-- the broker step: `syncPublish` with the realm's session table and clock -/
def PubRec.step (p : PubRec) : BStep := .publish p.r.session? p.r.now p.pub

def publishPub (r : Realm) (s : Session) (opts : Dict) (topic : String) (args : List WVal) (kw : Dict) : Option PubRec :=
  if pubAccepted r s opts topic then some ⟨r, s, opts, topic, args, kw⟩ else none

def msgPub (r : Realm) (s : Session) (m : Msg) : Option PubRec :=
  if (authzGate r s m).1 then
    (match m with
     | .publish _ opts topic args kw => publishPub r s opts topic args kw
     | _ => none)
  else none

def recvPub (r : Realm) (k : SessKey) (m : Msg) : Option PubRec :=
  match r.clients.find? (fun c => c.key == k) with
  | none => none
  | some s => if r.ending.contains k then none else if r.busy k then none else msgPub r s m

/-- the publication the action hands to the broker goroutine, if any -/
def Rec.pub? (x : Rec) : Option PubRec :=
  match x.act with
  | .op (.msg k m) => recvPub x.pre k m
  | .task (.inMsg k m) => recvPub { x.pre with tasks := x.pre.tasks.tail } k m
  | .task (.metaMsg m) => msgPub { x.pre with tasks := x.pre.tasks.tail } x.pre.metaS m
  | .task (.metaPub p) => publishPub { x.pre with tasks := x.pre.tasks.tail } x.pre.metaS p.opts p.topic p.args p.kw
  | _ => none

/-- the queue an action creates (a fresh `join`) -/
def Rec.newQueue (x : Rec) : List (SessKey × List Msg) :=
  match x.act with
  | .op o => opQueue x.pre o
  | _ => []

def Act.isFlush : Act → Bool
  | .flush => true
  | _ => false

theorem Rec.post_flush {x : Rec} (hf : x.act.isFlush = true) : x.post = x.pre.flush.2 := by
  obtain ⟨r, a⟩ := x
  cases a with
  | flush => rfl
  | _ => cases hf

/-- Every atomic action but `flush` changes the broker by the broker steps of its script, the dealer state by its
    dealer steps, and the queue table by handing its offers to `trySend`, in order (a fresh `join` adds an
    empty queue). -/
theorem Rec.spec (x : Rec) :
    x.post.broker = x.pre.broker.run x.script.bsteps ∧
    Trace x.pre.pubCount x.script.bsteps x.post.pubCount ∧
    Run x.pre.ds x.script.dsteps x.post.ds ∧
    (x.act.isFlush = false → x.post.queues = (x.pre.deliver x.script.offers).queues ++ x.newQueue) := by
  obtain ⟨r, a⟩ := x
  have ofSpec : ∀ {sc : Script} {r' : Realm}, Spec r sc r' →
      r'.broker = r.broker.run sc.bsteps ∧ Trace r.pubCount sc.bsteps r'.pubCount ∧ Run r.ds sc.dsteps r'.ds ∧
      (a.isFlush = false → r'.queues = (r.deliver sc.offers).queues ++ []) :=
    fun h => ⟨h.broker, h.pubs, h.dealer, fun _ => by rw [h.queues, List.append_nil]⟩
  have calm : ∀ {r' : Realm}, Calm r r' → _ := fun h => ofSpec h.spec
  cases a with
  | op o =>
    cases o with
    | join k isLocal details roles cap =>
      rw [Rec.post, Act.apply, stepOp_join]
      show _ ∧ _ ∧ _ ∧ (_ → _ = (r.deliver []).queues ++ (if _ then [] else [(k, [])]))
      split
      · exact calm ⟨rfl, rfl, rfl, rfl⟩
      · exact ⟨rfl, Nat.le_refl _, .nil _, fun _ => rfl⟩
    | msg k m => exact ofSpec (shaped_recvMsg r k m).spec
    | buffer k => rw [Rec.post, Act.apply, stepOp_buffer]; exact calm ⟨rfl, rfl, rfl, rfl⟩
    | drop k =>
      rw [Rec.post, Act.apply, stepOp_drop]
      split
      · exact calm ⟨rfl, rfl, rfl, rfl⟩
      split <;> exact calm ⟨rfl, rfl, rfl, rfl⟩
    | stall k => rw [Rec.post, Act.apply, stepOp_stall]; exact calm ⟨rfl, rfl, rfl, rfl⟩
    | resume k => rw [Rec.post, Act.apply, stepOp_resume]; exact calm ⟨rfl, rfl, rfl, rfl⟩
    | tick ms => exact calm ⟨rfl, rfl, rfl, rfl⟩
    | rnd n => exact calm ⟨rfl, rfl, rfl, rfl⟩
  | task t =>
    exact ofSpec (Spec.still_left (a := r) (b := { r with tasks := r.tasks.tail }) ⟨rfl, rfl, rfl, rfl, rfl⟩
      (spec_runTask _ t))
  | timer t =>
    exact ofSpec (Spec.still_left (a := r) (b := { r with now := max r.now t.deadline }) ⟨rfl, rfl, rfl, rfl, rfl⟩
      (shaped_timerDue _ t).spec)
  | retry y =>
    exact ofSpec (Spec.still_left (a := r) (b := { r with now := max r.now y.next }) ⟨rfl, rfl, rfl, rfl, rfl⟩
      (shaped_retryDue _ y).spec)
  | flush =>
    refine ⟨?_, ?_, ?_, fun h => by cases h⟩
    · rfl
    · exact Nat.le_refl _
    · exact .nil _
  | clock t => exact calm ⟨rfl, rfl, rfl, rfl⟩
  | fuel text => exact calm (let s := still_setPanic r (some text); ⟨s.broker, s.pubCount, s.ds, s.queues⟩)

/-- consecutive records: each starts where the previous one ended -/
inductive Chain : Realm → List Rec → Realm → Prop
  | nil (r : Realm) : Chain r [] r
  | cons {x : Rec} {tr : List Rec} {r' : Realm} : Chain x.post tr r' → Chain x.pre (x :: tr) r'

theorem Chain.append {a b c : Realm} {t1 t2 : List Rec} (h1 : Chain a t1 b) (h2 : Chain b t2 c) :
    Chain a (t1 ++ t2) c := by
  induction h1 with
  | nil => exact h2
  | cons _ ih => exact .cons (ih h2)

theorem Chain.single (x : Rec) : Chain x.pre [x] x.post := .cons (.nil _)

theorem chain_cons_inv {a b : Realm} {x : Rec} {tr : List Rec} (h : Chain a (x :: tr) b) :
    a = x.pre ∧ Chain x.post tr b := by
  cases h with
  | cons hc => exact ⟨rfl, hc⟩

/-- what holds at the start of a chain and is kept by each of its actions holds where every action starts, and at the
    end -/
theorem Chain.invariant {P : Realm → Prop} {r r' : Realm} {tr : List Rec} (h : Chain r tr r')
    (step : ∀ x ∈ tr, P x.pre → P x.post) (h0 : P r) : (∀ x ∈ tr, P x.pre) ∧ P r' := by
  induction h with
  | nil r => exact ⟨fun _ hx => (nomatch hx), h0⟩
  | @cons x tr r' _ ih =>
    obtain ⟨i1, i2⟩ := ih (fun y hy => step y (List.mem_cons_of_mem _ hy)) (step x (List.mem_cons_self ..) h0)
    exact ⟨List.forall_mem_cons.mpr ⟨h0, i1⟩, i2⟩

def traceDrain : Nat → Realm → List Rec
  | 0, r => if r.tasks.isEmpty then [] else [⟨r, .fuel "model: task fuel exhausted"⟩]
  | fuel + 1, r =>
    match r.tasks with
    | [] => []
    | t :: ts => ⟨r, .task t⟩ :: traceDrain fuel (runTask { r with tasks := ts } t)

theorem chain_drain : ∀ (fuel : Nat) (r : Realm), Chain r (traceDrain fuel r) (drain fuel r)
  | 0, r => by
    rw [drain_zero]
    unfold traceDrain
    split
    · exact .nil r
    · exact Chain.single ⟨r, .fuel "model: task fuel exhausted"⟩
  | fuel + 1, r => by
    cases ht : r.tasks with
    | nil =>
      rw [drain_succ_nil _ _ ht]
      unfold traceDrain; rw [ht]
      exact .nil r
    | cons t ts =>
      rw [drain_succ_cons _ _ t ts ht]
      unfold traceDrain; rw [ht]
      refine Chain.cons (x := ⟨r, .task t⟩) ?_
      have : (⟨r, .task t⟩ : Rec).post = runTask { r with tasks := ts } t := by
        show runTask { r with tasks := r.tasks.tail } t = _
        rw [ht]; rfl
      rw [this]
      exact chain_drain fuel _

def dueAct : Due → Act
  | .timer t => .timer t
  | .retry x => .retry x

theorem dueAct_apply (r : Realm) (d : Due) :
    (dueAct d).apply r =
      (match d with
        | .timer t => ({ r with now := max r.now d.time } : Realm).timerDue t
        | .retry x => ({ r with now := max r.now d.time } : Realm).retryDue x) := by
  cases d <;> rfl

def traceAdvance : Nat → Realm → Nat → List Rec
  | 0, r, target => [⟨r, .clock target⟩, ⟨{ r with now := target }, .fuel "model: timed-event fuel exhausted"⟩]
  | fuel + 1, r, target =>
    match nextDue r target with
    | none => [⟨r, .clock target⟩]
    | some d =>
      ⟨r, dueAct d⟩ :: (traceDrain taskFuel ((dueAct d).apply r) ++
        traceAdvance fuel (drain taskFuel ((dueAct d).apply r)) target)

theorem chain_advance : ∀ (fuel : Nat) (r : Realm) (target : Nat),
    Chain r (traceAdvance fuel r target) (advance fuel r target)
  | 0, r, target => by
    unfold Realm.advance traceAdvance
    exact .cons (x := ⟨r, .clock target⟩) (Chain.single ⟨{ r with now := target }, .fuel _⟩)
  | fuel + 1, r, target => by
    unfold Realm.advance traceAdvance
    cases hd : nextDue r target with
    | none => exact Chain.single ⟨r, .clock target⟩
    | some d =>
      dsimp only
      refine Chain.cons (x := ⟨r, dueAct d⟩) ?_
      show Chain ((dueAct d).apply r) _ _
      rw [dueAct_apply]
      exact (chain_drain taskFuel _).append (chain_advance fuel _ target)

/-- The ghost trace of one step: the atomic actions `Realm.step r op` performs, in order -/
def traceStep (r : Realm) (op : Op) : List Rec :=
  match op with
  | .tick ms => traceAdvance 10000 r (r.now + ms) ++ [⟨advance 10000 r (r.now + ms), .flush⟩]
  | _ => ⟨r, .op op⟩ :: (traceDrain taskFuel (r.stepOp op) ++ [⟨drain taskFuel (r.stepOp op), .flush⟩])

theorem traceStep_of_not_tick (r : Realm) {op : Op} (h : ∀ ms, op ≠ .tick ms) :
    traceStep r op =
      ⟨r, .op op⟩ :: (traceDrain taskFuel (r.stepOp op) ++ [⟨drain taskFuel (r.stepOp op), .flush⟩]) := by
  cases op <;> first | rfl | exact absurd rfl (h _)

theorem chain_step (r : Realm) (op : Op) : Chain r (traceStep r op) (r.step op).2 := by
  by_cases ht : ∃ ms, op = .tick ms
  · obtain ⟨ms, rfl⟩ := ht
    rw [step_tick]
    exact (chain_advance _ _ _).append (Chain.single ⟨advance 10000 r (r.now + ms), .flush⟩)
  · have ht : ∀ ms, op ≠ .tick ms := fun ms e => ht ⟨ms, e⟩
    rw [step_of_not_tick r op ht, traceStep_of_not_tick r ht]
    exact Chain.cons (x := ⟨r, .op op⟩)
      ((chain_drain _ _).append (Chain.single ⟨drain taskFuel (r.stepOp op), .flush⟩))

/-! ### what the records of a trace are

To show `Q` of every record of a ghost trace: of an external input that is one of the inputs; of a task that is the
oldest waiting one; of every action that is neither. -/

def Act.internal : Act → Prop
  | .op _ | .task _ => False
  | _ => True

section
variable {Q : Rec → Prop} (htask : ∀ r t, r.tasks.head? = some t → Q ⟨r, .task t⟩)
  (hother : ∀ r a, a.internal → Q ⟨r, a⟩)
include htask hother

theorem traceDrain_forall : ∀ (fuel : Nat) (r : Realm), ∀ x ∈ traceDrain fuel r, Q x
  | 0, r => by
    unfold traceDrain
    split
    · exact fun _ h => nomatch h
    · exact List.forall_mem_singleton.mpr (hother _ _ trivial)
  | fuel + 1, r => by
    unfold traceDrain
    split
    · exact fun _ h => nomatch h
    · rename_i t ts ht
      exact List.forall_mem_cons.mpr ⟨htask r t (by rw [ht]; rfl), traceDrain_forall fuel _⟩

theorem traceAdvance_forall : ∀ (fuel : Nat) (r : Realm) (target : Nat), ∀ x ∈ traceAdvance fuel r target, Q x
  | 0, r, target => by
    unfold traceAdvance
    exact List.forall_mem_cons.mpr ⟨hother _ _ trivial, List.forall_mem_singleton.mpr (hother _ _ trivial)⟩
  | fuel + 1, r, target => by
    unfold traceAdvance
    split
    · exact List.forall_mem_singleton.mpr (hother _ _ trivial)
    · rename_i d _
      exact List.forall_mem_cons.mpr ⟨by cases d <;> exact hother _ _ trivial,
        List.forall_mem_append.mpr ⟨traceDrain_forall htask hother _ _, traceAdvance_forall fuel _ target⟩⟩

theorem traceStep_forall (r : Realm) (op : Op) (hop : Q ⟨r, .op op⟩) : ∀ x ∈ traceStep r op, Q x := by
  have hflush : ∀ q : Realm, ∀ x ∈ [(⟨q, .flush⟩ : Rec)], Q x := fun q =>
    List.forall_mem_singleton.mpr (hother _ _ trivial)
  by_cases ht : ∃ ms, op = .tick ms
  · obtain ⟨ms, rfl⟩ := ht
    exact List.forall_mem_append.mpr ⟨traceAdvance_forall htask hother _ _ _, hflush _⟩
  · rw [traceStep_of_not_tick r (fun ms e => ht ⟨ms, e⟩)]
    exact List.forall_mem_cons.mpr ⟨hop, List.forall_mem_append.mpr ⟨traceDrain_forall htask hother _ _, hflush _⟩⟩

end

/-- the realm after a list of inputs -/
def runOps (r : Realm) : List Op → Realm
  | [] => r
  | op :: ops => runOps (r.step op).2 ops

def traceHist (r : Realm) : List Op → List Rec
  | [] => []
  | op :: ops => traceStep r op ++ traceHist (r.step op).2 ops

theorem chain_hist : ∀ (ops : List Op) (r : Realm), Chain r (traceHist r ops) (runOps r ops)
  | [], r => .nil r
  | op :: ops, r => (chain_step r op).append (chain_hist ops _)

theorem traceHist_forall {Q : Rec → Prop} (htask : ∀ r t, r.tasks.head? = some t → Q ⟨r, .task t⟩)
    (hother : ∀ r a, a.internal → Q ⟨r, a⟩) :
    ∀ (ops : List Op), (∀ r, ∀ o ∈ ops, Q ⟨r, .op o⟩) → ∀ r, ∀ x ∈ traceHist r ops, Q x
  | [], _, _ => fun _ h => nomatch h
  | op :: ops, hop, r =>
    List.forall_mem_append.mpr ⟨traceStep_forall htask hother r op (hop r op (List.mem_cons_self ..)),
      traceHist_forall htask hother ops (fun r o ho => hop r o (List.mem_cons_of_mem _ ho)) _⟩

theorem runOps_reachable {cfg : Config} : ∀ (ops : List Op) {r : Realm}, Realm.Reachable cfg r →
    Realm.Reachable cfg (runOps r ops)
  | [], _, h => h
  | op :: ops, _, h => runOps_reachable ops (.step op h)

theorem traceHist_append (r : Realm) (ops1 ops2 : List Op) :
    traceHist r (ops1 ++ ops2) = traceHist r ops1 ++ traceHist (runOps r ops1) ops2 := by
  induction ops1 generalizing r with
  | nil => rfl
  | cons op ops ih => simp only [List.cons_append, traceHist, runOps, ih, List.append_assoc]

theorem runOps_append (r : Realm) (ops1 ops2 : List Op) : runOps r (ops1 ++ ops2) = runOps (runOps r ops1) ops2 := by
  induction ops1 generalizing r with
  | nil => rfl
  | cons op ops ih => simp only [List.cons_append, runOps, ih]

/-- the broker steps / dealer steps / offers of a trace, in order -/
def bstepsOf (tr : List Rec) : List BStep := tr.flatMap (fun x => x.script.bsteps)
def dstepsOf (tr : List Rec) : List (DState × DOut) := tr.flatMap (fun x => x.script.dsteps)
def offersOf (tr : List Rec) : List Send := tr.flatMap (fun x => x.script.offers)

theorem chain_broker {r r' : Realm} {tr : List Rec} (h : Chain r tr r') :
    r'.broker = r.broker.run (bstepsOf tr) ∧ Trace r.pubCount (bstepsOf tr) r'.pubCount ∧
    Run r.ds (dstepsOf tr) r'.ds := by
  induction h with
  | nil r => exact ⟨rfl, Nat.le_refl _, .nil _⟩
  | @cons x tr r' _ ih =>
    obtain ⟨h1, h2, h3, _⟩ := x.spec
    obtain ⟨i1, i2, i3⟩ := ih
    refine ⟨?_, ?_, ?_⟩
    · show r'.broker = x.pre.broker.run (x.script.bsteps ++ bstepsOf tr)
      rw [bk_run_append, ← h1]; exact i1
    · show Trace x.pre.pubCount (x.script.bsteps ++ bstepsOf tr) r'.pubCount
      exact h2.append i2
    · show Run x.pre.ds (x.script.dsteps ++ dstepsOf tr) r'.ds
      exact WpB.Run.append h3 i3

/-- Along a history: the broker is the broker at the start after the broker steps of the ghost trace (whose
    publish steps carry increasing fresh ids), the dealer state arises by the dealer steps of the ghost trace. -/
theorem hist_tables (r : Realm) (ops : List Op) :
    (runOps r ops).broker = r.broker.run (bstepsOf (traceHist r ops)) ∧
    Trace r.pubCount (bstepsOf (traceHist r ops)) (runOps r ops).pubCount ∧
    Run r.ds (dstepsOf (traceHist r ops)) (runOps r ops).ds :=
  chain_broker (chain_hist ops r)

/-- a record of a chain starts in a state reached from the chain's start by the records before it -/
theorem chain_split {r r' : Realm} {tr : List Rec} (h : Chain r tr r') {x : Rec} {pre post : List Rec}
    (e : tr = pre ++ x :: post) : Chain r pre x.pre ∧ Chain x.post post r' := by
  induction h generalizing pre with
  | nil r => cases pre <;> cases e
  | @cons y tr r' hc ih =>
    cases pre with
    | nil =>
      simp only [List.nil_append, List.cons.injEq] at e
      obtain ⟨rfl, rfl⟩ := e
      exact ⟨.nil _, hc⟩
    | cons z pre =>
      simp only [List.cons_append, List.cons.injEq] at e
      obtain ⟨rfl, e⟩ := e
      obtain ⟨h1, h2⟩ := ih e
      exact ⟨.cons h1, h2⟩

end Nexus.L2.WpE
