/-
  C08 (realm level): the EVENTs one subscriber receives through one subscription arrive in publication-id order
  whatever broker-facing traffic of any sessions is interleaved (PUBLISH, SUBSCRIBE, UNSUBSCRIBE by anybody —
  including the meta events on `wamp.subscription.*` topics the broker itself publishes in SUBSCRIBE / UNSUBSCRIBE
  steps).  Generalises `C08_realm_event_order` (one publisher, publishes only) to `runB`.
-/
import Nexus.L2.Proofs.RealmPublish
import Nexus.L2.Proofs.BrokerHist
import Nexus.L2.Proofs.BrokerMetaEvent

namespace Nexus.L2.WpB
open Nexus.L2 Nexus.L2.Realm Nexus.Gen.N

/-- the publication ids of the EVENTs of subscription `i` among the sends to `k`, in order -/
def evIds (ss : List Send) (k : SessKey) (i : Nat) : List Nat :=
  (through ss k i).filterMap (fun x => x.msg.eventPub?)

/-- strictly increasing ids, all in `[pubBase + lo, pubBase + hi)` -/
def IdsIn (lo hi : Nat) (l : List Nat) : Prop :=
  l.Pairwise (· < ·) ∧ ∀ n ∈ l, pubBase + lo ≤ n ∧ n < pubBase + hi

theorem IdsIn.nil (lo hi : Nat) : IdsIn lo hi [] := ⟨List.Pairwise.nil, fun _ h => nomatch h⟩

theorem IdsIn.single {lo hi p : Nat} (h1 : lo ≤ p) (h2 : p < hi) : IdsIn lo hi [pubBase + p] :=
  ⟨List.pairwise_singleton _ _, fun n hn => by rw [List.mem_singleton.1 hn]; omega⟩

theorem IdsIn.append {lo mid hi : Nat} {l1 l2 : List Nat} (h1 : IdsIn lo mid l1) (h2 : IdsIn mid hi l2)
    (hlm : lo ≤ mid) (hmh : mid ≤ hi) : IdsIn lo hi (l1 ++ l2) := by
  refine ⟨List.pairwise_append.2 ⟨h1.1, h2.1, fun a ha b hb => ?_⟩, fun n hn => ?_⟩
  · have := (h1.2 a ha).2
    have := (h2.2 b hb).1
    omega
  · rcases List.mem_append.1 hn with h | h
    · have := h1.2 n h; omega
    · have := h2.2 n h; omega

theorem IdsIn.sublist {lo hi : Nat} {l l' : List Nat} (h : IdsIn lo hi l) (hs : l'.Sublist l) : IdsIn lo hi l' :=
  ⟨h.1.sublist hs, fun n hn => h.2 n (hs.subset hn)⟩

theorem IdsIn.mono {lo hi lo' hi' : Nat} {l : List Nat} (h : IdsIn lo hi l) (h1 : lo' ≤ lo) (h2 : hi ≤ hi') :
    IdsIn lo' hi' l := ⟨h.1, fun n hn => by have := h.2 n hn; omega⟩

theorem evIds_append (a b : List Send) (k : SessKey) (i : Nat) : evIds (a ++ b) k i = evIds a k i ++ evIds b k i := by
  simp [evIds, through]

theorem evIds_nonevent {x : Send} (h : x.msg.eventSub? = none) (k : SessKey) (i : Nat) : evIds [x] k i = [] := by
  simp [evIds, through, h]

/-- one meta event: at most one EVENT per (recipient, subscription id), and it carries the event's publication id -/
theorem metaEvent_idsIn {b : Broker} (hb : BrokerInv b) (t : String) (cause : SessKey) (args : List WVal)
    (k : SessKey) (i : Nat) {lo hi p : Nat} (h1 : lo ≤ p) (h2 : p < hi) :
    IdsIn lo hi (evIds (b.metaEvent t (pubBase + p) cause args) k i) := by
  unfold evIds
  by_cases hex : ∃ s ∈ b.subs, s.id = i
  · obtain ⟨s, hs, rfl⟩ := hex
    rw [WpA.through_metaEvent hb t _ cause args hs k]
    split
    · exact IdsIn.single h1 h2
    · exact IdsIn.nil _ _
  · rw [WpA.through_metaEvent_none b t _ cause args k i fun s hs he => hex ⟨s, hs, he⟩]
    exact IdsIn.nil _ _

theorem evIds_cons_nonevent {x : Send} (h : x.msg.eventSub? = none) (l : List Send) (k : SessKey) (i : Nat) :
    evIds (x :: l) k i = evIds l k i := by
  rw [← List.singleton_append, evIds_append, evIds_nonevent h, List.nil_append]

theorem syncSubscribe_evIds {b : Broker} (hb : BrokerInv b) (k0 : SessKey) (req : Nat) (topic m : String) (pub0 : Nat)
    (k : SessKey) (i : Nat) :
    IdsIn pub0 (pub0 + (b.syncSubscribe k0 req topic m pub0).2.2) (evIds (b.syncSubscribe k0 req topic m pub0).2.1 k i) := by
  have hb' := hb.subscribe k0 req topic m pub0
  rcases b.syncSubscribe_spec k0 req topic m pub0 with ⟨sub, _, _, e⟩ | ⟨sub, _, _, e⟩ | ⟨_, e⟩ <;>
    rw [e] at hb' ⊢ <;> rw [evIds_cons_nonevent rfl]
  · exact IdsIn.nil _ _
  · exact metaEvent_idsIn hb' _ _ _ k i (Nat.le_refl _) (Nat.lt_succ_self _)
  · rw [evIds_append]
    exact (metaEvent_idsIn hb' _ _ _ k i (Nat.le_refl _) (Nat.lt_succ_self _)).append
      (metaEvent_idsIn (p := pub0 + 1) hb' _ _ _ k i (Nat.le_refl _) (Nat.lt_succ_self _))
      (Nat.le_succ _) (Nat.le_succ _)

theorem syncUnsubscribe_evIds {b : Broker} (hb : BrokerInv b) (k0 : SessKey) (req subId pub0 : Nat)
    (k : SessKey) (i : Nat) :
    IdsIn pub0 (pub0 + (b.syncUnsubscribe k0 req subId pub0).2.2) (evIds (b.syncUnsubscribe k0 req subId pub0).2.1 k i) := by
  have hb' := hb.unsubscribe k0 req subId pub0
  rcases b.syncUnsubscribe_spec k0 req subId pub0 with ⟨_, e⟩ | ⟨sub, _, _, e⟩ <;> rw [e] at hb' ⊢ <;>
    rw [evIds_cons_nonevent rfl]
  · exact IdsIn.nil _ _
  · unfold departEvents departCount
    cases hd : departDeletes b k0 sub <;> simp only [Bool.false_eq_true, if_false, if_true, List.append_nil]
    · exact metaEvent_idsIn hb' _ _ _ k i (Nat.le_refl _) (Nat.lt_succ_self _)
    · rw [evIds_append]
      exact (metaEvent_idsIn hb' _ _ _ k i (Nat.le_refl _) (Nat.lt_succ_self _)).append
        (metaEvent_idsIn (p := pub0 + 1) hb' _ _ _ k i (Nat.le_refl _) (Nat.lt_succ_self _))
        (Nat.le_succ _) (Nat.le_succ _)

/-- what one broker-facing step does to the EVENTs of subscription `i` in the queue of the attached client `k` -/
structure StepOk (k : SessKey) (c : Session) (i : Nat) (r r' : Realm) : Prop where
  binv : BrokerInv r'.broker
  client : r'.client? k = some c
  mono : r.pubCount ≤ r'.pubCount
  events : ∃ ids, eventsOf i (r'.queueOf k) = eventsOf i (r.queueOf k) ++ ids ∧ IdsIn r.pubCount r'.pubCount ids

theorem stepOk_brokerStep {r : Realm} {k : SessKey} {c : Session} (hk : k ≠ metaKey) (hc : r.client? k = some c) (i : Nat)
    (b : Broker) (n : Nat) (ss : List Send) (hb : BrokerInv b) (hn : r.pubCount ≤ n)
    (hids : IdsIn r.pubCount n (evIds ss k i)) :
    StepOk k c i r (({ r with pubCount := n, broker := b } : Realm).deliver ss) := by
  obtain ⟨f1, f2, f3, _⟩ := brokerStep_frame r b n ss
  refine ⟨by rw [f1]; exact hb, by unfold client?; rw [f3]; exact hc, by rw [f2]; exact hn, ?_⟩
  rw [brokerStep_queue r b n ss k c hk hc, f2]
  obtain ⟨added, e, hs⟩ := accept_sublist c.cap (msgsTo k ss) (r.queueOf k)
  refine ⟨added.filterMap (evPubOf i), ?_, ?_⟩
  · unfold eventsOf
    rw [e, List.filterMap_append]
  · refine hids.sublist ?_
    have := hs.filterMap (evPubOf i)
    rw [msgsTo_events] at this
    exact this

theorem handleB_stepOk {r : Realm} (hb : BrokerInv r.broker) (m : BMsg) {k : SessKey} {c : Session} (hk : k ≠ metaKey)
    (hc : r.client? k = some c) (i : Nat) : StepOk k c i r (handleB r m) := by
  cases m with
  | publish s x =>
    obtain ⟨h1, h2, _, h4, added, e, hs⟩ := handlePublish_step hb s x k c hk hc i
    refine ⟨h1, h2, h4, added.filterMap (evPubOf i), ?_, ?_⟩
    · show eventsOf i ((handlePublish r s x.req x.opts x.topic x.args x.kw).queueOf k) = _
      unfold eventsOf
      rw [e, List.filterMap_append]
    · show IdsIn r.pubCount (handlePublish r s x.req x.opts x.topic x.args x.kw).pubCount _
      split at hs
      · rw [List.sublist_nil.1 hs]; exact IdsIn.nil _ _
      · rename_i hne
        exact (IdsIn.single (Nat.le_refl _) (by omega)).sublist hs
  | subscribe s req opts topic =>
    show StepOk k c i r (handleSubscribe r s req opts topic)
    by_cases hv : validUri r.broker.strict (opts.optString OptMatch) topic = true
    · rw [handleSubscribe_ok r s req opts topic hv]
      exact stepOk_brokerStep hk hc i _ _ _ (hb.subscribe _ _ _ _ _) (Nat.le_add_right _ _)
        (syncSubscribe_evIds hb s.key req topic (opts.optString OptMatch) r.pubCount k i)
    · have hv' : validUri r.broker.strict (opts.optString OptMatch) topic = false := by simpa using hv
      rw [handleSubscribe_invalid r s req opts topic hv']
      have := stepOk_brokerStep (r := r) hk hc i r.broker r.pubCount [⟨s.key, invalidUriErr tSUBSCRIBE req⟩] hb
        (Nat.le_refl _) (by rw [evIds_nonevent rfl]; exact IdsIn.nil _ _)
      exact this
  | unsubscribe s req sub =>
    show StepOk k c i r (handleUnsubscribe r s req sub)
    rw [handleUnsubscribe_eq]
    exact stepOk_brokerStep hk hc i _ _ _ (hb.unsubscribe _ _ _ _) (Nat.le_add_right _ _)
      (syncUnsubscribe_evIds hb s.key req sub r.pubCount k i)

theorem StepOk.trans {k : SessKey} {c : Session} {i : Nat} {r r' r'' : Realm} (h1 : StepOk k c i r r')
    (h2 : StepOk k c i r' r'') : StepOk k c i r r'' := by
  obtain ⟨ids1, e1, i1⟩ := h1.events
  obtain ⟨ids2, e2, i2⟩ := h2.events
  exact ⟨h2.binv, h2.client, Nat.le_trans h1.mono h2.mono, ids1 ++ ids2, by rw [e2, e1, List.append_assoc],
    i1.append i2 h1.mono h2.mono⟩

theorem runB_stepOk {r : Realm} (hb : BrokerInv r.broker) (l : List BMsg) {k : SessKey} {c : Session} (hk : k ≠ metaKey)
    (hc : r.client? k = some c) (i : Nat) : StepOk k c i r (runB r l) := by
  induction l generalizing r with
  | nil => exact ⟨hb, hc, Nat.le_refl _, [], by simp [runB], IdsIn.nil _ _⟩
  | cons m rest ih =>
    have h1 := handleB_stepOk hb m hk hc i
    exact h1.trans (ih h1.binv h1.client)

end Nexus.L2.WpB

namespace Nexus.C08
open Nexus.L2 Nexus.L2.Realm

/-- C08 at realm level, per-subscription event order under any broker traffic.  From any realm state whose broker
    satisfies `BrokerInv`, let ANY sessions send any sequence `l` of PUBLISH / SUBSCRIBE / UNSUBSCRIBE messages, handled
    in that order.  For an attached client `k` and a subscription id `i`: the EVENTs of `i` in `k`'s queue afterwards
    are those from before followed by `added`, whose publication ids are strictly increasing in queue order and all
    drawn during this run.  Since publication ids are drawn in the order the broker handles the publications
    (`C08_realm_event_order`: the id of the j-th accepted PUBLISH), events reach each subscriber, per subscription, in
    publication order — regardless of what any other session does in between, bounded queues (lost EVENTs) included. -/
theorem C08_realm_event_order_any {r : Realm} (hb : BrokerInv r.broker) (l : List BMsg) (k : SessKey) (c : Session)
    (hk : k ≠ metaKey) (hc : r.client? k = some c) (i : Nat) :
    ∃ added, eventsOf i ((runB r l).queueOf k) = eventsOf i (r.queueOf k) ++ added ∧ added.Pairwise (· < ·) ∧
      ∀ n ∈ added, pubBase + r.pubCount ≤ n ∧ n < pubBase + (runB r l).pubCount := by
  obtain ⟨added, e, h⟩ := (Nexus.L2.WpB.runB_stepOk hb l hk hc i).events
  exact ⟨added, e, h.1, h.2⟩

/-- the hypotheses are met, and EVENTs do arrive: session 2 subscribes to "t", then session 1 publishes twice with a
    SUBSCRIBE of session 3 in between: session 2's queue holds the two EVENTs of subscription 1 in publication order -/
example :
    let s1 : Session := { key := 1, details := [], roles := [], isLocal := false }
    let s2 : Session := { key := 2, details := [], roles := [], isLocal := false }
    let s3 : Session := { key := 3, details := [], roles := [], isLocal := false }
    let r : Realm := { clients := [s1, s2, s3] }
    BrokerInv r.broker ∧ r.client? 2 = some s2 ∧
    eventsOf 1 ((runB r [.subscribe s2 1 [] "t", .publish s1 ⟨1, [], "t", [], []⟩, .subscribe s3 1 [] "u",
      .publish s1 ⟨2, [], "t", [], []⟩]).queueOf 2) = [pubBase + 2, pubBase + 5] := by
  intro s1 s2 s3 r
  exact ⟨BrokerInv.empty false false, rfl, by decide +kernel⟩

end Nexus.C08
