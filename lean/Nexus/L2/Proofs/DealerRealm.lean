/-
  The dealer as driven by the realm (Nexus.L2.Realm): what `trySend`, `deliver` and `applyD` leave alone
  (`*_fields`); the handler-goroutine halves of `dealer.register/unregister/call/cancel/yield/error`, the
  call-timeout and yield-retry events of `Realm.advance`.  DealerInv is preserved by all of them; `nextDue` picks the
  earliest due event; `Adv` is the relational form of `Realm.advance`.
-/
import Nexus.L2.Proofs.DealerReply
import Nexus.L2.Proofs.RealmBase

namespace Nexus.L2
open Gen.N

namespace Realm

theorem setPanic_fields (r : Realm) (p : Option String) : r.setPanic p = { r with panic := (r.setPanic p).panic } := by
  unfold setPanic; split <;> rfl

/-- `trySend` touches the queues, the task list (an invocation for the meta session) and `panic`, nothing else -/
theorem trySend_fields (r : Realm) (x : Send) :
    r.trySend x =
      { r with queues := (r.trySend x).queues, tasks := (r.trySend x).tasks, panic := (r.trySend x).panic } := by
  unfold trySend
  split
  · split <;> rfl
  · split
    · unfold setPanic; split <;> rfl
    · split
      · rfl
      · split <;> rfl

theorem deliver_fields : ∀ (l : List Send) (r : Realm),
    r.deliver l = { r with queues := (r.deliver l).queues, tasks := (r.deliver l).tasks, panic := (r.deliver l).panic }
  | [], _ => rfl
  | x :: xs, r => by
    rw [deliver, deliver_fields xs, trySend_fields r x]

theorem applyD_fields (r : Realm) (o : DOut) :
    r.applyD o = { r with ds := o.st, ending := r.ending ++ o.aborts, queues := (r.applyD o).queues,
                          tasks := (r.applyD o).tasks, panic := (r.applyD o).panic } := by
  rw [applyD_eq, setPanic_fields, deliver_fields]

@[simp] theorem setPanic_ds (r : Realm) (p : Option String) : (r.setPanic p).ds = r.ds :=
  (congrArg Realm.ds (setPanic_fields r p) :)

@[simp] theorem trySend_ds (r : Realm) (x : Send) : (r.trySend x).ds = r.ds := (congrArg Realm.ds (trySend_fields r x) :)

@[simp] theorem deliver_ds (l : List Send) (r : Realm) : (r.deliver l).ds = r.ds := (congrArg Realm.ds (deliver_fields l r) :)

@[simp] theorem addTasks_ds (r : Realm) (ts : List Task) : (r.addTasks ts).ds = r.ds := rfl

@[simp] theorem applyD_ds (r : Realm) (o : DOut) : (r.applyD o).ds = o.st := (congrArg Realm.ds (applyD_fields r o) :)

/-- `dealer.register` lets only the six known invocation policies through to `syncRegister`, so the
    precondition of `syncRegister_inv` is always met: REGISTER preserves the invariant -/
theorem handleRegister_inv {r : Realm} (h : DealerInv r.ds) (s : Session) (req : Nat) (opts : Dict) (proc : String) :
    DealerInv (r.handleRegister s req opts proc).ds :=
  handleRegister_cases (P := fun r' => DealerInv r'.ds) r s req opts proc (fun _ _ => by simpa using h)
    fun _ _ _ _ hk _ => by rw [applyD_ds]; exact syncRegister_inv h _ _ _ _ _ _ _ _ hk

theorem handleUnregister_inv {r : Realm} (h : DealerInv r.ds) (s : Session) (req reg : Nat) :
    DealerInv (r.handleUnregister s req reg).ds := by
  unfold handleUnregister; rw [applyD_ds]; exact syncUnregister_inv h _ _ _

theorem handleCall_inv {r : Realm} (h : DealerInv r.ds) (s : Session) (req : Nat) (opts : Dict) (proc : String)
    (args : List WVal) (kw : Dict) : DealerInv (r.handleCall s req opts proc args kw).ds := by
  unfold handleCall; rw [applyD_ds]; exact syncCall_inv h _ _ _ _ _ _ _

theorem handleCancel_inv {r : Realm} (h : DealerInv r.ds) (s : Session) (req : Nat) (opts : Dict) :
    DealerInv (r.handleCancel s req opts).ds :=
  handleCancel_cases (P := fun r' => DealerInv r'.ds) r s req opts
    (fun _ => by rw [applyD_ds]; exact syncCancel_inv h _ _ _ _ _) fun _ _ => by simpa using h

theorem handleYield_inv {r : Realm} (h : DealerInv r.ds) (s : Session) (req : Nat) (opts : Dict) (args : List WVal)
    (kw : Dict) : DealerInv (r.handleYield s req opts args kw).ds := by
  unfold handleYield
  simp only
  split <;> (simp only [applyD_ds]; exact syncYield_inv h _ _ _ _ _ _ _)

theorem handleError_inv {r : Realm} (h : DealerInv r.ds) (s : Session) (req : Nat) (details : Dict) (err : String)
    (args : List WVal) (kw : Dict) : DealerInv (r.handleError s req details err args kw).ds := by
  unfold handleError; rw [applyD_ds]; exact syncError_inv h _ _ _ _ _ _

theorem timerDue_inv {r : Realm} (h : DealerInv r.ds) (t : Timer) : DealerInv (r.timerDue t).ds := by
  unfold timerDue
  simp only [applyD_ds]
  exact syncCancel_inv (h.filterTimers _) _ _ _ _ _

theorem retryDue_inv {r : Realm} (h : DealerInv r.ds) (x : Retry) : DealerInv (r.retryDue x).ds := by
  unfold retryDue
  simp only
  split <;> (simp only [applyD_ds]; exact syncYield_inv h _ _ _ _ _ _ _)

theorem registerMeta_inv : ∀ (l : List String) (r : Realm), DealerInv r.ds → DealerInv (registerMeta r l).ds
  | [], _, h => h
  | p :: ps, r, h => by
    unfold registerMeta
    exact registerMeta_inv ps _ (syncRegister_inv h _ _ _ _ _ _ _ _ (by decide))

theorem create_inv {cfg : Config} {r : Realm} (h : create cfg = some r) : DealerInv r.ds := by
  rw [create_some h]
  exact registerMeta_inv _ _ (DealerInv.init _ _)

theorem handleCancel_known {r : Realm} (s : Session) (req : Nat) (opts : Dict)
    (hm : cancelMode opts = CancelModeKillNoWait ∨ cancelMode opts = CancelModeKill ∨ cancelMode opts = CancelModeSkip) :
    r.handleCancel s req opts = r.applyD (syncCancel r.denv r.ds s.key req (cancelMode opts) ErrCanceled []) := by
  rw [handleCancel_eq, if_pos]
  rcases hm with h | h | h <;> simp [h]

theorem handleCancel_unknown {r : Realm} (s : Session) (req : Nat) (opts : Dict)
    (h1 : cancelMode opts ≠ CancelModeKillNoWait) (h2 : cancelMode opts ≠ CancelModeKill)
    (h3 : cancelMode opts ≠ CancelModeSkip) :
    r.handleCancel s req opts = r.trySend ⟨s.key, .error tCANCEL req [] ErrInvalidArgument [.str "<text>"] []⟩ := by
  rw [handleCancel_eq, if_neg]
  simp [h1, h2, h3]

theorem foldl_min_spec (l : List Due) : ∀ (acc : Option Due),
    let res := l.foldl (fun best d => match best with
      | none => some d
      | some b => if d.time < b.time then some d else some b) acc
    (res = none ↔ acc = none ∧ l = []) ∧
    (∀ d, res = some d → (acc = some d ∨ d ∈ l) ∧ (∀ b, acc = some b → d.time ≤ b.time) ∧ ∀ d' ∈ l, d.time ≤ d'.time) := by
  induction l with
  | nil =>
    intro acc
    simp only [List.foldl]
    refine ⟨by simp, fun d hd => ⟨Or.inl hd, fun b hb => ?_, by simp⟩⟩
    rw [hd] at hb; cases hb; exact Nat.le_refl _
  | cons x xs ih =>
    intro acc
    simp only [List.foldl]
    cases acc with
    | none =>
      obtain ⟨h1, h2⟩ := ih (some x)
      refine ⟨by simpa using h1, fun d hd => ?_⟩
      obtain ⟨g1, g2, g3⟩ := h2 d hd
      refine ⟨Or.inr ?_, by simp, ?_⟩
      · rcases g1 with g1 | g1
        · cases g1; exact List.mem_cons_self ..
        · exact List.mem_cons_of_mem _ g1
      · intro d' hd'
        rcases List.mem_cons.1 hd' with rfl | hd'
        · exact g2 _ rfl
        · exact g3 d' hd'
    | some b =>
      by_cases hlt : x.time < b.time
      · simp only [hlt, if_true]
        obtain ⟨h1, h2⟩ := ih (some x)
        refine ⟨by simpa using h1, fun d hd => ?_⟩
        obtain ⟨g1, g2, g3⟩ := h2 d hd
        have := g2 x rfl
        refine ⟨Or.inr ?_, ?_, ?_⟩
        · rcases g1 with g1 | g1
          · cases g1; exact List.mem_cons_self ..
          · exact List.mem_cons_of_mem _ g1
        · intro b' hb'; cases hb'; omega
        · intro d' hd'
          rcases List.mem_cons.1 hd' with rfl | hd'
          · exact this
          · exact g3 d' hd'
      · simp only [hlt, if_false]
        obtain ⟨h1, h2⟩ := ih (some b)
        refine ⟨by simpa using h1, fun d hd => ?_⟩
        obtain ⟨g1, g2, g3⟩ := h2 d hd
        have := g2 b rfl
        refine ⟨?_, ?_, ?_⟩
        · rcases g1 with g1 | g1
          · exact Or.inl g1
          · exact Or.inr (List.mem_cons_of_mem _ g1)
        · intro b' hb'; cases hb'; exact this
        · intro d' hd'
          rcases List.mem_cons.1 hd' with rfl | hd'
          · omega
          · exact g3 d' hd'

def dueTimers (r : Realm) (limit : Nat) : List Timer :=
  r.ds.timers.filter (fun t => !t.canceled && t.deadline ≤ limit)

def dueRetries (r : Realm) (limit : Nat) : List Retry := r.retries.filter (fun x => x.next ≤ limit)

theorem nextDue_none_iff (r : Realm) (limit : Nat) :
    nextDue r limit = none ↔ dueTimers r limit = [] ∧ dueRetries r limit = [] := by
  unfold nextDue
  have := (foldl_min_spec ((dueTimers r limit).map Due.timer ++ (dueRetries r limit).map Due.retry) none).1
  simp only [true_and, List.append_eq_nil_iff, List.map_eq_nil_iff] at this
  exact this

theorem nextDue_some {r : Realm} {limit : Nat} {d : Due} (h : nextDue r limit = some d) :
    d ∈ (dueTimers r limit).map Due.timer ++ (dueRetries r limit).map Due.retry ∧
      ∀ d' ∈ (dueTimers r limit).map Due.timer ++ (dueRetries r limit).map Due.retry, d.time ≤ d'.time := by
  unfold nextDue at h
  obtain ⟨g1, _, g3⟩ :=
    (foldl_min_spec ((dueTimers r limit).map Due.timer ++ (dueRetries r limit).map Due.retry) none).2 _ h
  exact ⟨g1.resolve_left nofun, g3⟩

theorem nextDue_timer {r : Realm} {limit : Nat} {t : Timer} (h : nextDue r limit = some (.timer t)) :
    t ∈ r.ds.timers ∧ t.canceled = false ∧ t.deadline ≤ limit ∧
      (∀ t' ∈ dueTimers r limit, t.deadline ≤ t'.deadline) ∧ (∀ x ∈ dueRetries r limit, t.deadline ≤ x.next) := by
  obtain ⟨g1, g3⟩ := nextDue_some h
  have hm : t ∈ dueTimers r limit := by
    rcases List.mem_append.1 g1 with g1 | g1
    · rcases List.mem_map.1 g1 with ⟨t', ht', he⟩; cases he; exact ht'
    · rcases List.mem_map.1 g1 with ⟨_, _, he⟩; cases he
  have hm' := List.mem_filter.1 hm
  simp only [Bool.and_eq_true, Bool.not_eq_true', decide_eq_true_eq] at hm'
  refine ⟨hm'.1, hm'.2.1, hm'.2.2, ?_, ?_⟩
  · intro t' ht'
    exact g3 (.timer t') (List.mem_append_left _ (List.mem_map_of_mem ht'))
  · intro x hx
    exact g3 (.retry x) (List.mem_append_right _ (List.mem_map_of_mem hx))

/-- `advance`, relationally: the list collects the events fired, each with the realm it fired in.  An invariant goes
    through `advance` by `Keeps.advance` (RealmWalk.lean); `Adv` is for the statements about the events themselves — which
    timer or retry turn fired, when, and in which realm (C13, C07) — which no one-state invariant expresses. -/
inductive Adv (target : Nat) : Realm → List (Realm × Due) → Realm → Prop
  | done {r : Realm} : nextDue r target = none → Adv target r [] { r with now := target }
  | fire {r : Realm} {d : Due} {evs : List (Realm × Due)} {r' : Realm} :
      nextDue r target = some d → Adv target (fireDue r d) evs r' → Adv target r ((r, d) :: evs) r'

/-- the recursion of `advance` ran out of fuel -/
def FuelOut (target : Nat) : Nat → Realm → Prop
  | 0, _ => True
  | fuel + 1, r =>
    match nextDue r target with
    | none => False
    | some d => FuelOut target fuel (fireDue r d)

theorem advance_adv (target : Nat) : ∀ (fuel : Nat) (r : Realm),
    FuelOut target fuel r ∨ ∃ evs, Adv target r evs (advance fuel r target)
  | 0, _ => Or.inl trivial
  | fuel + 1, r => by
    cases hn : nextDue r target with
    | none => rw [advance_none hn]; exact .inr ⟨[], Adv.done hn⟩
    | some d =>
      rw [advance_some hn]
      rcases advance_adv target fuel (fireDue r d) with hf | ⟨evs, hadv⟩
      · left; simp only [FuelOut, hn]; exact hf
      · exact .inr ⟨_, Adv.fire hn hadv⟩

theorem Adv.fired {target : Nat} {r r' : Realm} {evs : List (Realm × Due)} (h : Adv target r evs r') :
    ∀ p ∈ evs, ∀ t, p.2 = .timer t →
      t ∈ p.1.ds.timers ∧ t.canceled = false ∧ t.deadline ≤ target ∧ ∀ t' ∈ dueTimers p.1 target, t.deadline ≤ t'.deadline := by
  induction h with
  | done _ => intro p hp; cases hp
  | fire hn _ ih =>
    intro p hp t ht
    rcases List.mem_cons.1 hp with rfl | hp
    · simp only at ht; subst ht
      obtain ⟨h1, h2, h3, h4, _⟩ := nextDue_timer hn
      exact ⟨h1, h2, h3, h4⟩
    · exact ih p hp t ht

theorem Adv.none_left {target : Nat} {r r' : Realm} {evs : List (Realm × Due)} (h : Adv target r evs r') :
    dueTimers r' target = [] ∧ dueRetries r' target = [] ∧ r'.now = target := by
  induction h with
  | done hn =>
    obtain ⟨h1, h2⟩ := (nextDue_none_iff _ _).1 hn
    exact ⟨h1, h2, rfl⟩
  | fire _ _ ih => exact ih

/-- a timer fires at its deadline, or at once if that has passed already (the clock never runs backwards) -/
theorem fireDue_timer (r : Realm) (t : Timer) :
    fireDue r (.timer t) = drain taskFuel (({ r with now := max r.now t.deadline } : Realm).timerDue t) := rfl

/-- a firing timer leaves the table and posts `syncCancel(caller, request, killnowait, wamp.error.timeout)` -/
theorem timerDue_eq (r : Realm) (t : Timer) :
    r.timerDue t =
      ({ r with ds := { r.ds with timers := r.ds.timers.filter (fun y => y.id != t.id) } } : Realm).applyD
        (syncCancel r.denv { r.ds with timers := r.ds.timers.filter (fun y => y.id != t.id) } t.caller t.req
          CancelModeKillNoWait ErrTimeout [.str "<text>"]) := rfl

theorem timerDue_ds (r : Realm) (t : Timer) :
    (r.timerDue t).ds =
      (syncCancel r.denv { r.ds with timers := r.ds.timers.filter (fun y => y.id != t.id) } t.caller t.req
        CancelModeKillNoWait ErrTimeout [.str "<text>"]).st := by
  rw [timerDue_eq, applyD_ds]

end Realm
end Nexus.L2
