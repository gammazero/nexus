/-
  C05: what is left after `Realm.leave k`.  `leave` only removes invocations and invocation ids are unique, so
  the invocation of a call made by the departed session is gone (`leave_findInv_none`); a YIELD for an
  invocation that does not exist draws INTERRUPT(killnowait) if it was progressive and the callee's queue has
  room, and nothing otherwise (`handleYield_noInv`).  Every registration and subscription left was there before
  under the same id, and its callees / members are the old ones without `k` (`leave_reg_frame`,
  `leave_sub_frame`, from `Realm.leave_strikes`); the history stores are untouched.
-/
import Nexus.L2.Proofs.RealmLeave
import Nexus.L2.Proofs.RealmQueue
import Nexus.L2.Proofs.RealmMeta
import Nexus.L2.Proofs.DealerRealmRpc

namespace Nexus.L2
namespace WpC
open Gen.N Realm

/-- an invocation left over with that id would be the same invocation, whose caller `k` would still be
    referred to -/
theorem leave_findInv_none {r : Realm} (hi : RealmInv r) {k : SessKey} {s : Session} (mode : LeaveMode)
    (hf : r.clients.find? (fun c => c.key == k) = some s)
    (hcallers : ∀ w ∈ (r.leave k mode).ds.d.invs, w.callId.sess ≠ k)
    {v : Invk} (hv : v ∈ r.ds.d.invs) (hvk : v.callId.sess = k) :
    (r.leave k mode).ds.d.findInv v.id = none := by
  rw [findInv_eq_none]
  intro w hw e
  obtain ⟨v0, hv0, hs⟩ := (syncRemoveSession_frame hi.dinv k).2.1 w ((leave_tables mode hf).2 ▸ hw)
  simp only [Invk.shapeC, Prod.mk.injEq] at hs
  have : v0 = v := nodup_map_inj (f := fun x : Invk => x.id) hi.dinv.call.invIds hv0 hv (hs.1.trans e)
  subst this
  exact hcallers w hw (hs.2.1 ▸ hvk)

theorem deliver_same_ds (r : Realm) (ss : List Send) : ({ r with ds := r.ds } : Realm).deliver ss = r.deliver ss := rfl

/-- the INTERRUPT a progressive YIELD draws when its invocation is gone -/
def goneInterrupt (callee : SessKey) (req : Nat) : Send :=
  ⟨callee, .interrupt req [(OptMode, .str CancelModeKillNoWait)]⟩

theorem handleYield_noInv (r : Realm) (s : Session) (req : Nat) (opts : Dict) (args : List WVal) (kw : Dict)
    (hf : r.ds.d.findInv ⟨s.key, req⟩ = none) :
    handleYield r s req opts args kw =
      if opts.optFlag OptProgress = true ∧ r.isFull s.key = false then r.trySend (goneInterrupt s.key req) else r := by
  have hfull : r.denv.full s.key = r.isFull s.key := rfl
  rw [handleYield_eq, syncYield_unknown args kw _ true hf, hfull]
  by_cases hc : opts.optFlag OptProgress = true ∧ r.isFull s.key = false
  · rw [if_pos hc, hc.1, hc.2]
    exact applyD_plain r _ rfl rfl rfl
  · have hb : (opts.optFlag OptProgress && !r.isFull s.key) = false := by
      cases hp : opts.optFlag OptProgress <;> cases hfl : r.isFull s.key <;> simp_all
    rw [if_neg hc, hb]
    exact applyD_plain r _ rfl rfl rfl

theorem handleYield_noInv_client (r : Realm) (s c : Session) (req : Nat) (opts : Dict) (args : List WVal) (kw : Dict)
    (hf : r.ds.d.findInv ⟨s.key, req⟩ = none) (hk : s.key ≠ metaKey) (hc : r.client? s.key = some c) :
    handleYield r s req opts args kw =
      if opts.optFlag OptProgress = true ∧ r.queueLen s.key < c.cap
      then { r with queues := enq r.queues s.key (.interrupt req [(OptMode, .str CancelModeKillNoWait)]) }
      else r := by
  rw [handleYield_noInv r s req opts args kw hf]
  have hfull : r.isFull s.key = decide (r.queueLen s.key ≥ c.cap) := by
    unfold isFull session?
    rw [if_neg hk, if_neg hk]
    unfold client? at hc
    rw [hc]
  by_cases hroom : r.queueLen s.key < c.cap
  · have : r.isFull s.key = false := by rw [hfull]; simpa using hroom
    rw [this]
    by_cases hp : opts.optFlag OptProgress = true
    · rw [if_pos ⟨hp, rfl⟩, if_pos ⟨hp, hroom⟩]
      exact trySend_room r (goneInterrupt s.key req) hk hc hroom
    · rw [if_neg (fun h => hp h.1), if_neg (fun h => hp h.1)]
  · have : r.isFull s.key = true := by rw [hfull]; simpa using hroom
    rw [this, if_neg (fun h => by cases h.2), if_neg (fun h => hroom h.2)]

/-- the meta session as callee (it serves the `wamp.*` procedures): an INTERRUPT for it is dropped -/
theorem handleYield_noInv_meta (r : Realm) (s : Session) (req : Nat) (opts : Dict) (args : List WVal) (kw : Dict)
    (hf : r.ds.d.findInv ⟨s.key, req⟩ = none) (hk : s.key = metaKey) :
    handleYield r s req opts args kw = r := by
  rw [handleYield_noInv r s req opts args kw hf]
  split
  · unfold trySend goneInterrupt
    simp only [hk, if_true]
  · rfl

theorem members_without {α : Type} {old new : List α} {id : α → Nat} {mem : α → List SessKey} {k : SessKey}
    (hold : ∀ {a b}, a ∈ old → b ∈ old → id a = id b → a = b) (hnew : ∀ {a b}, a ∈ new → b ∈ new → id a = id b → a = b)
    (hrel : ∀ i c, (∃ x ∈ new, id x = i ∧ c ∈ mem x) ↔ (∃ x ∈ old, id x = i ∧ c ∈ mem x) ∧ c ≠ k)
    {x' x : α} (hx' : x' ∈ new) (hx : x ∈ old) (e : id x' = id x) (c : SessKey) :
    c ∈ mem x' ↔ c ∈ mem x ∧ c ≠ k := by
  constructor
  · intro hc
    obtain ⟨⟨y, hy, hid, hcy⟩, hne⟩ := (hrel (id x') c).mp ⟨x', hx', rfl, hc⟩
    exact ⟨hold hy hx (hid.trans e) ▸ hcy, hne⟩
  · rintro ⟨hc, hne⟩
    obtain ⟨y, hy, hid, hcy⟩ := (hrel (id x') c).mpr ⟨⟨x, hx, e.symm, hc⟩, hne⟩
    exact hnew hy hx' hid ▸ hcy

/-- every registration of `regs'` is one of `regs` up to callees and cursor -/
def RegKeySub (regs regs' : List Reg) : Prop :=
  ∀ g' ∈ regs', ∃ g ∈ regs, g'.id = g.id ∧ g'.proc = g.proc ∧ g'.«match» = g.«match» ∧ g'.policy = g.policy

theorem RegKeySub.refl (l : List Reg) : RegKeySub l l := fun g hg => ⟨g, hg, rfl, rfl, rfl, rfl⟩

theorem RegKeySub.trans {a b c : List Reg} (h1 : RegKeySub a b) (h2 : RegKeySub b c) : RegKeySub a c := by
  intro g hg
  obtain ⟨g1, hg1, e1⟩ := h2 g hg
  obtain ⟨g0, hg0, e0⟩ := h1 g1 hg1
  exact ⟨g0, hg0, e1.1.trans e0.1, e1.2.1.trans e0.2.1, e1.2.2.1.trans e0.2.2.1, e1.2.2.2.trans e0.2.2.2⟩

theorem delCalleeReg_keySub {d d1 : Dealer} {k : SessKey} {id : Nat} {del : Bool}
    (h : d.delCalleeReg k id = some (d1, del)) : RegKeySub d.regs d1.regs := by
  obtain ⟨reg, hf, _, rfl, _⟩ := delCalleeReg_of_some h
  have hm : reg ∈ d.regs := List.mem_of_find?_eq_some hf
  split <;> intro g hg
  · exact ⟨g, (List.mem_filter.mp hg).1, rfl, rfl, rfl, rfl⟩
  · rcases mem_setReg.1 hg with ⟨hg, _⟩ | ⟨rfl, _⟩
    · exact ⟨g, hg, rfl, rfl, rfl, rfl⟩
    · exact ⟨reg, hm, rfl, rfl, rfl, rfl⟩

theorem removeRegs_keySub (k : SessKey) : ∀ (ids : List Nat) (d : Dealer), RegKeySub d.regs (removeRegs d k ids).1.regs :=
  removeRegs_rel (R := fun d d' => RegKeySub d.regs d'.regs) k (fun _ => .refl _) .trans delCalleeReg_keySub

theorem reg_kind_eq {g g' : Reg} (h : g'.«match» = g.«match») : g'.kind = g.kind := by
  unfold Reg.kind; rw [h]

theorem leave_regs_sub {r : Realm} {k : SessKey} {s : Session} (mode : LeaveMode)
    (hf : r.clients.find? (fun c => c.key == k) = some s) :
    RegKeySub r.ds.d.regs (r.leave k mode).ds.d.regs := by
  rw [(leave_tables mode hf).2, syncRemoveSession_regs]
  exact removeRegs_keySub k _ _

theorem reg_eq_of_id {regs : List Reg} {n : Nat} (h : RegsOk regs n) {a b : Reg} (ha : a ∈ regs) (hb : b ∈ regs)
    (e : a.id = b.id) : a = b :=
  nodup_map_inj (f := fun x : Reg => x.id) h.ids ha hb e

theorem reg_eq_of_key {regs : List Reg} {n : Nat} (h : RegsOk regs n) {a b : Reg} (ha : a ∈ regs) (hb : b ∈ regs)
    (e1 : a.proc = b.proc) (e2 : a.kind = b.kind) : a = b :=
  nodup_map_inj (f := fun x : Reg => (x.proc, x.kind)) h.keys ha hb (by rw [e1, e2])

theorem leave_reg_frame {r : Realm} (hi : RealmInv r) {k : SessKey} {s : Session} (mode : LeaveMode)
    (hf : r.clients.find? (fun c => c.key == k) = some s) (hi' : RealmInv (r.leave k mode)) :
    ∀ g' ∈ (r.leave k mode).ds.d.regs, ∃ g ∈ r.ds.d.regs, g'.id = g.id ∧ g'.proc = g.proc ∧
      g'.«match» = g.«match» ∧ g'.policy = g.policy ∧ ∀ c, c ∈ g'.callees ↔ c ∈ g.callees ∧ c ≠ k := by
  intro g' hg'
  obtain ⟨g, hg, e1, e2, e3, e4⟩ := leave_regs_sub mode hf g' hg'
  exact ⟨g, hg, e1, e2, e3, e4, members_without (reg_eq_of_id hi.dinv.reg.regs) (reg_eq_of_id hi'.dinv.reg.regs)
    (fun i c => (leave_strikes hi mode hf i c).2) hg' hg e1⟩

def SubKeySub (b b' : Broker) : Prop :=
  ∀ s' ∈ b'.subs, ∃ s ∈ b.subs, s'.id = s.id ∧ s'.topic = s.topic ∧ s'.«match» = s.«match» ∧
    ∀ k', k' ∈ s'.members → k' ∈ s.members

theorem bremove_subs_sub {b : Broker} (hb : BrokerInv b) (k : SessKey) (p : Nat) :
    SubKeySub b (b.syncRemoveSession k p).1 ∧ (b.syncRemoveSession k p).1.hist = b.hist := by
  unfold Broker.syncRemoveSession
  cases hg : idxGet b.index k with
  | none => exact ⟨fun s hs => ⟨s, hs, rfl, rfl, rfl, fun _ h => h⟩, rfl⟩
  | some ids =>
    simp only
    obtain ⟨h1, h2, _, _⟩ := removeMembers_state k ids { b with index := idxDrop b.index k } p hb.ids_nodup
    refine ⟨?_, h2⟩
    intro s' hs'
    rw [h1] at hs'
    obtain ⟨s, hs, he⟩ := List.mem_filterMap.mp hs'
    obtain ⟨e1, e2, e3, e4, _⟩ := stripIf_some he
    exact ⟨s, hs, e1, e2, e3, fun k' hk' => ((e4 k').mp hk').1⟩

theorem leave_subs_sub {r : Realm} (hi : RealmInv r) {k : SessKey} {s : Session} (mode : LeaveMode)
    (hf : r.clients.find? (fun c => c.key == k) = some s) :
    SubKeySub r.broker (r.leave k mode).broker ∧ (r.leave k mode).broker.hist = r.broker.hist := by
  rw [(leave_tables mode hf).1]
  exact bremove_subs_sub hi.binv k _

theorem sub_kind_eq {s s' : Sub} (h : s'.«match» = s.«match») : s'.kind = s.kind := by
  unfold Sub.kind; rw [h]

theorem leave_sub_frame {r : Realm} (hi : RealmInv r) {k : SessKey} {s : Session} (mode : LeaveMode)
    (hf : r.clients.find? (fun c => c.key == k) = some s) (hi' : RealmInv (r.leave k mode)) :
    ∀ s' ∈ (r.leave k mode).broker.subs, ∃ s0 ∈ r.broker.subs, s'.id = s0.id ∧ s'.topic = s0.topic ∧
      s'.«match» = s0.«match» ∧ ∀ c, c ∈ s'.members ↔ c ∈ s0.members ∧ c ≠ k := by
  intro s' hs'
  obtain ⟨s0, hs0, e1, e2, e3, _⟩ := (leave_subs_sub hi mode hf).1 s' hs'
  exact ⟨s0, hs0, e1, e2, e3, members_without (eq_of_id_eq hi.binv.ids_nodup) (eq_of_id_eq hi'.binv.ids_nodup)
    (fun i c => (leave_strikes hi mode hf i c).1) hs' hs0 e1⟩

end WpC
end Nexus.L2
