/-
  C07 "stall isolation": histories.  Two runs of the realm from states that agree off `x`, fed the same
  inputs — except that `x` may stop and resume reading at different moments in the two runs — show every
  other client exactly the same at every step.  The side condition `Idle x` is an invariant of one run, kept
  by every atomic action (`Idle.keeps`), hence in every state reached without an RPC message of `x`; the walk
  of the two runs through `drain`, `advance` and `step` is that of `Realm.Sim` (RealmWalk.lean) within it,
  with the lemmas of StallStep.lean as its fields (`sim_off`).
-/
import Nexus.L2.Proofs.StallStep

namespace Nexus.L2.WpC
open Nexus.L2.Realm

variable {x : SessKey}

/-- the inputs by which `x` stops or resumes reading: the only ones in which the two runs may differ -/
def ReadSwitch (x : SessKey) (op : Op) : Prop := op = .stall x ∨ op = .resume x

/-- corresponding inputs of the two runs: the same input, or on both sides some switch of x's reading, not
    necessarily the same one.  "x stalls at other moments, or never" is then a pair of input lists related
    element by element (`Rel2 (OpRel x)`), which keeps the runs in lockstep as `Sim` needs. -/
def OpRel (x : SessKey) (op op' : Op) : Prop := (op' = op ∧ OpFree x op) ∨ (ReadSwitch x op ∧ ReadSwitch x op')

theorem eqoff_switch_self (r : Realm) {op : Op} (ho : ReadSwitch x op) : EqOff x r (r.stepOp op) := by
  rcases ho with rfl | rfl
  · exact eqoff_stalled_self r true
  · rw [stepOp_resume]
    exact { eqoff_stalled_self r false with ghosts := by simp }

/-- what the clients other than `x` can tell apart: the observation of a step with the queue and the closure of
    `x` left out.  It is the `O` of `sim_off`. -/
def ObsEq (x : SessKey) (o o' : Observed) : Prop :=
  o'.out.filter (fun q => q.1 != x) = o.out.filter (fun q => q.1 != x) ∧
  o'.closed.filter (· != x) = o.closed.filter (· != x) ∧ o'.panic = o.panic

theorem Idle.keeps (hx : x ≠ metaKey) : Keeps RealmInv (Idle x) where
  task {r t ts} ht hi h :=
    idle_runTask (r := { r with tasks := ts }) hi.dinv hx hi.metaKey
      ⟨h.refs, h.retries, fun m hm => h.tasks m (mem_inX.mpr (ht ▸ List.mem_cons_of_mem _ (mem_inX.mp hm)))⟩ t
      (taskFree_of_idle h (ht ▸ List.mem_cons_self ..))
  timer _ _ h := idle_timerDue h _
  retry hd _ h := idle_retryDue h _ (h.retries _ (nextDue_retry hd))
  now _ _ h := ⟨h.refs, h.retries, h.tasks⟩
  fuel _ _ h := idle_setPanic h _
  flush _ h := idle_flush h

theorem sim_off (hx : x ≠ metaKey) : Sim (fun r => RealmInv r ∧ Idle x r) (EqOff x) (ObsEq x) where
  base := rinv_keeps.over (Idle.keeps hx)
  tasks h := h.tasks
  due limit h := eqoff_nextDue h limit
  clock h := h.now
  task {r r' t ts} ht b h :=
    eqoff_runTask (r := { r with tasks := ts }) (r' := { r' with tasks := ts }) { h with tasks := rfl } hx
      b.1.metaKey b.2.didle t (taskFree_of_idle b.2 (ht ▸ List.mem_cons_self ..))
  timer _ b h := eqoff_timerDue h b.2.didle _
  retry hd b h := eqoff_retryDue h b.2.didle _ (b.2.retries _ (nextDue_retry hd))
  now _ _ h := { h with now := rfl }
  fuel _ _ h := eqoff_setPanic h _
  flush _ h := eqoff_flush h

theorem OpRel.free {op op' : Op} (ho : OpRel x op op') : OpFree x op := by
  rcases ho with ⟨_, hf⟩ | ⟨rfl | rfl, _⟩
  · exact hf
  all_goals trivial

theorem OpRel.tick {op op' : Op} (ho : OpRel x op op') (ms : Nat) : op = .tick ms ↔ op' = .tick ms := by
  rcases ho with ⟨rfl, _⟩ | ⟨ho, ho'⟩
  · exact Iff.rfl
  · have hn : ∀ {o : Op}, ReadSwitch x o → o ≠ .tick ms := by rintro _ (rfl | rfl) e <;> cases e
    exact ⟨fun e => absurd e (hn ho), fun e => absurd e (hn ho')⟩

theorem off_step (hx : x ≠ metaKey) {r r' : Realm} (h : EqOff x r r') (hi : RealmInv r) (hid : Idle x r) {op op' : Op}
    (ho : OpRel x op op') :
    (RealmInv (r.step op).2 ∧ Idle x (r.step op).2) ∧ EqOff x (r.step op).2 (r'.step op').2 ∧
      ObsEq x (r.step op).1 (r'.step op').1 :=
  (sim_off hx).step ho.tick ⟨(stepOp_inv hi op).1, idle_stepOp hi.dinv hid op ho.free⟩ (by
    rcases ho with ⟨rfl, hf⟩ | ⟨ho, ho'⟩
    · exact eqoff_stepOp h hid.didle _ hf
    · exact ((eqoff_switch_self r ho).symm.trans h).trans (eqoff_switch_self r' ho'))

/-- two lists related element by element, hence equally long: the inputs and the observations of the two runs in
    `eqoff_runOps` -/
inductive Rel2 {α β : Type} (R : α → β → Prop) : List α → List β → Prop
  | nil : Rel2 R [] []
  | cons {a : α} {b : β} {l : List α} {l' : List β} : R a b → Rel2 R l l' → Rel2 R (a :: l) (b :: l')

def runOps (r : Realm) : List Op → List Observed × Realm
  | [] => ([], r)
  | op :: ops => ((r.step op).1 :: (runOps (r.step op).2 ops).1, (runOps (r.step op).2 ops).2)

theorem eqoff_runOps (hx : x ≠ metaKey) : ∀ {ops ops' : List Op}, Rel2 (OpRel x) ops ops' →
    ∀ {r r' : Realm}, EqOff x r r' → RealmInv r → Idle x r →
    Rel2 (ObsEq x) (runOps r ops).1 (runOps r' ops').1 ∧ EqOff x (runOps r ops).2 (runOps r' ops').2 ∧
      RealmInv (runOps r ops).2 ∧ Idle x (runOps r ops).2 := by
  intro ops ops' hrel
  induction hrel with
  | nil => intro r r' h hi hid; exact ⟨Rel2.nil, h, hi, hid⟩
  | cons hop _ ih =>
    intro r r' h hi hid
    obtain ⟨⟨c, d⟩, a, b⟩ := off_step hx h hi hid hop
    obtain ⟨e, f⟩ := ih a c d
    exact ⟨Rel2.cons b e, f⟩

theorem idle_create {cfg : Config} {r : Realm} (hx : x ≠ metaKey) (h : Realm.create cfg = some r) : Idle x r := by
  have c := create_rinv h
  refine ⟨?_, ?_, ?_⟩
  · intro hrf
    rcases c.inv.dref x hrf with e | ⟨s, hs, _⟩
    · exact hx e
    · rw [c.clients] at hs; cases hs
  · rw [c.retries]; intro y hy; cases hy
  · rw [c.tasks]; intro m hm; cases hm

/-- states in which the side conditions of the isolation theorems hold (`FreeReachable.idle`), so that these are
    not vacuous: reached by inputs none of which is an RPC message of `x` -/
inductive FreeReachable (x : SessKey) (cfg : Config) : Realm → Prop
  | init {r : Realm} : Realm.create cfg = some r → FreeReachable x cfg r
  | step {r : Realm} (op : Op) : OpFree x op → FreeReachable x cfg r → FreeReachable x cfg (r.step op).2

theorem FreeReachable.reachable {cfg : Config} {r : Realm} (h : FreeReachable x cfg r) : Realm.Reachable cfg r := by
  induction h with
  | init h => exact Realm.Reachable.init h
  | step op _ _ ih => exact Realm.Reachable.step op ih

theorem FreeReachable.idle {cfg : Config} {r : Realm} (hx : x ≠ metaKey) (h : FreeReachable x cfg r) :
    RealmInv r ∧ Idle x r := by
  induction h with
  | init h => exact ⟨(create_rinv h).inv, idle_create hx h⟩
  | step op hop _ ih => exact (sim_off hx).base.step ⟨(stepOp_inv ih.1 op).1, idle_stepOp ih.1.dinv ih.2 op hop⟩

end Nexus.L2.WpC
