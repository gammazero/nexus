/-
  DealerInv is preserved by REGISTER, UNREGISTER, INVOCATION ERROR, CANCEL, YIELD and CALL of the dealer model, for
  all arguments and environments (session removal: DealerRemove).  Under the invariant the branches of `syncYield` and `syncCall` that it excludes drop out
  of their case analyses (`yieldOut_cases`, `syncCall_cases`), and what ERROR, CANCEL, YIELD, CALL and the loops of
  session removal do to a pending call is a sequence of four elementary moves (`Move`, `sync*_moves`): what is proved
  of each move holds across the function by induction over the moves (`Moves.inv` here, `Moves.shrinks` in DealerTimer,
  `Moves.liveStep` in TimerLive).  The functions are walked a second time only for `Shrinks` (DealerTimer), which is
  stated without the invariant the moves are found under.
-/
import Nexus.L2.Proofs.DealerSteps
import Nexus.L2.Proofs.DealerMatch
import Nexus.L2.Proofs.DealerCases

namespace Nexus.L2
open Gen.N

theorem AuxInv.mono {s s' : DState} (h : AuxInv s) (hi : ∀ v ∈ s'.d.invs, v ∈ s.d.invs)
    (hg : s'.invGen = s.invGen) (ht : s'.timers = s.timers) (hn : s'.nextTimer = s.nextTimer)
    (hkeep : ∀ v ∈ s.d.invs, v ∉ s'.d.invs → ∀ t ∈ s.timers, v.timer = some t.id → t.canceled = true) : AuxInv s' := by
  refine ⟨?_, ht ▸ h.timerIds, ?_, ?_, ?_, ?_⟩
  · intro v hv; rw [hg]; exact h.gen v (hi v hv)
  · intro t ht'; rw [hn]; exact h.timerRange t (ht ▸ ht')
  · intro v hv tid hvt; rw [hn, ht]; exact h.invTimer v (hi v hv) tid hvt
  · intro v hv w hw; exact h.invTimerInj v (hi v hv) w (hi w hw)
  · intro t ht' hc
    rw [ht] at ht'
    obtain ⟨v, hv, hvc, hvt⟩ := h.timerOwned t ht' hc
    refine ⟨v, ?_, hvc, hvt⟩
    apply Classical.byContradiction
    intro hn'
    have := hkeep v hv hn' t ht' hvt
    rw [hc] at this; cases this

theorem CallInv.forget {d : Dealer} (h : CallInv d) {c i : ReqId} (hb : (c, i) ∈ d.byCall) :
    CallInv (d.forget c i) := by
  obtain ⟨v, hv, rfl, rfl⟩ := (h.byInv c i).1 hb
  -- among the stored invocations, those of another call than `v`'s are those of another id: both say "not `v`"
  have key : ∀ w ∈ d.invs, (w.callId != v.callId) = (w.id != v.id) := fun w hw => Bool.eq_iff_iff.2 <| by
    simp only [bne_iff_ne, ne_eq]
    exact not_congr ⟨fun e => nodup_map_inj h.invCalls hw hv e ▸ rfl, fun e => nodup_map_inj h.invIds hw hv e ▸ rfl⟩
  refine .of_perm (nodup_map_filter _ _ h.invIds) (nodup_map_filter _ _ h.invCalls)
    (fun w hw => h.callee w (List.mem_filter.1 hw).1) ?_ ?_
  · simpa only [forget_calls, forget_invs, List.filter_map, Function.comp_def, List.filter_congr key] using
      h.calls_perm.filter (· != v.callId)
  · simpa only [forget_byCall, forget_invs, List.filter_map, Function.comp_def, List.filter_congr key] using
      h.byCall_perm.filter (fun p => p.1 != v.callId)

/-- removing a pending call with its link and invocation; the timer recorded in the removed invocation must have been
    stopped -/
theorem DealerInv.forget {s : DState} (h : DealerInv s) {c i : ReqId} (hb : (c, i) ∈ s.d.byCall)
    (hdead : ∀ v ∈ s.d.invs, v.id = i → ∀ t ∈ s.timers, v.timer = some t.id → t.canceled = true) :
    DealerInv { s with d := s.d.forget c i } := by
  refine ⟨h.reg.congr rfl rfl rfl, h.call.forget hb,
    h.aux.mono (fun v hv => (List.mem_filter.1 hv).1) rfl rfl rfl ?_⟩
  intro v hv hn
  apply hdead v hv
  apply Classical.byContradiction
  intro hne
  exact hn (List.mem_filter.2 ⟨hv, by simpa using hne⟩)

theorem DealerInv.endCall {s : DState} (h : DealerInv s) {v : Invk} (hv : v ∈ s.d.invs) :
    DealerInv { s.cancelTimer v.timer with d := s.d.forget v.callId v.id } := by
  have hb := (h.call.byInv v.callId v.id).2 ⟨v, hv, rfl, rfl⟩
  have := (h.cancelTimer v.timer).forget (c := v.callId) (i := v.id) (by rw [cancelTimer_d]; exact hb) (by
    intro w hw hwi t ht hwt
    rw [cancelTimer_d] at hw
    have : w = v := nodup_map_inj h.call.invIds hw hv hwi
    subst this
    exact cancelTimer_dead s w.timer t ht hwt)
  simpa using this

theorem invGenNext_fst (g : List (SessKey × Nat)) (k : SessKey) : (invGenNext g k).1 = genOf g k + 1 := by
  unfold invGenNext genOf
  cases g.find? (fun p => p.1 == k) <;> rfl

theorem genOf_invGenNext (g : List (SessKey × Nat)) (k k' : SessKey) :
    genOf (invGenNext g k).2 k' = if k' = k then genOf g k + 1 else genOf g k' := by
  unfold invGenNext genOf
  cases hf : g.find? (fun p => p.1 == k) with
  | none =>
    simp only [List.find?_append]
    by_cases hk : k' = k
    · subst hk; simp [hf]
    · cases g.find? (fun p => p.1 == k') <;> simp [hk, Ne.symm hk]
  | some p =>
    by_cases hk : k' = k
    · subst hk
      simp only [find?_key_replace_self (f := fun q : SessKey × Nat => q.1) g (a := (k', p.2 + 1)) rfl, hf]
      simp
    · simp only [find?_key_replace_ne (f := fun q : SessKey × Nat => q.1) g (a := (k, p.2 + 1)) rfl hk, if_neg hk]

theorem genOf_le_invGenNext (g : List (SessKey × Nat)) (k k' : SessKey) :
    genOf g k' ≤ genOf (invGenNext g k).2 k' := by
  rw [genOf_invGenNext]
  split
  · rename_i h; subst h; omega
  · exact Nat.le_refl _

theorem newInvk_id (s : DState) (reg : Reg) (caller : SessKey) (req : Nat) (callee : SessKey) (opts : Dict) :
    (newInvk s reg caller req callee opts).id = ⟨callee, genOf s.invGen callee + 1⟩ := by
  simp [newInvk, invGenNext_fst]

theorem DealerInv.recordCall {s : DState} (h : DealerInv s) {reg : Reg} {caller : SessKey} {req : Nat} {callee : SessKey}
    {opts : Dict} (hc : (⟨caller, req⟩ : ReqId) ∉ s.d.calls) :
    DealerInv (recordCall s (newInvk s reg caller req callee opts) callee) := by
  have hvid := newInvk_id s reg caller req callee opts
  generalize hv : newInvk s reg caller req callee opts = v at *
  have hvc : v.callId = ⟨caller, req⟩ := by subst hv; rfl
  have hve : v.callee = callee := by subst hv; rfl
  have hvt : v.timer = none := by subst hv; rfl
  have hfresh : ∀ x ∈ s.d.invs, x.id ≠ v.id := by
    intro x hx he
    have := (h.aux.gen x hx).2
    rw [he, hvid] at this
    simp only at this
    omega
  have hcall : ∀ x ∈ s.d.invs, x.callId ≠ v.callId := by
    intro x hx he
    exact hc (hvc ▸ he ▸ (h.call.inv_call hx).1)
  have hnone : ∀ w ∈ [v], ∀ tid, w.timer ≠ some tid := by
    simp only [List.forall_mem_singleton, hvt]; exact fun _ => nofun
  refine ⟨h.reg.congr rfl rfl rfl, ?_, ?_⟩
  · exact .of_perm (nodup_map_append_singleton _ h.call.invIds hfresh) (nodup_map_append_singleton _ h.call.invCalls hcall)
      (List.forall_mem_append.2 ⟨h.call.callee, by simp [hve, hvid]⟩)
      (List.map_append ▸ h.call.calls_perm.append_right [v.callId])
      (List.map_append ▸ h.call.byCall_perm.append_right [(v.callId, v.id)])
  · refine ⟨List.forall_mem_append.2 ⟨fun w hw => ?_, ?_⟩, h.aux.timerIds, h.aux.timerRange,
      List.forall_mem_append.2 ⟨h.aux.invTimer, fun w hw tid e => absurd e (hnone w hw tid)⟩, ?_, ?_⟩
    · exact ⟨(h.aux.gen w hw).1, Nat.le_trans (h.aux.gen w hw).2 (genOf_le_invGenNext _ _ _)⟩
    · show ∀ w ∈ [v], 0 < w.id.req ∧ w.id.req ≤ genOf (invGenNext s.invGen callee).2 w.id.sess
      simp [hvid, genOf_invGenNext]
    · intro w hw x hx tid hwt hxt
      rcases List.mem_append.1 hw with hw | hw
      · rcases List.mem_append.1 hx with hx | hx
        · exact h.aux.invTimerInj w hw x hx tid hwt hxt
        · exact absurd hxt (hnone x hx tid)
      · exact absurd hwt (hnone w hw tid)
    · intro t ht hc
      obtain ⟨w, hw, h1, h2⟩ := h.aux.timerOwned t ht hc
      exact ⟨w, List.mem_append_left _ hw, h1, h2⟩

/-- The new timer gets the id `nextTimer + 1`, above every id in the table and every recorded one (`timerRange`,
    `invTimer`), so nothing old refers to it; `hold` says the timer `v` recorded before is dead, so `v` may record the
    new one without leaving a live timer unowned (`timerOwned`). -/
theorem DealerInv.armTimer {s : DState} (h : DealerInv s) {v : Invk} (hv : v ∈ s.d.invs) (env : DEnv)
    {caller : SessKey} {req : Nat} (timeout : Nat) (hc : v.callId = ⟨caller, req⟩)
    (hold : 0 < timeout → ∀ t ∈ s.timers, v.timer = some t.id → t.canceled = true) :
    DealerInv (armTimer env s caller req v timeout) := by
  unfold Nexus.L2.armTimer
  split
  case isFalse => exact h
  case isTrue =>
  simp only
  have hmem : ∀ w, w ∈ (s.d.setInv { v with timer := some (s.nextTimer + 1) }).invs ↔
      (w ∈ s.d.invs ∧ w.id ≠ v.id) ∨ w = { v with timer := some (s.nextTimer + 1) } := fun w =>
    mem_setInv.trans (or_congr_right (and_iff_left ⟨v, hv, rfl⟩))
  rename_i hpos
  refine ⟨h.reg.congr rfl rfl rfl, h.call.congr rfl rfl (setInv_map _ h.call.invIds hv rfl rfl), ?_⟩
  refine ⟨?_, ?_, ?_, ?_, ?_, ?_⟩
  rotate_right
  · intro t ht htc
    show ∃ w ∈ (s.d.setInv { v with timer := some (s.nextTimer + 1) }).invs, _
    rcases List.mem_append.1 ht with hto | htn
    · obtain ⟨w, hw, h1, h2⟩ := h.aux.timerOwned t hto htc
      by_cases hwv : w.id = v.id
      · have hwe : w = v := nodup_map_inj h.call.invIds hw hv hwv
        have := hold hpos t hto (hwe ▸ h2)
        rw [htc] at this; cases this
      · exact ⟨w, (hmem w).2 (Or.inl ⟨hw, hwv⟩), h1, h2⟩
    · simp only [List.mem_singleton] at htn; subst htn
      exact ⟨_, (hmem _).2 (Or.inr rfl), hc, rfl⟩
  · intro w hw
    rcases (hmem w).1 hw with ⟨hw, _⟩ | rfl
    · exact h.aux.gen w hw
    · exact h.aux.gen v hv
  · show ((s.timers ++ [_]).map (fun t : Timer => t.id)).Nodup
    apply nodup_map_append_singleton _ h.aux.timerIds
    intro x hx
    have := (h.aux.timerRange x hx).2
    simp only; omega
  · exact List.forall_mem_append.2 ⟨fun t ht => ⟨(h.aux.timerRange t ht).1, Nat.le_succ_of_le (h.aux.timerRange t ht).2⟩,
      List.forall_mem_singleton.2 ⟨Nat.succ_pos _, Nat.le_refl _⟩⟩
  · intro w hw tid hwt
    show 0 < tid ∧ tid ≤ s.nextTimer + 1 ∧ ∀ t ∈ s.timers ++ [_], _
    rcases (hmem w).1 hw with ⟨hw, _⟩ | rfl
    · obtain ⟨h1, h2, h3⟩ := h.aux.invTimer w hw tid hwt
      exact ⟨h1, Nat.le_succ_of_le h2, List.forall_mem_append.2 ⟨h3, List.forall_mem_singleton.2 fun htid =>
        absurd (htid ▸ h2) (Nat.not_succ_le_self _)⟩⟩
    · cases hwt
      exact ⟨Nat.succ_pos _, Nat.le_refl _, List.forall_mem_append.2 ⟨fun t ht htid =>
        absurd (htid ▸ (h.aux.timerRange t ht).2) (Nat.not_succ_le_self _), List.forall_mem_singleton.2 fun _ => by simp [hc]⟩⟩
  · intro w hw x hx tid hwt hxt
    rcases (hmem w).1 hw with ⟨hw, _⟩ | rfl <;> rcases (hmem x).1 hx with ⟨hx, _⟩ | rfl
    · exact h.aux.invTimerInj w hw x hx tid hwt hxt
    · simp only [Option.some.injEq] at hxt; subst hxt
      have := (h.aux.invTimer w hw _ hwt).2.1; omega
    · simp only [Option.some.injEq] at hwt; subst hwt
      have := (h.aux.invTimer x hx _ hxt).2.1; omega
    · rfl

theorem cancelMark_inv {s : DState} (h : DealerInv s) {v : Invk} (hv : v ∈ s.d.invs) :
    DealerInv (cancelMark s v) ∧ ({ v with canceled := true } : Invk) ∈ (cancelMark s v).d.invs :=
  ⟨(h.setInv (v' := { v with canceled := true }) hv rfl rfl).cancelTimer _,
   by rw [cancelMark, cancelTimer_d]; exact mem_setInv_self hv rfl⟩

/-- stopping the recorded timer before cancelling changes nothing: `cancelMark` stops it anyway -/
theorem cancelMark_stopped (s : DState) (v : Invk) : cancelMark (s.cancelTimer v.timer) v = cancelMark s v := by
  unfold cancelMark
  generalize ({ v with canceled := true } : Invk) = v'
  cases v.timer with
  | none => rfl
  | some id =>
    simp only [DState.cancelTimer, List.map_map]
    congr 1
    apply List.map_congr_left
    intro x _
    by_cases hx : x.id = id <;> simp [hx]

theorem DealerInv.preCancel {s : DState} (h : DealerInv s) (v : Invk) (t : Nat) : DealerInv (preCancel s v t) := by
  unfold Nexus.L2.preCancel
  split
  · exact h.cancelTimer _
  · exact h

theorem preCancel_none {s : DState} {v : Invk} (hv : v.timer = none) (t : Nat) : preCancel s v t = s := by
  unfold preCancel
  rw [hv]
  split <;> rfl

/-- One elementary change to a pending call. -/
inductive Move : DState → DState → Prop
  /-- flags of a stored invocation change (`inProgress`; `canceled` only from false to true) -/
  | flag {s : DState} {v v' : Invk} (hv : v ∈ s.d.invs) (hc : v'.shapeC = v.shapeC) (ha : v'.shapeA = v.shapeA)
      (hk : v'.canceled = false → v.canceled = false) : Move s { s with d := s.d.setInv v' }
  /-- the call is cancelled and stays (kill mode): flag set, timer stopped -/
  | mark {s : DState} {v : Invk} (hv : v ∈ s.d.invs) : Move s (cancelMark s v)
  /-- the call ends: its timer is stopped, its three entries go -/
  | endCall {s : DState} {v : Invk} (hv : v ∈ s.d.invs) :
      Move s { s.cancelTimer v.timer with d := s.d.forget v.callId v.id }
  /-- the router-side timeout (re)starts: the recorded timer is stopped, the next one armed and recorded -/
  | rearm {s : DState} {v : Invk} (hv : v ∈ s.d.invs) (env : DEnv) {caller : SessKey} {req : Nat}
      (hc : v.callId = ⟨caller, req⟩) (timeout : Nat) :
      Move s (armTimer env (preCancel s v timeout) caller req v timeout)

/-- The parked retry of a non-progress YIELD (`s.cancelTimer v.timer` with the call kept: the second disjunct of
    `syncYield_moves`) is not a sequence of moves: a lone stop would break `Moves.liveStep`. -/
inductive Moves : DState → DState → Prop
  | refl (s : DState) : Moves s s
  | step {a b c : DState} : Move a b → Moves b c → Moves a c

theorem Moves.single {a b : DState} (m : Move a b) : Moves a b := .step m (.refl b)

theorem Moves.trans {a b c : DState} (h1 : Moves a b) (h2 : Moves b c) : Moves a c := by
  induction h1 with
  | refl => exact h2
  | step m _ ih => exact .step m (ih h2)

theorem Move.inv {s s' : DState} (h : DealerInv s) (m : Move s s') : DealerInv s' := by
  cases m with
  | flag hv hc ha _ => exact h.setInv hv hc ha
  | mark hv => exact (cancelMark_inv h hv).1
  | endCall hv => exact h.endCall hv
  | rearm hv env hc t =>
    refine (h.preCancel _ t).armTimer (by rw [preCancel_d]; exact hv) env t hc fun hpos x hx hvx => ?_
    rw [preCancel_pos _ _ hpos] at hx
    exact cancelTimer_dead _ _ x hx hvx

theorem Moves.inv {s s' : DState} (h : DealerInv s) (m : Moves s s') : DealerInv s' := by
  induction m with
  | refl => exact h
  | step mv _ ih => exact ih (mv.inv h)

/-- flag `canceled`, then end the call: the state after a CANCEL that does not wait for the callee -/
theorem Moves.cancelEnd {s : DState} {v : Invk} (hv : v ∈ s.d.invs) :
    Moves s { cancelMark s v with d := (cancelMark s v).d.forget v.callId v.id } := by
  have hm : ({ v with canceled := true } : Invk) ∈ (s.d.setInv { v with canceled := true }).invs :=
    mem_setInv_self hv rfl
  have := Moves.step (.flag (v' := { v with canceled := true }) hv rfl rfl nofun) (.single (.endCall hm))
  rwa [cancelMark, cancelTimer_d]

theorem syncError_none {s : DState} {callee : SessKey} {req : Nat} (details : Dict) (err : String)
    (args : List WVal) (kw : Dict) (hf : s.d.findInv ⟨callee, req⟩ = none) :
    syncError s callee req details err args kw = { st := s } := by
  unfold syncError
  simp only [hf]

theorem syncError_some {s : DState} (h : CallInv s.d) {callee : SessKey} {req : Nat} {v : Invk}
    (details : Dict) (err : String) (args : List WVal) (kw : Dict) (hf : s.d.findInv ⟨callee, req⟩ = some v) :
    syncError s callee req details err args kw =
      { st := { (s.cancelTimer v.timer) with d := s.d.forget v.callId ⟨callee, req⟩ }
        sends := [callErr v.callId details err args kw] } := by
  have hc : s.d.calls.contains v.callId = true := contains_calls.2 (h.inv_call (findInv_some_mem hf).1).1
  unfold syncError
  simp only [hf, cancelTimer_d]
  rw [if_pos (by exact hc)]
  rfl

theorem syncError_owner {s : DState} (h : DealerInv s) {v : Invk} (hv : v ∈ s.d.invs) (details : Dict) (err : String)
    (args : List WVal) (kw : Dict) :
    syncError s v.id.sess v.id.req details err args kw =
      { st := { (s.cancelTimer v.timer) with d := s.d.forget v.callId ⟨v.id.sess, v.id.req⟩ }
        sends := [callErr v.callId details err args kw] } :=
  syncError_some h.call details err args kw (h.call.inv_call hv).2.2

theorem syncError_moves (s : DState) (callee : SessKey) (req : Nat) (details : Dict) (err : String)
    (args : List WVal) (kw : Dict) : Moves s (syncError s callee req details err args kw).st := by
  apply syncError_cases (P := fun o => Moves s o.st)
  · intro _; exact .refl s
  · intro v hf
    obtain ⟨hv, hi⟩ := findInv_some_mem hf
    exact hi ▸ .single (.endCall hv)

theorem syncError_inv {s : DState} (h : DealerInv s) (callee : SessKey) (req : Nat) (details : Dict) (err : String)
    (args : List WVal) (kw : Dict) : DealerInv (syncError s callee req details err args kw).st :=
  (syncError_moves ..).inv h

theorem syncCancel_moves {env : DEnv} {s : DState} (h : DealerInv s) (caller : SessKey) (req : Nat)
    (mode reason : String) (errArgs : List WVal) : Moves s (syncCancel env s caller req mode reason errArgs).st := by
  refine syncCancel_cases (P := fun o => Moves s o.st) env s caller req mode reason errArgs (.refl s) ?_
  intro i v _ hb hf _
  obtain ⟨hv, rfl⟩ := findInv_some_mem hf
  obtain ⟨_, w, hfw, _, _, hwc, _⟩ := h.call.byCall?_some hb
  obtain rfl : w = v := Option.some.inj (hfw.symm.trans hf)
  exact cancelOut_cases (P := fun o => Moves s o.st) (.single (.mark hv)) fun _ _ => hwc ▸ .cancelEnd hv

theorem syncCancel_inv {env : DEnv} {s : DState} (h : DealerInv s) (caller : SessKey) (req : Nat) (mode reason : String)
    (errArgs : List WVal) : DealerInv (syncCancel env s caller req mode reason errArgs).st :=
  (syncCancel_moves h ..).inv h

/-- CANCEL of the call of a stored invocation: the three lookups of `syncCancel` find that invocation. -/
theorem syncCancel_stored {env : DEnv} {s : DState} (h : CallInv s.d) {v : Invk} (hv : v ∈ s.d.invs)
    (mode reason : String) (errArgs : List WVal) :
    syncCancel env s v.callId.sess v.callId.req mode reason errArgs =
      if v.canceled then { st := s } else cancelOut env s v.callId.sess v.callId.req mode reason errArgs v.id v :=
  have ⟨hc, hb, hf⟩ := h.inv_call hv
  syncCancel_pending mode reason errArgs hc hb hf

/-- `syncCancel` on a pending, not yet cancelled call, by cases on "can the callee be interrupted" and the mode -/
theorem syncCancel_live {env : DEnv} {s : DState} (h : DealerInv s) {c : ReqId} {v : Invk} (hv : v ∈ s.d.invs)
    (hvc : v.callId = c) (hcan : v.canceled = false) (mode reason : String) (errArgs : List WVal) :
    syncCancel env s c.sess c.req mode reason errArgs =
      if canInterrupt env v mode then
        if mode = CancelModeKill then { st := cancelMark s v, sends := [interruptOf v v.id mode reason] }
        else { st := { cancelMark s v with d := (cancelMark s v).d.forget c v.id }
               sends := [interruptOf v v.id mode reason, callErr c [] reason errArgs []] }
      else { st := { cancelMark s v with d := (cancelMark s v).d.forget c v.id }
             sends := [callErr c [] reason errArgs []] } := by
  subst hvc
  rw [syncCancel_stored h.call hv, if_neg (by simp [hcan]), cancelOut_eq]

/-- `syncCancel` has no effect on a call that is already cancelled (kill mode, waiting for the callee) -/
theorem syncCancel_canceled {env : DEnv} {s : DState} (h : DealerInv s) {c : ReqId} {v : Invk} (hv : v ∈ s.d.invs)
    (hvc : v.callId = c) (hcan : v.canceled = true) (mode reason : String) (errArgs : List WVal) :
    syncCancel env s c.sess c.req mode reason errArgs = { st := s } := by
  subst hvc
  rw [syncCancel_stored h.call hv, if_pos hcan]

/-- what `syncYield` does with a YIELD for a stored invocation `invk` (owner and caller checks passed) -/
def yieldOut (env : DEnv) (s : DState) (callee : SessKey) (req : Nat) (opts : Dict)
    (args : List WVal) (kw : Dict) (progress canRetry : Bool) (invk : Invk) : DOut :=
  let iid : ReqId := ⟨callee, req⟩
  let callId := invk.callId
  let caller := callId.sess
  let s := if progress then s else s.cancelTimer invk.timer
  let finish (s : DState) : DState := if progress then s else { s with d := s.d.forget callId iid }
  let usesPPT := pptScheme opts != ""
  if usesPPT && !hasFeat env callee RoleCallee FeaturePayloadPassthruMode then
    let s := s.cancelTimer invk.timer
    { st := { s with d := s.d.forget callId iid }
      sends := [⟨caller, .error tCALL callId.req [("error", .str "<text>")] ErrFeatureNotSupported [] []⟩,
                ⟨callee, abortMsg "<text>"⟩]
      aborts := [callee] }
  else if usesPPT && !hasFeat env caller RoleCaller FeaturePayloadPassthruMode then
    { st := finish s
      sends := [⟨callee, .error tYIELD req [("error", .str "<text>")] ErrFeatureNotSupported [] []⟩] ++
               (if progress then [] else
                 [⟨caller, .error tCALL callId.req [("error", .str "<text>")] ErrFeatureNotSupported [] []⟩]) }
  else
  let details : Dict := if progress then [(OptProgress, .bool true)] else []
  let details := if usesPPT then pptInto opts details else details
  let res : Msg := .result callId.req details args kw
  if !env.full caller then
    { st := finish s, sends := [⟨caller, res⟩] }
  else if canRetry then
    { st := s, again := true }
  else
    let o := syncCancel env s caller callId.req CancelModeKillNoWait ErrCanceled []
    { o with st := if progress then o.st else { o.st with d := o.st.d.forget callId iid } }

theorem syncYield_some {env : DEnv} {s : DState} {callee : SessKey} {req : Nat} (opts : Dict)
    (args : List WVal) (kw : Dict) (progress canRetry : Bool) {v : Invk} (hf : s.d.findInv ⟨callee, req⟩ = some v)
    (he : v.callee = callee) (hc : v.callId ∈ s.d.calls) :
    syncYield env s callee req opts args kw progress canRetry =
      yieldOut env s callee req opts args kw progress canRetry v := by
  unfold syncYield
  simp only [hf]
  have h1 : ¬ (v.callee != callee) = true := by simp [he]
  rw [if_neg h1]
  have h2 : ¬ (!s.d.calls.contains v.callId) = true := by simpa using hc
  rw [if_neg h2]
  rfl

/-- under the invariant the owner and caller checks of `syncYield` always pass -/
theorem syncYield_some' {env : DEnv} {s : DState} (h : CallInv s.d) {callee : SessKey} {req : Nat} (opts : Dict)
    (args : List WVal) (kw : Dict) (progress canRetry : Bool) {v : Invk} (hf : s.d.findInv ⟨callee, req⟩ = some v) :
    syncYield env s callee req opts args kw progress canRetry =
      yieldOut env s callee req opts args kw progress canRetry v := by
  have hv := findInv_some_mem hf
  exact syncYield_some opts args kw progress canRetry hf
    (by rw [h.callee v hv.1, hv.2]) (h.inv_call hv.1).1

theorem syncYield_owner {env : DEnv} {s : DState} (h : DealerInv s) {v : Invk} (hv : v ∈ s.d.invs) (opts : Dict)
    (args : List WVal) (kw : Dict) (progress canRetry : Bool) :
    syncYield env s v.id.sess v.id.req opts args kw progress canRetry =
      yieldOut env s v.id.sess v.id.req opts args kw progress canRetry v :=
  syncYield_some' h.call opts args kw progress canRetry (h.call.inv_call hv).2.2

theorem forget_forget (d : Dealer) (c i : ReqId) : (d.forget c i).forget c i = d.forget c i := by
  simp [Dealer.forget, Dealer.delCall, Dealer.delByCall, Dealer.delInv]

@[simp] theorem yieldTimer_d (s : DState) (progress : Bool) (v : Invk) : (yieldTimer s progress v).d = s.d := by
  unfold yieldTimer; split <;> simp

theorem yieldFinish_calls (s : DState) (progress : Bool) (v : Invk) (iid : ReqId) :
    (yieldFinish s progress v iid).d.calls = if progress then s.d.calls else s.d.calls.filter (· != v.callId) := by
  unfold yieldFinish
  split <;> simp

theorem yieldOut_deliver {env : DEnv} {s : DState} {callee : SessKey} {req : Nat} {opts : Dict}
    (args : List WVal) (kw : Dict) (progress canRetry : Bool) (v : Invk)
    (h1 : yieldPptCalleeBad env callee opts = false) (h2 : yieldPptCallerBad env v.callId.sess opts = false)
    (h3 : env.full v.callId.sess = false) :
    yieldOut env s callee req opts args kw progress canRetry v =
      { st := yieldFinish s progress v ⟨callee, req⟩
        sends := [⟨v.callId.sess, .result v.callId.req (yieldDetails opts progress) args kw⟩] } := by
  unfold yieldOut
  unfold yieldPptCalleeBad at h1
  unfold yieldPptCallerBad at h2
  simp only
  rw [if_neg (by simp [h1]), if_neg (by simp [h2]), if_pos (by simp [h3])]
  rfl

theorem yieldOut_retry {env : DEnv} {s : DState} {callee : SessKey} {req : Nat} {opts : Dict}
    (args : List WVal) (kw : Dict) (progress : Bool) (v : Invk)
    (h1 : yieldPptCalleeBad env callee opts = false) (h2 : yieldPptCallerBad env v.callId.sess opts = false)
    (h3 : env.full v.callId.sess = true) :
    yieldOut env s callee req opts args kw progress true v =
      { st := yieldTimer s progress v, again := true } := by
  unfold yieldOut
  unfold yieldPptCalleeBad at h1
  unfold yieldPptCallerBad at h2
  simp only
  rw [if_neg (by simp [h1]), if_neg (by simp [h2]), if_neg (by simp [h3])]
  rfl

/-- the dropped-RESULT branch of `syncYield` (caller's queue full, no retry left) on a stored invocation -/
theorem yieldOut_giveup {env : DEnv} {s : DState} (h : DealerInv s) {callee : SessKey} {req : Nat} {opts : Dict}
    (args : List WVal) (kw : Dict) (progress : Bool) {v : Invk} (hv : v ∈ s.d.invs) (hi : v.id = ⟨callee, req⟩)
    (h1 : yieldPptCalleeBad env callee opts = false) (h2 : yieldPptCallerBad env v.callId.sess opts = false)
    (h3 : env.full v.callId.sess = true) :
    yieldOut env s callee req opts args kw progress false v =
      if v.canceled then { st := yieldFinish s progress v ⟨callee, req⟩ }
      else
        { st := { cancelMark (yieldTimer s progress v) v with
                  d := (cancelMark (yieldTimer s progress v) v).d.forget v.callId ⟨callee, req⟩ }
          sends := (if canInterrupt env v CancelModeKillNoWait
                    then [interruptOf v ⟨callee, req⟩ CancelModeKillNoWait ErrCanceled] else []) ++
                   [callErr v.callId [] ErrCanceled [] []] } := by
  have hgu : yieldOut env s callee req opts args kw progress false v =
      let o := syncCancel env (yieldTimer s progress v) v.callId.sess v.callId.req CancelModeKillNoWait ErrCanceled []
      { o with st := if progress then o.st else { o.st with d := o.st.d.forget v.callId ⟨callee, req⟩ } } := by
    unfold yieldOut
    unfold yieldPptCalleeBad at h1
    unfold yieldPptCallerBad at h2
    simp only
    rw [if_neg (by simp [h1]), if_neg (by simp [h2]), if_neg (by simp [h3])]
    rfl
  rw [hgu, syncCancel_stored (s := yieldTimer s progress v) (by rw [yieldTimer_d]; exact h.call)
    (by rw [yieldTimer_d]; exact hv), hi]
  by_cases hcan : v.canceled = true
  · rw [if_pos hcan, if_pos hcan]
    unfold yieldFinish
    cases progress <;> rfl
  · -- the cancellation (killnowait) has forgotten the call already
    rw [if_neg hcan, if_neg hcan, cancelOut_eq, if_neg (by decide : ¬ CancelModeKillNoWait = CancelModeKill)]
    cases progress <;> split <;> simp only [Bool.false_eq_true, if_false, forget_forget] <;> rfl

/-- Case analysis of `syncYield` on the stored invocation `v`, under the invariant: payload passthru refused for the
    callee or for the caller, RESULT delivered, retry pending, RESULT dropped (the call was cancelled before, or is
    cancelled now). -/
theorem yieldOut_cases {P : DOut → Prop} {env : DEnv} {s : DState} (h : DealerInv s) {callee : SessKey} {req : Nat}
    (opts : Dict) (args : List WVal) (kw : Dict) (progress canRetry : Bool) {v : Invk} (hv : v ∈ s.d.invs)
    (hi : v.id = ⟨callee, req⟩)
    (calleeBad : yieldPptCalleeBad env callee opts = true →
      P { st := { (yieldTimer s progress v).cancelTimer v.timer with
                  d := ((yieldTimer s progress v).cancelTimer v.timer).d.forget v.callId ⟨callee, req⟩ }
          sends := [pptErr v.callId, ⟨callee, abortMsg "<text>"⟩]
          aborts := [callee] })
    (callerBad : yieldPptCalleeBad env callee opts = false → yieldPptCallerBad env v.callId.sess opts = true →
      P { st := yieldFinish s progress v ⟨callee, req⟩
          sends := [⟨callee, .error tYIELD req [("error", .str "<text>")] ErrFeatureNotSupported [] []⟩] ++
                   (if progress then [] else [pptErr v.callId]) })
    (deliver : yieldPptCalleeBad env callee opts = false → yieldPptCallerBad env v.callId.sess opts = false →
      env.full v.callId.sess = false →
      P { st := yieldFinish s progress v ⟨callee, req⟩
          sends := [⟨v.callId.sess, .result v.callId.req (yieldDetails opts progress) args kw⟩] })
    (retry : env.full v.callId.sess = true → canRetry = true → P { st := yieldTimer s progress v, again := true })
    (dropped : env.full v.callId.sess = true → canRetry = false → v.canceled = true →
      P { st := yieldFinish s progress v ⟨callee, req⟩ })
    (giveup : env.full v.callId.sess = true → canRetry = false → v.canceled = false →
      P { st := { cancelMark (yieldTimer s progress v) v with
                  d := (cancelMark (yieldTimer s progress v) v).d.forget v.callId ⟨callee, req⟩ }
          sends := (if canInterrupt env v CancelModeKillNoWait
                    then [interruptOf v ⟨callee, req⟩ CancelModeKillNoWait ErrCanceled] else []) ++
                   [callErr v.callId [] ErrCanceled [] []] }) :
    P (yieldOut env s callee req opts args kw progress canRetry v) := by
  cases h1 : yieldPptCalleeBad env callee opts
  case true =>
    unfold yieldOut; unfold yieldPptCalleeBad at h1
    simp only
    rw [if_pos h1]; exact calleeBad h1
  cases h2 : yieldPptCallerBad env v.callId.sess opts
  case true =>
    unfold yieldOut; unfold yieldPptCalleeBad at h1; unfold yieldPptCallerBad at h2
    simp only
    rw [if_neg (by simp [h1]), if_pos h2]; exact callerBad h1 h2
  cases h3 : env.full v.callId.sess
  case false => rw [yieldOut_deliver args kw progress canRetry v h1 h2 h3]; exact deliver h1 h2 h3
  cases canRetry
  case true => rw [yieldOut_retry args kw progress v h1 h2 h3]; exact retry h3 rfl
  rw [yieldOut_giveup h args kw progress hv hi h1 h2 h3]
  cases hc : v.canceled
  · exact giveup h3 rfl hc
  · exact dropped h3 rfl hc

/-- A YIELD is a sequence of moves after which, unless it was progressive, its invocation is gone — except that a
    non-progress YIELD told to retry has stopped the timer of a call that stays. -/
theorem syncYield_moves {env : DEnv} {s : DState} (h : DealerInv s) (callee : SessKey) (req : Nat) (opts : Dict)
    (args : List WVal) (kw : Dict) (progress canRetry : Bool) :
    (Moves s (syncYield env s callee req opts args kw progress canRetry).st ∧
      (progress = false →
        ∀ w ∈ (syncYield env s callee req opts args kw progress canRetry).st.d.invs, w.id ≠ ⟨callee, req⟩)) ∨
    ((syncYield env s callee req opts args kw progress canRetry).again = true ∧ progress = false ∧
      ∃ v ∈ s.d.invs, v.id = ⟨callee, req⟩ ∧
        (syncYield env s callee req opts args kw progress canRetry).st = s.cancelTimer v.timer) := by
  cases hf : s.d.findInv ⟨callee, req⟩ with
  | none =>
    rw [syncYield_unknown args kw progress canRetry hf]
    split <;> exact .inl ⟨.refl s, fun _ => findInv_eq_none.1 hf⟩
  | some v =>
    rw [syncYield_some' h.call opts args kw progress canRetry hf]
    obtain ⟨hv, hi⟩ := findInv_some_mem hf
    -- the ways the call ends: every one forgets the invocation
    have gone (S : DState) (c : ReqId) : ∀ w ∈ (S.d.forget c ⟨callee, req⟩).invs, w.id ≠ ⟨callee, req⟩ :=
      fun w hw => by simpa using (List.mem_filter.1 hw).2
    have hend : Moves s { s.cancelTimer v.timer with d := s.d.forget v.callId ⟨callee, req⟩ } :=
      hi ▸ .single (.endCall hv)
    have hfin : Moves s (yieldFinish s progress v ⟨callee, req⟩) ∧
        (progress = false → ∀ w ∈ (yieldFinish s progress v ⟨callee, req⟩).d.invs, w.id ≠ ⟨callee, req⟩) := by
      cases progress
      · exact ⟨by simpa [yieldFinish, yieldTimer] using hend, fun _ => gone _ _⟩
      · exact ⟨.refl s, nofun⟩
    refine yieldOut_cases (P := fun o => (Moves s o.st ∧ (progress = false → ∀ w ∈ o.st.d.invs, w.id ≠ ⟨callee, req⟩)) ∨
        (o.again = true ∧ progress = false ∧ ∃ v ∈ s.d.invs, v.id = ⟨callee, req⟩ ∧ o.st = s.cancelTimer v.timer))
      h opts args kw progress canRetry hv hi ?_ (fun _ _ => .inl hfin) (fun _ _ _ => .inl hfin) ?_
      (fun _ _ _ => .inl hfin) ?_
    · intro _
      refine .inl ⟨?_, fun _ => gone _ _⟩
      cases progress
      · simpa [yieldTimer, cancelTimer_idem] using hend
      · simpa [yieldTimer] using hend
    · intro _ _
      cases progress
      · exact .inr ⟨rfl, rfl, v, hv, hi, rfl⟩
      · exact .inl ⟨.refl s, nofun⟩
    · intro _ _ _
      have := Moves.cancelEnd hv
      rw [hi] at this
      refine .inl ⟨?_, fun _ => gone _ _⟩
      cases progress
      · simpa [yieldTimer, cancelMark_stopped] using this
      · exact this

theorem syncYield_inv {env : DEnv} {s : DState} (h : DealerInv s) (callee : SessKey) (req : Nat) (opts : Dict)
    (args : List WVal) (kw : Dict) (progress canRetry : Bool) :
    DealerInv (syncYield env s callee req opts args kw progress canRetry).st := by
  rcases syncYield_moves (env := env) h callee req opts args kw progress canRetry with ⟨m, _⟩ | ⟨_, _, v, _, _, he⟩
  · exact m.inv h
  · exact he ▸ h.cancelTimer _

theorem pickCallee_shape {reg reg' : Reg} {rnd : Nat} {c : SessKey} (h : pickCallee reg rnd = some (c, reg')) :
    reg'.shape = reg.shape ∧ c ∈ reg.callees ∧ reg'.id = reg.id ∧ reg'.disclose = reg.disclose ∧
      reg'.fwdTimeout = reg.fwdTimeout ∧ reg'.«match» = reg.«match» := by
  obtain ⟨hc, he⟩ := pickCallee_mem h
  rw [he]
  exact ⟨rfl, hc, rfl, rfl, rfl, rfl⟩

/-- A registration satisfying the invariant always yields a callee: the Go `panic("multiple callees
    registered … with 'single' policy")` is unreachable.  (Uses `RegsOk.known`: `dealer.register` refuses
    invocation policies outside the six known ones; without that check the panic would be reachable, see
    `pickCallee_unknown_policy_panics`.) -/
theorem pickCallee_isSome {regs : List Reg} {n : Nat} (h : RegsOk regs n) {reg : Reg} (hm : reg ∈ regs) (rnd : Nat) :
    ∃ c reg', pickCallee reg rnd = some (c, reg') := by
  cases hp : pickCallee reg rnd with
  | some p => exact ⟨p.1, p.2, rfl⟩
  | none =>
    exfalso
    rcases (pickCallee_none_iff reg rnd).1 hp with he | ⟨h2, h3, h4, h5, h6⟩
    · exact (h.callees reg hm).1 he
    · have hk := h.known reg hm
      simp only [Realm.knownPolicies, List.mem_cons, List.not_mem_nil, or_false] at hk
      rcases hk with hk | hk | hk | hk | hk | hk
      · have := h.single reg hm (Or.inl hk); omega
      · have := h.single reg hm (Or.inr hk); omega
      · exact h3 hk
      · exact h6 hk
      · exact h4 hk
      · exact h5 hk

/-- the side condition is needed: two callees under an unknown policy make `pickCallee` fail -/
theorem pickCallee_unknown_policy_panics :
    pickCallee { id := 1, proc := "p", «match» := "", policy := "foo", disclose := false, fwdTimeout := false,
                 callees := [1, 2] } 0 = none := by
  decide

theorem errMsg_call (caller : SessKey) (req : Nat) (e : String) :
    (⟨caller, errMsg tCALL req e⟩ : Send) = callErr ⟨caller, req⟩ [] e [] [] := rfl

theorem findInv_setInv_ne {d : Dealer} {v : Invk} {i : ReqId} (hne : i ≠ v.id) :
    (d.setInv v).findInv i = d.findInv i :=
  find?_key_replace_ne (f := fun x : Invk => x.id) d.invs rfl hne

/-- output of a CALL whose callee has no room: the INVOCATION is treated as answered with ERROR network_failure —
    the call `c` (invocation `i`, recorded timer `t`) is forgotten and the caller gets that ERROR -/
def fullOut (S : DState) (c i : ReqId) (t : Option Nat) : DOut :=
  { st := { S.cancelTimer t with d := S.d.forget c i }
    sends := [callErr c [] ErrNetworkFailure [.str "<text>"] []] }

theorem firstChunk_ok {env : DEnv} {s : DState} {reg : Reg} {caller : SessKey} {req : Nat} {opts : Dict} {proc : String}
    (args : List WVal) (kw : Dict) {callee : SessKey} (reg' : Reg)
    (hr : callRefusal env s.d.allowDisclose reg caller callee opts = none) (hf : env.full callee = false) :
    firstChunk env s reg caller req opts proc args kw callee reg' =
      { st := armTimer env (recordCall { s with d := s.d.setReg reg' } (newInvk s reg caller req callee opts) callee) caller req
                (newInvk s reg caller req callee opts) (routerTimeout env reg callee opts)
        sends := [⟨callee, .invocation (genOf s.invGen callee + 1) reg.id (invDetails env reg caller callee opts proc) args kw⟩] } := by
  rw [firstChunk_eq, hr]
  simp only [dispatch, hf, Bool.false_eq_true, if_false, newInvk_id]

theorem firstChunk_full_eq {env : DEnv} {s : DState} (h : DealerInv s) {reg : Reg} (hm : reg ∈ s.d.regs) {caller : SessKey}
    {req : Nat} {opts : Dict} {proc : String} (args : List WVal) (kw : Dict) {callee : SessKey} {reg' : Reg}
    (hs : reg'.shape = reg.shape) (hc : (⟨caller, req⟩ : ReqId) ∉ s.d.calls)
    (hr : callRefusal env s.d.allowDisclose reg caller callee opts = none) (hf : env.full callee = true) :
    firstChunk env s reg caller req opts proc args kw callee reg' =
      fullOut (recordCall { s with d := s.d.setReg reg' } (newInvk s reg caller req callee opts) callee) ⟨caller, req⟩
        ⟨callee, genOf s.invGen callee + 1⟩ none := by
  rw [firstChunk_eq, hr]
  have h2 : DealerInv (recordCall { s with d := s.d.setReg reg' } (newInvk s reg caller req callee opts) callee) :=
    (h.setReg hm hs).recordCall hc
  have hfi := (findInv_eq_some h2.call.invIds).2
    ⟨(List.mem_append_right _ (List.mem_singleton.2 rfl) : newInvk s reg caller req callee opts ∈ _ ++ [_]), rfl⟩
  simp only [newInvk_id] at hfi ⊢
  rw [dispatch, if_pos hf, syncError_some h2.call _ _ _ _ hfi]
  rfl

theorem fullOut_fresh_calls {s : DState} {reg : Reg} {reg' : Reg} {caller : SessKey} {req : Nat} {callee : SessKey}
    {opts : Dict} (hc : (⟨caller, req⟩ : ReqId) ∉ s.d.calls) (i : ReqId) (t : Option Nat) :
    (fullOut (recordCall { s with d := s.d.setReg reg' } (newInvk s reg caller req callee opts) callee) ⟨caller, req⟩
      i t).st.d.calls = s.d.calls := by
  show ((s.d.calls ++ [(newInvk s reg caller req callee opts).callId]).filter (· != (⟨caller, req⟩ : ReqId))) = s.d.calls
  have hcid : (newInvk s reg caller req callee opts).callId = ⟨caller, req⟩ := rfl
  rw [hcid, List.filter_append]
  have : s.d.calls.filter (· != (⟨caller, req⟩ : ReqId)) = s.d.calls :=
    List.filter_eq_self.2 (fun a ha => by simpa using fun he : a = ⟨caller, req⟩ => hc (he ▸ ha))
  rw [this]; simp

theorem laterChunk_ok {env : DEnv} {s : DState} (caller : SessKey) (req : Nat) (opts : Dict)
    (args : List WVal) (kw : Dict) (iid : ReqId) {v0 : Invk} (hf : env.full v0.callee = false) :
    laterChunk env s caller req opts args kw iid v0 =
      { st := armTimer env (preCancel { s with d := s.d.setInv { v0 with inProgress := opts.optFlag OptProgress } }
                  { v0 with inProgress := opts.optFlag OptProgress } (routerTimeoutF env v0.fwdTimeout v0.callee v0.options)) caller req
                { v0 with inProgress := opts.optFlag OptProgress } (routerTimeoutF env v0.fwdTimeout v0.callee v0.options)
        sends := [⟨v0.callee, .invocation iid.req v0.regId [(OptProgress, .bool (opts.optFlag OptProgress))] args kw⟩] } := by
  unfold laterChunk
  simp only [dispatchL, hf, Bool.false_eq_true, if_false]

theorem laterChunk_full_eq {env : DEnv} {s : DState} (h : DealerInv s) {caller : SessKey} {req : Nat}
    (opts : Dict) (args : List WVal) (kw : Dict) {iid : ReqId} {v0 : Invk}
    (hb : s.d.byCall? ⟨caller, req⟩ = some iid) (hfi : s.d.findInv iid = some v0) (hf : env.full v0.callee = true) :
    laterChunk env s caller req opts args kw iid v0 =
      fullOut { s with d := s.d.setInv { v0 with inProgress := opts.optFlag OptProgress } } ⟨caller, req⟩ iid v0.timer := by
  obtain ⟨_, v, hf', hv, hvi, hvc, hve⟩ := h.call.byCall?_some hb
  rw [hfi] at hf'; cases hf'
  have h1 := h.setInv (v' := { v0 with inProgress := opts.optFlag OptProgress }) hv rfl rfl
  have hfi' := (findInv_eq_some h1.call.invIds).2
    ⟨mem_setInv_self hv rfl, (rfl : ({ v0 with inProgress := opts.optFlag OptProgress } : Invk).id = v0.id)⟩
  have hid : (⟨v0.callee, iid.req⟩ : ReqId) = iid := by rw [hve]
  unfold laterChunk
  simp only
  rw [dispatchL, if_pos hf, syncError_some h1.call _ _ _ _ (by rw [hid, ← hvi]; exact hfi'), hid]
  unfold fullOut
  simp only
  rw [hvc]

/-- Case analysis of `syncCall` under the invariant (the two panics and the empty-callee-list branch are excluded):
    a later chunk of a pending call (aborted / sent / callee full), or a new call (no match / caller aborted /
    refused / caller aborted for passthru / sent / callee full). -/
theorem syncCall_cases {env : DEnv} {s : DState} (h : DealerInv s) (caller : SessKey) (req : Nat) (opts : Dict)
    (proc : String) (args : List WVal) (kw : Dict) (rnd : Nat) {P : DOut → Prop}
    (hAbort : (opts.optFlag OptProgress && !hasFeat env caller RoleCaller FeatureProgCallInvocations) = true →
      P (progressAbort s caller))
    (hLaterOk : ∀ (iid : ReqId) (v0 : Invk), s.d.byCall? ⟨caller, req⟩ = some iid → s.d.findInv iid = some v0 →
      v0 ∈ s.d.invs → v0.id = iid → v0.callId = ⟨caller, req⟩ → v0.callee = iid.sess → env.full v0.callee = false →
      P { st := armTimer env (preCancel { s with d := s.d.setInv { v0 with inProgress := opts.optFlag OptProgress } }
                    { v0 with inProgress := opts.optFlag OptProgress } (routerTimeoutF env v0.fwdTimeout v0.callee v0.options)) caller req
                  { v0 with inProgress := opts.optFlag OptProgress } (routerTimeoutF env v0.fwdTimeout v0.callee v0.options)
          sends := [⟨v0.callee, .invocation iid.req v0.regId [(OptProgress, .bool (opts.optFlag OptProgress))] args kw⟩] })
    (hLaterFull : ∀ (iid : ReqId) (v0 : Invk), s.d.byCall? ⟨caller, req⟩ = some iid → s.d.findInv iid = some v0 →
      v0 ∈ s.d.invs → v0.id = iid → v0.callId = ⟨caller, req⟩ → v0.callee = iid.sess → env.full v0.callee = true →
      P (fullOut { s with d := s.d.setInv { v0 with inProgress := opts.optFlag OptProgress } } ⟨caller, req⟩ iid v0.timer))
    (hNoMatch : s.d.byCall? ⟨caller, req⟩ = none → (⟨caller, req⟩ : ReqId) ∉ s.d.calls → s.d.matchProcedure proc = none →
      P { st := s, sends := [callErr ⟨caller, req⟩ [] ErrNoSuchProcedure [] []] })
    (hRefErr : ∀ (reg reg' : Reg) (callee : SessKey) (e : String), s.d.byCall? ⟨caller, req⟩ = none →
      (⟨caller, req⟩ : ReqId) ∉ s.d.calls → s.d.matchProcedure proc = some reg → reg ∈ s.d.regs →
      pickCallee reg rnd = some (callee, reg') → reg'.shape = reg.shape →
      callRefusal env s.d.allowDisclose reg caller callee opts = some (.err e) →
      P { st := { s with d := s.d.setReg reg' }, sends := [callErr ⟨caller, req⟩ [] e [] []] })
    (hRefAbort : ∀ (reg reg' : Reg) (callee : SessKey), s.d.byCall? ⟨caller, req⟩ = none →
      (⟨caller, req⟩ : ReqId) ∉ s.d.calls → s.d.matchProcedure proc = some reg → reg ∈ s.d.regs →
      pickCallee reg rnd = some (callee, reg') → reg'.shape = reg.shape →
      callRefusal env s.d.allowDisclose reg caller callee opts = some .abort →
      P { st := { s with d := s.d.setReg reg' }, sends := [⟨caller, abortMsg "<text>"⟩], aborts := [caller] })
    (hFirstOk : ∀ (reg reg' : Reg) (callee : SessKey), s.d.byCall? ⟨caller, req⟩ = none →
      (⟨caller, req⟩ : ReqId) ∉ s.d.calls → s.d.matchProcedure proc = some reg → reg ∈ s.d.regs →
      pickCallee reg rnd = some (callee, reg') → reg'.shape = reg.shape →
      callRefusal env s.d.allowDisclose reg caller callee opts = none → env.full callee = false →
      P { st := armTimer env (recordCall { s with d := s.d.setReg reg' } (newInvk s reg caller req callee opts) callee)
                  caller req (newInvk s reg caller req callee opts) (routerTimeout env reg callee opts)
          sends := [⟨callee, .invocation (genOf s.invGen callee + 1) reg.id (invDetails env reg caller callee opts proc)
                      args kw⟩] })
    (hFirstFull : ∀ (reg reg' : Reg) (callee : SessKey), s.d.byCall? ⟨caller, req⟩ = none →
      (⟨caller, req⟩ : ReqId) ∉ s.d.calls → s.d.matchProcedure proc = some reg → reg ∈ s.d.regs →
      pickCallee reg rnd = some (callee, reg') → reg'.shape = reg.shape →
      callRefusal env s.d.allowDisclose reg caller callee opts = none → env.full callee = true →
      P (fullOut (recordCall { s with d := s.d.setReg reg' } (newInvk s reg caller req callee opts) callee) ⟨caller, req⟩
          ⟨callee, genOf s.invGen callee + 1⟩ none)) :
    P (syncCall env s caller req opts proc args kw rnd) := by
  rw [syncCall_eq]
  split
  · rename_i iid hb
    obtain ⟨_, v, hf', hv, hvi, hvc, hve⟩ := h.call.byCall?_some hb
    rw [hf']
    simp only
    split
    · rename_i hp; exact hAbort hp
    · cases hf : env.full v.callee with
      | false => rw [laterChunk_ok caller req opts args kw iid hf]; exact hLaterOk iid v hb hf' hv hvi hvc hve hf
      | true => rw [laterChunk_full_eq h opts args kw hb hf' hf]; exact hLaterFull iid v hb hf' hv hvi hvc hve hf
  · rename_i hb
    have hc0 : (⟨caller, req⟩ : ReqId) ∉ s.d.calls := by
      intro hc
      obtain ⟨i, _, hb', _⟩ := h.call.lookup hc
      rw [hb] at hb'; cases hb'
    split
    · rename_i hm; exact hNoMatch hb hc0 hm
    · rename_i reg hm
      have hmem := matchProcedure_mem hm
      split
      · rename_i he
        exact absurd (by simpa using he) (h.reg.regs.callees reg hmem).1
      · split
        · rename_i hp; exact hAbort hp
        · split
          · rename_i hp
            obtain ⟨c, reg', hp'⟩ := pickCallee_isSome h.reg.regs hmem rnd
            rw [hp] at hp'; cases hp'
          · rename_i callee reg' hp
            have hs := (pickCallee_shape hp).1
            cases hr : callRefusal env s.d.allowDisclose reg caller callee opts with
            | some r =>
              rw [firstChunk_eq, hr]
              cases r with
              | err e => exact hRefErr reg reg' callee e hb hc0 hm hmem hp hs hr
              | abort => exact hRefAbort reg reg' callee hb hc0 hm hmem hp hs hr
            | none =>
              cases hf : env.full callee with
              | false => rw [firstChunk_ok args kw reg' hr hf]; exact hFirstOk reg reg' callee hb hc0 hm hmem hp hs hr hf
              | true =>
                rw [firstChunk_full_eq h hmem args kw hs hc0 hr hf]
                exact hFirstFull reg reg' callee hb hc0 hm hmem hp hs hr hf

/-- What a CALL for call `c` does before the call is pending: nothing; the round-robin cursor of the chosen
    registration moves; and the call is recorded. -/
inductive Opens (s : DState) (c : ReqId) : DState → Prop
  | same : Opens s c s
  | cursor {reg reg' : Reg} {callee : SessKey} {rnd : Nat} (hm : reg ∈ s.d.regs)
      (hp : pickCallee reg rnd = some (callee, reg')) : Opens s c { s with d := s.d.setReg reg' }
  | record {reg reg' : Reg} {callee : SessKey} {rnd : Nat} (opts : Dict) (hm : reg ∈ s.d.regs)
      (hp : pickCallee reg rnd = some (callee, reg')) (hc : c ∉ s.d.calls) :
      Opens s c (recordCall { s with d := s.d.setReg reg' } (newInvk s reg c.sess c.req callee opts) callee)

theorem Opens.inv {s S : DState} {c : ReqId} (h : DealerInv s) (o : Opens s c S) : DealerInv S := by
  cases o with
  | same => exact h
  | cursor hm hp => exact h.setReg hm (pickCallee_shape hp).1
  | record opts hm hp hc => exact (h.setReg hm (pickCallee_shape hp).1).recordCall hc

theorem syncCall_moves {env : DEnv} {s : DState} (h : DealerInv s) (caller : SessKey) (req : Nat) (opts : Dict)
    (proc : String) (args : List WVal) (kw : Dict) (rnd : Nat) :
    ∃ S, Opens s ⟨caller, req⟩ S ∧ Moves S (syncCall env s caller req opts proc args kw rnd).st := by
  -- a later chunk first updates the `inProgress` flag of the stored invocation
  have flag {v0 : Invk} (hv : v0 ∈ s.d.invs) :
      Move s { s with d := s.d.setInv { v0 with inProgress := opts.optFlag OptProgress } } ∧
      ({ v0 with inProgress := opts.optFlag OptProgress } : Invk) ∈
        (s.d.setInv { v0 with inProgress := opts.optFlag OptProgress }).invs :=
    ⟨.flag hv rfl rfl id, mem_setInv_self hv rfl⟩
  refine syncCall_cases (env := env) (P := fun o => ∃ S, Opens s ⟨caller, req⟩ S ∧ Moves S o.st)
    h caller req opts proc args kw rnd ?_ ?_ ?_ ?_ ?_ ?_ ?_ ?_
  · intro _; exact ⟨s, .same, .refl s⟩
  · intro iid v0 _ _ hv hvi hvc _ _
    exact ⟨s, .same, .step (flag hv).1
      (.single (.rearm (v := { v0 with inProgress := opts.optFlag OptProgress }) (flag hv).2 env hvc _))⟩
  · intro iid v0 _ _ hv hvi hvc _ _
    subst hvi
    rw [← hvc]
    exact ⟨s, .same, .step (flag hv).1
      (.single (.endCall (v := { v0 with inProgress := opts.optFlag OptProgress }) (flag hv).2))⟩
  · intro _ _ _; exact ⟨s, .same, .refl s⟩
  · intro reg reg' callee e _ _ _ hm hp _ _; exact ⟨_, .cursor hm hp, .refl _⟩
  · intro reg reg' callee _ _ _ hm hp _ _; exact ⟨_, .cursor hm hp, .refl _⟩
  · intro reg reg' callee _ hc _ hm hp hs _ _
    have := Move.rearm (s := recordCall { s with d := s.d.setReg reg' } (newInvk s reg caller req callee opts) callee)
      (List.mem_append_right _ (List.mem_singleton.2 rfl)) env (caller := caller) (req := req) rfl
      (routerTimeout env reg callee opts)
    rw [preCancel_none rfl] at this
    exact ⟨_, .record opts hm hp hc, .single this⟩
  · intro reg reg' callee _ hc _ hm hp hs _ _
    have := Move.endCall (s := recordCall { s with d := s.d.setReg reg' } (newInvk s reg caller req callee opts) callee)
      (List.mem_append_right _ (List.mem_singleton.2 rfl))
    rw [newInvk_id] at this
    exact ⟨_, .record opts hm hp hc, .single this⟩

theorem syncCall_inv {env : DEnv} {s : DState} (h : DealerInv s) (caller : SessKey) (req : Nat) (opts : Dict)
    (proc : String) (args : List WVal) (kw : Dict) (rnd : Nat) :
    DealerInv (syncCall env s caller req opts proc args kw rnd).st := by
  obtain ⟨S, ho, hm⟩ := syncCall_moves (env := env) h caller req opts proc args kw rnd
  exact hm.inv (ho.inv h)

theorem RegsOk.keyUnique {regs : List Reg} {n : Nat} (h : RegsOk regs n) : KeyUnique regs := by
  have := h.keys
  unfold List.Nodup at this
  rw [List.pairwise_map] at this
  unfold KeyUnique
  refine this.imp ?_
  intro a b hne hab
  exact hne (by rw [hab.1, hab.2])

theorem RegsOk.setCallees {d : Dealer} {n : Nat} (h : RegsOk d.regs n) {reg : Reg} (hm : reg ∈ d.regs)
    {cs : List SessKey} (hne : cs ≠ []) (hnd : cs.Nodup)
    (hs : (reg.policy = "" ∨ reg.policy = InvokeSingle) → cs.length ≤ 1) :
    RegsOk (d.setReg { reg with callees := cs }).regs n := by
  refine ⟨setReg_ids d _ ▸ h.ids, ?_, ?_, ?_, ?_, ?_⟩
  · rw [setReg_map _ h.ids hm (reg' := { reg with callees := cs }) rfl rfl]; exact h.keys
  all_goals
    intro y hy
    rcases mem_setReg.1 hy with ⟨hy, _⟩ | ⟨rfl, _⟩
  · exact h.range y hy
  · exact h.range reg hm
  · exact h.callees y hy
  · exact ⟨hne, hnd⟩
  · exact h.single y hy
  · exact hs
  · exact h.known y hy
  · exact h.known reg hm

theorem calleeRel_setReg {d : Dealer} {reg : Reg} (hm : reg ∈ d.regs)
    (cs : List SessKey) (id : Nat) (c : SessKey) :
    calleeRel (d.setReg { reg with callees := cs }).regs id c ↔
      (id ≠ reg.id ∧ calleeRel d.regs id c) ∨ (id = reg.id ∧ c ∈ cs) := by
  unfold calleeRel
  constructor
  · rintro ⟨y, hy, h1, h2⟩
    rcases mem_setReg.1 hy with ⟨hy, hne⟩ | ⟨rfl, _⟩
    · exact Or.inl ⟨h1 ▸ hne, y, hy, h1, h2⟩
    · exact Or.inr ⟨h1.symm, h2⟩
  · rintro (⟨hne, y, hy, h1, h2⟩ | ⟨rfl, hc⟩)
    · exact ⟨y, mem_setReg.2 (Or.inl ⟨hy, h1 ▸ hne⟩), h1, h2⟩
    · exact ⟨_, mem_setReg.2 (Or.inr ⟨rfl, reg, hm, rfl⟩), rfl, hc⟩

theorem RegsOk.delReg {d : Dealer} {n : Nat} (h : RegsOk d.regs n) (id : Nat) : RegsOk (d.delReg id).regs n :=
  ⟨nodup_map_filter _ _ h.ids, nodup_map_filter _ _ h.keys,
   fun r hr => h.range r (List.mem_filter.1 hr).1, fun r hr => h.callees r (List.mem_filter.1 hr).1,
   fun r hr => h.single r (List.mem_filter.1 hr).1, fun r hr => h.known r (List.mem_filter.1 hr).1⟩

theorem calleeRel_delReg {d : Dealer} (rid id : Nat) (c : SessKey) :
    calleeRel (d.delReg rid).regs id c ↔ id ≠ rid ∧ calleeRel d.regs id c := by
  unfold calleeRel Dealer.delReg
  simp only [List.mem_filter, bne_iff_ne, ne_eq]
  constructor
  · rintro ⟨y, ⟨hy, hne⟩, h1, h2⟩; exact ⟨h1 ▸ hne, y, hy, h1, h2⟩
  · rintro ⟨hne, y, hy, h1, h2⟩; exact ⟨y, ⟨hy, h1 ▸ hne⟩, h1, h2⟩

theorem delCalleeReg_none {d : Dealer} {n : Nat} (h : RegsOk d.regs n) {k : SessKey} {id : Nat}
    (hr : ¬ calleeRel d.regs id k) : d.delCalleeReg k id = none := by
  cases he : d.delCalleeReg k id with
  | none => rfl
  | some x =>
    obtain ⟨reg, hf, hk, _⟩ := delCalleeReg_of_some (d' := x.1) (del := x.2) he
    have := (findReg_eq_some h.ids).1 hf
    exact absurd ⟨reg, this.1, this.2, hk⟩ hr

theorem delCalleeReg_some {d : Dealer} {n : Nat} (h : RegsOk d.regs n) {k : SessKey} {id : Nat}
    (hr : calleeRel d.regs id k) :
    ∃ regs' del, d.delCalleeReg k id = some ({ d with regs := regs' }, del) ∧ RegsOk regs' n ∧
      ∀ id' c, calleeRel regs' id' c ↔ calleeRel d.regs id' c ∧ ¬ (c = k ∧ id' = id) := by
  obtain ⟨reg, hm, hid, hk⟩ := hr
  have hf := (findReg_eq_some h.ids).2 ⟨hm, hid⟩
  have hnd := (h.callees reg hm).2
  rw [delCalleeReg_eq hf hk]
  have hrel : ∀ id' c, calleeRel d.regs id' c → id' = id → c ∈ reg.callees := by
    rintro id' c ⟨y, hy, h1, h2⟩ he
    have : y = reg := nodup_map_inj h.ids hy hm (h1.trans (he.trans hid.symm))
    exact this ▸ h2
  by_cases hl : reg.callees = [k]
  · rw [if_pos hl]
    refine ⟨(d.delReg id).regs, _, rfl, h.delReg id, fun id' c => ?_⟩
    rw [calleeRel_delReg]
    constructor
    · rintro ⟨hne, hc⟩; exact ⟨hc, fun hx => hne hx.2⟩
    · rintro ⟨hc, hne⟩
      refine ⟨fun hx => hne ⟨?_, hx⟩, hc⟩
      -- `k` was the only callee
      have hcm := hrel id' c hc hx
      rw [hl] at hcm
      exact List.mem_singleton.1 hcm
  · rw [if_neg hl]
    have hne' : eraseFirst k reg.callees ≠ [] := fun e => hl ((eraseFirst_isEmpty_iff k _ hk).1 (by rw [e]; rfl))
    refine ⟨(d.setReg { reg with callees := eraseFirst k reg.callees }).regs, _, rfl,
      h.setCallees hm hne' (nodup_eraseFirst hnd) ?_, fun id' c => ?_⟩
    · intro hp
      exact Nat.le_trans (length_eraseFirst_le _ _) (h.single reg hm hp)
    · rw [calleeRel_setReg hm, mem_eraseFirst hnd]
      constructor
      · rintro (⟨hne, hc⟩ | ⟨rfl, hck, hc⟩)
        · exact ⟨hc, fun hx => hne (hx.2.trans hid.symm)⟩
        · exact ⟨⟨reg, hm, rfl, hc⟩, fun hx => hck hx.1⟩
      · rintro ⟨hc, hne⟩
        by_cases hx : id' = reg.id
        · refine Or.inr ⟨hx, fun hck => hne ⟨hck, hx.trans hid⟩, hrel id' c hc (hx.trans hid)⟩
        · exact Or.inl ⟨hx, hc⟩

theorem syncRegister_inv {s : DState} (h : DealerInv s) (callee : SessKey) (req : Nat) (proc «match» invoke : String)
    (disclose fwd wampURI : Bool) (hk : invoke ∈ Realm.knownPolicies) :
    DealerInv (syncRegister s callee req proc «match» invoke disclose fwd wampURI).st := by
  have hr := h.reg.regs
  refine syncRegister_cases (P := fun o => DealerInv o.st) s callee req proc «match» invoke disclose fwd wampURI
    ?_ (fun _ _ _ => h) ?_
  · intro hf
    have hn := findProc_eq_none.1 hf
    refine h.withRegs ⟨⟨?_, ?_, ?_, ?_, ?_, ?_⟩, idxAdd_ok h.reg.ix _ _, fun k id => ?_⟩ rfl rfl rfl
    · exact nodup_map_append_singleton _ hr.ids fun x hx => Nat.ne_of_lt (Nat.lt_succ_of_le (hr.range x hx).2)
    · exact nodup_map_append_singleton _ hr.keys fun x hx he =>
        hn x hx ⟨(Prod.mk.inj he).2, (Prod.mk.inj he).1⟩
    · exact List.forall_mem_append.2
        ⟨fun r hm => ⟨(hr.range r hm).1, Nat.le_succ_of_le (hr.range r hm).2⟩, by simp⟩
    · exact List.forall_mem_append.2 ⟨hr.callees, by simp⟩
    · exact List.forall_mem_append.2 ⟨hr.single, by simp⟩
    · exact List.forall_mem_append.2 ⟨hr.known, by simpa using hk⟩
    · show _ ∈ idxIds (idxAdd s.d.index callee (s.d.nextReg + 1)) k ↔ calleeRel (s.d.regs ++ [_]) id k
      rw [mem_idxIds_idxAdd h.reg.ix, h.reg.ixIff, calleeRel_append_singleton]
      simp [eq_comm, and_comm]
  · intro reg hf hp1 _ hc
    have hm := ((findProc_eq_some hr.keys).1 hf).1
    refine h.withRegs ⟨?_, idxAdd_ok h.reg.ix _ _, fun k id => ?_⟩ rfl rfl rfl
    · exact hr.setCallees hm (by simp) (nodup_append_singleton (hr.callees reg hm).2 hc) (fun hp => absurd hp hp1)
    · show _ ∈ idxIds (idxAdd s.d.index callee reg.id) k ↔
        calleeRel (s.d.setReg { reg with callees := reg.callees ++ [callee] }).regs id k
      rw [mem_idxIds_idxAdd h.reg.ix, h.reg.ixIff, calleeRel_setReg hm]
      by_cases hx : id = reg.id
      · subst hx; simp [calleeRel_self hr.ids hm]
      · simp [hx]

/-- UNREGISTER under the invariant, whether or not `callee` was a callee of `regId`: afterwards it is not, and nothing
    else has changed in the callee relation. -/
theorem syncUnregister_regs {s : DState} (h : DealerInv s) (callee : SessKey) (req regId : Nat) :
    ∃ regs', (syncUnregister s callee req regId).st =
        { s with d := { s.d with regs := regs', index := idxDel s.d.index callee regId } } ∧
      RegsOk regs' s.d.nextReg ∧
      ∀ id k, calleeRel regs' id k ↔ calleeRel s.d.regs id k ∧ ¬ (k = callee ∧ id = regId) := by
  unfold syncUnregister
  simp only
  by_cases hr : calleeRel s.d.regs regId callee
  · obtain ⟨regs', _, he, hok, hrel⟩ :=
      delCalleeReg_some (d := { s.d with index := idxDel s.d.index callee regId }) h.reg.regs hr
    rw [he]
    exact ⟨regs', rfl, hok, hrel⟩
  · rw [delCalleeReg_none (d := { s.d with index := idxDel s.d.index callee regId }) h.reg.regs hr]
    exact ⟨s.d.regs, rfl, h.reg.regs, fun id k => ⟨fun hx => ⟨hx, fun hc => hr (hc.1 ▸ hc.2 ▸ hx)⟩, fun hx => hx.1⟩⟩

theorem syncUnregister_inv {s : DState} (h : DealerInv s) (callee : SessKey) (req regId : Nat) :
    DealerInv (syncUnregister s callee req regId).st := by
  obtain ⟨regs', he, hok, hrel⟩ := syncUnregister_regs h callee req regId
  rw [he]
  refine h.withRegs ⟨hok, idxDel_ok h.reg.ix _ _, fun k id => ?_⟩ rfl rfl rfl
  show id ∈ idxIds (idxDel s.d.index callee regId) k ↔ calleeRel regs' id k
  rw [hrel, mem_idxIds_idxDel h.reg.ix, h.reg.ixIff]

end Nexus.L2
