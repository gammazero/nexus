/-
  TimerLive — the liveness half of the call-timer invariant of the dealer model.

  `DealerInv` (field `AuxInv.timerOwned`) says: every live (armed, not cancelled) timer is the timer recorded in
  the invocation of its pending call.  This file is about the converse: a pending, not cancelled invocation that
  records a timer has that timer live in the table — except while its callee's handler sits in the retry loop
  of a non-progress YIELD (`syncYield` stops the timer, keeps the call and answers `again`), and except when the
  recorded timer has just been taken out of the table by the expiry bookkeeping (`dropTimers`).

  `DeadInv s i`   invocation `i` is stored, not cancelled, records a timer, and that timer is not live.
  `LiveStep s s' Q`  going from `s` to `s'` creates dead recorded timers only for the invocations in `Q`.
  `TimerLive P s`    every dead invocation of `s` is in `P` (the "parked" invocations).

  No recorded timer dies across a move (`Move.liveStep`), hence across ERROR, CANCEL, CALL and session removal; a
  YIELD adds the one exception.  Main results: `dstep_liveStep` — for every step the exact set `Q` (empty except for
  the blocked non-progress YIELD and the expiry bookkeeping), and the composite "a timer fires" (`timerFire_liveStep`).
-/
import Nexus.L2.Proofs.DealerTimer
import Nexus.L2.Proofs.DealerFrame

namespace Nexus.L2.WpB
open Nexus.L2 Nexus.Gen.N

def LiveT (s : DState) (tid : Nat) : Prop := ∃ t ∈ s.timers, t.id = tid ∧ t.canceled = false

def DeadInv (s : DState) (i : ReqId) : Prop :=
  ∃ v ∈ s.d.invs, v.id = i ∧ v.canceled = false ∧ ∃ tid, v.timer = some tid ∧ ¬ LiveT s tid

def TimerLive (P : ReqId → Prop) (s : DState) : Prop := ∀ i, DeadInv s i → P i

def LiveStep (s s' : DState) (Q : ReqId → Prop) : Prop := ∀ i, DeadInv s' i → DeadInv s i ∨ Q i

def none : ReqId → Prop := fun _ => False

theorem LiveStep.refl (s : DState) : LiveStep s s none := fun _ h => Or.inl h

theorem LiveStep.of_eq {s s' : DState} (h : s' = s) : LiveStep s s' none := h ▸ LiveStep.refl s

theorem LiveStep.trans {a b c : DState} {Q1 Q2 : ReqId → Prop} (h1 : LiveStep a b Q1) (h2 : LiveStep b c Q2) :
    LiveStep a c (fun i => Q1 i ∨ Q2 i) := by
  intro i hd
  rcases h2 i hd with hb | hq
  · rcases h1 i hb with ha | hq
    · exact Or.inl ha
    · exact Or.inr (Or.inl hq)
  · exact Or.inr (Or.inr hq)

/-- replace the exception set: every excepted invocation that is dead in `s'` must be in `Q'` (or dead before) -/
theorem LiveStep.discharge {s s' : DState} {Q Q' : ReqId → Prop} (h : LiveStep s s' Q)
    (hq : ∀ i, Q i → DeadInv s' i → DeadInv s i ∨ Q' i) : LiveStep s s' Q' := by
  intro i hd
  rcases h i hd with ha | hq'
  · exact Or.inl ha
  · exact hq i hq' hd

theorem LiveStep.mono {s s' : DState} {Q Q' : ReqId → Prop} (h : LiveStep s s' Q) (hq : ∀ i, Q i → Q' i) :
    LiveStep s s' Q' := h.discharge (fun i hi _ => Or.inr (hq i hi))

theorem LiveStep.trans0 {a b c : DState} (h1 : LiveStep a b none) (h2 : LiveStep b c none) : LiveStep a c none :=
  (h1.trans h2).mono (fun _ h => h.elim id id)

theorem TimerLive.step {P Q : ReqId → Prop} {s s' : DState} (h : TimerLive P s) (st : LiveStep s s' Q) :
    TimerLive (fun i => P i ∨ Q i) s' := by
  intro i hd
  rcases st i hd with ha | hq
  · exact Or.inl (h i ha)
  · exact Or.inr hq

theorem TimerLive.step0 {P : ReqId → Prop} {s s' : DState} (h : TimerLive P s) (st : LiveStep s s' none) :
    TimerLive P s' := fun i hd => (h.step st i hd).elim id (fun f => f.elim)

theorem liveT_cancelTimer (s : DState) (x : Option Nat) (tid : Nat) :
    LiveT (s.cancelTimer x) tid ↔ LiveT s tid ∧ x ≠ some tid := by
  constructor
  · rintro ⟨t, ht, hid, hc⟩
    obtain ⟨h1, h2⟩ := cancelTimer_live ht hc
    exact ⟨⟨t, h1, hid, hc⟩, hid ▸ h2⟩
  · rintro ⟨⟨t, ht, hid, hc⟩, hx⟩
    refine ⟨t, ?_, hid, hc⟩
    rw [cancelTimer_timers]
    refine List.mem_map.2 ⟨t, ht, ?_⟩
    rw [if_neg]
    intro e
    exact hx (hid ▸ e.symm)

/-- the general "nothing dies" lemma: same timer table; every uncancelled invocation of `s'` that records a timer
    was there, uncancelled, with the same timer -/
theorem liveStep_of_invs {s s' : DState} (ht : s'.timers = s.timers)
    (hw : ∀ w' ∈ s'.d.invs, w'.canceled = false → ∀ tid, w'.timer = some tid →
      ∃ w ∈ s.d.invs, w.id = w'.id ∧ w.canceled = false ∧ w.timer = some tid) : LiveStep s s' none := by
  rintro i ⟨w', hw', hid, hc, tid, htm, hdead⟩
  obtain ⟨w, hwm, h1, h2, h3⟩ := hw w' hw' hc tid htm
  exact Or.inl ⟨w, hwm, h1.trans hid, h2, tid, h3, fun hl => hdead (by unfold LiveT; rwa [ht])⟩

/-- removing invocations (and anything else that leaves the remaining ones and the timers alone) -/
theorem liveStep_shrink {s s' : DState} (ht : s'.timers = s.timers) (hw : ∀ w ∈ s'.d.invs, w ∈ s.d.invs) :
    LiveStep s s' none :=
  liveStep_of_invs ht (fun w' hw' hc _ htm => ⟨w', hw w' hw', rfl, hc, htm⟩)

theorem liveStep_forget (s : DState) (c i : ReqId) : LiveStep s { s with d := s.d.forget c i } none :=
  liveStep_shrink rfl (fun _ hw => (List.mem_filter.1 hw).1)

/-- replacing a stored invocation by a copy with the same timer that is cancelled if the original was -/
theorem liveStep_setInv {s : DState} {v v' : Invk} (hv : v ∈ s.d.invs)
    (hid : v'.id = v.id) (ht : v'.timer = v.timer) (hc : v'.canceled = false → v.canceled = false) :
    LiveStep s { s with d := s.d.setInv v' } none := by
  refine liveStep_of_invs rfl ?_
  intro w' hw' hcw tid htm
  rcases mem_setInv.1 hw' with ⟨hw, _⟩ | ⟨rfl, _⟩
  · exact ⟨w', hw, rfl, hcw, htm⟩
  · exact ⟨v, hv, hid.symm, hc hcw, ht ▸ htm⟩

/-- stopping the timer recorded in the stored invocation `v`: only `v`'s recorded timer dies -/
theorem liveStep_cancelTimer {s : DState} (h : DealerInv s) {v : Invk} (hv : v ∈ s.d.invs) :
    LiveStep s (s.cancelTimer v.timer) (fun i => i = v.id) := by
  rintro i ⟨w, hw, hid, hc, tid, htm, hdead⟩
  rw [cancelTimer_d] at hw
  by_cases hl : LiveT s tid
  · right
    have hx : v.timer = some tid := by
      apply Classical.byContradiction
      intro hne
      exact hdead ((liveT_cancelTimer s v.timer tid).2 ⟨hl, hne⟩)
    rw [← hid]
    exact h.aux.invTimerInj w hw v hv tid htm hx
  · exact Or.inl ⟨w, hw, hid, hc, tid, htm, hl⟩

theorem liveStep_cancelTimer_none (s : DState) : LiveStep s (s.cancelTimer Option.none) none := LiveStep.refl s

theorem liveStep_armTimer {env : DEnv} (s : DState) (v : Invk)
    (caller : SessKey) (req : Nat) (tmo : Nat) : LiveStep s (armTimer env s caller req v tmo) none := by
  unfold armTimer
  split
  · rintro i ⟨w', hw', hid, hc, tid, htm, hdead⟩
    rcases mem_setInv.1 hw' with ⟨hw, _⟩ | ⟨rfl, _⟩
    · left
      refine ⟨w', hw, hid, hc, tid, htm, ?_⟩
      rintro ⟨t, ht, htid, htc⟩
      exact hdead ⟨t, List.mem_append_left _ ht, htid, htc⟩
    · exfalso
      simp only [Option.some.injEq] at htm
      exact hdead ⟨_, List.mem_append_right _ (List.mem_singleton.2 rfl), htm, rfl⟩
  · exact LiveStep.refl s

theorem not_dead_of_gone {s' : DState} {i : ReqId} (h : ∀ w ∈ s'.d.invs, w.id = i → w.canceled = true) :
    ¬ DeadInv s' i := by
  rintro ⟨w, hw, hid, hc, _⟩
  rw [h w hw hid] at hc; cases hc

theorem not_dead_forget {S : DState} (c i : ReqId) : ¬ DeadInv ({ S with d := S.d.forget c i } : DState) i :=
  not_dead_of_gone fun w hw hid => by simpa [hid] using (List.mem_filter.1 hw).2

/-- on the way to a state from which invocation `i` has just been forgotten only recorded timers of `i` died: none
    is left dead -/
theorem LiveStep.forgotten {s S : DState} {Q : ReqId → Prop} {c i : ReqId}
    (h : LiveStep s { S with d := S.d.forget c i } Q) (hq : ∀ j, Q j → j = i) :
    LiveStep s { S with d := S.d.forget c i } none :=
  h.discharge fun j hj hd => absurd (hq j hj ▸ hd) (not_dead_forget c i)

theorem liveStep_endCall {s : DState} (h : DealerInv s) {v : Invk} (hv : v ∈ s.d.invs) (c : ReqId) :
    LiveStep s { s.cancelTimer v.timer with d := s.d.forget c v.id } none := by
  have := ((liveStep_cancelTimer h hv).trans (liveStep_forget _ c v.id)).forgotten fun j hj => hj.elim id False.elim
  rwa [cancelTimer_d] at this

theorem liveStep_cancelMark {s : DState} (h : DealerInv s) {v : Invk} (hv : v ∈ s.d.invs) :
    LiveStep s (cancelMark s v) none := by
  have h1 : LiveStep s { s with d := s.d.setInv { v with canceled := true } } none :=
    liveStep_setInv hv rfl rfl (fun hc => by cases hc)
  have hm : ({ v with canceled := true } : Invk) ∈ (s.d.setInv { v with canceled := true }).invs :=
    mem_setInv_self hv rfl
  have hi1 : DealerInv ({ s with d := s.d.setInv { v with canceled := true } } : DState) :=
    h.setInv (v' := { v with canceled := true }) hv rfl rfl
  have h2 := liveStep_cancelTimer hi1 (v := { v with canceled := true }) hm
  refine (h1.trans h2).discharge ?_
  intro i hi hd
  exfalso
  rcases hi with hf | rfl
  · exact hf
  · refine not_dead_of_gone ?_ hd
    intro w hw hid
    have hw' : w ∈ (s.d.setInv { v with canceled := true }).invs := by
      rw [cancelTimer_d] at hw; exact hw
    have : w = { v with canceled := true } := nodup_map_inj hi1.call.invIds hw' hm hid
    rw [this]

/-- A non-progress YIELD that is not told to retry ends its invocation: whatever the outcome (delivered, refused for
    passthru, given up, caller gone), no invocation `(callee, req)` is stored afterwards. -/
theorem syncYield_final_gone {env : DEnv} {s : DState} (h : DealerInv s) (callee : SessKey) (req : Nat) (opts : Dict)
    (args : List WVal) (kw : Dict) (canRetry : Bool)
    (hag : (syncYield env s callee req opts args kw false canRetry).again = false) :
    ∀ w ∈ (syncYield env s callee req opts args kw false canRetry).st.d.invs, w.id ≠ ⟨callee, req⟩ := by
  rcases syncYield_moves (env := env) h callee req opts args kw false canRetry with ⟨_, hg⟩ | ⟨ha, _⟩
  · exact hg rfl
  · rw [hag] at ha; cases ha

theorem armTimer_not_dead {env : DEnv} (S : DState) (v : Invk) (caller : SessKey) (req : Nat)
    {tmo : Nat} (hpos : 0 < tmo) : ¬ DeadInv (armTimer env S caller req v tmo) v.id := by
  rw [armTimer_pos hpos]
  rintro ⟨w, hw, hid, hc, tid, htm, hdead⟩
  rcases (mem_setInv (d := S.d) (v := { v with timer := some (S.nextTimer + 1) })).1 hw with ⟨_, hne⟩ | ⟨rfl, _⟩
  · exact hne hid
  · simp only [Option.some.injEq] at htm
    exact hdead ⟨_, List.mem_append_right _ (List.mem_singleton.2 rfl), htm, rfl⟩

theorem liveStep_setReg (s : DState) (r : Reg) : LiveStep s { s with d := s.d.setReg r } none :=
  liveStep_shrink rfl (fun _ hw => hw)

theorem liveStep_recordCall (s : DState) {v : Invk} (hvt : v.timer = Option.none) (callee : SessKey) :
    LiveStep s (recordCall s v callee) none := by
  refine liveStep_of_invs rfl ?_
  intro w' hw' hc tid htm
  rcases List.mem_append.1 (show w' ∈ s.d.invs ++ [v] from hw') with hw | hw
  · exact ⟨w', hw, rfl, hc, htm⟩
  · simp only [List.mem_singleton] at hw; subst hw
    rw [hvt] at htm; cases htm

/-- a later chunk restarts the timeout: the recorded timer is stopped, the next one armed and recorded -/
theorem liveStep_rearm {env : DEnv} {S : DState} (h : DealerInv S) {v : Invk} (hv : v ∈ S.d.invs) (caller : SessKey)
    (req tmo : Nat) : LiveStep S (armTimer env (preCancel S v tmo) caller req v tmo) none := by
  by_cases hpos : 0 < tmo
  · rw [preCancel_pos _ _ hpos]
    refine ((liveStep_cancelTimer h hv).trans (liveStep_armTimer (env := env) _ v caller req tmo)).discharge ?_
    rintro i (rfl | f) hd
    · exact absurd hd (armTimer_not_dead (env := env) _ v caller req hpos)
    · exact f.elim
  · obtain rfl : tmo = 0 := by omega
    rw [preCancel_zero, armTimer_zero]
    exact LiveStep.refl _

theorem _root_.Nexus.L2.Move.liveStep {s s' : DState} (h : DealerInv s) (m : Move s s') : LiveStep s s' none := by
  cases m with
  | flag hv hc ha hk => exact liveStep_setInv hv (congrArg (·.1) hc) (congrArg (·.2.2) ha) hk
  | mark hv => exact liveStep_cancelMark h hv
  | endCall hv => exact liveStep_endCall h hv _
  | rearm hv env _ t => exact liveStep_rearm h hv _ _ t

/-- no recorded timer dies across a sequence of moves -/
theorem _root_.Nexus.L2.Moves.liveStep {s s' : DState} (h : DealerInv s) (m : Moves s s') : LiveStep s s' none := by
  induction m with
  | refl => exact .refl _
  | step mv _ ih => exact (mv.liveStep h).trans0 (ih (mv.inv h))

theorem _root_.Nexus.L2.Opens.liveStep {s S : DState} {c : ReqId} (o : Opens s c S) : LiveStep s S none := by
  cases o with
  | same => exact .refl s
  | cursor => exact liveStep_setReg s _
  | record => exact (liveStep_setReg s _).trans0 (liveStep_recordCall _ rfl _)

theorem syncError_liveStep {s : DState} (h : DealerInv s) (callee : SessKey) (req : Nat) (details : Dict) (err : String)
    (args : List WVal) (kw : Dict) : LiveStep s (syncError s callee req details err args kw).st none :=
  (syncError_moves ..).liveStep h

theorem syncCancel_liveStep {env : DEnv} {s : DState} (h : DealerInv s) (caller : SessKey) (req : Nat)
    (mode reason : String) (errArgs : List WVal) :
    LiveStep s (syncCancel env s caller req mode reason errArgs).st none :=
  (syncCancel_moves h ..).liveStep h

/-- A recorded timer dies in `syncYield` only for the invocation it is for, and only when a non-progress YIELD meets a
    full caller queue and is told to retry. -/
theorem syncYield_liveStep {env : DEnv} {s : DState} (h : DealerInv s) (callee : SessKey) (req : Nat) (opts : Dict)
    (args : List WVal) (kw : Dict) (progress canRetry : Bool) :
    LiveStep s (syncYield env s callee req opts args kw progress canRetry).st
      (fun i => (syncYield env s callee req opts args kw progress canRetry).again = true ∧ progress = false ∧
        i = ⟨callee, req⟩) := by
  rcases syncYield_moves (env := env) h callee req opts args kw progress canRetry with ⟨m, _⟩ | ⟨ha, hp, v, hv, hi, he⟩
  · exact (m.liveStep h).mono (fun _ f => f.elim)
  · exact he ▸ (liveStep_cancelTimer h hv).mono (fun i e => ⟨ha, hp, e.trans hi⟩)

theorem syncCall_liveStep {env : DEnv} {s : DState} (h : DealerInv s) (caller : SessKey) (req : Nat) (opts : Dict)
    (proc : String) (args : List WVal) (kw : Dict) (rnd : Nat) :
    LiveStep s (syncCall env s caller req opts proc args kw rnd).st none := by
  obtain ⟨S, ho, hm⟩ := syncCall_moves (env := env) h caller req opts proc args kw rnd
  exact ho.liveStep.trans0 (hm.liveStep (ho.inv h))

theorem syncRemoveSession_liveStep {env : DEnv} {s : DState} (h : DealerInv s) (k : SessKey) :
    LiveStep s (syncRemoveSession env s k).st none := by
  obtain ⟨s1, h1, hi, ht, m⟩ := syncRemoveSession_moves (env := env) h k
  exact (liveStep_shrink ht (fun w hw => hi ▸ hw)).trans0 (m.liveStep h1)

theorem syncRegister_liveStep (s : DState) (callee : SessKey) (req : Nat) (proc m invoke : String)
    (disclose fwd wampURI : Bool) :
    LiveStep s (syncRegister s callee req proc m invoke disclose fwd wampURI).st none := by
  obtain ⟨_, _, _, h⟩ := syncRegister_st s callee req proc m invoke disclose fwd wampURI
  rw [h]
  exact liveStep_shrink rfl (fun _ hw => hw)

theorem syncUnregister_liveStep (s : DState) (callee : SessKey) (req regId : Nat) :
    LiveStep s (syncUnregister s callee req regId).st none := by
  obtain ⟨_, h⟩ := syncUnregister_st s callee req regId
  rw [h]
  exact liveStep_shrink rfl (fun _ hw => hw)

theorem _root_.Nexus.L2.DAct.live {s : DState} {k : SessKey} {m : Msg} {o : DOut} (h : DealerInv s)
    (st : DAct s k m o) : LiveStep s o.st none := by
  cases st with
  | register => exact syncRegister_liveStep _ _ _ _ _ _ _ _ _
  | unregister => exact syncUnregister_liveStep _ _ _ _
  | call => exact syncCall_liveStep h _ _ _ _ _ _ _
  | cancel => exact syncCancel_liveStep h _ _ _ _ _
  | error => exact syncError_liveStep h _ _ _ _ _ _

/-- dropping timers from the table: a recorded timer dies only if it is dropped -/
theorem liveStep_filter (s : DState) (p : Timer → Bool) :
    LiveStep s { s with timers := s.timers.filter p }
      (fun i => ∃ v ∈ s.d.invs, v.id = i ∧ ∃ t ∈ s.timers, p t = false ∧ t.canceled = false ∧ v.timer = some t.id) := by
  rintro i ⟨w, hw, hid, hc, tid, htm, hdead⟩
  by_cases hl : LiveT s tid
  · obtain ⟨t, ht, htid, htc⟩ := hl
    right
    refine ⟨w, hw, hid, t, ht, ?_, htc, by rw [htm, htid]⟩
    cases hp : p t
    · rfl
    · exact absurd ⟨t, List.mem_filter.2 ⟨ht, hp⟩, htid, htc⟩ hdead
  · exact Or.inl ⟨w, hw, hid, hc, tid, htm, hl⟩

/-- A timer fires (`Realm.timerDue`): the live timer `t` leaves the table and `syncCancel(killnowait, timeout)` is
    posted for its call.  No recorded timer dies: `t` is the timer recorded for its own call (`timerOwned`), and that
    call is ended (or was cancelled before). -/
theorem timerFire_liveStep {env : DEnv} {s : DState} (h : DealerInv s) {t : Timer} (ht : t ∈ s.timers)
    (hc : t.canceled = false) (reason : String) (errArgs : List WVal) :
    LiveStep s (syncCancel env { s with timers := s.timers.filter (fun y => y.id != t.id) } t.caller t.req
      CancelModeKillNoWait reason errArgs).st none := by
  have hf := h.filterTimers (fun y => y.id != t.id)
  have a := liveStep_filter s (fun y => y.id != t.id)
  have b := syncCancel_liveStep (env := env) hf t.caller t.req CancelModeKillNoWait reason errArgs
  obtain ⟨v, hv, hvc, hvt⟩ := h.aux.timerOwned t ht hc
  refine (a.trans b).discharge ?_
  intro i hq hd
  exfalso
  rcases hq with ⟨w, hw, hwi, t', ht', hp, _, hwt⟩ | f
  · have hid : t'.id = t.id := by simpa using hp
    have hwv : w = v := nodup_map_inj h.call.invIds hw hv (h.aux.invTimerInj w hw v hv t.id (hid ▸ hwt) hvt)
    subst hwv
    subst hwi
    -- `w` is the invocation of the call the timer belongs to
    have hw' : w ∈ ({ s with timers := s.timers.filter (fun y => y.id != t.id) } : DState).d.invs := hw
    by_cases hcan : w.canceled = true
    · -- cancelled before (kill mode outstanding): the firing timer changes nothing, and `w` is not "dead"
      have := syncCancel_canceled (env := env) hf hw' hvc hcan CancelModeKillNoWait reason errArgs
      rw [this] at hd
      obtain ⟨w2, hw2, hid2, hc2, _⟩ := hd
      have : w2 = w := nodup_map_inj h.call.invIds hw2 hw hid2
      rw [this, hcan] at hc2; cases hc2
    · have hlive := syncCancel_live (env := env) hf hw' hvc (by simpa using hcan) CancelModeKillNoWait reason errArgs
      rw [hlive] at hd
      have hk : ¬ CancelModeKillNoWait = CancelModeKill := by decide
      rw [if_neg hk] at hd
      split at hd <;> exact not_dead_forget _ _ hd
  · exact f

/-- the invocations whose recorded timer can die in the step `s → o`: the invocation a non-progress YIELD is told to
    retry for (its timer was stopped, the call kept), and the invocations whose recorded live timer the expiry
    bookkeeping `dropTimers p` takes out of the table -/
def Exc (s : DState) (o : DOut) (i : ReqId) : Prop :=
  (o.again = true ∧ ∃ env opts args kw canRetry, o = syncYield env s i.sess i.req opts args kw false canRetry) ∨
  (∃ p, o = { st := { s with timers := s.timers.filter p } } ∧
    ∃ v ∈ s.d.invs, v.id = i ∧ ∃ t ∈ s.timers, p t = false ∧ t.canceled = false ∧ v.timer = some t.id)

/-- Across any step of the dealer a recorded timer dies (is cancelled or leaves the table while the
    invocation stays stored and not cancelled) only in the two situations of `Exc`.  In particular: every `sync*`
    function other than a blocked non-progress `syncYield` preserves "every pending, not cancelled invocation that
    records a timer has it live". -/
theorem dstep_liveStep {s : DState} {o : DOut} (h : DealerInv s) (st : DStep s o) : LiveStep s o.st (Exc s o) := by
  cases st with
  | register => exact (syncRegister_liveStep _ _ _ _ _ _ _ _ _).mono (fun _ f => f.elim)
  | unregister => exact (syncUnregister_liveStep _ _ _ _).mono (fun _ f => f.elim)
  | call => exact (syncCall_liveStep h _ _ _ _ _ _ _).mono (fun _ f => f.elim)
  | cancel => exact (syncCancel_liveStep h _ _ _ _ _).mono (fun _ f => f.elim)
  | error => exact (syncError_liveStep h _ _ _ _ _ _).mono (fun _ f => f.elim)
  | removeSession => exact (syncRemoveSession_liveStep h _).mono (fun _ f => f.elim)
  | yield env callee req opts args kw progress canRetry =>
    refine (syncYield_liveStep h callee req opts args kw progress canRetry).mono ?_
    rintro i ⟨ha, hp, rfl⟩
    subst hp
    exact Or.inl ⟨ha, env, opts, args, kw, canRetry, rfl⟩
  | dropTimers p =>
    refine (liveStep_filter s p).mono ?_
    intro i hq
    exact Or.inr ⟨p, rfl, hq⟩

theorem TimerLive.dstep {P : ReqId → Prop} {s : DState} {o : DOut} (hl : TimerLive P s) (h : DealerInv s)
    (st : DStep s o) : TimerLive (fun i => P i ∨ Exc s o i) o.st := hl.step (dstep_liveStep h st)

end Nexus.L2.WpB
