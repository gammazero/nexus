/-
  What the handler of a session does to the realm when it processes one message, said once.
  `Realm.Handles k m r r'`: `r'` is `r` after the handler of session `k` has dealt with message `m` — nothing; a
  reply to `k`; `k` marked as ending with its departure queued (after at most one reply); one dealer action of
  `k` applied through `applyD`; a YIELD of `k` (`handleYield`); one broker action of `k`, its messages delivered
  and possibly acknowledged.  Each starts from `r` itself: the authorization gate lets a message through without
  touching the realm, and no handler performs a second table action.  `handleMsg_handles`: the message handlers
  do nothing else.  A relation between realm states that each of these outcomes satisfies therefore holds of
  every handler (`Handled.of_handles`, `Eff.of_handles`, `Good.of_handles`, `Acts.of_handles`, `Idle.of_handles`, …).
-/
import Nexus.L2.Proofs.RealmAuthz
import Nexus.L2.Proofs.DealerRefs
import Nexus.L2.Proofs.DealerRemove
import Nexus.L2.Proofs.RealmRefsBroker
import Nexus.L2.Proofs.BrokerDeliver

namespace Nexus.L2
open Gen.N

variable {k : SessKey} {m : Msg}

/-- the broker action the handler of session `k` performs for message `m` when the publication counter stands at
    `pc`: the new table, the new counter and the messages to deliver.  A publication carries the id `pubBase + pc`
    and details without `topic` and without publisher keys. -/
inductive BAct (b : Broker) (k : SessKey) (pc : Nat) : Msg → Broker → Nat → List Send → Prop
  | publish (req : Nat) (opts : Dict) (topic : String) (args : List WVal) (kw : Dict)
      (sess : SessKey → Option Session) (now : Nat) (p : Publication) (hid : p.pubId = pubBase + pc)
      (hok : ∀ key, (key = "topic" ∨ isPublisherKey key) → p.baseDetails.get? key = none) :
      BAct b k pc (.publish req opts topic args kw) (b.syncPublish sess now p).1 (pc + 1) (b.syncPublish sess now p).2
  | subscribe (req : Nat) (opts : Dict) (topic «match» : String) :
      BAct b k pc (.subscribe req opts topic) (b.syncSubscribe k req topic «match» pc).1
        (pc + (b.syncSubscribe k req topic «match» pc).2.2) (b.syncSubscribe k req topic «match» pc).2.1
  | unsubscribe (req subId : Nat) :
      BAct b k pc (.unsubscribe req subId) (b.syncUnsubscribe k req subId pc).1
        (pc + (b.syncUnsubscribe k req subId pc).2.2) (b.syncUnsubscribe k req subId pc).2.1

theorem BAct.good {b b' : Broker} {pc n : Nat} {ss : List Send} (hb : BrokerInv b) (st : BAct b k pc m b' n ss) :
    BrokerInv b' ∧ (∀ j, b'.mem j → b.mem j ∨ (j = k ∧ m.clientOnly = true)) ∧ ∀ x ∈ ss, b.mem x.to ∨ x.to = k := by
  cases st with
  | publish req opts topic args kw sess now p =>
    have t := b.tells_publish sess now p
    exact ⟨hb.publish .., fun j hj => .inl ((t.mem hj).resolve_right nofun), fun x hx => .inl (syncPublish_to hx)⟩
  | subscribe req opts topic mt =>
    have t := hb.tells_subscribe k req topic mt pc
    exact ⟨hb.subscribe .., fun j hj => (t.mem hj).imp_right fun e => ⟨(Option.some.inj e).symm, rfl⟩,
      fun x hx => (t.to hx).imp_right fun e => (Option.some.inj e).symm⟩
  | unsubscribe req subId =>
    exact ⟨hb.unsubscribe .., fun j hj => .inl (syncUnsubscribe_mem hb hj),
      fun x hx => ((hb.tells_unsubscribe k req subId pc).to hx).imp_right fun e => (Option.some.inj e).symm⟩

namespace Realm

/-- how a handler ends its own session: after a GOODBYE, after the ABORT it sent, or for a protocol violation; it
    kills nobody and shuts nothing down -/
def _root_.Nexus.L2.LeaveMode.byHandler : LeaveMode → Prop
  | .lost | .aborted | .violation _ => True
  | _ => False

inductive Handles (k : SessKey) (m : Msg) (r : Realm) : Realm → Prop
  | same : Handles k m r r
  | reply (e : Msg) : Handles k m r (r.trySend ⟨k, e⟩)
  | quit (mode : LeaveMode) (hq : mode.byHandler) : Handles k m r (ended r k mode)
  | replyQuit (e : Msg) (mode : LeaveMode) (hq : mode.byHandler) : Handles k m r (ended (r.trySend ⟨k, e⟩) k mode)
  | dealer {o : DOut} (st : DAct r.ds k m o) : Handles k m r (r.applyD o)
  /-- a YIELD is not a `DAct`: the dealer's `again` answer parks it in `retries`, and the state between the dealer's
      action and the parking breaks `TimerInv`, so `handleYield` stays one move -/
  | yield (s : Session) (hs : s.key = k) (req : Nat) (opts : Dict) (args : List WVal) (kw : Dict)
      (hm : m = .yield req opts args kw) : Handles k m r (handleYield r s req opts args kw)
  /-- `e`, the acknowledgement, is read only when `ack` -/
  | broker {b' : Broker} {n : Nat} {ss : List Send} (st : BAct r.broker k r.pubCount m b' n ss) (ack : Bool) (e : Msg) :
      Handles k m r (if ack then (({ r with broker := b', pubCount := n } : Realm).deliver ss).trySend ⟨k, e⟩
        else ({ r with broker := b', pubCount := n } : Realm).deliver ss)

variable (r : Realm) (s : Session)

theorem handlePublish_handles (req : Nat) (opts : Dict) (topic : String) (args : List WVal) (kw : Dict) :
    Handles s.key (.publish req opts topic args kw) r (handlePublish r s req opts topic args kw) := by
  refine handlePublish_cases r s req opts topic args kw .same (fun _ _ => .reply _) ?_ fun _ _ _ => ?_
  · exact fun _ _ => .replyQuit _ _ trivial
  · rw [deliver_ackList]
    exact .broker (.publish _ _ _ _ _ _ _ (pubOf r s opts topic args kw) rfl fun key hk => realm_base_ok opts _ key hk) _ _

theorem handleRegister_handles (req : Nat) (opts : Dict) (proc : String) :
    Handles s.key (.register req opts proc) r (handleRegister r s req opts proc) :=
  handleRegister_cases r s req opts proc (fun _ _ => .reply _) fun _ _ _ _ hk hw => .dealer (.register _ _ _ _ _ _ _ _ hk hw)

theorem dispatch_handles (m : Msg) : Handles s.key m r (dispatch r s m) := by
  cases m
  case publish => exact handlePublish_handles ..
  case yield => exact .yield s rfl _ _ _ _ rfl
  case call => exact .dealer (.call ..)
  case cancel req opts => exact handleCancel_cases r s req opts (fun _ => .dealer (.cancel ..)) fun _ _ => .reply _
  case subscribe req opts topic =>
    show Handles _ _ r (handleSubscribe r s req opts topic)
    rw [handleSubscribe_eq]
    split
    · exact .reply _
    · exact .broker (.subscribe ..) false (.goodbye [] "")
  case register => exact handleRegister_handles ..
  case unsubscribe req sub =>
    show Handles _ _ r (handleUnsubscribe r s req sub)
    rw [handleUnsubscribe_eq]
    exact .broker (.unsubscribe ..) false (.goodbye [] "")
  case unregister => exact .dealer (.unregister ..)
  case error typ req details err args kw =>
    show Handles _ _ r (if typ != tINVOCATION then _ else r.applyD _)
    split
    · exact .quit _ trivial
    · exact .dealer (.error ..)
  case goodbye => exact .replyQuit _ _ trivial
  all_goals exact .quit _ trivial

theorem handleMsg_handles (m : Msg) : Handles s.key m r (handleMsg r s m) := by
  rw [handleMsg_eq]
  split
  · rename_i h
    rw [authzGate_pass h]
    exact dispatch_handles r s m
  · exact authzGate_cases (P := fun g => Handles s.key _ r g.2) r s m .same .same fun _ _ => .reply _

end Realm
end Nexus.L2
