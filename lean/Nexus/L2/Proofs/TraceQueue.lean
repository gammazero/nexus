/-
  What an atomic action appends to the queues.

  `accepts r s`: `trySend` would append `s.msg` to the queue of `s.to` (an attached client whose queue is
  not full).  `taken r ss`: the offers of `ss` that are appended when `ss` is delivered in order from `r`
  — a sub-list of `ss`.  Then

    (r.deliver ss).queueOf k = r.queueOf k ++ msgsTo k (taken r ss)              (`queueOf_deliver`)
    every message in a queue of `r.deliver ss` was there before or is taken    (`deliver_entries`)

  and for every atomic action `x` but `flush` (`Rec.enqueued x = taken x.pre x.script.offers`):

    x.post.queueOf k = x.pre.queueOf k ++ msgsTo k x.enqueued                    (`Rec.queueOf_post`)

  while `flush` only removes (`flush_entries`: every queue it leaves, and every queue it shows to
  the clients, is a queue of the state before, or empty).
-/
import Nexus.L2.Proofs.Trace

namespace Nexus.L2.WpE
open Nexus.L2 Nexus.L2.Realm Gen.N

theorem accepts_not_client {r : Realm} {s : Send} (h : ¬ r.isClient s.to) : accepts r s = false := by
  unfold accepts
  cases hc : r.client? s.to with
  | none => simp
  | some c => exact absurd (isClient_of_find hc) h

/-- the offers that are appended to a queue when `ss` is delivered in order from `r` -/
def taken (r : Realm) : List Send → List Send
  | [] => []
  | s :: ss => (if accepts r s then [s] else []) ++ taken (r.trySend s) ss

theorem taken_sublist : ∀ (ss : List Send) (r : Realm), (taken r ss).Sublist ss
  | [], _ => List.Sublist.refl _
  | s :: ss, r => by
    unfold taken
    split
    · exact (taken_sublist ss _).cons_cons s
    · exact (taken_sublist ss _).cons s

theorem taken_append (a b : List Send) (r : Realm) : taken r (a ++ b) = taken r a ++ taken (r.deliver a) b := by
  induction a generalizing r with
  | nil => rfl
  | cons s a ih =>
    simp only [List.cons_append, taken, deliver_cons, ih, List.append_assoc]

theorem qlook_enq_append (qs : List (SessKey × List Msg)) (k k' : SessKey) (m : Msg) :
    qlook (enq qs k m) k' = qlook qs k' ++ (if k = k' then [m] else []) := by
  rw [qlook_enq]
  by_cases h : k' = k
  · subst h; simp
  · have : ¬ k = k' := fun e => h e.symm
    simp [h, this]

theorem queueOf_trySend_accepts (r : Realm) (s : Send) (k : SessKey) :
    (r.trySend s).queueOf k = r.queueOf k ++ msgsTo k (if accepts r s then [s] else []) := by
  rw [queueOf_eq, trySend_queues_eq]
  split
  · rw [qlook_enq_append, queueOf_eq]
    unfold msgsTo
    by_cases h : s.to = k <;> simp [h]
  · simp [msgsTo, queueOf_eq]

theorem queueOf_deliver : ∀ (ss : List Send) (r : Realm) (k : SessKey),
    (r.deliver ss).queueOf k = r.queueOf k ++ msgsTo k (taken r ss)
  | [], r, k => by simp [deliver_nil, taken, msgsTo]
  | s :: ss, r, k => by
    rw [deliver_cons, queueOf_deliver ss, queueOf_trySend_accepts]
    show _ = r.queueOf k ++ msgsTo k ((if accepts r s then [s] else []) ++ taken (r.trySend s) ss)
    rw [msgsTo_append, List.append_assoc]

theorem Spec.queueOf_taken {r r' : Realm} {sc : Script} (h : Spec r sc r') (k : SessKey) :
    r'.queueOf k = r.queueOf k ++ msgsTo k (taken r sc.offers) := by
  rw [queueOf_eq, h.queues, ← queueOf_eq, queueOf_deliver]

theorem enq_entries (qs : List (SessKey × List Msg)) (k : SessKey) (m : Msg) :
    ∀ q ∈ enq qs k m, ∀ m' ∈ q.2, (∃ q0 ∈ qs, q0.1 = q.1 ∧ m' ∈ q0.2) ∨ (q.1 = k ∧ m' = m) := by
  intro q hq m' hm'
  unfold enq at hq
  split at hq
  · obtain ⟨q0, hq0, rfl⟩ := List.mem_map.mp hq
    by_cases e : (q0.1 == k) = true
    · simp only [e, if_true] at hm' ⊢
      rcases List.mem_append.mp hm' with h | h
      · exact Or.inl ⟨q0, hq0, rfl, h⟩
      · exact Or.inr ⟨by simpa using e, List.mem_singleton.mp h⟩
    · simp only [e] at hm' ⊢
      exact Or.inl ⟨q0, hq0, rfl, hm'⟩
  · rcases List.mem_append.mp hq with h | h
    · exact Or.inl ⟨q, h, rfl, hm'⟩
    · rw [List.mem_singleton.mp h] at hm' ⊢
      exact Or.inr ⟨rfl, List.mem_singleton.mp hm'⟩

theorem deliver_entries : ∀ (ss : List Send) (r : Realm), ∀ q ∈ (r.deliver ss).queues, ∀ m ∈ q.2,
    (∃ q0 ∈ r.queues, q0.1 = q.1 ∧ m ∈ q0.2) ∨ (⟨q.1, m⟩ : Send) ∈ taken r ss
  | [], r, q, hq, m, hm => Or.inl ⟨q, hq, rfl, hm⟩
  | s :: ss, r, q, hq, m, hm => by
    rw [deliver_cons] at hq
    unfold taken
    rcases deliver_entries ss (r.trySend s) q hq m hm with ⟨q0, hq0, hk, hm0⟩ | h
    · rw [trySend_queues_eq] at hq0
      split at hq0
      · rename_i ha
        rcases enq_entries r.queues s.to s.msg q0 hq0 m hm0 with ⟨q1, hq1, hk1, hm1⟩ | ⟨hk1, hm1⟩
        · exact Or.inl ⟨q1, hq1, hk1.trans hk, hm1⟩
        · right
          rw [if_pos ha]
          refine List.mem_append_left _ (List.mem_singleton.mpr ?_)
          cases s
          simp only at hk1 hm1
          rw [← hk, hk1, hm1]
      · exact Or.inl ⟨q0, hq0, hk, hm0⟩
    · exact Or.inr (List.mem_append_right _ h)

/-- the offers of the action that are appended to a queue -/
def Rec.enqueued (x : Rec) : List Send := taken x.pre x.script.offers

def enqueuedOf (tr : List Rec) : List Send := tr.flatMap Rec.enqueued

theorem Rec.enqueued_offers {x : Rec} {s : Send} (h : s ∈ x.enqueued) : s ∈ x.script.offers :=
  (taken_sublist _ _).subset h

theorem newQueue_empty (x : Rec) : ∀ q ∈ x.newQueue, q.2 = [] := by
  intro q hq
  unfold Rec.newQueue at hq
  split at hq
  · unfold opQueue at hq
    split at hq
    · split at hq
      · cases hq
      · rw [List.mem_singleton.mp hq]
    · cases hq
  · cases hq

theorem newQueue_qlook (x : Rec) (qs : List (SessKey × List Msg)) (k : SessKey) :
    qlook (qs ++ x.newQueue) k = qlook qs k := by
  rw [qlook_append]
  split
  · rfl
  · rename_i h
    rw [qlook_all_empty (newQueue_empty x)]
    exact (qlook_of_not_mem fun q hq e => h (List.any_eq_true.mpr ⟨q, hq, by simpa using e⟩)).symm

theorem Rec.queueOf_post (x : Rec) (hf : x.act.isFlush = false) (k : SessKey) :
    x.post.queueOf k = x.pre.queueOf k ++ msgsTo k x.enqueued := by
  rw [queueOf_eq, (x.spec).2.2.2 hf, newQueue_qlook, ← queueOf_eq, queueOf_deliver]
  rfl

theorem flush_entries (r : Realm) :
    (∀ q ∈ r.flush.2.queues, q ∈ r.queues ∨ q.2 = []) ∧ (∀ q ∈ r.flush.1.out, q ∈ r.queues) := by
  unfold Realm.flush
  extract_lets reading out seenClosed keep keepEmpty
  refine ⟨?_, ?_⟩
  · intro q hq
    rcases List.mem_append.mp hq with h | h
    · exact Or.inl (List.mem_filter.mp h).1
    · obtain ⟨q0, _, rfl⟩ := List.mem_map.mp h
      exact Or.inr rfl
  · intro q hq
    exact (List.mem_filter.mp hq).1

/-- every message in a queue after an action was in a queue of that session before, or is a taken offer -/
theorem Rec.entries (x : Rec) : ∀ q ∈ x.post.queues, ∀ m ∈ q.2,
    (∃ q0 ∈ x.pre.queues, q0.1 = q.1 ∧ m ∈ q0.2) ∨ (⟨q.1, m⟩ : Send) ∈ x.enqueued := by
  intro q hq m hm
  cases hf : x.act.isFlush with
  | false =>
    rw [(x.spec).2.2.2 hf] at hq
    rcases List.mem_append.mp hq with h | h
    · exact deliver_entries _ _ q h m hm
    · rw [newQueue_empty x q h] at hm
      cases hm
  | true =>
    rw [Rec.post_flush hf] at hq
    rcases (flush_entries x.pre).1 q hq with h | h
    · exact Or.inl ⟨q, h, rfl, hm⟩
    · rw [h] at hm; cases hm

/-- Whatever realm function the script `sc` describes, the queue of an attached client afterwards is its old
    content offered the script's messages for it, in order (each dropped iff the queue is full at that moment). -/
theorem Spec.queueOf {r r' : Realm} {sc : Script} (h : Spec r sc r') {k : SessKey} {c : Session} (hk : k ≠ metaKey)
    (hc : r.client? k = some c) : r'.queueOf k = accept c.cap (r.queueOf k) (msgsTo k sc.offers) :=
  (congrArg (qlook · k) h.queues).trans (queueOf_deliver_client sc.offers r k c hk hc)

/-- … the same as a prefix: the messages for the client as far as its queue has room -/
theorem Spec.queueOf_take {r r' : Realm} {sc : Script} (h : Spec r sc r') {k : SessKey} {c : Session} (hk : k ≠ metaKey)
    (hc : r.client? k = some c) :
    r'.queueOf k = r.queueOf k ++ (msgsTo k sc.offers).take (c.cap - r.queueLen k) := by
  rw [h.queueOf hk hc, accept_eq_take, queueLen_eq]

end Nexus.L2.WpE
