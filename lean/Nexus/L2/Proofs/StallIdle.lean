/-
  C07 "stall isolation": the side condition `Idle x r` is preserved by everything that is not an RPC
  message of `x` itself.  The control fields (`retries`, `tasks`) are followed through `WpC.Eff`, the
  dealer's references through `Shrinks` and the `sync*_refs_sub` lemmas.
-/
import Nexus.L2.Proofs.StallRpc
import Nexus.L2.Proofs.DealerRealmRpc
import Nexus.L2.Proofs.RealmInv
import Nexus.L2.Proofs.ControlActions

namespace Nexus.L2.WpC
open Nexus.L2.Realm Gen.N

variable {x : SessKey}

/-- the messages of `x` that wait as `inMsg` tasks.  They belong to the side condition (`Idle.tasks`): a state
    whose tables do not mention `x` stops being such when a queued CALL of `x` runs -/
def inX (x : SessKey) (l : List Task) : List Msg :=
  l.filterMap (fun t => match t with
    | .inMsg k m => if k = x then some m else none
    | _ => none)

@[simp] theorem inX_nil : inX x [] = [] := rfl
@[simp] theorem inX_append (a b : List Task) : inX x (a ++ b) = inX x a ++ inX x b := by
  unfold inX; rw [List.filterMap_append]
@[simp] theorem inX_leave1 (k : SessKey) (m : LeaveMode) : inX x [Task.leave k m] = [] := rfl
@[simp] theorem inX_metaPub1 (p : MetaPub) : inX x [Task.metaPub p] = [] := rfl
@[simp] theorem inX_metaMsg1 (m : Msg) : inX x [Task.metaMsg m] = [] := rfl

theorem mem_inX {l : List Task} {m : Msg} : m ∈ inX x l ↔ Task.inMsg x m ∈ l := by
  unfold inX
  rw [List.mem_filterMap]
  constructor
  · rintro ⟨t, ht, he⟩
    cases t <;> simp at he
    obtain ⟨rfl, rfl⟩ := he
    exact ht
  · intro h
    exact ⟨_, h, by simp⟩

theorem inX_append_nil {a b : List Task} (hb : ∀ m, Task.inMsg x m ∉ b) : inX x (a ++ b) = inX x a := by
  rw [inX_append, List.eq_nil_iff_forall_not_mem.mpr fun m hm => hb m (mem_inX.mp hm), List.append_nil]

/-- `x` takes no part in any RPC: the dealer's tables do not mention it (callee of no registration, caller of
    no pending call, callee of no invocation, no key of the callee index), its handler is not in the yield
    retry loop, and none of its own RPC messages is waiting as an `inMsg` task -/
structure Idle (x : SessKey) (r : Realm) : Prop where
  refs : ¬ r.ds.refs x
  retries : ∀ y ∈ r.retries, y.callee ≠ x
  tasks : ∀ m ∈ inX x r.tasks, isRpc m = false

theorem Idle.didle {r : Realm} (h : Idle x r) : DIdle x r.ds :=
  ⟨fun g hg hx => h.refs (Or.inl ⟨g.id, g, hg, rfl, hx⟩),
   fun c hc e => h.refs (Or.inr (Or.inl ⟨c, hc, e⟩)),
   fun v hv e => h.refs (Or.inr (Or.inr (Or.inl ⟨v, hv, e⟩)))⟩

theorem Idle.not_busy {r : Realm} (h : Idle x r) : r.busy x = false := busy_false_iff.mpr h.retries

theorem Idle.mono {r r2 : Realm} (h : Idle x r) (hds : r2.ds.refs x → r.ds.refs x)
    (hre : ∀ y ∈ r2.retries, y ∈ r.retries ∨ y.callee ≠ x) (hta : inX x r2.tasks = inX x r.tasks) : Idle x r2 :=
  ⟨fun hr => h.refs (hds hr), fun y hy => (hre y hy).elim (h.retries y) id, by rw [hta]; exact h.tasks⟩

theorem Idle.congr {r r' : Realm} (h : Idle x r) (e : EqOff x r r') : Idle x r' :=
  ⟨by rw [e.ds]; exact h.refs, by rw [e.retries]; exact h.retries, by rw [e.tasks]; exact h.tasks⟩

theorem Idle.of_eff {P : SessKey → Prop} {Q : Retry → Prop} {r r' : Realm} (h : Idle x r) (e : Eff P Q r r')
    (hq : ∀ y, Q y → y.callee ≠ x) (hds : r'.ds.refs x → r.ds.refs x) : Idle x r' := by
  obtain ⟨ts, et, hn⟩ := e.tasks
  exact h.mono hds (fun y hy => (Grown.mem e.retries hy).imp id (hq y))
    (by rw [et]; exact inX_append_nil fun _ hm => hn _ hm)

theorem idle_trySend {r : Realm} (h : Idle x r) (s : Send) : Idle x (r.trySend s) :=
  h.of_eff (eff_trySend (P := fun _ => True) (Q := fun _ => False) r s) (fun _ => False.elim)
    (by rw [trySend_ds]; exact id)

theorem idle_deliver (ss : List Send) {r : Realm} (h : Idle x r) : Idle x (r.deliver ss) :=
  h.of_eff (eff_deliver (P := fun _ => True) (Q := fun _ => False) ss r) (fun _ => False.elim)
    (by rw [deliver_ds]; exact id)

theorem idle_setPanic {r : Realm} (h : Idle x r) (p : Option String) : Idle x (r.setPanic p) :=
  h.of_eff (eff_setPanic (P := fun _ => True) (Q := fun _ => False) r p) (fun _ => False.elim)
    (by rw [setPanic_ds]; exact id)

theorem idle_applyD {r : Realm} (h : Idle x r) (o : DOut) (ho : o.st.refs x → r.ds.refs x) : Idle x (r.applyD o) :=
  h.of_eff (eff_applyD (P := fun _ => True) (Q := fun _ => False) r o (fun _ _ => trivial)) (fun _ => False.elim)
    (by rw [applyD_ds]; exact ho)

theorem idle_end {r : Realm} (h : Idle x r) (k : SessKey) (mode : LeaveMode) :
    Idle x (r.ended k mode) :=
  h.mono id (fun y hy => Or.inl hy) (by simp only [ended, inX_append, inX_leave1, List.append_nil])

theorem refs_ne {s : DState} {k : SessKey} (hk : k ≠ x) (hr : s.refs x ∨ x = k) : s.refs x :=
  hr.elim id (fun e => absurd e.symm hk)

theorem idle_handleYield {r : Realm} (h : Idle x r) (s : Session) (hk : s.key ≠ x) (req : Nat) (opts : Dict)
    (args : List WVal) (kw : Dict) : Idle x (handleYield r s req opts args kw) := by
  rw [handleYield_eq]
  dsimp only
  have h1 := idle_applyD h (syncYield r.denv r.ds s.key req opts args kw (opts.optFlag OptProgress) true)
    ((syncYield_shrinks ..).refs x)
  split
  · refine h1.mono id (fun y hy => ?_) rfl
    rcases List.mem_append.mp hy with hy | hy
    · exact Or.inl hy
    · rw [List.mem_singleton.mp hy]; exact Or.inr hk
  · exact h1

theorem Idle.of_handles {k : SessKey} {m : Msg} {r r' : Realm} (hd : DealerInv r.ds) (h : Idle x r)
    (hm : isRpc m = false ∨ k ≠ x) (hh : Handles k m r r') : Idle x r' := by
  have hk : isRpc m = true → k ≠ x := fun e => hm.elim (fun e' => by rw [e] at e'; cases e') id
  cases hh with
  | same => exact h
  | reply e => exact idle_trySend h _
  | quit mode _ => exact idle_end h _ _
  | replyQuit e mode _ => exact idle_end (idle_trySend h _) _ _
  | dealer st =>
    refine idle_applyD h _ ?_
    cases st with
    | register => exact fun hr => refs_ne (hk rfl) (syncRegister_refs_sub hd _ _ _ _ _ _ _ _ x hr)
    | unregister => exact syncUnregister_refs_sub hd _ _ _ x
    | call => exact fun hr => refs_ne (hk rfl) (syncCall_refs_sub hd _ _ _ _ _ _ _ x hr)
    | cancel => exact (syncCancel_shrinks ..).refs x
    | error => exact (syncError_shrinks ..).refs x
  | yield s hs req opts args kw e => exact idle_handleYield h s (hs ▸ hk (e ▸ rfl)) ..
  | @broker b' n ss st ack e =>
    have h1 : Idle x (({ r with broker := b', pubCount := n } : Realm).deliver ss) :=
      idle_deliver _ ⟨h.refs, h.retries, h.tasks⟩
    split
    · exact idle_trySend h1 _
    · exact h1

theorem idle_handleMsg {r : Realm} (hd : DealerInv r.ds) (h : Idle x r) (s : Session) (m : Msg)
    (hm : isRpc m = false ∨ s.key ≠ x) : Idle x (handleMsg r s m) :=
  h.of_handles hd hm (handleMsg_handles r s m)

end Nexus.L2.WpC
