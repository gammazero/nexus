/-
  What the functions of `Nexus.L2.Realm` do, each said once, in the order in which one step runs them:
  an external input (`stepOp`), the arrival of a message (`recvMsg`), the authorization gate, the handlers behind it,
  one internal task (`runTask`, with the call of a meta procedure), a departure (`leave`, stage by stage), and what
  closes a step: `flush`, `drain`, `advance`.  (`step` itself is `step_eq` in RealmWalk; `handleMsg` as gate and
  `dispatch` is `handleMsg_eq` in RealmAuthz.)  Before them stand the primitives (`setPanic`, `deliver`, `applyD`),
  the spellings of "`k` is attached" and `Realm.ended`.

  Three forms, by name.  `f_eq` (`f_spec` for `handlePublish`): the function as one term, by `rfl` or a case split —
  for rewriting, and when the exact result matters.  `f_cases`: the eliminator — a property of the result is proved
  by proving it of each outcome, handed over as an explicit term with what is known in that case; reach for it
  first.  A lemma per branch (`stepOp_join_fresh`, `stepOp_drop_attached`, `stepOp_msg_handled`, `leave_none`,
  `leave_some`, `authzGate_meta`, …): the equation under the branch's condition, for a proof that is in one branch
  already.  Nothing here changes the model.  Two things are more than a case split: the gate as the instance of a
  gate for an arbitrary Authorizer (`gateG`), and the moves of a departure walked once for any relation (`leave_walk`).
-/
import Nexus.L2.Realm
import Nexus.L2.Proofs.RealmMeta
import Nexus.L2.Proofs.RealmCreate

namespace Nexus.L2
open Gen.N

namespace Realm

/-! ### the primitives: `setPanic`, `deliver`, `applyD` -/

theorem setPanic_queues (r : Realm) (p : Option String) : (r.setPanic p).queues = r.queues := by
  unfold setPanic; split <;> rfl

/-- the flag is set once and never reset -/
theorem setPanic_panic (r : Realm) (m : String) : (r.setPanic (some m)).panic = some (r.panic.getD m) := by
  unfold setPanic
  cases hp : r.panic <;> simp only [hp] <;> rfl

theorem setPanic_tasks (r : Realm) (p : Option String) : (r.setPanic p).tasks = r.tasks := by
  unfold setPanic; split <;> rfl

theorem setPanic_none (r : Realm) : r.setPanic none = r := by
  unfold setPanic
  split
  · rename_i h; cases h
  · rfl

theorem deliver_nil (r : Realm) : r.deliver [] = r := rfl
theorem deliver_cons (r : Realm) (s : Send) (ss : List Send) : r.deliver (s :: ss) = (r.trySend s).deliver ss := rfl

theorem deliver_append (a b : List Send) : ∀ (r : Realm), r.deliver (a ++ b) = (r.deliver a).deliver b := by
  induction a with
  | nil => intro r; rfl
  | cons s a ih => intro r; simp only [List.cons_append, deliver_cons, ih]

/-- `applyD` as its moves: the dealer's state, its sends, the tasks and departures it asks for, its panic.
    Which fields these leave alone is `applyD_fields` (DealerRealm), derived from this; field by field,
    `applyD_ds` and `dapplyD_*` (DealerRealmRpc) are read off that. -/
theorem applyD_eq (r : Realm) (o : DOut) :
    r.applyD o =
      ({ (({ r with ds := o.st } : Realm).deliver o.sends) with
          tasks := (({ r with ds := o.st } : Realm).deliver o.sends).tasks ++
            (o.metaPubs.map Task.metaPub ++ o.aborts.map (fun k => Task.leave k .aborted)),
          ending := (({ r with ds := o.st } : Realm).deliver o.sends).ending ++ o.aborts } : Realm).setPanic o.panic := by
  unfold applyD addTasks
  simp only [List.append_assoc]

/-- a dealer action that only sends -/
theorem applyD_plain (r : Realm) (o : DOut) (hm : o.metaPubs = []) (ha : o.aborts = []) (hp : o.panic = none) :
    r.applyD o = ({ r with ds := o.st } : Realm).deliver o.sends := by
  rw [applyD_eq, hm, ha, hp, setPanic_none]
  simp only [List.map_nil, List.append_nil]

/-! ### "`k` is attached"; the end of a session scheduled -/

/-- `k` is an attached (non-meta) session -/
def isClient (r : Realm) (k : SessKey) : Prop := ∃ c ∈ r.clients, c.key = k

/-- `k` is an attached session or the meta session -/
def att (r : Realm) (k : SessKey) : Prop := k = metaKey ∨ r.isClient k

/-! "`k` is attached" is `r.isClient k` in statements.  The model looks a session up by `r.client? k`, which
    unfolds to `r.clients.find? (fun c => c.key == k)`: `find?_key` reads a hit in either spelling,
    `isClient_of_find` and `isClient_find?` go to and from `isClient`.  (`clients.any` occurs in the tests of
    `stepOp` only, which `stepOp_cases` has decided.)  With distinct keys a member is what the lookup finds:
    `client?_of_mem` (RealmQueue), `Reachable.find?_client` (RealmKeys). -/

theorem find?_key {l : List Session} {k : SessKey} {c : Session}
    (h : l.find? (fun c => c.key == k) = some c) : c ∈ l ∧ c.key = k :=
  find?_key_some h

theorem isClient_of_find {r : Realm} {k : SessKey} {c : Session}
    (h : r.clients.find? (fun c => c.key == k) = some c) : r.isClient k :=
  ⟨c, (find?_key h).1, (find?_key h).2⟩

theorem isClient_find? {r : Realm} {k : SessKey} (hk : r.isClient k) :
    ∃ s, r.clients.find? (fun c => c.key == k) = some s :=
  let ⟨_, hc, hck⟩ := hk
  find?_key_isSome hc hck

/-- an update of the sessions that keeps their keys (`stall`, `resume`, `buffer`, `modify_details`) keeps the key list -/
theorem map_keys {f : Session → Session} (hf : ∀ c, (f c).key = c.key) (l : List Session) :
    (l.map f).map (·.key) = l.map (·.key) := by
  rw [List.map_map]
  exact List.map_congr_left fun c _ => hf c

theorem map_update_keys (k : SessKey) (g : Session → Session) (hg : ∀ c, (g c).key = c.key) (l : List Session) :
    (l.map fun c => if c.key == k then g c else c).map (·.key) = l.map (·.key) :=
  map_keys (fun c => by rw [apply_ite Session.key, hg, ite_self]) l

/-- the end of session `k` is scheduled: its handler exits, the departure runs as a task, and until then `k` is
    marked as ending.  What a lost transport, a violation, an abort by broker or dealer and a kill write. -/
def ended (r : Realm) (k : SessKey) (mode : LeaveMode) : Realm :=
  { r with tasks := r.tasks ++ [.leave k mode], ending := r.ending ++ [k] }

/-! ### `stepOp`: one external input, before its tasks run -/

/-- session ids are drawn by the router: a `join` under the meta session's key, or under the key of an
    attached client, cannot occur and is a no-op of the model -/
theorem stepOp_join (r : Realm) (k : SessKey) (isLocal : Bool) (details : Dict) (roles : Roles) (cap : Nat) :
    r.stepOp (.join k isLocal details roles cap) =
      if k == metaKey || r.clients.any (fun c => c.key == k) then r else
      ({ r with clients := r.clients ++ [{ key := k, details := details, roles := roles, isLocal := isLocal, cap := cap }],
                queues := r.queues ++ [(k, [])] } : Realm).addTasks
        [.metaPub { topic := MetaEventSessionOnJoin, args := [.dict (r.cleanDetails details)] }] := rfl

theorem join_guard_false {r : Realm} {k : SessKey}
    (h : ¬(k == metaKey || r.clients.any (fun c => c.key == k)) = true) :
    k ≠ metaKey ∧ ∀ c ∈ r.clients, c.key ≠ k := by
  simp only [Bool.or_eq_true, beq_iff_eq, List.any_eq_true, not_or, not_exists, not_and] at h
  exact ⟨h.1, fun c hc => h.2 c hc⟩

theorem stepOp_join_noop {r : Realm} {k : SessKey} (isLocal : Bool) (details : Dict) (roles : Roles) (cap : Nat)
    (h : (k == metaKey || r.clients.any (fun c => c.key == k)) = true) :
    r.stepOp (.join k isLocal details roles cap) = r := by
  rw [stepOp_join, if_pos h]

theorem stepOp_join_fresh {r : Realm} {k : SessKey} (isLocal : Bool) (details : Dict) (roles : Roles) (cap : Nat)
    (hk : k ≠ metaKey) (hc : ∀ c ∈ r.clients, c.key ≠ k) :
    r.stepOp (.join k isLocal details roles cap) =
      ({ r with clients := r.clients ++ [{ key := k, details := details, roles := roles, isLocal := isLocal, cap := cap }],
                queues := r.queues ++ [(k, [])] } : Realm).addTasks
        [.metaPub { topic := MetaEventSessionOnJoin, args := [.dict (r.cleanDetails details)] }] := by
  rw [stepOp_join, if_neg]
  simp only [Bool.or_eq_true, beq_iff_eq, List.any_eq_true, not_or, not_exists, not_and]
  exact ⟨hk, fun c hcm => hc c hcm⟩

theorem stepOp_msg (r : Realm) (k : SessKey) (m : Msg) : r.stepOp (.msg k m) = r.recvMsg k m := rfl

theorem stepOp_buffer (r : Realm) (k : SessKey) :
    r.stepOp (.buffer k) =
      { r with clients := r.clients.map (fun c => if c.key == k then { c with buffered := true } else c) } := rfl

/-- only an attached client has a transport to lose: `drop` of any other key is a no-op of the model -/
theorem stepOp_drop (r : Realm) (k : SessKey) :
    r.stepOp (.drop k) =
      if !r.clients.any (fun c => c.key == k) then r
      else if r.ending.contains k then r
      else r.ended k .lost := rfl

theorem stepOp_drop_absent {r : Realm} {k : SessKey} (h : ∀ c ∈ r.clients, c.key ≠ k) :
    r.stepOp (.drop k) = r := by
  rw [stepOp_drop, if_pos]
  simp only [Bool.not_eq_true', List.any_eq_false, beq_iff_eq]
  exact fun c hc => h c hc

theorem stepOp_drop_attached {r : Realm} {k : SessKey} (h : r.isClient k) :
    r.stepOp (.drop k) =
      if r.ending.contains k then r else r.ended k .lost := by
  rw [stepOp_drop, if_neg]
  simp only [Bool.not_eq_true', List.any_eq_false, beq_iff_eq]
  obtain ⟨c, hc, hk⟩ := h
  exact fun hn => hn c hc hk

theorem stepOp_stall (r : Realm) (k : SessKey) :
    r.stepOp (.stall k) =
      { r with clients := r.clients.map (fun c => if c.key == k then { c with stalled := true } else c) } := rfl

theorem stepOp_resume (r : Realm) (k : SessKey) :
    r.stepOp (.resume k) =
      { r with clients := r.clients.map (fun c => if c.key == k then { c with stalled := false } else c),
               ghosts := r.ghosts.filter (· != k) } := rfl

theorem stepOp_tick (r : Realm) (ms : Nat) : r.stepOp (.tick ms) = r := rfl
theorem stepOp_rnd (r : Realm) (n : Nat) : r.stepOp (.rnd n) = { r with rnd := n } := rfl

/-- `g` sets one transport flag of a session: `buffered` (a socket transport), or `stalled` either way -/
def SetsFlag (g : Session → Session) : Prop :=
  (∀ c, g c = { c with buffered := true }) ∨ ∃ b, ∀ c, g c = { c with stalled := b }

namespace SetsFlag
variable {g : Session → Session} (h : SetsFlag g) (c : Session)
include h

theorem key : (g c).key = c.key := by rcases h with h | ⟨_, h⟩ <;> rw [h]
theorem details : (g c).details = c.details := by rcases h with h | ⟨_, h⟩ <;> rw [h]
theorem cap : (g c).cap = c.cap := by rcases h with h | ⟨_, h⟩ <;> rw [h]
theorem buffered (hb : c.buffered = true) : (g c).buffered = true := by
  rcases h with h | ⟨_, h⟩ <;> rw [h]
  exact hb

theorem at_key (k : SessKey) : (if c.key == k then g c else c).key = c.key := by
  rw [apply_ite Session.key, h.key, ite_self]

end SetsFlag

/-- The shapes of one external input before its tasks run: nothing (a `tick`, a `join` under a key in use or the
    meta session's, a `drop` of a key that is not attached or already ending); a fresh session joins; a message
    arrives (these two know which input it was, for statements with a side condition on it); a transport flag of
    session `k` is set (`buffer`, `stall`, `resume`, the last also shrinking `ghosts`); the transport of an attached
    session that is not ending is lost and its end is scheduled; the oracle is set. -/
theorem stepOp_cases {C : Realm → Prop} (r : Realm) (op : Op) (same : C r)
    (join : ∀ k isLocal details roles cap, op = .join k isLocal details roles cap → k ≠ metaKey →
      (∀ c ∈ r.clients, c.key ≠ k) →
      C (({ r with clients := r.clients ++ [{ key := k, details := details, roles := roles, isLocal := isLocal, cap := cap }],
                   queues := r.queues ++ [(k, [])] } : Realm).addTasks
        [.metaPub { topic := MetaEventSessionOnJoin, args := [.dict (r.cleanDetails details)] }]))
    (msg : ∀ k m, op = .msg k m → C (r.recvMsg k m))
    (flag : ∀ (k : SessKey) (g : Session → Session) (gh : List SessKey), SetsFlag g → gh.Sublist r.ghosts →
      C { r with clients := r.clients.map (fun c => if c.key == k then g c else c), ghosts := gh })
    (drop : ∀ k, r.isClient k → r.ending.contains k = false → C (r.ended k .lost))
    (rnd : ∀ n, C { r with rnd := n }) : C (r.stepOp op) := by
  cases op with
  | join k isLocal details roles cap =>
    rw [stepOp_join]
    split
    · exact same
    · rename_i hg
      exact join k isLocal details roles cap rfl (join_guard_false hg).1 (join_guard_false hg).2
  | msg k m => exact msg k m rfl
  | buffer k => exact flag k ({ · with buffered := true }) _ (.inl fun _ => rfl) (.refl _)
  | drop k =>
    rw [stepOp_drop]
    split
    · exact same
    · rename_i h
      split
      · exact same
      · rename_i h2
        exact drop k (by simpa [isClient] using h) (by simpa using h2)
  | stall k => exact flag k ({ · with stalled := true }) _ (.inr ⟨_, fun _ => rfl⟩) (.refl _)
  | resume k => exact flag k ({ · with stalled := false }) _ (.inr ⟨_, fun _ => rfl⟩) List.filter_sublist
  | tick ms => exact same
  | rnd n => exact rnd n

/-! ### `recvMsg`: a message arrives -/

theorem recvMsg_eq (r : Realm) (k : SessKey) (m : Msg) :
    r.recvMsg k m =
      match r.clients.find? (fun c => c.key == k) with
      | none => r
      | some s =>
        if r.ending.contains k then r
        else if r.busy k then (if s.buffered then { r with inbox := r.inbox ++ [(k, m)] } else r)
        else handleMsg r s m := rfl

/-- The outcomes of the arrival of a message from `k`: ignored (`k` not attached, ending, or busy behind an
    unbuffered transport), kept in `inbox` (busy, buffered), or handled by the session's handler. -/
theorem recvMsg_cases {C : Realm → Prop} (r : Realm) (k : SessKey) (m : Msg) (ignored : C r)
    (kept : ∀ s, r.clients.find? (fun c => c.key == k) = some s → r.ending.contains k = false → r.busy k = true →
      s.buffered = true → C { r with inbox := r.inbox ++ [(k, m)] })
    (handled : ∀ s, r.clients.find? (fun c => c.key == k) = some s → r.ending.contains k = false →
      r.busy k = false → C (handleMsg r s m)) : C (r.recvMsg k m) := by
  rw [recvMsg_eq]
  split
  · exact ignored
  · rename_i s hs
    split
    · exact ignored
    · rename_i he
      have he' : r.ending.contains k = false := by simpa using he
      split
      · rename_i hb
        split
        · exact kept s hs he' hb ‹_›
        · exact ignored
      · rename_i hb
        exact handled s hs he' (by simpa using hb)

/-- the message of an attached session that is not ending and whose handler is free reaches the handler; what the
    handler does with it behind the gate is `handleMsg_allowed` and `handleMsg_denied` (RealmAuthz) -/
theorem stepOp_msg_handled {r : Realm} {k : SessKey} {s : Session} (m : Msg)
    (hf : r.clients.find? (fun c => c.key == k) = some s) (he : r.ending.contains k = false) (hb : r.busy k = false) :
    r.stepOp (.msg k m) = handleMsg r s m := by
  rw [stepOp_msg, recvMsg_eq, hf]
  simp only [he, hb, Bool.false_eq_true, if_false]

/-! ### the authorization gate, as the instance of a gate for an arbitrary decision function -/

/-- the reply to a refused message; none for a PUBLISH without `acknowledge = true` -/
def denialReply (dec : String) (m : Msg) : Option Msg :=
  let skip := match m with
    | .publish _ opts .. => !opts.optFlag OptAcknowledge
    | _ => false
  if skip then none
  else some (if dec == "fail"
    then .error m.typeCode (msgReq m) [] ErrAuthorizationFailed [.str "<text>"] []
    else .error m.typeCode (msgReq m) [] ErrNotAuthorized [] [])

/-- not subject to authorization: the meta session, and local sessions unless `localAuthz` -/
def exempt (localAuthz : Bool) (s : Session) : Bool := s.key == metaKey || (s.isLocal && !localAuthz)

/-- the Authorizer let the message pass: it answered true — without an error ("allow") or together
    with one ("allowerr": `realm.go` looks at the boolean only, the error is ignored) -/
def allows (dec : String) : Bool := dec == "allow" || dec == "allowerr"

theorem allows_iff (dec : String) : allows dec = true ↔ dec = "allow" ∨ dec = "allowerr" := by
  simp [allows]

/-- `authzMessage` with an arbitrary Authorizer `dec` (none: no Authorizer configured) -/
def gateG (dec : Option (SessKey → Msg → String)) (localAuthz : Bool) (r : Realm) (s : Session) (m : Msg) :
    Bool × Realm :=
  match dec with
  | none => (true, r)
  | some f =>
    if exempt localAuthz s then (true, r)
    else if allows (f s.key m) then (true, r)
    else (false, match denialReply (f s.key m) m with
                 | none => r
                 | some e => r.trySend ⟨s.key, e⟩)

/-- the model's gate is the instance for the rule-table Authorizer -/
theorem authzGate_eq_gateG (r : Realm) (s : Session) (m : Msg) :
    authzGate r s m = gateG (r.cfg.authz.map authzDecision) r.cfg.localAuthz r s m := by
  unfold authzGate gateG exempt denialReply allows
  cases r.cfg.authz with
  | none => rfl
  | some rules =>
    simp only [Option.map_some]
    by_cases h1 : (s.key == metaKey) = true
    · simp [h1]
    · by_cases h2 : (s.isLocal && !r.cfg.localAuthz) = true
      · simp [h1, h2]
      · simp only [h1, h2, Bool.false_or, Bool.false_eq_true, if_false]
        by_cases h3 : (authzDecision rules s.key m == "allow" || authzDecision rules s.key m == "allowerr") = true
        · simp only [h3, if_true]
        · simp only [h3, Bool.false_eq_true, if_false]
          congr 1
          cases m with
          | publish req opts topic args kw =>
            by_cases ha : opts.optFlag OptAcknowledge = true <;> simp [ha]
          | _ => simp

theorem gateG_some (f : SessKey → Msg → String) (la : Bool) (r : Realm) (s : Session) (m : Msg) :
    gateG (some f) la r s m =
      if exempt la s = true ∨ f s.key m = "allow" ∨ f s.key m = "allowerr" then (true, r)
      else (false, match denialReply (f s.key m) m with
                   | none => r
                   | some e => r.trySend ⟨s.key, e⟩) := by
  show (if exempt la s then _ else if allows (f s.key m) then _ else _) = _
  by_cases he : exempt la s = true
  · rw [if_pos he, if_pos (.inl he)]
  by_cases ha : allows (f s.key m) = true
  · rw [if_neg he, if_pos ha, if_pos (.inr ((allows_iff _).mp ha))]
  · rw [if_neg he, if_neg ha, if_neg (not_or.mpr ⟨he, fun h => ha ((allows_iff _).mpr h)⟩)]

/-- the message passes and the realm is as it was; or it is refused, silently (a PUBLISH that asked for no
    acknowledgement) or with one ERROR to the sender -/
theorem authzGate_cases {P : Bool × Realm → Prop} (r : Realm) (s : Session) (m : Msg)
    (pass : P (true, r)) (deny : P (false, r))
    (reply : ∀ uri a, P (false, r.trySend ⟨s.key, .error m.typeCode (msgReq m) [] uri a []⟩)) :
    P (authzGate r s m) := by
  rw [authzGate_eq_gateG]
  cases r.cfg.authz.map authzDecision with
  | none => exact pass
  | some f =>
    rw [gateG_some]
    split
    · exact pass
    · unfold denialReply
      extract_lets skip
      by_cases hs : skip = true
      · rw [if_pos hs]; exact deny
      · rw [if_neg hs]
        show P (false, r.trySend ⟨s.key, if _ then _ else _⟩)
        split <;> exact reply _ _

theorem authzGate_meta (r : Realm) (s : Session) (m : Msg) (hk : s.key = metaKey) : authzGate r s m = (true, r) := by
  rw [authzGate_eq_gateG]
  cases r.cfg.authz.map authzDecision with
  | none => rfl
  | some f => rw [gateG_some, if_pos (.inl (by simp [exempt, hk]))]

theorem authzGate_none {r : Realm} (h : r.cfg.authz = none) (s : Session) (m : Msg) : authzGate r s m = (true, r) := by
  rw [authzGate_eq_gateG, h]; rfl

theorem authzGate_pass {r : Realm} {s : Session} {m : Msg} (h : (authzGate r s m).1 = true) : (authzGate r s m).2 = r :=
  authzGate_cases (P := fun x => x.1 = true → x.2 = r) r s m (fun _ => rfl) (fun h => nomatch h) (fun _ _ h => nomatch h) h

/-! ### the handlers behind the gate: PUBLISH, SUBSCRIBE, UNSUBSCRIBE, REGISTER, CANCEL, YIELD -/

/-- the publication `broker.publish` hands to the broker goroutine for PUBLISH(req, opts, topic, args, kw)
    of session `s` in realm state `r`: the next publication id, `exclude_me` defaulting to true,
    `disclose_me` as requested, payload-passthru details only -/
def pubOf (r : Realm) (s : Session) (opts : Dict) (topic : String) (args : List WVal) (kw : Dict) : Publication :=
  { publisher := s.key, pubDetails := s.details, topic := topic, pubId := pubBase + r.pubCount,
    args := args, kw := kw, opts := opts,
    excludePub := (match opts.get? OptExcludeMe with
      | some (.bool b) => b
      | _ => true),
    disclose := opts.optFlag OptDiscloseMe,
    baseDetails := if pptScheme opts != "" then pptInto opts [] else [] }

/-- the publisher uses payload passthru without having announced the feature -/
def pptRefused (s : Session) (opts : Dict) : Bool :=
  pptScheme opts != "" && !s.hasFeature RolePublisher FeaturePayloadPassthruMode

/-- disclose_me requested while the realm disallows disclosure -/
def discloseRefused (r : Realm) (opts : Dict) : Bool :=
  opts.optFlag OptDiscloseMe && !r.broker.allowDisclose

/-- the (at most one) reply for the publisher when acknowledgement was requested -/
def ackList (opts : Dict) (x : Send) : List Send := if opts.optFlag OptAcknowledge then [x] else []

theorem deliver_ackList (r : Realm) (ss : List Send) (opts : Dict) (x : Send) :
    r.deliver (ss ++ ackList opts x) = if opts.optFlag OptAcknowledge then (r.deliver ss).trySend x else r.deliver ss := by
  unfold ackList
  split
  · rw [deliver_append]; rfl
  · rw [List.append_nil]

/-- **What `broker.publish` does**, outcome by outcome, each as sends offered to the queues of an explicit state:
    an invalid topic and a refused `disclose_me` are answered only if acknowledgement was asked for; payload
    passthru by a publisher that has not announced it gets the publisher aborted; otherwise the next publication
    id is drawn, the broker publishes `pubOf …`, and its EVENTs are delivered before the PUBLISHED.
    Read off it: the four branches by name (`handlePublish_invalid`, `_ppt`, `_refused`, `_ok`, RealmPublish);
    `handlePublish_cases` for a predicate on the result, and from that `handlePublish_handles` (the normal form a
    relation over all handlers uses) and `handlePublish_outcome` (only "no EVENT but the broker's", for the order of
    EVENTs); `metaPublish_spec` for the meta session's publications, which are never refused passthru (MetaPublish). -/
theorem handlePublish_spec (r : Realm) (s : Session) (req : Nat) (opts : Dict) (topic : String) (args : List WVal)
    (kw : Dict) :
    handlePublish r s req opts topic args kw =
      if validUri r.broker.strict "" topic = false then
        r.deliver (ackList opts ⟨s.key, invalidUriErr tPUBLISH req⟩)
      else if pptRefused s opts = true then
        (r.trySend ⟨s.key, abortMsg "<text>"⟩).ended s.key .aborted
      else if discloseRefused r opts = true then
        r.deliver (ackList opts ⟨s.key, errMsg tPUBLISH req ErrOptionDisallowedDiscloseMe⟩)
      else
        ({ r with pubCount := r.pubCount + 1,
                  broker := (r.broker.syncPublish r.session? r.now (pubOf r s opts topic args kw)).1 } : Realm).deliver
          ((r.broker.syncPublish r.session? r.now (pubOf r s opts topic args kw)).2 ++
            ackList opts ⟨s.key, .published req (pubBase + r.pubCount)⟩) := by
  unfold handlePublish freshPub ackList pptRefused discloseRefused
  dsimp only  -- the `let`s are reduced before `cases`
  cases validUri r.broker.strict "" topic
  · cases opts.optFlag OptAcknowledge <;> rfl
  · cases pptScheme opts != "" && !s.hasFeature RolePublisher FeaturePayloadPassthruMode
    · cases opts.optFlag OptDiscloseMe && !r.broker.allowDisclose
      · cases opts.optFlag OptAcknowledge
        · simp only [Bool.false_eq_true, if_false, List.append_nil]; rfl
        · simp only [if_true, deliver_append]; rfl
      · cases opts.optFlag OptAcknowledge <;> rfl
    · rfl

/-- nothing happens (a refusal nobody asked to hear of); one ERROR to the publisher; the publisher is sent ABORT and
    its end is scheduled (payload passthru it never announced); the publication goes to the broker, its EVENTs are
    delivered and then, if asked for, the PUBLISHED -/
theorem handlePublish_cases {P : Realm → Prop} (r : Realm) (s : Session) (req : Nat) (opts : Dict) (topic : String)
    (args : List WVal) (kw : Dict)
    (same : P r)
    (reply : ∀ uri a, P (r.trySend ⟨s.key, .error tPUBLISH req [] uri a []⟩))
    (abort : validUri r.broker.strict "" topic = true → pptRefused s opts = true →
      P ((r.trySend ⟨s.key, abortMsg "<text>"⟩).ended s.key .aborted))
    (pub : validUri r.broker.strict "" topic = true → pptRefused s opts = false → discloseRefused r opts = false →
      P (({ r with pubCount := r.pubCount + 1,
                   broker := (r.broker.syncPublish r.session? r.now (pubOf r s opts topic args kw)).1 } : Realm).deliver
          ((r.broker.syncPublish r.session? r.now (pubOf r s opts topic args kw)).2 ++
            ackList opts ⟨s.key, .published req (pubBase + r.pubCount)⟩))) :
    P (handlePublish r s req opts topic args kw) := by
  have ack : ∀ uri a, P (r.deliver (ackList opts ⟨s.key, .error tPUBLISH req [] uri a []⟩)) := fun uri a => by
    unfold ackList
    split
    · exact reply uri a
    · exact same
  rw [handlePublish_spec]
  split
  · exact ack _ _
  rename_i hv
  split
  · exact abort (by simpa using hv) ‹_›
  rename_i hp
  split
  · exact ack _ _
  · rename_i hd
    exact pub (by simpa using hv) ((Bool.not_eq_true _).mp hp) ((Bool.not_eq_true _).mp hd)

theorem handleSubscribe_eq (r : Realm) (s : Session) (req : Nat) (opts : Dict) (topic : String) :
    handleSubscribe r s req opts topic =
      let out := r.broker.syncSubscribe s.key req topic (opts.optString OptMatch) r.pubCount
      if !validUri r.broker.strict (opts.optString OptMatch) topic then r.trySend ⟨s.key, invalidUriErr tSUBSCRIBE req⟩
      else ({ r with broker := out.1, pubCount := r.pubCount + out.2.2 } : Realm).deliver out.2.1 := rfl

theorem handleUnsubscribe_eq (r : Realm) (s : Session) (req sub : Nat) :
    handleUnsubscribe r s req sub =
      let out := r.broker.syncUnsubscribe s.key req sub r.pubCount
      ({ r with broker := out.1, pubCount := r.pubCount + out.2.2 } : Realm).deliver out.2.1 := rfl

/-- one ERROR to the registrant, or `syncRegister` with an invocation policy the dealer knows — and with a `wamp.`
    procedure for the meta session only -/
theorem handleRegister_cases {P : Realm → Prop} (r : Realm) (s : Session) (req : Nat) (opts : Dict) (proc : String)
    (reply : ∀ uri a, P (r.trySend ⟨s.key, .error tREGISTER req [] uri a []⟩))
    (reg : ∀ m invoke disclose fwd, invoke ∈ knownPolicies → (proc.startsWith "wamp." = true → s.key = metaKey) →
      P (r.applyD (syncRegister r.ds s.key req proc m invoke disclose fwd (proc.startsWith "wamp.")))) :
    P (handleRegister r s req opts proc) := by
  unfold handleRegister
  extract_lets m wampURI disclose invoke fwd
  split
  · exact reply _ _
  split
  · exact reply _ _
  rename_i hw
  split
  · exact reply _ _
  split
  · exact reply _ _
  · rename_i h
    exact reg _ _ _ _ (by simpa using h) fun hwamp => by simpa [wampURI, hwamp] using hw

/-- the mode a CANCEL asks for: an absent / empty / non-string `mode` option means killnowait -/
def cancelMode (opts : Dict) : String :=
  if opts.optString OptMode == "" then CancelModeKillNoWait else opts.optString OptMode

/-- `handleCancel` in one equation.  Read off it: `handleCancel_cases` for a predicate on the result,
    `handleCancel_known` and `handleCancel_unknown` (DealerRealm) for the two branches by name. -/
theorem handleCancel_eq (r : Realm) (s : Session) (req : Nat) (opts : Dict) :
    handleCancel r s req opts =
      if cancelMode opts == CancelModeKillNoWait || cancelMode opts == CancelModeKill || cancelMode opts == CancelModeSkip
      then r.applyD (syncCancel r.denv r.ds s.key req (cancelMode opts) ErrCanceled [])
      else r.trySend ⟨s.key, .error tCANCEL req [] ErrInvalidArgument [.str "<text>"] []⟩ := rfl

/-- `syncCancel` in some mode, or one ERROR to the caller (a mode that does not exist) -/
theorem handleCancel_cases {P : Realm → Prop} (r : Realm) (s : Session) (req : Nat) (opts : Dict)
    (cancel : ∀ mode, P (r.applyD (syncCancel r.denv r.ds s.key req mode ErrCanceled [])))
    (reply : ∀ uri a, P (r.trySend ⟨s.key, .error tCANCEL req [] uri a []⟩)) : P (handleCancel r s req opts) := by
  rw [handleCancel_eq]
  split
  · exact cancel _
  · exact reply _ _

theorem handleYield_eq (r : Realm) (s : Session) (req : Nat) (opts : Dict) (args : List WVal) (kw : Dict) :
    handleYield r s req opts args kw =
      let o := syncYield r.denv r.ds s.key req opts args kw (opts.optFlag OptProgress) true
      let r' := r.applyD o
      if o.again then
        { r' with retries := r'.retries ++
            [{ callee := s.key, req := req, opts := opts, args := args, kw := kw, progress := opts.optFlag OptProgress,
               start := r'.now, next := r'.now + yieldRetryDelayMs, delay := yieldRetryDelayMs }] }
      else r' := rfl

/-! ### `runTask`: one internal task -/

theorem runTask_inMsg (r : Realm) (k : SessKey) (m : Msg) : r.runTask (.inMsg k m) = r.recvMsg k m := rfl

theorem runTask_metaPub (r : Realm) (p : MetaPub) : r.runTask (.metaPub p) = r.metaPublish p := rfl

theorem runTask_metaMsg (r : Realm) (m : Msg) : r.runTask (.metaMsg m) = handleMsg r r.metaS m := rfl

theorem runTask_metaInvoke (r : Realm) (req reg : Nat) (details : Dict) (args : List WVal) (kw : Dict) :
    r.runTask (.metaInvoke req reg details args kw) =
      match r.metaProcs.find? (fun p => p.1 == reg) with
      | none => r.addTasks [.metaMsg (mErr req ErrNoSuchProcedure)]
      | some (_, proc) => (metaProc r proc req details args kw).2.addTasks [.metaMsg (metaProc r proc req details args kw).1] := by
  show (match r.metaProcs.find? (fun p => p.1 == reg) with
      | none => r.addTasks [.metaMsg (mErr req ErrNoSuchProcedure)]
      | some (_, proc) =>
        let (rsp, r) := metaProc r proc req details args kw
        r.addTasks [.metaMsg rsp]) = _
  split <;> rfl

/-- A `metaInvoke` task: no procedure is registered under `reg` and the meta session answers "no such procedure", or
    the procedure runs (one `MetaStep`) and its answer is queued for the meta session.  For a task of any kind,
    `runTask_cases` comes first and hands the meta call over to this. -/
theorem metaInvoke_cases {C : Realm → Prop} (r : Realm) (req reg : Nat) (details : Dict) (args : List WVal) (kw : Dict)
    (unknown : C (r.addTasks [.metaMsg (mErr req ErrNoSuchProcedure)]))
    (run : ∀ proc o, MetaStep r proc req o → C (o.2.addTasks [.metaMsg o.1])) :
    C (r.runTask (.metaInvoke req reg details args kw)) := by
  rw [runTask_metaInvoke]
  split
  · exact unknown
  · exact run _ _ (metaProc_step ..)

theorem runTask_leave (r : Realm) (k : SessKey) (mode : LeaveMode) :
    r.runTask (.leave k mode) =
      if r.busy k then { r with deferred := r.deferred ++ [(k, mode)] } else r.leave k mode := rfl

/-- One task, case by case: an input of a session; a publication and a message of the meta session, through their
    handlers; a departure, put off while the session's handler is in the retry loop.  The call of a meta procedure
    is left as it stands: `metaInvoke_cases` takes it apart. -/
theorem runTask_cases {P : Realm → Prop} (r : Realm) (t : Task)
    (msg : ∀ k m, t = .inMsg k m → P (r.recvMsg k m))
    (pub : ∀ p, t = .metaPub p → P (handlePublish r r.metaS 0 p.opts p.topic p.args p.kw))
    (answer : ∀ m, t = .metaMsg m → P (handleMsg r r.metaS m))
    (invoke : ∀ req reg d a kw, t = .metaInvoke req reg d a kw → P (r.runTask (.metaInvoke req reg d a kw)))
    (defer : ∀ k mode, t = .leave k mode → r.busy k = true → P { r with deferred := r.deferred ++ [(k, mode)] })
    (leave : ∀ k mode, t = .leave k mode → r.busy k = false → P (r.leave k mode)) : P (r.runTask t) := by
  cases t with
  | inMsg k m => exact msg k m rfl
  | metaPub p => exact pub p rfl
  | metaMsg m => exact answer m rfl
  | metaInvoke req reg d a kw => exact invoke req reg d a kw rfl
  | leave k mode =>
    rw [runTask_leave]
    split
    · exact defer k mode rfl ‹_›
    · exact leave k mode rfl ((Bool.not_eq_true _).mp ‹_›)

/-! ### `leave`: a departure, stage by stage -/

def _root_.Nexus.L2.LeaveMode.isShutdown : LeaveMode → Bool
  | .shutdown => true
  | _ => false

/-- the handler's last message to the departing peer is offered: the GOODBYE of a kill or a shutdown, the ABORT of a
    violation; nothing otherwise -/
def leaveSend (r : Realm) (k : SessKey) : LeaveMode → Realm
  | .killed g _ => r.trySend ⟨k, g⟩
  | .violation _ => r.trySend ⟨k, abortMsg "<text>"⟩
  | .shutdown => r.trySend ⟨k, .goodbye [] CloseSystemShutdown⟩
  | _ => r

/-- nothing is sent, or one message is offered to `k` -/
theorem leaveSend_cases {P : Realm → Prop} (r : Realm) (k : SessKey) (mode : LeaveMode)
    (same : P r) (send : ∀ m, P (r.trySend ⟨k, m⟩)) : P (leaveSend r k mode) := by
  cases mode <;> first | exact send _ | exact same

/-- `onLeave`: dealer and broker forget the session (quietly for a shutdown) -/
def leaveRemove (r : Realm) (k : SessKey) (quiet : Bool) : Realm :=
  if quiet then
    let o := syncRemoveSession r.denv r.ds k
    let (b, _, _) := r.broker.syncRemoveSession k r.pubCount
    { r with ds := o.st, broker := b }.setPanic o.panic
  else
    let o := syncRemoveSession r.denv r.ds k
    let r := r.applyD o
    let (b, sends, n) := r.broker.syncRemoveSession k r.pubCount
    { r with broker := b, pubCount := r.pubCount + n }.deliver sends

/-- a shutdown: dealer and broker forget `k` and nobody is told; otherwise the dealer's removal is applied (`ra`) and
    the broker's events about it are delivered -/
theorem leaveRemove_cases {P : Realm → Prop} (r : Realm) (k : SessKey) (quiet : Bool)
    (shut : quiet = true →
      P (({ r with ds := (syncRemoveSession r.denv r.ds k).st, broker := (r.broker.syncRemoveSession k r.pubCount).1 } : Realm).setPanic
        (syncRemoveSession r.denv r.ds k).panic))
    (loud : quiet = false → ∀ ra, ra = r.applyD (syncRemoveSession r.denv r.ds k) →
      P (({ ra with broker := (ra.broker.syncRemoveSession k ra.pubCount).1,
                    pubCount := ra.pubCount + (ra.broker.syncRemoveSession k ra.pubCount).2.2 } : Realm).deliver
        (ra.broker.syncRemoveSession k ra.pubCount).2.1)) :
    P (leaveRemove r k quiet) := by
  unfold leaveRemove
  split
  · rename_i hq
    split
    rename_i b _ _ heq
    have h := shut hq
    rw [heq] at h
    exact h
  · rename_i hq
    extract_lets o ra
    split
    rename_i b sends n heq
    have h := loud (Bool.not_eq_true _ ▸ hq) ra rfl
    rw [heq] at h
    exact h

def testamentTasks (tst : Option TBucket) : List Task :=
  match tst with
  | some b => (b.detached ++ b.destroyed).map (fun t => Task.metaPub (testamentPub t))
  | none => []

def onLeavePub (s : Session) : MetaPub :=
  { topic := MetaEventSessionOnLeave,
    args := [sidVal s.key, detailOr s.details "authid", detailOr s.details "authrole"] }

/-- testaments (detached, then destroyed) and `on_leave` are handed to the meta session -/
def leaveAnnounce (r : Realm) (s : Session) (tst : Option TBucket) (silent : Bool) : Realm :=
  if silent then r else r.addTasks (testamentTasks tst ++ [.metaPub (onLeavePub s)])

/-- `sess.Close()` -/
def leaveClose (r : Realm) (s : Session) : Realm :=
  { r with clients := r.clients.filter (fun c => c.key != s.key), ending := r.ending.filter (· != s.key),
           closedPeers := r.closedPeers ++ [s.key],
           ghosts := if s.stalled then r.ghosts ++ [s.key] else r.ghosts }

theorem takeTestaments_eq (r : Realm) (k : SessKey) :
    r.takeTestaments k = ((r.testaments.find? (fun t => t.1 == k)).map (·.2),
      { r with testaments := r.testaments.filter (fun t => t.1 != k) }) := by
  unfold takeTestaments
  split
  · rename_i t ht; rw [ht]; rfl
  · rename_i hn
    rw [hn, List.filter_eq_self.mpr fun t ht => by simpa using List.find?_eq_none.mp hn t ht]
    rfl

theorem leave_none {r : Realm} {k : SessKey} (mode : LeaveMode)
    (h : r.clients.find? (fun c => c.key == k) = none) : r.leave k mode = r := by
  unfold Realm.leave; rw [h]

theorem leave_some {r : Realm} {k : SessKey} {s : Session} (mode : LeaveMode)
    (h : r.clients.find? (fun c => c.key == k) = some s) :
    r.leave k mode =
      leaveClose (leaveAnnounce (leaveRemove ((leaveSend r k mode).takeTestaments k).2 k mode.isShutdown) s
        ((leaveSend r k mode).takeTestaments k).1 mode.isShutdown) s := by
  have hk : s.key = k := (find?_key h).2
  subst hk
  unfold Realm.leave
  split
  · rename_i h'; rw [h] at h'; cases h'
  · rename_i c hc
    rw [h] at hc; cases hc
    extract_lets r1 isSh ka
    split
    rename_i tst r2 htt
    extract_lets o ra r3 ts r4
    have e1 : r1 = leaveSend r s.key mode := by cases mode <;> rfl
    have eS : isSh = mode.isShutdown := by cases mode <;> rfl
    -- the two sides differ in `let`s only; plain `rfl` also unfolds `syncRemoveSession` on both (ten times the work)
    have e3 : r3 = leaveRemove r2 s.key isSh := by unfold leaveRemove; with_reducible rfl
    have e4 : r4 = leaveAnnounce r3 s tst isSh := rfl
    show leaveClose r4 s = _
    have htt' : (leaveSend r s.key mode).takeTestaments s.key = (tst, r2) := e1 ▸ htt
    rw [e4, e3, eS, htt']

/-- the two cases of a departure: nobody with that key is attached and nothing happens (`leave_none`), or somebody
    is (`leave_some`, `leave_eq`, `leave_ctl`) -/
theorem leave_cases {C : Realm → Prop} (r : Realm) (k : SessKey) (mode : LeaveMode)
    (none : r.clients.find? (fun c => c.key == k) = none → C r)
    (some : ∀ s, r.clients.find? (fun c => c.key == k) = some s → C (r.leave k mode)) : C (r.leave k mode) := by
  cases hf : r.clients.find? (fun c => c.key == k) with
  | none => rw [leave_none mode hf]; exact none hf
  | some s => exact some s hf

theorem leaveAnnounce_eq (r : Realm) (s : Session) (tst : Option TBucket) (silent : Bool) :
    leaveAnnounce r s tst silent =
      { r with tasks := r.tasks ++ (if silent then [] else testamentTasks tst ++ [.metaPub (onLeavePub s)]) } := by
  unfold leaveAnnounce
  split
  · rw [List.append_nil]
  · rfl

theorem announced_pub (s : Session) (tst : Option TBucket) (silent : Bool) :
    ∀ t ∈ (if silent then [] else testamentTasks tst ++ [Task.metaPub (onLeavePub s)]), ∃ p, t = Task.metaPub p := by
  intro t ht
  split at ht
  · cases ht
  · rcases List.mem_append.mp ht with ht | ht
    · unfold testamentTasks at ht
      split at ht
      · obtain ⟨x, _, rfl⟩ := List.mem_map.mp ht; exact ⟨_, rfl⟩
      · cases ht
    · exact ⟨_, List.mem_singleton.mp ht⟩

/-- The moves of a departure, walked once.  A reflexive, transitive relation that holds of a send, of replacing
    the tables (broker, dealer, publication counter, testaments), of recording a panic, of applying the dealer's
    removal of the session and of appending publish tasks holds between a realm and the realm just before
    `sess.Close()`; `leave` is `leaveClose` of that. -/
theorem leave_walk {R : Realm → Realm → Prop} (refl : ∀ r, R r r) (trans : ∀ {a b c}, R a b → R b c → R a c)
    (send : ∀ r x, R r (r.trySend x))
    (tables : ∀ (r : Realm) b d n l, R r { r with broker := b, ds := d, pubCount := n, testaments := l })
    (panic : ∀ (r : Realm) p, R r (r.setPanic p))
    (dealer : ∀ (r : Realm) k, R r (r.applyD (syncRemoveSession r.denv r.ds k)))
    (tasks : ∀ (r : Realm) ts, (∀ t ∈ ts, ∃ p, t = Task.metaPub p) → R r { r with tasks := r.tasks ++ ts })
    {r : Realm} {k : SessKey} {s : Session} (mode : LeaveMode)
    (hf : r.clients.find? (fun c => c.key == k) = some s) :
    ∃ r', R r r' ∧ r.leave k mode = leaveClose r' s := by
  have deliver : ∀ (ss : List Send) (r : Realm), R r (r.deliver ss) := by
    intro ss
    induction ss with
    | nil => exact refl
    | cons x ss ih => exact fun r => trans (send r x) (ih _)
  refine ⟨_, ?_, leave_some mode hf⟩
  rw [leaveAnnounce_eq]
  have h1 : R r (leaveSend r k mode) := leaveSend_cases r k mode (refl r) fun _ => send r _
  have h2 : R (leaveSend r k mode) ((leaveSend r k mode).takeTestaments k).2 := by
    rw [takeTestaments_eq]; exact tables _ _ _ _ _
  have h3 : ∀ x : Realm, R x (leaveRemove x k mode.isShutdown) := fun x =>
    leaveRemove_cases x k _ (fun _ => trans (tables x _ _ x.pubCount x.testaments) (panic _ _))
      fun _ ra hra => trans (hra ▸ dealer x k) (trans (tables ra _ ra.ds _ ra.testaments) (deliver _ _))
  exact trans (trans (trans h1 h2) (h3 _)) (tasks _ _ (announced_pub s _ _))

/-! ### what closes a step: `flush`, `drain`, `advance` -/

/-- does the client behind key `k` drain its queue (the `reading` of `Realm.flush`) -/
def _root_.Nexus.L2.WpC.reading (r : Realm) (k : SessKey) : Bool :=
  if r.ghosts.contains k then false else
  match r.clients.find? (fun c => c.key == k) with
  | some c => !c.stalled
  | none => true

/-- `flush` in one equation: the clients that read are shown their queues and closed channels, and only `queues`
    and `closedPeers` change.  Every other field of `r.flush.2` is that of `r` by `rfl`; read-offs with a name:
    `flush_panic`, `queueOf_flush` (RealmQueue: one session's queue), `rn_flush` (RetryInv: retries and clock),
    `shut_flush_fields` (RealmShutdown), `flush_inv` (RealmInv). -/
theorem flush_eq (r : Realm) :
    r.flush =
      ({ out := r.queues.filter (fun q => WpC.reading r q.1 && !q.2.isEmpty),
         closed := r.closedPeers.filter (WpC.reading r), panic := r.panic },
       { r with queues := r.queues.filter (fun q => !WpC.reading r q.1) ++
                  (r.queues.filter (fun q => WpC.reading r q.1 && !r.closedPeers.contains q.1)).map
                    (fun q => (q.1, ([] : List Msg))),
                closedPeers := r.closedPeers.filter (fun k => !WpC.reading r k) }) := rfl

theorem flush_panic (r : Realm) : r.flush.2.panic = r.panic := rfl

/-- `flush` shows and keeps nothing new: a queue read or kept was buffered, or is the emptied queue of a key that had
    one; a closure reported or kept was recorded -/
theorem flush_sub (r : Realm) :
    (∀ q ∈ r.flush.1.out ++ r.flush.2.queues, q ∈ r.queues ∨ (q.2 = [] ∧ ∃ q0 ∈ r.queues, q0.1 = q.1)) ∧
    (∀ k ∈ r.flush.1.closed ++ r.flush.2.closedPeers, k ∈ r.closedPeers) := by
  rw [flush_eq]
  refine ⟨fun q hq => ?_, fun k hk => (List.mem_append.mp hk).elim (List.mem_filter.mp · |>.1) (List.mem_filter.mp · |>.1)⟩
  rcases List.mem_append.mp hq with hq | hq
  · exact .inl (List.mem_filter.mp hq).1
  · rcases List.mem_append.mp hq with hq | hq
    · exact .inl (List.mem_filter.mp hq).1
    · obtain ⟨q0, h0, rfl⟩ := List.mem_map.mp hq
      exact .inr ⟨rfl, q0, (List.mem_filter.mp h0).1, rfl⟩

theorem drain_zero (r : Realm) :
    drain 0 r = if r.tasks.isEmpty then r else r.setPanic (some "model: task fuel exhausted") := rfl

theorem drain_succ_nil (fuel : Nat) (r : Realm) (h : r.tasks = []) : drain (fuel + 1) r = r := by
  unfold drain; rw [h]

theorem drain_succ_cons (fuel : Nat) (r : Realm) (t : Task) (ts : List Task) (h : r.tasks = t :: ts) :
    drain (fuel + 1) r = drain fuel (runTask { r with tasks := ts } t) := by
  rw [drain]; simp only [h]

theorem drain_keeps {I : Realm → Prop} (hfuel : ∀ r, I r → I (r.setPanic (some "model: task fuel exhausted")))
    (htask : ∀ r t ts, r.tasks = t :: ts → I r → I (runTask { r with tasks := ts } t)) :
    ∀ (fuel : Nat) {r : Realm}, I r → I (drain fuel r)
  | 0, r, h => by
    rw [drain_zero]
    split
    · exact h
    · exact hfuel _ h
  | fuel + 1, r, h => by
    cases ht : r.tasks with
    | nil => rw [drain_succ_nil _ _ ht]; exact h
    | cons t ts =>
      rw [drain_succ_cons _ _ t ts ht]
      exact drain_keeps hfuel htask fuel (htask r t ts ht h)

/-- one timed event of `advance`: the clock jumps to the event's time (never backwards), the event runs,
    then the internal tasks it caused -/
def fireDue (r : Realm) (d : Due) : Realm :=
  let r := { r with now := max r.now d.time }
  drain taskFuel (match d with
    | .timer t => r.timerDue t
    | .retry x => r.retryDue x)

theorem advance_none {fuel : Nat} {r : Realm} {target : Nat} (hn : nextDue r target = none) :
    advance (fuel + 1) r target = { r with now := target } := by simp [advance, hn]

theorem advance_some {fuel : Nat} {r : Realm} {target : Nat} {d : Due} (hn : nextDue r target = some d) :
    advance (fuel + 1) r target = advance fuel (fireDue r d) target := by
  simp only [advance, hn, fireDue]
  cases d <;> rfl

end Realm
end Nexus.L2
