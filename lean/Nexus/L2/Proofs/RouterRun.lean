/-
  Runs of the router and realm-wise non-interference along whole histories (for C11).

  `runR rt ops`           the router run: observation of every step, final router.
  `concerns A rt op`      the operation `op`, issued in state `rt`, is addressed to realm `A`
                          (a join to `A`, an operation of a session dispatched to `A`,
                          `RemoveRealm A` / `AddRealm` of a configuration named `A`) or to every
                          realm (the clock, the random oracle, `Router.Close`).
  `projRun A rt ops`      the sub-list of `ops` that concerns `A`, decided along the run.
  `obsPart A rt op`       what the step makes observable on behalf of realm `A`: the whole
                          observation for operations addressed to `A`; `A`'s own contribution
                          (its own `Realm.step (.tick ms)` / its own shutdown) for the clock and
                          `Router.Close` (C11_tick / C11_close show that the router's observation
                          is the concatenation of these contributions).
  `AgreeOn A rt₁ rt₂`     both routers hold the same realm under the name `A`, dispatch the
                          same sessions to it and are both open or both closed.  Nothing is
                          assumed about the other realms, the other sessions, the template or the
                          `created` counter.

  Main result `run_noninterference`: two runs from routers that agree on `A`, whose
  `A`-projections coincide, make the same things observable on behalf of `A`, step by step, and end
  in routers that agree on `A` — whatever happens in the other realms in between (operations of
  their sessions, joins, adding, removing, creating them from the template).

  Side condition `RunOk`: (1) session operations are not joins (`ROp.wf`); (2) a session key joins
  `A` only if the router does not know it yet (fresh random session ids); (3) realm `A` is not
  created during the run (no accepted `AddRealm` named `A`, no on-demand creation of `A` from the
  template).  The proof uses (2) and (3) only, and of the routers that their realm names are distinct (the
  clock overwrites entries by name): `Router.Inv` and (1), which keeps it, are what C11 assumes.
  (3) is needed because the model's publication-id placeholders of a new realm start
  at `created * 1000000`, and `created` counts the realms of the whole router: see
  `create_modulo_pubbase` (a realm created in two routers differs in exactly that base and in the
  clock it starts with: the router's, time being global) and `C11_pubbase_shared_witness`.
-/
import Nexus.L2.Proofs.RouterFrame

namespace Nexus.L2
namespace Router
namespace WpD
open Realm

def runR (rt : Router) : List ROp → List RObserved × Router
  | [] => ([], rt)
  | op :: ops => ((rt.step op).1 :: (runR (rt.step op).2 ops).1, (runR (rt.step op).2 ops).2)

def concerns (A : String) (rt : Router) : ROp → Bool
  | .join name _ _ _ _ _ => name == A
  | .sess k _ => rt.realmOf k == some A
  | .removeRealm name => name == A
  | .addRealm cfg => cfg.uri == A
  | .tick _ => true
  | .rnd _ => true
  | .close => true

def projRun (A : String) (rt : Router) : List ROp → List ROp
  | [] => []
  | op :: ops =>
    if concerns A rt op then op :: projRun A (rt.step op).2 ops else projRun A (rt.step op).2 ops

def obsPart (A : String) (rt : Router) : ROp → RObserved
  | .tick ms => match rt.realm? A with
    | none => {}
    | some r => merge {} (r.step (.tick ms)).1
  | .close => match rt.realm? A with
    | none => {}
    | some r => merge {} (shutdownRealm r).1
  | op => (rt.step op).1

def obsRun (A : String) (rt : Router) : List ROp → List RObserved
  | [] => []
  | op :: ops =>
    if concerns A rt op then obsPart A rt op :: obsRun A (rt.step op).2 ops else obsRun A (rt.step op).2 ops

/-- Hypothesis and conclusion of non-interference: all two routers must share for realm `A` to behave alike. -/
structure AgreeOn (A : String) (rt₁ rt₂ : Router) : Prop where
  realm : rt₁.realm? A = rt₂.realm? A
  sess : ∀ k, rt₁.realmOf k = some A ↔ rt₂.realmOf k = some A
  closed : rt₁.closed = rt₂.closed

theorem AgreeOn.refl (A : String) (rt : Router) : AgreeOn A rt rt := ⟨rfl, fun _ => Iff.rfl, rfl⟩
theorem AgreeOn.symm {A : String} {rt₁ rt₂ : Router} (h : AgreeOn A rt₁ rt₂) : AgreeOn A rt₂ rt₁ :=
  ⟨h.realm.symm, fun k => (h.sess k).symm, h.closed.symm⟩
theorem AgreeOn.trans {A : String} {rt₁ rt₂ rt₃ : Router} (h : AgreeOn A rt₁ rt₂) (h' : AgreeOn A rt₂ rt₃) :
    AgreeOn A rt₁ rt₃ :=
  ⟨h.realm.trans h'.realm, fun k => (h.sess k).trans (h'.sess k), h.closed.trans h'.closed⟩

/-- the side condition on one step (see the file header) -/
def StepOk (A : String) (rt : Router) : ROp → Prop
  | .join name k _ _ _ _ => name = A → rt.ensureRealm A = rt ∧ rt.realmOf k = none
  | .addRealm cfg => cfg.uri = A → rt.closed = true ∨ rt.realm? A ≠ none
  | .sess _ op => op.isJoin = false
  | _ => True

def RunOk (A : String) (rt : Router) : List ROp → Prop
  | [] => True
  | op :: ops => StepOk A rt op ∧ RunOk A (rt.step op).2 ops

/-- An operation that does not concern `A` is addressed to another name `B` and leaves the rest of the table alone
    (`others_step_*`); it closes nothing, and the session it enters, if any, it enters for `B`. -/
theorem agree_skip (A : String) (rt : Router) (op : ROp) (hc : concerns A rt op = false) :
    AgreeOn A rt (rt.step op).2 := by
  have f := step_fields rt op
  have key : ∀ B, A ≠ B → (rt.step op).2.others B = rt.others B → AgreeOn A rt (rt.step op).2 := fun B hne ho => by
    refine ⟨(realm?_of_others hne ho).symm, fun k' => ?_, (f.closed.resolve_right (by rintro rfl; cases hc)).symm⟩
    rw [realmOf_eq, realmOf_eq]
    rcases f.sessRealm with e | ⟨C, k, l, d, ro, c, rfl, e⟩ <;> rw [e]
    exact ((assoc?_append _ k C k' A).trans
      ⟨fun h => h.elim id fun h => absurd h.2.2 (by simpa [concerns] using hc), .inl⟩).symm
  cases op with
  | join name k l d ro c => exact key name (by intro e; simp [concerns, e] at hc) (others_step_join ..)
  | sess k op =>
    cases h : rt.realmOf k with
    | none => rw [step_sess_unknown h]; exact AgreeOn.refl _ _
    | some B => exact key B (by intro e; simp [concerns, h, e] at hc) (others_step_sess h op)
  | removeRealm name => exact key name (by intro e; simp [concerns, e] at hc) (others_step_remove ..)
  | addRealm cfg => exact key cfg.uri (by intro e; simp [concerns, e] at hc) (others_step_add ..)
  | tick ms => cases hc
  | rnd n => cases hc
  | close => cases hc

theorem concerns_agree {A : String} {rt₁ rt₂ : Router} (h : AgreeOn A rt₁ rt₂) (op : ROp) :
    concerns A rt₁ op = concerns A rt₂ op := by
  cases op with
  | sess k op =>
    simp only [concerns]
    have := h.sess k
    by_cases e : rt₁.realmOf k = some A
    · rw [e, this.mp e]
    · have e2 : ¬ rt₂.realmOf k = some A := fun x => e (this.mpr x)
      have a : (rt₁.realmOf k == some A) = false := by simpa using e
      have b : (rt₂.realmOf k == some A) = false := by simpa using e2
      rw [a, b]
  | _ => rfl

/-- By cases on the operation and on its outcomes (refused, realm absent, realm present), which are the same in both
    routers because they are decided by `A`'s part alone (`AgreeOn`, `StepOk`); in each case both steps are rewritten
    by the same equation of `Router.step` and compared. -/
theorem agree_sync {A : String} {rt₁ rt₂ : Router} (h : AgreeOn A rt₁ rt₂) (hn₁ : (rt₁.realms.map (·.1)).Nodup)
    (hn₂ : (rt₂.realms.map (·.1)).Nodup) (op : ROp) (hc : concerns A rt₁ op = true) (ho₁ : StepOk A rt₁ op) (ho₂ : StepOk A rt₂ op) :
    obsPart A rt₁ op = obsPart A rt₂ op ∧ AgreeOn A (rt₁.step op).2 (rt₂.step op).2 := by
  have hR : assoc? rt₁.realms A = assoc? rt₂.realms A := h.realm
  cases op with
  | join name k l d ro c =>
    have hn : name = A := by simpa [concerns] using hc
    subst hn
    obtain ⟨he₁, hk₁⟩ := ho₁ rfl
    obtain ⟨he₂, hk₂⟩ := ho₂ rfl
    show (rt₁.step _).1 = (rt₂.step _).1 ∧ _
    cases hcl : (rt₁.closed || name == "") with
    | true =>
      have hcl₂ : (rt₂.closed || name == "") = true := by rw [← h.closed]; exact hcl
      rw [step_join_refused hcl, step_join_refused hcl₂]
      exact ⟨rfl, h⟩
    | false =>
      have hcl₂ : (rt₂.closed || name == "") = false := by rw [← h.closed]; exact hcl
      cases hr : rt₁.realm? name with
      | none =>
        have hr₂ := h.realm ▸ hr
        rw [step_join_none hcl (by rw [he₁]; exact hr), step_join_none hcl₂ (by rw [he₂]; exact hr₂), he₁, he₂]
        exact ⟨rfl, h⟩
      | some r =>
        have hr₂ := h.realm ▸ hr
        rw [step_join_some hcl (by rw [he₁]; exact hr), step_join_some hcl₂ (by rw [he₂]; exact hr₂), he₁, he₂]
        refine ⟨rfl, ?_, fun k' => ?_, h.closed⟩
        · exact (realm?_setRealm_self _ hr).trans (realm?_setRealm_self _ hr₂).symm
        · show assoc? (rt₁.sessRealm ++ [(k, name)]) k' = some name ↔
            assoc? (rt₂.sessRealm ++ [(k, name)]) k' = some name
          have hk : ∀ {rt : Router}, rt.realmOf k = none → (assoc? rt.sessRealm k' = none ∧ k = k' ∧ name = name ↔ k = k') :=
            fun h0 => ⟨fun h => h.2.1, fun e => ⟨e ▸ h0, e, rfl⟩⟩
          rw [assoc?_append, assoc?_append, hk hk₁, hk hk₂]
          exact or_congr (h.sess k') Iff.rfl
  | sess k op =>
    have h₁ : rt₁.realmOf k = some A := by simpa [concerns] using hc
    have h₂ : rt₂.realmOf k = some A := (h.sess k).mp h₁
    show (rt₁.step _).1 = (rt₂.step _).1 ∧ _
    cases hr : rt₁.realm? A with
    | none =>
      have hr₂ := h.realm ▸ hr
      rw [step_sess_gone h₁ hr, step_sess_gone h₂ hr₂]
      exact ⟨rfl, h⟩
    | some r =>
      have hr₂ := h.realm ▸ hr
      rw [step_sess_some h₁ hr, step_sess_some h₂ hr₂]
      exact ⟨rfl, (realm?_setRealm_self _ hr).trans (realm?_setRealm_self _ hr₂).symm, h.sess, h.closed⟩
  | tick ms =>
    refine ⟨?_, ?_⟩
    · show (match rt₁.realm? A with | none => _ | some r => _) = (match rt₂.realm? A with | none => _ | some r => _)
      rw [h.realm]
    · obtain ⟨a1, a2, a3⟩ := step_tick_realms rt₁ ms hn₁
      obtain ⟨b1, b2, b3⟩ := step_tick_realms rt₂ ms hn₂
      refine ⟨?_, fun k => ?_, by rw [a3, b3]; exact h.closed⟩
      · rw [realm?_eq, realm?_eq, a1, b1, assoc?_map_snd (fun r : Realm => (r.step (.tick ms)).2),
          assoc?_map_snd (fun r : Realm => (r.step (.tick ms)).2), hR]
      · rw [realmOf_congr a2, realmOf_congr b2]; exact h.sess k
  | rnd n =>
    refine ⟨rfl, ?_, h.sess, h.closed⟩
    show assoc? (rt₁.realms.map (fun q => (q.1, (fun r : Realm => { r with rnd := n }) q.2))) A =
      assoc? (rt₂.realms.map (fun q => (q.1, (fun r : Realm => { r with rnd := n }) q.2))) A
    rw [assoc?_map_snd (γ := Realm) (fun r : Realm => { r with rnd := n }), assoc?_map_snd (γ := Realm) (fun r : Realm => { r with rnd := n }), hR]
  | close =>
    refine ⟨?_, ?_⟩
    · show (match rt₁.realm? A with | none => _ | some r => _) = (match rt₂.realm? A with | none => _ | some r => _)
      rw [h.realm]
    · rw [step_close, step_close]
      exact ⟨rfl, h.sess, rfl⟩
  | removeRealm name =>
    have hn : name = A := by simpa [concerns] using hc
    subst hn
    show (rt₁.step _).1 = (rt₂.step _).1 ∧ _
    cases hr : rt₁.realm? name with
    | none =>
      have hr₂ := h.realm ▸ hr
      rw [step_remove_none hr, step_remove_none hr₂]
      exact ⟨rfl, h⟩
    | some r =>
      have hr₂ := h.realm ▸ hr
      rw [step_remove_some hr, step_remove_some hr₂]
      refine ⟨rfl, ?_, h.sess, h.closed⟩
      show assoc? (rt₁.realms.filter (fun p => p.1 != name)) name = assoc? (rt₂.realms.filter (fun p => p.1 != name)) name
      rw [assoc?_filter_self, assoc?_filter_self]
  | addRealm cfg =>
    have hn : cfg.uri = A := by simpa [concerns] using hc
    show (rt₁.step _).1 = (rt₂.step _).1 ∧ _
    have refused : ∀ {rt : Router}, StepOk A rt (.addRealm cfg) →
        (rt.closed || rt.realms.any (fun p => p.1 == cfg.uri)) = true := fun {rt} ho => by
      rcases ho hn with e | e
      · simp [e]
      · cases hr : rt.realm? A with
        | none => exact absurd hr e
        | some r0 => rw [hn, List.any_eq_true.mpr ⟨_, realm?_mem hr, beq_self_eq_true A⟩]; simp
    rw [step_add, step_add, if_pos (refused ho₁), if_pos (refused ho₂)]
    exact ⟨rfl, h⟩

theorem run_skip_all (A : String) : ∀ (ops : List ROp) (rt₁ rt₂ : Router), AgreeOn A rt₁ rt₂ →
    projRun A rt₂ ops = [] → obsRun A rt₂ ops = [] ∧ AgreeOn A rt₁ (runR rt₂ ops).2
  | [], _, _, h, _ => ⟨rfl, h⟩
  | op :: ops, rt₁, rt₂, h, hp => by
    cases hc : concerns A rt₂ op with
    | true => simp [projRun, hc] at hp
    | false =>
      simp only [projRun, hc] at hp
      simp only [obsRun, hc, runR]
      exact run_skip_all A ops rt₁ _ (h.trans (agree_skip A rt₂ op hc)) hp

theorem run_noninterference (A : String) : ∀ (ops₁ : List ROp) (rt₁ rt₂ : Router) (ops₂ : List ROp),
    AgreeOn A rt₁ rt₂ → (rt₁.realms.map (·.1)).Nodup → (rt₂.realms.map (·.1)).Nodup →
    RunOk A rt₁ ops₁ → RunOk A rt₂ ops₂ →
    projRun A rt₁ ops₁ = projRun A rt₂ ops₂ →
    obsRun A rt₁ ops₁ = obsRun A rt₂ ops₂ ∧ AgreeOn A (runR rt₁ ops₁).2 (runR rt₂ ops₂).2
  | [], rt₁, rt₂, ops₂, h, _, _, _, _, hp => by
    obtain ⟨a, b⟩ := run_skip_all A ops₂ rt₁ rt₂ h hp.symm
    exact ⟨a.symm, b⟩
  | op₁ :: ops₁, rt₁, rt₂, ops₂, h, hn₁, hn₂, hk₁, hk₂, hp => by
    cases hc : concerns A rt₁ op₁ with
    | false =>
      simp only [projRun, hc] at hp
      simp only [obsRun, hc, runR]
      exact run_noninterference A ops₁ _ rt₂ ops₂ ((agree_skip A rt₁ op₁ hc).symm.trans h)
        ((step_fields rt₁ op₁).names hn₁) hn₂ hk₁.2 hk₂ hp
    | true =>
      simp only [projRun, hc, if_true] at hp
      simp only [obsRun, hc, if_true, runR]
      -- advance the second run to its first operation that concerns `A`
      induction ops₂ generalizing rt₂ with
      | nil => simp [projRun] at hp
      | cons op₂ ops₂ ih =>
        cases hc₂ : concerns A rt₂ op₂ with
        | false =>
          simp only [projRun, hc₂] at hp
          simp only [obsRun, hc₂, runR]
          exact ih _ (h.trans (agree_skip A rt₂ op₂ hc₂)) ((step_fields rt₂ op₂).names hn₂) hk₂.2 hp
        | true =>
          simp only [projRun, hc₂, if_true] at hp
          simp only [obsRun, hc₂, if_true, runR]
          obtain ⟨e, hp'⟩ := List.cons.inj hp
          subst e
          obtain ⟨o, h'⟩ := agree_sync h hn₁ hn₂ op₁ hc hk₁.1 hk₂.1
          obtain ⟨a, b⟩ := run_noninterference A ops₁ _ _ ops₂ h' ((step_fields rt₁ op₁).names hn₁)
            ((step_fields rt₂ op₁).names hn₂) hk₁.2 hk₂.2 hp'
          exact ⟨by rw [o, a], b⟩

/-! ### creation of a realm: the publication-id base is shared router state -/

/-- An accepted `AddRealm cfg` in two routers yields the same realm up to `pubCount`
    (`created * 1000000`, `created` counting the realms of the whole router) and the clock `now`
    (the router's: time is global, a realm created later starts at the current time). -/
theorem create_modulo_pubbase (rt : Router) (cfg : Config) (r : Realm) (hcr : Realm.create cfg = some r)
    (hacc : (rt.closed || rt.realms.any (fun p => p.1 == cfg.uri)) = false) :
    (rt.step (.addRealm cfg)).2.realm? cfg.uri = some { r with pubCount := rt.created * 1000000, now := rt.now } := by
  rw [step_add, hacc]
  simp only [Bool.false_eq_true, if_false, hcr]
  exact assoc?_append_new _ (assoc?_eq_none.mpr fun p hp => by simpa using List.any_eq_false.mp (Bool.or_eq_false_iff.mp hacc).2 p hp)

/-! ### the part observed on behalf of `A` is the router's observation filtered to `A`'s sessions -/

theorem filter_conf {β : Type} {m : List β} {g : β → Option String} {n A : String} (h : ∀ b ∈ m, g b = some n) :
    m.filter (fun b => g b == some A) = if n = A then m else [] := by
  split
  · exact List.filter_eq_self.mpr fun b hb => by rw [h b hb, ‹n = A›]; exact beq_self_eq_true _
  · exact List.filter_eq_nil_iff.mpr fun b hb => by rw [h b hb]; simpa using ‹¬n = A›

/-- Each realm's contribution is tagged with its own name (`hconf`) and names are distinct, so filtering the
    concatenation by the tag `A` leaves the contribution of the one realm named `A`. -/
theorem filter_flatMap_part {β : Type} (f : String × Realm → List β) (g : β → Option String) (A : String) :
    ∀ (l : List (String × Realm)), (l.map (·.1)).Nodup → (∀ p ∈ l, ∀ b ∈ f p, g b = some p.1) →
    (l.flatMap f).filter (fun b => g b == some A) =
      match l.find? (fun p => p.1 == A) with
      | none => []
      | some p => f p
  | [], _, _ => rfl
  | x :: l, hn, hconf => by
    rw [List.map_cons, List.nodup_cons] at hn
    rw [List.flatMap_cons, List.filter_append, List.find?_cons, filter_conf (hconf x (List.mem_cons_self ..)),
      filter_flatMap_part f g A l hn.2 fun p hp => hconf p (List.mem_cons_of_mem _ hp)]
    by_cases e : x.1 = A
    · have : l.find? (fun p => p.1 == A) = none := List.find?_eq_none.mpr fun p hp ep =>
        hn.1 (List.mem_map.mpr ⟨p, hp, (beq_iff_eq.mp ep).trans e.symm⟩)
      rw [if_pos e, this, beq_iff_eq.mpr e]
      exact List.append_nil _
    · rw [if_neg e, beq_eq_false_iff_ne.mpr e]
      rfl

/-- what `obsPart` attributes to `A` when every realm contributes `f`: the concatenation of the
    contributions restricted to the sessions dispatched to `A` (in a router satisfying the invariant whose
    session keys attached at most once) -/
theorem obsPart_filter (rt : Router) (hi : rt.Inv) (hn : (rt.sessRealm.map (·.1)).Nodup) (A : String)
    (f : Realm → Realm.Observed)
    (hc : ∀ p ∈ rt.realms, (∀ q ∈ (f p.2).out, rt.joined p.1 q.1) ∧ ∀ k ∈ (f p.2).closed, rt.joined p.1 k) :
    (match rt.realm? A with | none => ({} : RObserved) | some r => merge {} (f r)).out =
      (rt.realms.flatMap fun p => (f p.2).out).filter (fun q => rt.realmOf q.1 == some A) ∧
    (match rt.realm? A with | none => ({} : RObserved) | some r => merge {} (f r)).closed =
      (rt.realms.flatMap fun p => (f p.2).closed).filter (fun k => rt.realmOf k == some A) := by
  rw [filter_flatMap_part (fun p => (f p.2).out) (fun q => rt.realmOf q.1) A rt.realms hi.names
      (fun p hp q hq => realmOf_of_joined hn ((hc p hp).1 q hq)),
    filter_flatMap_part (fun p => (f p.2).closed) (fun k => rt.realmOf k) A rt.realms hi.names
      (fun p hp k hk => realmOf_of_joined hn ((hc p hp).2 k hk))]
  unfold realm?
  cases rt.realms.find? (fun p => p.1 == A) <;> exact ⟨rfl, rfl⟩

end WpD
end Router
end Nexus.L2
