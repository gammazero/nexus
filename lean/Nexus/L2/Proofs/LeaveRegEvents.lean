/-
  C18: the registration meta events of a departure.  When session `k`
  leaves, the dealer's `syncRemoveSession` announces, per registration `k` is a callee of (in the order
  of `k`'s entry of the callee index), `on_unregister` and then `on_delete` iff `k` was its last callee;
  nothing for the other registrations.  These publications are exactly the tasks the table-removal
  stage of `Realm.leave` adds (`leaveBaseTasks`).
-/
import Nexus.L2.Proofs.MetaPublish
import Nexus.L2.Proofs.RealmLeave

namespace Nexus.L2.WpA
open Nexus.L2 Nexus.L2.Realm Nexus.Gen.N

def onUnregisterPub (k : SessKey) (id : Nat) : MetaPub :=
  { topic := MetaEventRegOnUnregister, args := [sidVal k, .int id] }

def onRegDeletePub (k : SessKey) (id : Nat) : MetaPub :=
  { topic := MetaEventRegOnDelete, args := [sidVal k, .int id] }

def regDepartPubs (d : Dealer) (k : SessKey) (id : Nat) : List MetaPub :=
  match d.findReg id with
  | some reg =>
    if k ∈ reg.callees then
      onUnregisterPub k id :: (if reg.callees = [k] then [onRegDeletePub k id] else [])
    else []
  | none => []

theorem findReg_delReg_ne (d : Dealer) {id id' : Nat} (h : id' ≠ id) : (d.delReg id).findReg id' = d.findReg id' :=
  find?_key_filter_ne (f := fun x : Reg => x.id) d.regs h

theorem findReg_setReg_ne (d : Dealer) (s : Reg) {id' : Nat} (h : id' ≠ s.id) : (d.setReg s).findReg id' = d.findReg id' :=
  find?_key_replace_ne (f := fun x : Reg => x.id) d.regs rfl h

theorem findReg_id {d : Dealer} {id : Nat} {reg : Reg} (h : d.findReg id = some reg) : reg.id = id :=
  (find?_key_some (f := fun r : Reg => r.id) h).2

theorem regDepartPubs_of_find {d : Dealer} {k : SessKey} {id : Nat} {reg : Reg}
    (hf : d.findReg id = some reg) (hk : k ∈ reg.callees) :
    regDepartPubs d k id = onUnregisterPub k id :: (if reg.callees = [k] then [onRegDeletePub k id] else []) := by
  unfold regDepartPubs
  rw [hf]
  simp only [hk, if_true]

/-- the `calleeRegIDSet` loop, in closed form over the original table: registrations are independent -/
theorem removeRegs_pubs (k : SessKey) : ∀ (ids : List Nat) (d : Dealer), ids.Nodup →
    (∀ id ∈ ids, ∃ reg, d.findReg id = some reg ∧ k ∈ reg.callees) →
    (removeRegs d k ids).2.1 = ids.flatMap (regDepartPubs d k) ∧ (removeRegs d k ids).2.2 = none
  | [], d, _, _ => ⟨rfl, rfl⟩
  | id :: ids, d, hn, hall => by
    obtain ⟨reg, hf, hk⟩ := hall id (List.mem_cons_self ..)
    have hid := findReg_id hf
    have hnd := List.nodup_cons.mp hn
    have hstep : ∀ id' ∈ ids,
        (if reg.callees = [k] then d.delReg id
         else d.setReg { reg with callees := eraseFirst k reg.callees }).findReg id' = d.findReg id' := by
      intro id' hid'
      have hne : id' ≠ id := by rintro rfl; exact hnd.1 hid'
      split
      · exact findReg_delReg_ne d hne
      · exact findReg_setReg_ne d _ (by simpa [hid] using hne)
    have ih := removeRegs_pubs k ids _ hnd.2 (fun id' hid' => by
      rw [hstep id' hid']; exact hall id' (List.mem_cons_of_mem _ hid'))
    have hcongr : ids.flatMap (regDepartPubs
        (if reg.callees = [k] then d.delReg id else d.setReg { reg with callees := eraseFirst k reg.callees }) k) =
        ids.flatMap (regDepartPubs d k) :=
      congrArg List.flatten (List.map_congr_left fun id' hid' => by unfold regDepartPubs; rw [hstep id' hid'])
    simp only [removeRegs, delCalleeReg_eq hf hk, List.flatMap_cons]
    rw [ih.1, ih.2, hcongr]
    refine ⟨?_, rfl⟩
    rw [regDepartPubs_of_find hf hk]
    by_cases hl : reg.callees = [k] <;> simp [hl, onUnregisterPub, onRegDeletePub]

theorem syncRemoveSession_metaPubs {env : DEnv} {s : DState} (h : DealerInv s) (k : SessKey) :
    (syncRemoveSession env s k).metaPubs = (idxIds s.d.index k).flatMap (regDepartPubs s.d k) ∧
    (idxIds s.d.index k).Nodup ∧
    (∀ id, id ∈ idxIds s.d.index k ↔ ∃ reg ∈ s.d.regs, reg.id = id ∧ k ∈ reg.callees) := by
  have hnd := idxIds_nodup h.reg.ix k
  have hiff : ∀ id, id ∈ idxIds s.d.index k ↔ ∃ reg ∈ s.d.regs, reg.id = id ∧ k ∈ reg.callees :=
    fun id => h.reg.ixIff k id
  refine ⟨?_, hnd, hiff⟩
  show (removeRegs s.d k ((idxGet s.d.index k).getD [])).2.1 = _
  refine (removeRegs_pubs k _ s.d hnd ?_).1
  intro id hid
  obtain ⟨reg, hm, hrid, hk⟩ := (hiff id).mp hid
  exact ⟨reg, (findReg_eq_some h.reg.regs.ids).2 ⟨hm, hrid⟩, hk⟩


def notInvocation (m : Msg) : Prop := ∀ a b c d e, m ≠ .invocation a b c d e

theorem bsyncRemoveSession_noinv (b : Broker) (k : SessKey) (p : Nat) :
    ∀ x ∈ (b.syncRemoveSession k p).2.1, notInvocation x.msg := by
  intro x hx a b c d e he
  obtain ⟨_, i, hi, _⟩ := WpE.syncRemoveSession_event hx
  rw [he] at hi
  cases hi

theorem applyD_tasks_noinv (r : Realm) (o : DOut) (h : ∀ x ∈ o.sends, notInvocation x.msg) :
    (r.applyD o).tasks =
      r.tasks ++ o.metaPubs.map Task.metaPub ++ o.aborts.map (fun k => Task.leave k .aborted) := by
  rw [dapplyD_tasks, List.filterMap_eq_nil_iff.mpr fun x hx => dmetaTask_of_msg (h x hx), List.append_nil]

/-- the tasks after the table-removal stage of a non-shutdown departure: what was pending, then the
    publications of the dealer's `syncRemoveSession` — nothing else (the dealer's sends are ERRORs for callers,
    the broker's are EVENTs: neither queues a task) -/
theorem leaveRemove_tasks {r : Realm} (hd : DealerInv r.ds) (k : SessKey) :
    (leaveRemove r k false).tasks = r.tasks ++ (syncRemoveSession r.denv r.ds k).metaPubs.map Task.metaPub ∧
    (leaveRemove r k true).tasks = r.tasks := by
  constructor
  · unfold leaveRemove
    simp only [Bool.false_eq_true, if_false]
    rw [deliver_tasks_of fun x hx => dmetaTask_of_msg (bsyncRemoveSession_noinv _ _ _ x hx)]
    show (r.applyD (syncRemoveSession r.denv r.ds k)).tasks = _
    rw [applyD_tasks_noinv, syncRemoveSession_aborts]
    · simp
    · intro x hx
      rw [syncRemoveSession_sends hd] at hx
      obtain ⟨v, _, rfl⟩ := List.mem_map.mp hx
      intro a b c d e h
      cases h
  · unfold leaveRemove
    simp only [if_true]
    rw [setPanic_tasks]

theorem leaveBaseTasks_eq {r : Realm} (hd : DealerInv r.ds) {k : SessKey} (hk : k ≠ metaKey) (mode : LeaveMode) :
    leaveBaseTasks r k mode =
      r.tasks ++ (if mode.isShutdown then []
                  else ((idxIds r.ds.d.index k).flatMap (regDepartPubs r.ds.d k)).map Task.metaPub) := by
  unfold leaveBaseTasks
  have hds : ((leaveSend r k mode).takeTestaments k).2.ds = r.ds := by
    rw [takeTestaments_eq]
    exact (leaveSend_frame r k mode).ds
  have hts : ((leaveSend r k mode).takeTestaments k).2.tasks = r.tasks := by
    rw [takeTestaments_eq]
    exact leaveSend_tasks hk mode
  have hd' : DealerInv ((leaveSend r k mode).takeTestaments k).2.ds := hds ▸ hd
  cases hm : mode.isShutdown with
  | true =>
    rw [(leaveRemove_tasks hd' k).2, hts]; simp
  | false =>
    rw [(leaveRemove_tasks hd' k).1, hts, (syncRemoveSession_metaPubs hd' k).1, hds]; simp

end Nexus.L2.WpA
