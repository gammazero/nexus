/-
  Which sessions the broker refers to and sends to.

  `b.mem k`: session k is a member of some subscription of b.  Every step of the broker sends only to members and
  to the acting session, and makes nobody but the acting session a member (`Broker.Tells.to`, `.mem`: the statements
  per subscription, `Broker.Tells` of `BrokerMetaEvent`, with the subscription forgotten); `syncRemoveSession k`
  leaves no trace of k (under `BrokerInv`).
-/
import Nexus.L2.Proofs.BrokerMetaEvent

namespace Nexus.L2

def Broker.mem (b : Broker) (k : SessKey) : Prop := ∃ s ∈ b.subs, k ∈ s.members

theorem Broker.isMember.mem {b : Broker} {k : SessKey} {i : Nat} (h : b.isMember k i) : b.mem k :=
  let ⟨s, hs, _, hk⟩ := h
  ⟨s, hs, hk⟩

theorem matching_sub {b : Broker} {t : String} {x : Sub × Bool} (h : x ∈ b.matching t) : x.1 ∈ b.subs := by
  obtain ⟨s, st⟩ := x
  exact ((mem_matching b t s st).mp h).1

variable {b b' : Broker} {a : Option SessKey} {ss : List Send}

theorem Broker.Tells.mem (t : b.Tells a b' ss) {j : SessKey} (h : b'.mem j) : b.mem j ∨ a = some j := by
  by_cases e : a = some j
  · exact .inr e
  · obtain ⟨s, hs, hk⟩ := h
    exact .inl ((t.others j s.id e).mp ⟨s, hs, rfl, hk⟩).mem

theorem Broker.Tells.to (t : b.Tells a b' ss) {x : Send} (hx : x ∈ ss) : b.mem x.to ∨ a = some x.to := by
  cases hi : x.msg.eventSub? with
  | none => exact .inr (t.plain x hx hi)
  | some i => exact .inl (t.event x hx i hi).2.mem

theorem syncPublish_to {sess : SessKey → Option Session} {now : Nat} {p : Publication} {x : Send}
    (h : x ∈ (b.syncPublish sess now p).2) : b.mem x.to :=
  ((b.tells_publish sess now p).to h).resolve_right nofun

theorem syncUnsubscribe_mem (hb : BrokerInv b) {k : SessKey} {req subId pub0 : Nat} {k' : SessKey}
    (h : (b.syncUnsubscribe k req subId pub0).1.mem k') : b.mem k' :=
  let ⟨s, hs, hk⟩ := h
  ((syncUnsubscribe_isMember hb k req subId pub0 k' s.id).mp ⟨s, hs, rfl, hk⟩).1.mem

theorem syncRemoveSession_mem (hb : BrokerInv b) {k : SessKey} {pub0 : Nat} {k' : SessKey}
    (h : (b.syncRemoveSession k pub0).1.mem k') : b.mem k' ∧ k' ≠ k :=
  let ⟨s, hs, hk⟩ := h
  ((syncRemoveSession_isMember hb k pub0 k' s.id).mp ⟨s, hs, rfl, hk⟩).imp_left (·.mem)

theorem BrokerInv.index_mem {b : Broker} (hb : BrokerInv b) {e : SessKey × List Nat} (he : e ∈ b.index) : b.mem e.1 := by
  have hne := hb.index_wf.nonempty e he
  obtain ⟨id, hid⟩ := List.exists_mem_of_ne_nil _ hne
  have hget : idxGet b.index e.1 = some e.2 := (idxGet_eq_some hb.index_wf.keys).mpr he
  have : idxRel b.index e.1 id := by unfold idxRel; rw [hget]; exact hid
  obtain ⟨s, hs, _, hk⟩ := (hb.index_iff e.1 id).mp this
  exact ⟨s, hs, hk⟩

/-- needs the index ↔ membership agreement of `BrokerInv` -/
theorem syncRemoveSession_gone {b : Broker} (hb : BrokerInv b) (k : SessKey) (pub0 : Nat) :
    ¬ (b.syncRemoveSession k pub0).1.mem k ∧ ∀ e ∈ (b.syncRemoveSession k pub0).1.index, e.1 ≠ k := by
  refine ⟨fun h => (syncRemoveSession_mem hb h).2 rfl, ?_⟩
  obtain ⟨_, _, _, _, _, hix⟩ := syncRemoveSession_state hb k pub0
  rw [hix]
  exact fun e he hek => by simpa [hek] using (List.mem_filter.mp he).2

end Nexus.L2
