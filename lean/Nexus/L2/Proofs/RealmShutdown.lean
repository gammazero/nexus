/-
  `Router.shutdownRealm` (realm.close of Router.Close / RemoveRealm): what `Realm.leave k .shutdown` does
  field by field, the fold over all attached clients, and what `flush` then shows to the clients.
-/
import Nexus.L2.Router
import Nexus.L2.Proofs.ControlActions
import Nexus.L2.Proofs.RealmLeave

namespace Nexus.L2.WpC
open Nexus.L2.Realm Gen.N

def byeMsg : Msg := .goodbye [] CloseSystemShutdown

/-- what `leave_ctl` and `leave_testaments`, which speak of every departure, do not say of one in shutdown mode -/
theorem leave_shutdown_fields {r : Realm} {k : SessKey} {s : Session}
    (hf : r.clients.find? (fun c => c.key == k) = some s) :
    (r.leave k .shutdown).queues = (r.trySend ⟨k, byeMsg⟩).queues ∧
    (r.leave k .shutdown).closedPeers = r.closedPeers ++ [k] ∧
    (r.leave k .shutdown).ghosts = (if s.stalled then r.ghosts ++ [k] else r.ghosts) ∧
    (r.leave k .shutdown).tasks = r.tasks := by
  rw [leave_eq .shutdown hf]
  refine ⟨rfl, rfl, rfl, ?_⟩
  show (Realm.setPanic _ _).tasks ++ [] = _
  rw [List.append_nil, setPanic_tasks, takeTestaments_eq]
  exact trySend_tasks_of (x := ⟨k, byeMsg⟩) (dmetaTask_of_msg (by intro _ _ _ _ _ e; cases e))

/-- the queue table after client `c` has been offered the farewell (a client that — in the model only —
    carries the meta key is never queued anything) -/
def sayBye (qs : List (SessKey × List Msg)) (c : Session) : List (SessKey × List Msg) :=
  if c.key ≠ metaKey ∧ (qlook qs c.key).length < c.cap then enq qs c.key byeMsg else qs

theorem trySend_bye_queues {r : Realm} {c : Session} (hc : r.client? c.key = some c) :
    (r.trySend ⟨c.key, byeMsg⟩).queues = sayBye r.queues c := by
  rw [trySend_queues_eq]
  simp [WpE.accepts, sayBye, hc, queueLen_eq, queueOf_eq]

theorem qlook_sayBye (qs : List (SessKey × List Msg)) (c : Session) (k : SessKey) :
    qlook (sayBye qs c) k =
      if k = c.key ∧ c.key ≠ metaKey ∧ (qlook qs c.key).length < c.cap then qlook qs k ++ [byeMsg] else qlook qs k := by
  unfold sayBye
  by_cases h : c.key ≠ metaKey ∧ (qlook qs c.key).length < c.cap
  · rw [if_pos h, qlook_enq]
    by_cases e : k = c.key
    · rw [if_pos e, if_pos ⟨e, h⟩]
    · rw [if_neg e, if_neg (fun x => e x.1)]
  · rw [if_neg h, if_neg (fun x => h x.2)]

/-- the state after the clients `cs` (distinct keys, all attached) have left `r` in shutdown mode -/
structure ShutFold (r : Realm) (cs : List Session) (rf : Realm) : Prop where
  inv : RealmInv rf
  panic : rf.panic = r.panic
  clients : rf.clients = r.clients.filter (fun c => !(cs.map (·.key)).contains c.key)
  queues : rf.queues = cs.foldl sayBye r.queues
  closedPeers : rf.closedPeers = r.closedPeers ++ cs.map (·.key)
  ghosts : rf.ghosts = r.ghosts ++ (cs.filter (·.stalled)).map (·.key)
  ending : rf.ending = r.ending.filter (fun k => !(cs.map (·.key)).contains k)
  testaments : rf.testaments = r.testaments.filter (fun t => !(cs.map (·.key)).contains t.1)
  retries : rf.retries = r.retries
  deferred : rf.deferred = r.deferred
  inbox : rf.inbox = r.inbox
  tasks : rf.tasks = r.tasks

theorem filter_ne_filter_notin {α : Type} (f : α → SessKey) (l : List α) (k : SessKey) (ks : List SessKey) :
    (l.filter (fun x => f x != k)).filter (fun x => !ks.contains (f x)) =
      l.filter (fun x => !(k :: ks).contains (f x)) := by
  rw [List.filter_filter]
  apply List.filter_congr
  intro x _
  simp only [List.contains_cons]
  cases ks.contains (f x) <;> cases h2 : (f x == k) <;> simp [bne, h2]

theorem foldl_leave_shutdown : ∀ (cs : List Session) (r : Realm), RealmInv r → r.retries = [] →
    (cs.map (·.key)).Nodup → (∀ c ∈ cs, r.clients.find? (fun x => x.key == c.key) = some c) →
    ShutFold r cs (cs.foldl (fun r c => r.leave c.key .shutdown) r)
  | [], r, hi, _, _, _ => by
    refine ⟨hi, rfl, ?_, rfl, by simp, by simp, ?_, ?_, rfl, rfl, rfl, rfl⟩ <;>
      exact (List.filter_eq_self.mpr (fun _ _ => rfl)).symm
  | c :: cs, r, hi, hr, hn, hf => by
    have hfc := hf c (List.mem_cons_self ..)
    have lc := leave_ctl .shutdown hfc
    obtain ⟨f2, f3, f4, f10⟩ := leave_shutdown_fields hfc
    have f6 := leave_testaments r c.key .shutdown (isClient_of_find hfc)
    obtain ⟨i1, p1, _⟩ := leave_inv hi c.key .shutdown (by unfold busy; rw [hr]; rfl)
    have hn' : c.key ∉ cs.map (·.key) ∧ (cs.map (·.key)).Nodup := List.nodup_cons.mp hn
    have hne : ∀ c' ∈ cs, c'.key ≠ c.key := fun c' hc' e => hn'.1 (List.mem_map.mpr ⟨c', hc', e⟩)
    have hf1 : ∀ c' ∈ cs, (r.leave c.key .shutdown).clients.find? (fun x => x.key == c'.key) = some c' := by
      intro c' hc'
      rw [lc.clients, find?_key_filter_ne (f := fun c : Session => c.key) _ (hne c' hc')]
      exact hf c' (List.mem_cons_of_mem _ hc')
    have ih := foldl_leave_shutdown cs (r.leave c.key .shutdown) i1 (by rw [lc.retries, hr]) hn'.2 hf1
    rw [List.foldl_cons]
    refine ⟨ih.inv, ih.panic.trans p1, ?_, ?_, ?_, ?_, ?_, ?_, ih.retries.trans lc.retries, ih.deferred.trans lc.deferred,
      ih.inbox.trans lc.inbox, ih.tasks.trans f10⟩
    · rw [ih.clients, lc.clients]; exact filter_ne_filter_notin Session.key _ _ _
    · rw [ih.queues, f2, trySend_bye_queues hfc, List.foldl_cons]
    · rw [ih.closedPeers, f3]; simp
    · rw [ih.ghosts, f4]
      cases hs : c.stalled <;> simp [hs]
    · rw [ih.ending, lc.ending]; exact filter_ne_filter_notin id _ _ _
    · rw [ih.testaments, f6]; exact filter_ne_filter_notin Prod.fst _ _ _

theorem qlook_foldl_sayBye_other (cs : List Session) (qs : List (SessKey × List Msg)) (k : SessKey)
    (h : ∀ c ∈ cs, c.key ≠ k) : qlook (cs.foldl sayBye qs) k = qlook qs k :=
  List.foldlRecOn (motive := fun x => qlook x k = qlook qs k) cs sayBye rfl fun x hx c hc => by
    rw [qlook_sayBye, if_neg fun e => h c hc e.1.symm, hx]

/-- a client is told once: the farewells before and after its own leave its queue alone -/
theorem qlook_foldl_sayBye_client (cs : List Session) (qs : List (SessKey × List Msg))
    (hn : (cs.map (·.key)).Nodup) (c : Session) (hc : c ∈ cs) :
    qlook (cs.foldl sayBye qs) c.key =
      if c.key ≠ metaKey ∧ (qlook qs c.key).length < c.cap then qlook qs c.key ++ [byeMsg] else qlook qs c.key := by
  obtain ⟨l1, l2, rfl⟩ := List.append_of_mem hc
  rw [List.map_append, List.map_cons, List.nodup_append] at hn
  have h1 : ∀ a ∈ l1, a.key ≠ c.key := fun a ha =>
    hn.2.2 _ (List.mem_map.mpr ⟨a, ha, rfl⟩) _ (List.mem_cons_self ..)
  have h2 : ∀ a ∈ l2, a.key ≠ c.key := fun a ha e =>
    (List.nodup_cons.mp hn.2.1).1 (List.mem_map.mpr ⟨a, ha, e⟩)
  rw [List.foldl_append, List.foldl_cons, qlook_foldl_sayBye_other l2 _ _ h2, qlook_sayBye,
    qlook_foldl_sayBye_other l1 _ _ h1]
  simp only [true_and]

theorem mem_sayBye {qs : List (SessKey × List Msg)} {c : Session} {q : SessKey × List Msg} (h : q ∈ sayBye qs c) :
    q ∈ qs ∨ (q.1 = c.key ∧ c.key ≠ metaKey ∧ ((∃ q0 ∈ qs, q0.1 = c.key ∧ q.2 = q0.2 ++ [byeMsg]) ∨ q.2 = [byeMsg])) := by
  unfold sayBye at h
  split at h
  · rename_i hc
    exact (mem_enq h).elim (fun h => Or.inl h.1) (fun h => Or.inr ⟨h.1, hc.1, h.2⟩)
  · exact Or.inl h

theorem mem_foldl_sayBye : ∀ (cs : List Session) (qs : List (SessKey × List Msg)), (cs.map (·.key)).Nodup →
    ∀ q ∈ cs.foldl sayBye qs,
      q ∈ qs ∨ ∃ c ∈ cs, q.1 = c.key ∧ c.key ≠ metaKey ∧
        ((∃ q0 ∈ qs, q0.1 = c.key ∧ q.2 = q0.2 ++ [byeMsg]) ∨ q.2 = [byeMsg])
  | [], _, _, q, hq => Or.inl hq
  | a :: cs, qs, hn, q, hq => by
    have hn' := List.nodup_cons.mp hn
    rcases mem_foldl_sayBye cs (sayBye qs a) hn'.2 q hq with h | ⟨c, hc, hk, hm, h⟩
    · exact (mem_sayBye h).imp_right fun h => ⟨a, List.mem_cons_self .., h⟩
    · -- the buffer extended for `c` was not `a`'s: keys are distinct
      refine Or.inr ⟨c, List.mem_cons_of_mem _ hc, hk, hm, h.imp_left fun ⟨q0, hq0, e0, e1⟩ => ?_⟩
      rcases mem_sayBye hq0 with h1 | ⟨h1, _⟩
      · exact ⟨q0, h1, e0, e1⟩
      · exact absurd (e0.symm.trans h1) fun e => hn'.1 (List.mem_map.mpr ⟨c, hc, e⟩)

/-- without attached clients everybody who is not a ghost reads -/
theorem shut_flush_noclients (r : Realm) (hc : r.clients = []) :
    r.flush.1.out = r.queues.filter (fun q => !r.ghosts.contains q.1 && !q.2.isEmpty) ∧
    r.flush.1.closed = r.closedPeers.filter (fun k => !r.ghosts.contains k) ∧
    r.flush.2.queues =
      r.queues.filter (fun q => r.ghosts.contains q.1) ++
        (r.queues.filter (fun q => !r.ghosts.contains q.1 && !r.closedPeers.contains q.1)).map (fun q => (q.1, [])) ∧
    r.flush.2.closedPeers = r.closedPeers.filter (fun k => r.ghosts.contains k) := by
  have hread : ∀ b : Bool, (if b = true then false else true) = !b := by
    intro b; cases b <;> rfl
  unfold Realm.flush
  simp only [hc, List.find?_nil, hread, Bool.not_not, and_self]

theorem shut_flush_fields (r : Realm) :
    r.flush.2.clients = r.clients ∧ r.flush.2.ghosts = r.ghosts ∧ r.flush.2.ending = r.ending ∧
    r.flush.2.testaments = r.testaments ∧ r.flush.2.retries = r.retries ∧ r.flush.2.deferred = r.deferred ∧
    r.flush.2.inbox = r.inbox ∧ r.flush.2.tasks = r.tasks ∧ r.flush.2.ds = r.ds ∧ r.flush.2.broker = r.broker :=
  ⟨rfl, rfl, rfl, rfl, rfl, rfl, rfl, rfl, rfl, rfl⟩

/-- the realm with the sleeping handlers woken up (`recvDone`): what `shutdownRealm` starts from -/
def woken (r : Realm) : Realm := { r with retries := [], deferred := [], inbox := [], tasks := [] }

/-- the state when every session handler has exited, before the clients look -/
def shutFold (r : Realm) : Realm := r.clients.foldl (fun r c => r.leave c.key .shutdown) (woken r)

theorem shutdownRealm_eq (r : Realm) : Router.shutdownRealm r = (shutFold r).flush := rfl

theorem woken_inv {r : Realm} (hi : RealmInv r) : RealmInv (woken r) :=
  hi.of_parts rfl hi.binv hi.dinv hi.bmem hi.dref hi.callers (fun _ hx => nomatch hx) (fun _ ht => nomatch ht)
    (fun _ he => nomatch he) rfl

/-- `realm.close` leaves the panic flag as it is, whatever the client keys: the retry loops are dropped first,
    so every departure of the fold is one `leave_inv` speaks of -/
theorem shutdown_panic {r : Realm} (hi : RealmInv r) : (Router.shutdownRealm r).1.panic = r.panic := by
  have key : RealmInv (shutFold r) ∧ (shutFold r).retries = [] ∧ (shutFold r).panic = r.panic :=
    List.foldlRecOn (motive := fun x => RealmInv x ∧ x.retries = [] ∧ x.panic = r.panic) r.clients _
      ⟨woken_inv hi, rfl, rfl⟩ fun x ⟨h1, h2, h3⟩ c _ => by
        obtain ⟨i1, p1, _⟩ := leave_inv h1 c.key .shutdown (by unfold busy; rw [h2]; rfl)
        refine ⟨i1, ?_, p1.trans h3⟩
        exact leave_cases (C := fun q => q.retries = []) x c.key .shutdown (fun _ => h2) fun s hf => (leave_ctl .shutdown hf).retries.trans h2
  rw [shutdownRealm_eq]
  exact (flush_inv key.1).2.2.trans key.2.2

theorem shutFold_spec {r : Realm} (hi : RealmInv r) (hn : (r.clients.map (·.key)).Nodup) :
    ShutFold (woken r) r.clients (shutFold r) ∧ (shutFold r).clients = [] := by
  have h := foldl_leave_shutdown r.clients (woken r) (woken_inv hi) rfl hn
    (fun c hc => client?_of_mem (r := r) hn hc)
  refine ⟨h, ?_⟩
  have hc := h.clients
  unfold shutFold
  rw [hc]
  apply List.filter_eq_nil_iff.mpr
  intro a ha
  have : (r.clients.map (·.key)).contains a.key = true :=
    List.contains_iff_mem.mpr (List.mem_map.mpr ⟨a, ha, rfl⟩)
  show ¬ (!(r.clients.map (·.key)).contains a.key) = true
  rw [this]; simp

theorem ghosts_after {r : Realm} (hn : (r.clients.map (·.key)).Nodup) {c : Session} (hc : c ∈ r.clients) :
    c.key ∈ r.ghosts ++ (r.clients.filter (·.stalled)).map (·.key) ↔ c.key ∈ r.ghosts ∨ c.stalled = true := by
  rw [List.mem_append]
  refine or_congr Iff.rfl ⟨fun h => ?_, fun h => List.mem_map.mpr ⟨c, List.mem_filter.mpr ⟨hc, h⟩, rfl⟩⟩
  obtain ⟨c', hc', e⟩ := List.mem_map.mp h
  obtain ⟨hm, hs⟩ := List.mem_filter.mp hc'
  rw [nodup_map_inj hn hm hc e] at hs
  exact hs

/-- what stays buffered of the table `T` when everybody but the ghosts `G` has read: the queues of the ghosts -/
theorem qlook_kept (T : List (SessKey × List Msg)) (G P : List SessKey) (k : SessKey) :
    qlook (T.filter (fun q => G.contains q.1) ++
      (T.filter (fun q => !G.contains q.1 && !P.contains q.1)).map (fun q => (q.1, []))) k =
      if G.contains k then qlook T k else [] := by
  have h := qlook_unread (fun k => !G.contains k) P.contains T k
  simp only [Bool.not_not] at h
  rw [h]
  cases G.contains k <;> rfl

theorem shutdownRealm_qinv {r : Realm} (h : QueueInv r) : QueueInv (Router.shutdownRealm r).2 :=
  qinv_flush (List.foldlRecOn r.clients _ (qinv_congr (r := r) (r' := woken r) rfl rfl rfl rfl h)
    fun _ h c _ => qinv_leave h c.key .shutdown)


/-- three clients: 1 reads and has room, 2 has stopped reading, 3 reads and its queue is full -/
def shutExRealm : Realm :=
  { clients := [{ key := 1, details := [], roles := [], isLocal := false, cap := 2 },
                { key := 2, details := [], roles := [], isLocal := false, cap := 1, stalled := true },
                { key := 3, details := [], roles := [], isLocal := true, cap := 1 }],
    queues := [(1, []), (2, []), (3, [.other 99])] }

/-- a client under `metaKey` (key 0, the model's name for the meta session, whose WAMP id is `metaID = 1` in
    realm.go): a model artefact, the router draws the ids of clients at random (`wamp.GlobalID`, router.go) -/
def shutExRealmKey0 : Realm :=
  { clients := [{ key := metaKey, details := [], roles := [], isLocal := false, cap := 2 }],
    queues := [(metaKey, [])] }

end Nexus.L2.WpC
