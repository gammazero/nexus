/-
  What `Realm.create` builds: for any configuration it accepts, the empty realm with the meta procedures
  registered (`create_some`); for one that differs from the default in no switch, the closed term
  `metaRealm` with the configuration and the pre-initialised broker put in (`create_eq`, `create_default`).
-/
import Nexus.L2.Realm

namespace Nexus.L2.Realm
open Nexus.Gen.N

theorem registerMeta_eq : ∀ (ps : List String) (r : Realm),
    registerMeta r ps = { r with ds := (registerMeta r ps).ds, metaProcs := (registerMeta r ps).metaProcs }
  | [], _ => rfl
  | p :: ps, r => by
    unfold registerMeta
    extract_lets o id
    rw [registerMeta_eq ps]

theorem create_some {cfg : Config} {r : Realm} (h : Realm.create cfg = some r) :
    r = registerMeta
      { cfg := cfg
        broker := ({ strict := cfg.strict, allowDisclose := cfg.allowDisclose } : Broker).preInit cfg.history
        ds := { d := { strict := cfg.strict, allowDisclose := cfg.allowDisclose } } }
      (metaProcNames cfg) := by
  unfold Realm.create at h
  split at h
  · cases h
  split at h
  · cases h
  · exact (Option.some.inj h).symm

/-- The realm `create {}` builds: the 18 meta procedures registered for the meta session, in the order of
    `metaProcNames`, under the ids 1 … 18. -/
def metaRealm : Realm :=
  { ds := { d := { regs := (metaProcNames {}).zipIdx.map fun (p, i) =>
                     { id := i + 1, proc := p, «match» := "", policy := "", disclose := true, fwdTimeout := false,
                       callees := [metaKey] }
                   nextReg := 18, index := [(metaKey, List.range' 1 18)] } }
    metaProcs := (metaProcNames {}).zipIdx.map fun (p, i) => (i + 1, p) }

theorem registerMeta_default : registerMeta { ds := { d := {} } } (metaProcNames {}) = metaRealm := by
  rfl

theorem registerMeta_cfg (c : Config) (b : Broker) : ∀ ps r,
    { registerMeta r ps with cfg := c, broker := b } = registerMeta { r with cfg := c, broker := b } ps
  | [], _ => rfl
  | _ :: ps, _ => registerMeta_cfg c b ps _

/-- `create` for a configuration that differs from the default one at most in `uri`, `history`, the authorizer and
    the meta API's `metaStrict` / `metaInc` -/
theorem create_eq (cfg : Config) (hs : cfg.strict = false) (ha : cfg.allowDisclose = false)
    (hk : cfg.metaKill = false) (hm : cfg.metaModify = false) (hh : historyOk cfg = true)
    (hu : validUri false "" cfg.uri = true) :
    create cfg = some { metaRealm with cfg := cfg, broker := ({} : Broker).preInit cfg.history } := by
  have : metaProcNames cfg = metaProcNames {} := by unfold metaProcNames; rw [hk, hm]
  simp only [create, hs, ha, hh, hu, this, Bool.not_true, Bool.false_eq_true, if_false]
  rw [← registerMeta_default]
  exact congrArg some (registerMeta_cfg cfg (({} : Broker).preInit cfg.history) (metaProcNames {}) { ds := { d := {} } }).symm

theorem create_default : create {} = some metaRealm := create_eq {} rfl rfl rfl rfl rfl (by decide +kernel)

end Nexus.L2.Realm
