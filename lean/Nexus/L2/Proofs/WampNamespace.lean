/-
  The restricted `wamp.` namespace (C03): in every reachable realm state, a registration whose procedure URI starts
  with "wamp." is served by the meta session alone.  `dealer.register` refuses such a REGISTER from any other session
  (`Realm.handleRegister`); nothing else adds callees.
-/
import Nexus.L2.Proofs.DealerActs

namespace Nexus.L2.WpB
open Nexus.L2 Nexus.L2.Realm Nexus.Gen.N

/-- an invariant of the dealer's state alone, so it is carried along the dealer's moves (`RStep.wampOk`) and
    lifted to reachable realms by `Reachable.dinvariant`, without a walk through the realm -/
def WampOk (s : DState) : Prop :=
  ∀ reg ∈ s.d.regs, reg.proc.startsWith "wamp." = true → ∀ c ∈ reg.callees, c = metaKey

/-- every registration of `regs'` stems from one of `regs` with the same procedure and no new callee -/
def RegsSub (regs regs' : List Reg) : Prop :=
  ∀ reg' ∈ regs', ∃ reg ∈ regs, reg.proc = reg'.proc ∧ ∀ c ∈ reg'.callees, c ∈ reg.callees

theorem RegsSub.refl (l : List Reg) : RegsSub l l := fun r hr => ⟨r, hr, rfl, fun _ h => h⟩

theorem RegsSub.of_eq {l l' : List Reg} (h : l' = l) : RegsSub l l' := h ▸ RegsSub.refl l

theorem RegsSub.trans {a b c : List Reg} (h1 : RegsSub a b) (h2 : RegsSub b c) : RegsSub a c := by
  intro r hr
  obtain ⟨r1, hr1, e1, s1⟩ := h2 r hr
  obtain ⟨r0, hr0, e0, s0⟩ := h1 r1 hr1
  exact ⟨r0, hr0, e0.trans e1, fun c hc => s0 c (s1 c hc)⟩

theorem WampOk.sub {s s' : DState} (h : WampOk s) (hs : RegsSub s.d.regs s'.d.regs) : WampOk s' := by
  intro r' hr' hw c hc
  obtain ⟨r, hr, e, sub⟩ := hs r' hr'
  exact h r hr (e ▸ hw) c (sub c hc)

theorem regsSub_of_shape {l l' : List Reg} (h : l'.map Reg.shape = l.map Reg.shape) : RegsSub l l' := by
  intro r' hr'
  obtain ⟨r, hr, he⟩ := exists_of_map_eq h hr'
  simp only [Reg.shape, Prod.mk.injEq] at he
  exact ⟨r, hr, he.2.1, fun c hc => he.2.2.2.2 ▸ hc⟩

theorem delCalleeReg_regsSub {d d' : Dealer} {k : SessKey} {id : Nat} {del : Bool}
    (h : d.delCalleeReg k id = some (d', del)) : RegsSub d.regs d'.regs := by
  obtain ⟨reg, hf, _, rfl, _⟩ := delCalleeReg_of_some h
  have hreg : reg ∈ d.regs := List.mem_of_find?_eq_some hf
  split <;> intro r hr
  · exact ⟨r, (List.mem_filter.1 hr).1, rfl, fun _ hc => hc⟩
  · rcases mem_setReg.1 hr with ⟨hr, _⟩ | ⟨rfl, _⟩
    · exact ⟨r, hr, rfl, fun _ hc => hc⟩
    · exact ⟨reg, hreg, rfl, fun c hc => mem_eraseFirst_sub hc⟩

theorem removeRegs_regsSub (k : SessKey) : ∀ (ids : List Nat) (d : Dealer), RegsSub d.regs (removeRegs d k ids).1.regs :=
  removeRegs_rel (R := fun d d' => RegsSub d.regs d'.regs) k (fun _ => .refl _) .trans delCalleeReg_regsSub

theorem RStep.wampOk {s : DState} {o : DOut} (hinv : DealerInv s) (h : WampOk s) (st : RStep s o) : WampOk o.st := by
  cases st with
  | register callee req proc m invoke disclose fwd wampURI hk hw =>
    -- a `wamp.` procedure is registered by the meta session only
    apply syncRegister_cases (P := fun o => WampOk o.st)
    · intro _ reg hreg hwamp c hc
      rcases List.mem_append.1 hreg with hr | hr
      · exact h reg hr hwamp c hc
      · obtain rfl := List.mem_singleton.1 hr
        rw [List.mem_singleton.1 hc]
        exact hw hwamp
    · intro _ _ _; exact h
    · intro reg0 hf _ _ _ reg hreg hwamp c hc
      have hm := (findProc_eq_some hinv.reg.regs.keys).1 hf
      rcases mem_setReg.1 hreg with ⟨hr, _⟩ | ⟨rfl, _⟩
      · exact h reg hr hwamp c hc
      · rcases List.mem_append.1 hc with hc | hc
        · exact h reg0 hm.1 hwamp c hc
        · rw [List.mem_singleton.1 hc]
          exact hw (hm.2.2 ▸ hwamp)
  | unregister callee req regId =>
    apply syncUnregister_cases (P := fun o => WampOk o.st)
    · intro _; exact h
    · intro d _ he; exact h.sub (delCalleeReg_regsSub (d := { s.d with index := idxDel s.d.index callee regId }) he)
  | call env caller req opts proc args kw rnd =>
    exact h.sub (regsSub_of_shape (syncCall_frame hinv caller req opts proc args kw rnd).regs)
  | cancel env caller req mode reason errArgs => exact h.sub (RegsSub.of_eq (syncCancel_shrinks ..).sub.regs)
  | yield env callee req opts args kw progress canRetry => exact h.sub (RegsSub.of_eq (syncYield_shrinks ..).sub.regs)
  | error callee req details err args kw => exact h.sub (RegsSub.of_eq (syncError_shrinks ..).sub.regs)
  | removeSession env k =>
    refine h.sub ?_
    rw [syncRemoveSession_regs]
    exact removeRegs_regsSub k _ _
  | fire env t _ _ =>
    exact h.sub (RegsSub.of_eq (syncCancel_shrinks env { s with timers := _ } ..).sub.regs)

theorem Reachable.wampOk {cfg : Config} {r : Realm} (h : Realm.Reachable cfg r) : WampOk r.ds :=
  Reachable.dinvariant (I := WampOk) (fun _ _ reg hreg => by cases hreg) (fun _ _ hd hi st => RStep.wampOk hd hi st) h

end Nexus.L2.WpB
