/-
  C07 "stall isolation": the dealer's `sync*` functions read `env.full` only at specific sessions
  (INVOCATION → the chosen callee, INTERRUPT → the callee of the invocation, RESULT → the caller, the
  INTERRUPT that answers an unknown progressive YIELD → the yielding session; the removal of a session
  cancels with mode `skip`, sends no INTERRUPT and consults none), and read sessions only up to
  `stalled`.  If two environments agree off `x` (`EnvEq x`) and `x` is none of the sessions consulted,
  the outputs are identical.
-/
import Nexus.L2.Proofs.StallBase
import Nexus.L2.Proofs.DealerRefs

namespace Nexus.L2.WpC
open Nexus.L2.Realm Gen.N

variable {x : SessKey}

/-- what `EqOff x` says of the environment the dealer is called with (`EqOff.denv`): the hypothesis under which the
    `sync*_congr` lemmas show that the dealer returns the same output in both runs -/
structure EnvEq (x : SessKey) (env env' : DEnv) : Prop where
  sess : ∀ k, OSEq x (env.sess k) (env'.sess k)
  now : env'.now = env.now
  full : ∀ k, k ≠ x → env'.full k = env.full k

theorem EnvEq.hasFeat {env env' : DEnv} (h : EnvEq x env env') (k : SessKey) (role feat : String) :
    hasFeat env' k role feat = hasFeat env k role feat := by
  unfold Nexus.L2.hasFeat
  rcases (h.sess k).cases with ⟨e1, e2⟩ | ⟨c, c', e1, e2, hc⟩
  · rw [e1, e2]
  · rw [e1, e2]; exact hc.hasFeature role feat

theorem EnvEq.detailsOf {env env' : DEnv} (h : EnvEq x env env') (k : SessKey) :
    detailsOf env' k = detailsOf env k := by
  unfold Nexus.L2.detailsOf
  rcases (h.sess k).cases with ⟨e1, e2⟩ | ⟨c, c', e1, e2, hc⟩
  · rw [e1, e2]
  · rw [e1, e2]; exact hc.details

theorem EnvEq.discloseCaller {env env' : DEnv} (h : EnvEq x env env') (k : SessKey) (d : Dict) :
    discloseCaller env' k d = discloseCaller env k d := by
  unfold Nexus.L2.discloseCaller; rw [h.detailsOf]


theorem EqOff.denv {r r' : Realm} (h : EqOff x r r') : EnvEq x r.denv r'.denv :=
  ⟨fun k => h.session k, h.now, fun _ hk => h.isFull hk⟩

/-- the side condition of the `sync*_congr` lemmas, one field per hypothesis they take.  It is `Idle.refs` without
    the callee index, which the dealer never consults about a full queue; `Idle` has the negated `DState.refs`
    instead because that is what `Shrinks.refs` and the `*_refs_sub` lemmas preserve (`Idle.didle` converts). -/
structure DIdle (x : SessKey) (s : DState) : Prop where
  regs : ∀ g ∈ s.d.regs, x ∉ g.callees
  calls : ∀ c ∈ s.d.calls, c.sess ≠ x
  invs : ∀ v ∈ s.d.invs, v.callee ≠ x

theorem syncCancel_congr {env env' : DEnv} (h : EnvEq x env env') (s : DState) (caller : SessKey) (req : Nat)
    (mode reason : String) (errArgs : List WVal)
    (hc : mode = CancelModeSkip ∨ ∀ v ∈ s.d.invs, v.callee ≠ x) :
    syncCancel env' s caller req mode reason errArgs = syncCancel env s caller req mode reason errArgs := by
  by_cases hp : (⟨caller, req⟩ : ReqId) ∈ s.d.calls
  case neg => rw [syncCancel_not_pending _ _ _ hp, syncCancel_not_pending _ _ _ hp]
  cases hb : s.d.byCall? ⟨caller, req⟩ with
  | none => unfold syncCancel; simp only [hb]
  | some i =>
    cases hf : s.d.findInv i with
    | none => unfold syncCancel; simp only [hb, hf]
    | some v =>
      rw [syncCancel_pending mode reason errArgs hp hb hf, syncCancel_pending mode reason errArgs hp hb hf]
      unfold cancelOut
      rcases hc with rfl | hc
      · simp only [bne_self_eq_false, Bool.false_and]
      · simp only [h.hasFeat, h.full _ (hc v (findInv_some_mem hf).1)]

theorem dispatch_congr {env env' : DEnv} (h : EnvEq x env env') (s : DState) (caller : SessKey) (req : Nat)
    {callee : SessKey} (invReq : Nat) (v : Invk) (timeout : Nat) (m : Msg) (hc : callee ≠ x) :
    dispatch env' s caller req callee invReq v timeout m = dispatch env s caller req callee invReq v timeout m := by
  unfold dispatch armTimer
  simp only [h.full _ hc, h.now]

theorem routerTimeoutF_congr {env env' : DEnv} (h : EnvEq x env env') (fwd : Bool) (callee : SessKey) (opts : Dict) :
    routerTimeoutF env' fwd callee opts = routerTimeoutF env fwd callee opts := by
  unfold routerTimeoutF forwardsF
  simp only [h.hasFeat]

theorem syncCall_congr {env env' : DEnv} (h : EnvEq x env env') (s : DState) (caller : SessKey) (req : Nat)
    (opts : Dict) (proc : String) (args : List WVal) (kw : Dict) (rnd : Nat)
    (hr : ∀ g ∈ s.d.regs, x ∉ g.callees) (hi : ∀ v ∈ s.d.invs, v.callee ≠ x) :
    syncCall env' s caller req opts proc args kw rnd = syncCall env s caller req opts proc args kw rnd := by
  rw [syncCall_eq, syncCall_eq]
  simp only [h.hasFeat]
  split
  · split
    · rfl
    · rename_i iid _ v0 hf
      split
      · rfl
      · -- a later chunk goes to the callee of the stored invocation
        unfold laterChunk dispatchL armTimer preCancel
        simp only [routerTimeoutF_congr h, h.full _ (hi v0 (findInv_some_mem hf).1), h.now]
  · split
    · rfl
    · rename_i reg hm
      split
      · rfl
      · split
        · rfl
        · split
          · rfl
          · -- the first chunk goes to a callee of the matched registration
            rename_i callee reg' hp
            have hc : callee ≠ x := fun e => hr reg (matchProcedure_mem hm) (e ▸ (pickCallee_mem hp).1)
            unfold firstChunk routerTimeout invDetails forwardsTimeout forwardsF
            simp only [h.hasFeat, h.discloseCaller, routerTimeoutF_congr h, dispatch_congr h _ _ _ _ _ _ _ hc]

theorem syncYield_congr {env env' : DEnv} (h : EnvEq x env env') (s : DState) {callee : SessKey} (req : Nat)
    (opts : Dict) (args : List WVal) (kw : Dict) (progress canRetry : Bool)
    (hk : callee ≠ x) (hc : ∀ c ∈ s.d.calls, c.sess ≠ x) (hi : ∀ v ∈ s.d.invs, v.callee ≠ x) :
    syncYield env' s callee req opts args kw progress canRetry =
      syncYield env s callee req opts args kw progress canRetry := by
  cases hf : s.d.findInv ⟨callee, req⟩ with
  | none => rw [syncYield_unknown args kw progress canRetry hf, syncYield_unknown args kw progress canRetry hf, h.full _ hk]
  | some v =>
    by_cases he : v.callee = callee
    case neg => rw [syncYield_foreign args kw progress canRetry hf he, syncYield_foreign args kw progress canRetry hf he]
    by_cases hm : v.callId ∈ s.d.calls
    case neg =>
      rw [syncYield_noCaller args kw progress canRetry hf he hm, syncYield_noCaller args kw progress canRetry hf he hm]
    -- the owner's YIELD of a pending call: the environment is asked for features, for the caller's queue, and
    -- by the cancellation of a dropped RESULT for the callee's queue
    have hcan (s0 : DState) (e : s0.d.invs = s.d.invs) :
        syncCancel env' s0 v.callId.sess v.callId.req CancelModeKillNoWait ErrCanceled [] =
          syncCancel env s0 v.callId.sess v.callId.req CancelModeKillNoWait ErrCanceled [] :=
      syncCancel_congr h s0 _ _ _ _ _ (Or.inr (e ▸ hi))
    rw [syncYield_some opts args kw progress canRetry hf he hm, syncYield_some opts args kw progress canRetry hf he hm]
    unfold yieldOut
    cases progress
    · simp only [h.hasFeat, h.full _ (hc _ hm), Bool.false_eq_true, if_false, hcan (s.cancelTimer v.timer) (by simp)]
    · simp only [h.hasFeat, h.full _ (hc _ hm), if_true, hcan s rfl]

theorem cancelServed_congr {env env' : DEnv} (h : EnvEq x env env') (k : SessKey) : ∀ (l : List Invk) (s : DState),
    cancelServed env' s k l = cancelServed env s k l
  | [], _ => rfl
  | invk :: rest, s => by
    unfold cancelServed
    split
    · exact cancelServed_congr h k rest s
    · simp only [syncCancel_congr h _ _ _ CancelModeSkip _ _ (Or.inl rfl), cancelServed_congr h k rest]

theorem syncRemoveSession_congr {env env' : DEnv} (h : EnvEq x env env') (s : DState) (k : SessKey) :
    syncRemoveSession env' s k = syncRemoveSession env s k := by
  unfold syncRemoveSession
  simp only [cancelServed_congr h]

end Nexus.L2.WpC
