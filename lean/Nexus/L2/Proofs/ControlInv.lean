/-
  The control invariant `CtlInv` (it contains `MetaSafe`; it is kept under `RealmInv`, `CtlInv.keeps`):
    * every key in `ending` is the key of an attached client;
    * every deferred departure belongs to a session whose handler is in the yield retry loop;
  the client-level reachability `ReachableC` (inputs as a harness/transport can produce them: a joining
  key is fresh and not the meta key, only attached clients are dropped), and quiescence: a reachable
  state whose panic flag is `none` has no pending task.
  `CtlInv` holds in every reachable realm (`Realm.Reachable.ctl`): the inputs `ReachableC` excludes — a `join`
  under the meta key or a key in use, a `drop` of a key that names no attached client — are no-ops of the
  model.  The queue invariant does need a hypothesis on the joining keys: that of `ReachableC` suffices
  (`ReachableC.qreachable`), and so does the weaker one of `CReachable.step_not_closed` (RealmQueue).
-/
import Nexus.L2.Proofs.MetaSafe

namespace Nexus.L2.WpC
open Nexus.L2 Nexus.L2.Realm Nexus.Gen.N

structure CtlInv (r : Realm) : Prop where
  safe : MetaSafe r
  ending : ∀ j ∈ r.ending, r.isClient j
  defBusy : ∀ d ∈ r.deferred, r.busy d.1 = true

theorem CtlInv.grow {r r' : Realm} (hc : CtlInv r) (hm : MetaSafe r') (hcl : ∀ j, r'.isClient j ↔ r.isClient j)
    {p : SessKey → Prop} (he : Grown p r.ending r'.ending) (pe : ∀ j, p j → r.isClient j)
    (hd : r'.deferred = r.deferred) (hr : ∀ x ∈ r.retries, x ∈ r'.retries) : CtlInv r' :=
  ⟨hm, Grown.forall he (fun j hj => (hcl j).mpr (hc.ending j hj)) fun j hj => (hcl j).mpr (pe j hj),
    hd ▸ fun d hd' => busy_mono hr (hc.defBusy d hd')⟩

theorem CtlInv.taskAct {r r' : Realm} (hc : CtlInv r) (h : TaskAct r r') : CtlInv r' := by
  have hm := hc.safe.taskAct h
  cases h with
  | eff h => exact hc.grow hm h.isClient h.ending (fun _ hj => hj.1) h.deferred (Grown.subset h.retries)
  | invoke h => exact hc.grow hm h.isClient h.ending (fun _ hj => hj.1) h.deferred (fun x hx => h.retries ▸ hx)
  | defer k mode hk hb =>
    exact ⟨hm, hc.ending,
      List.forall_mem_append.mpr ⟨hc.defBusy, List.forall_mem_singleton.mpr hb⟩⟩
  | leave k mode s hk hf hb =>
    have lc := leave_ctl mode hf
    refine ⟨hm, fun j hj => ?_, fun d hd => ?_⟩
    · rw [lc.ending] at hj
      obtain ⟨hj0, hne⟩ := List.mem_filter.mp hj
      obtain ⟨c, hcm, rfl⟩ := hc.ending j hj0
      exact ⟨c, lc.clients ▸ List.mem_filter.mpr ⟨hcm, hne⟩, rfl⟩
    · rw [lc.deferred] at hd
      exact busy_mono (fun x hx => by rw [lc.retries]; exact hx) (hc.defBusy d hd)
  | none => exact hc

theorem CtlInv.runTask {r : Realm} (hc : CtlInv r) (t : Task) (ht : MTaskOk t) : CtlInv (r.runTask t) :=
  hc.taskAct (runTask_act hc.safe t ht)

/-- an external input as a transport can produce it: a joining key is not the meta session's and names no
    attached client and no leftover queue (`JoinFresh`); only an attached client can be dropped -/
def OpC (r : Realm) : Op → Prop
  | .join k .. => k ≠ metaKey ∧ JoinFresh r k
  | .drop k => r.isClient k
  | _ => True

theorem CtlInv.map_clients {r : Realm} (hc : CtlInv r) (f : Session → Session) (hf : ∀ c, (f c).key = c.key)
    (gh : List SessKey) : CtlInv { r with clients := r.clients.map f, ghosts := gh } := by
  refine ⟨hc.safe.map_clients f hf gh, ?_, hc.defBusy⟩
  intro j hj
  exact (isClient_congr (map_keys hf r.clients) j).mpr (hc.ending j hj)

theorem CtlInv.stepOp' {r : Realm} (hc : CtlInv r) (op : Op) : CtlInv (r.stepOp op) := by
  have hm := hc.safe.stepOp op
  revert hm
  refine stepOp_cases (C := fun q => MetaSafe q → CtlInv q) r op (fun _ => hc) (fun k _ _ _ _ _ _ _ hm => ?_)
    (fun k m _ _ => hc.taskAct (runTask_act hc.safe (.inMsg k m) trivial)) (fun k _ gh hg _ _ => hc.map_clients _ (hg.at_key · k) gh)
    (fun k hk _ hm => hc.grow hm (fun _ => Iff.rfl) (p := (· = k)) ⟨[k], rfl, fun _ => List.mem_singleton.mp⟩ (fun _ e => e ▸ hk) rfl
      (fun _ h => h))
    (fun _ hm => ⟨hm, hc.ending, hc.defBusy⟩)
  exact ⟨hm, fun j hj => (hc.ending j hj).imp fun c h => ⟨List.mem_append_left _ h.1, h.2⟩, hc.defBusy⟩

theorem CtlInv.stepOp {r : Realm} (hc : CtlInv r) (op : Op) (_hop : OpC r op) : CtlInv (r.stepOp op) :=
  hc.stepOp' op

theorem CtlInv.congr {r r' : Realm} (hc : CtlInv r) (hm : MetaSafe r') (he : r'.ending = r.ending)
    (hcl : r'.clients = r.clients) (hd : r'.deferred = r.deferred) (hr : r'.retries = r.retries) : CtlInv r' := by
  refine ⟨hm, ?_, ?_⟩
  · intro j hj
    unfold Realm.isClient
    rw [hcl]; exact hc.ending j (he ▸ hj)
  · exact fun d hd' => (busy_congr hr _).trans (hc.defBusy d (hd ▸ hd'))

theorem CtlInv.timerDue {r : Realm} (hc : CtlInv r) (t : Timer) : CtlInv (r.timerDue t) :=
  have h := eff_timerDue (P := fun _ => False) (Q := fun _ => False) r t
  hc.congr (hc.safe.timerDue t) h.ending_of_never h.clients h.deferred h.retries_of_never

theorem CtlInv.retryDue {r : Realm} (hi : RealmInv r) (hc : CtlInv r) {x : Retry} (hx : x ∈ r.retries) :
    CtlInv (r.retryDue x) := by
  have hm := hc.safe.retryDue hx
  -- the dealer part can abort the callee only, which is an attached client
  have ha : ∀ j ∈ r.ending ++ (retryOut r x).aborts, r.isClient j := by
    refine List.forall_mem_append.mpr ⟨hc.ending, fun j hj => ?_⟩
    obtain ⟨e1, e2⟩ := retryOut_aborts hc.safe hx j hj
    rcases hi.retr x hx with h | h
    · exact absurd (e1.trans h) e2
    · exact e1 ▸ h
  refine ⟨hm, ?_, fun d hd => ?_⟩
  · have f1 : (retryMid r x).ending = r.ending ++ (retryOut r x).aborts := dapplyD_ending _ _
    have f2 : (retryMid r x).clients = r.clients := dapplyD_clients _ _
    refine retryDue_cases (C := fun q => ∀ j ∈ q.ending, q.isClient j) r x ?_ ?_ <;>
      exact fun j hj => (isClient_congr (congrArg (List.map (·.key)) f2) j).mpr (ha j (f1 ▸ hj))
  · -- a deferred departure belongs to a busy session: the callee if the YIELD sleeps again, another one otherwise
    rw [(retryDue_turn r x).2.2.2.2]
    cases hag : (retryOut r x).again
    · rw [(retryDue_release r x hag).2.2.1] at hd
      obtain ⟨hd0, hne⟩ := List.mem_filter.mp hd
      rw [if_neg (by simpa using hne)]
      exact hc.defBusy d hd0
    · rw [(retryDue_holds r x hag).2.2] at hd
      split
      · rfl
      · exact hc.defBusy d hd

theorem CtlInv.setPanic {r : Realm} (hc : CtlInv r) (p : Option String) : CtlInv (r.setPanic p) :=
  have f := setPanic_frame r p
  hc.congr (hc.safe.setPanic p) f.ending f.clients f.deferred f.retries

theorem CtlInv.now {r : Realm} (hc : CtlInv r) (t : Nat) : CtlInv ({ r with now := t } : Realm) :=
  ⟨hc.safe.congr rfl rfl rfl rfl rfl rfl, hc.ending, hc.defBusy⟩

theorem CtlInv.tail {r : Realm} (hc : CtlInv r) {t : Task} {ts : List Task} (ht : r.tasks = t :: ts) :
    CtlInv ({ r with tasks := ts } : Realm) ∧ MTaskOk t :=
  ⟨⟨(hc.safe.tail ht).1, hc.ending, hc.defBusy⟩, (hc.safe.tail ht).2⟩

theorem CtlInv.flush {r : Realm} (hc : CtlInv r) : CtlInv r.flush.2 :=
  hc.congr (MetaSafe.keeps.flush trivial hc.safe) rfl rfl rfl rfl

theorem CtlInv.keeps : Keeps Sound CtlInv where
  task ht _ h := (h.tail ht).1.runTask _ (h.tail ht).2
  timer _ _ h := h.timerDue _
  retry hd hs h := CtlInv.retryDue hs.1 h (nextDue_retry hd)
  now n _ h := h.now n
  fuel _ _ h := h.setPanic _
  flush _ h := h.flush

/-- the realm invariant, the fuel marker and the control invariant together: the base of the invariants of the
    control fields -/
def Ctl (r : Realm) : Prop := Sound r ∧ CtlInv r

theorem Ctl.keeps : Keeps (fun _ => True) Ctl := Sound.keeps.over CtlInv.keeps

theorem Ctl.stepOp {r : Realm} (h : Ctl r) (op : Op) : Ctl (r.stepOp op) := ⟨h.1.stepOp op, h.2.stepOp' op⟩

theorem Ctl.step {J : Realm → Prop} (k : Keeps Ctl J) {r : Realm} {op : Op} (hc : Ctl r)
    (input : J (r.stepOp op)) : J (r.step op).2 :=
  ((Ctl.keeps.over k).step ⟨hc.stepOp op, input⟩).2

theorem CtlInv.advance : ∀ (fuel : Nat) {r : Realm} (target : Nat), RealmInv r → FuelOnly r.panic → CtlInv r →
    CtlInv (advance fuel r target) :=
  fun fuel _ target hi hp hc => (Ctl.keeps.advance fuel target ⟨⟨hi, hp⟩, hc⟩).2

theorem CtlInv.step {r : Realm} (hi : RealmInv r) (hp : FuelOnly r.panic) (hc : CtlInv r) (op : Op) (_hop : OpC r op) :
    CtlInv (r.step op).2 := Sound.step CtlInv.keeps ⟨hi, hp⟩ (hc.stepOp' op)

theorem Ctl.create {cfg : Config} {r : Realm} (hc : Realm.create cfg = some r) : Ctl r := by
  obtain ⟨hm, hd, he⟩ := create_metaSafe hc
  exact ⟨Sound.create hc, hm, (by rw [he]; intro j hj; cases hj), (by rw [hd]; intro d hd'; cases hd')⟩

theorem _root_.Nexus.L2.Realm.Reachable.ctl {cfg : Config} {r : Realm} (h : Realm.Reachable cfg r) : CtlInv r :=
  Sound.reachable CtlInv.keeps (fun _ hc => (Ctl.create hc).2) (fun _ op _ hc => hc.stepOp' op) h

theorem Ctl.reachable {J : Realm → Prop} (k : Keeps Ctl J) {cfg : Config} (init : ∀ r, Realm.create cfg = some r → J r)
    (input : ∀ r op, Ctl r → J r → J (r.stepOp op)) {r : Realm} (h : Realm.Reachable cfg r) : J r :=
  (Sound.reachable (CtlInv.keeps.and k) (fun r hc => ⟨(Ctl.create hc).2, init r hc⟩)
    (fun r op hs hj => ⟨hj.1.stepOp' op, input r op ⟨hs, hj.1⟩ hj.2⟩) h).2

inductive ReachableC (cfg : Config) : Realm → Prop
  | init {r : Realm} : Realm.create cfg = some r → ReachableC cfg r
  | step {r : Realm} (op : Op) : ReachableC cfg r → OpC r op → ReachableC cfg (r.step op).2

theorem ReachableC.reachable {cfg : Config} {r : Realm} (h : ReachableC cfg r) : Realm.Reachable cfg r := by
  induction h with
  | init h => exact .init h
  | step op _ _ ih => exact .step op ih

theorem ReachableC.ctl {cfg : Config} {r : Realm} (h : ReachableC cfg r) : CtlInv r := h.reachable.ctl

theorem ReachableC.reachableK {cfg : Config} {r : Realm} (h : ReachableC cfg r) : ReachableK cfg r := by
  induction h with
  | init h => exact .init h
  | step op hr hop ih =>
    refine .step op ih ?_
    cases op with
    | join k isLocal details roles cap => exact hop.1
    | drop k => exact hr.ctl.safe.client_ne hop
    | _ => trivial

theorem ReachableC.qreachable {cfg : Config} {r : Realm} (h : ReachableC cfg r) : QReachable cfg r := by
  induction h with
  | init h => exact .init h
  | step op hr hop ih =>
    refine .step op ih ?_
    intro k l d ro c e
    subst e
    exact hop.2

/-- beside `RealmInv.plain`, for the example of C04 that starts from a realm literal -/
theorem ctlInv_empty : CtlInv ({} : Realm) := by
  refine ⟨⟨?_, ?_, ?_, ?_, ?_, rfl, by decide⟩, ?_, ?_⟩
  · intro c h; cases h
  · intro h; cases h
  · intro t h; cases h
  · intro d h; cases h
  · intro x h; cases h
  · intro j h; cases h
  · intro d h; cases h

/-- the panic flag is never reset -/
theorem panic_keeps : Keeps (fun _ => True) (fun r => RealmInv r ∧ r.panic ≠ none) :=
  RealmInv.keeps (P := (· ≠ none)) fun _ _ => Option.some_ne_none _

theorem step_panic_mono {r : Realm} (hi : RealmInv r) (op : Op) (hp : (r.step op).2.panic = none) : r.panic = none :=
  Classical.byContradiction fun hn =>
    (panic_keeps.step (RealmInv.with_panic (P := (· ≠ none)) (stepOp_inv hi op) hn)).2 hp

/-- The `drain` principle: what every task run keeps holds after a `drain` that does not panic; the list is then empty,
    and there was no panic before.  `hstep` is the `task` field of a `Keeps Ctl I` and the only one asked for: the
    properties this is used with (`Leaving k`, `Phase x r`) hold from an input to quiescence and are not kept by timers,
    so they are no `Keeps` instance; and the conclusion needs the fuel to have sufficed, which no invariant says. -/
theorem drain_quiescent (I : Realm → Prop)
    (hstep : ∀ {r : Realm} {t : Task} {ts : List Task}, r.tasks = t :: ts → Ctl r → I r →
      I (runTask { r with tasks := ts } t))
    (fuel : Nat) (r : Realm) (hi : RealmInv r) (hc : CtlInv r) (h : I r) (hp : (drain fuel r).panic = none) :
    I (drain fuel r) ∧ (drain fuel r).tasks = [] ∧ r.panic = none ∧ Ctl (drain fuel r) := by
  have hn : r.panic = none := Classical.byContradiction fun hn => (panic_keeps.drain fuel ⟨hi, hn⟩).2 hp
  have k := drain_keeps (I := fun q => Ctl q ∧ (q.panic = none → I q))
    (fun q hq => ⟨Ctl.keeps.fuel (.inl rfl) ⟨⟩ hq.1, fun e => absurd e (setPanic_some_ne_none _ _)⟩)
    (fun q t ts ht hq =>
      have e := runTask_inv (hq.1.1.1.tail ht).1 t (hq.1.1.1.tail ht).2
      ⟨Ctl.keeps.task ht ⟨⟩ hq.1, fun hn => hstep ht hq.1 (hq.2 (e.2 ▸ hn))⟩)
    fuel ⟨⟨⟨hi, .inl hn⟩, hc⟩, fun _ => h⟩
  exact ⟨k.2 hp, (drain_tasks fuel r).resolve_right (· hp), hn, k.1⟩

/-- By the end of the step: what an input other than `tick` establishes (`input`) and every task run and `flush` keep
    holds of the realm the step returns, and no task is pending there — unless the fuel ran out.  `hstep` is that of
    `drain_quiescent`.  This is the way from "the input queues a task" to "its effect is there when the step is over"
    (`step_gone`, `step_isolated`). -/
theorem step_quiescent (I : Realm → Prop)
    (hstep : ∀ {r : Realm} {t : Task} {ts : List Task}, r.tasks = t :: ts → Ctl r → I r →
      I (runTask { r with tasks := ts } t))
    (hflush : ∀ {q : Realm}, I q → I q.flush.2) {r : Realm} (hi : RealmInv r) (hc : CtlInv r) {op : Op}
    (hnt : ∀ ms, op ≠ .tick ms) (input : I (r.stepOp op)) (hp : (r.step op).2.panic = none) :
    I (r.step op).2 ∧ (r.step op).2.tasks = [] ∧ Ctl (r.step op).2 := by
  rw [step_of_not_tick r op hnt] at hp ⊢
  obtain ⟨g1, g2, _, g4⟩ := drain_quiescent I hstep taskFuel _ (stepOp_inv hi op).1 (hc.stepOp' op) input hp
  exact ⟨hflush g1, g2, Ctl.keeps.flush ⟨⟩ g4⟩

/-- Quiescence: in a reachable realm whose panic flag is `none` no task is pending (every task an input caused has run) -/
theorem Reachable.quiescent {cfg : Config} {r : Realm} (h : Realm.Reachable cfg r) (hp : r.panic = none) : r.tasks = [] :=
  (h.induct (J := fun q => q.tasks = [] ∨ q.panic ≠ none) (fun _ hc => Or.inl (create_rinv hc).tasks)
    fun q op _ _ hq => step_tasks q op hq).2.resolve_right (· hp)

end Nexus.L2.WpC
