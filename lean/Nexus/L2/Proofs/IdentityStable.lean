/-
  Post-join stability of session details (for C09).

  The attached sessions (`clients`, with their details) and the table of registered meta procedures
  (`metaProcs`): every action of a session handler is a `WpC.Eff`, which keeps both; what else a step is
  made of returns them unchanged except
    * `stepOp (.join …)`      appends the joining session (details as given by the attach);
    * `stepOp (.stall/.resume/.buffer)` sets a transport flag of one session (key, details kept);
    * `leave`                  removes one session;
    * `metaProc MetaProcSessionModifyDetails` replaces the details of one session.
  So in a realm where `wamp.session.modify_details` is not registered (`Config.metaModify = false`)
  the details of an attached session never change (`KeepsDetails.step`); with it they can be
  rewritten by any caller the dealer lets through (`Nexus.C09.modify_details_rewrites_authid`).
-/
import Nexus.L2.Proofs.ControlActions
import Nexus.L2.Proofs.RealmMetaRegs

namespace Nexus.L2
namespace Realm
namespace WpD
open Gen.N
open Nexus.L2.WpC (Eff eff_setPanic eff_applyD eff_handlePublish eff_handleMsg eff_recvMsg eff_timerDue leave_ctl)

/-- the state predicate: every attached session carries details allowed by `S`, and the table of
    meta procedures is `mp`.  Despite the name it is a `J` for `Realm.Keeps` (`KeepsDetails.keeps`), not a kind of it. -/
def KeepsDetails (S : SessKey → Dict → Prop) (mp : List (Nat × String)) (r : Realm) : Prop :=
  (∀ c ∈ r.clients, S c.key c.details) ∧ r.metaProcs = mp

variable {S : SessKey → Dict → Prop} {mp : List (Nat × String)}

theorem KeepsDetails.congr {r r' : Realm} (h : KeepsDetails S mp r) (hc : r'.clients = r.clients)
    (hm : r'.metaProcs = r.metaProcs) : KeepsDetails S mp r' :=
  ⟨hc ▸ h.1, hm.trans h.2⟩

theorem KeepsDetails.of_eff {P : SessKey → Prop} {Q : Retry → Prop} {r r' : Realm} (h : KeepsDetails S mp r)
    (e : Eff P Q r r') : KeepsDetails S mp r' :=
  h.congr e.clients e.metaProcs

theorem KeepsDetails.of_flag {r r' : Realm} (h : KeepsDetails S mp r) (k : SessKey) (g : Session → Session)
    (hg : ∀ c, (g c).key = c.key ∧ (g c).details = c.details)
    (hc : r'.clients = r.clients.map fun c => if c.key == k then g c else c)
    (hm : r'.metaProcs = r.metaProcs) : KeepsDetails S mp r' := by
  refine ⟨fun c hc' => ?_, hm.trans h.2⟩
  rw [hc] at hc'
  obtain ⟨c0, hc0, rfl⟩ := List.mem_map.mp hc'
  split
  · rw [(hg c0).1, (hg c0).2]; exact h.1 c0 hc0
  · exact h.1 c0 hc0

theorem KeepsDetails.leave {r : Realm} (h : KeepsDetails S mp r) (k : SessKey) (mode : LeaveMode) :
    KeepsDetails S mp (r.leave k mode) := by
  refine leave_cases r k mode (fun _ => h) fun s hf => ?_
  have lc := leave_ctl mode hf
  exact ⟨fun c hc' => h.1 c (List.mem_filter.mp (lc.clients ▸ hc')).1, lc.metaProcs.trans h.2⟩

theorem KeepsDetails.metaProc {r : Realm} (h : KeepsDetails S mp r) (proc : String) (req : Nat) (details : Dict)
    (args : List WVal) (kw : Dict) (hne : (proc == MetaProcSessionModifyDetails) = false) :
    KeepsDetails S mp (metaProc r proc req details args kw).2 := by
  have hs := metaProc_step r proc req details args kw
  generalize Realm.metaProc r proc req details args kw = o at hs ⊢
  cases hs with
  | modify hp => rw [hne] at hp; cases hp
  | _ => exact h

theorem KeepsDetails.recvMsg {r : Realm} (h : KeepsDetails S mp r) (k : SessKey) (m : Msg) :
    KeepsDetails S mp (r.recvMsg k m) :=
  h.of_eff (eff_recvMsg r k m)

theorem KeepsDetails.runTask {r : Realm} (h : KeepsDetails S mp r)
    (hmp : ∀ p ∈ mp, (p.2 == MetaProcSessionModifyDetails) = false) (t : Task) :
    KeepsDetails S mp (r.runTask t) := by
  refine runTask_cases r t (fun k m _ => h.recvMsg k m)
    (fun _ _ => h.of_eff (eff_handlePublish (P := fun _ => True) (Q := fun _ => True) _ _ _ _ _ _ _ (fun _ => trivial)))
    (fun _ _ => h.of_eff (eff_handleMsg _ _ _)) (fun req reg d a kw _ => ?_)
    (fun _ _ _ _ => h) fun k mode _ _ => h.leave k mode
  rw [runTask_metaInvoke]
  split
  · exact h
  · rename_i x proc hf
    exact h.metaProc proc req d a kw (hmp _ (h.2 ▸ List.mem_of_find?_eq_some hf))

theorem KeepsDetails.stepOp {r : Realm} (h : KeepsDetails S mp r) (op : Op)
    (hj : ∀ k l d ro c, op = .join k l d ro c → S k d) : KeepsDetails S mp (r.stepOp op) := by
  refine stepOp_cases r op h (fun k l d ro c e _ _ => ⟨fun c' hc => ?_, h.2⟩) (fun k m _ => h.recvMsg k m)
    (fun k g _ hg _ => h.of_flag k g (fun c => ⟨hg.key c, hg.details c⟩) rfl rfl) (fun _ _ _ => h) (fun _ => h)
  rcases List.mem_append.mp hc with hc | hc
  · exact h.1 c' hc
  · rw [List.mem_singleton.mp hc]; exact hj k l d ro c e

theorem KeepsDetails.retryDue {r : Realm} (h : KeepsDetails S mp r) (x : Retry) : KeepsDetails S mp (r.retryDue x) := by
  have he := eff_applyD (P := fun _ => True) (Q := fun _ => True)
    ({ r with retries := r.retries.filter (fun y => y.callee != x.callee) } : Realm) (retryOut r x) fun _ _ => trivial
  exact retryDue_cases r x (h.congr he.clients he.metaProcs) (h.congr he.clients he.metaProcs)

theorem KeepsDetails.keeps (hmp : ∀ p ∈ mp, (p.2 == MetaProcSessionModifyDetails) = false) :
    Keeps (fun _ => True) (KeepsDetails S mp) where
  task {r _ ts} _ _ h := KeepsDetails.runTask (r := { r with tasks := ts }) h hmp _
  timer _ _ h := h.of_eff (eff_timerDue (P := fun _ => True) (Q := fun _ => True) _ _)
  retry _ _ h := h.retryDue _
  now _ _ h := h
  fuel _ _ h := h.of_eff (eff_setPanic (P := fun _ => True) (Q := fun _ => True) _ _)
  flush _ h := h

theorem KeepsDetails.advance (hmp : ∀ p ∈ mp, (p.2 == MetaProcSessionModifyDetails) = false) :
    ∀ (fuel : Nat) {r : Realm} (target : Nat), KeepsDetails S mp r → KeepsDetails S mp (advance fuel r target) :=
  fun fuel _ target => (KeepsDetails.keeps hmp).advance fuel target

/-- One external input run to quiescence, in a realm whose meta-procedure table `mp` does not
    contain `wamp.session.modify_details`: every attached session still carries details allowed by
    `S` (a joining session must bring allowed details), and the table is still `mp`. -/
theorem KeepsDetails.step {r : Realm} (h : KeepsDetails S mp r)
    (hmp : ∀ p ∈ mp, (p.2 == MetaProcSessionModifyDetails) = false) (op : Op)
    (hj : ∀ k l d ro c, op = .join k l d ro c → S k d) : KeepsDetails S mp (r.step op).2 :=
  (KeepsDetails.keeps hmp).step (h.stepOp op hj)

/-- a realm built by `Realm.create` from a configuration with `metaModify = false` does not
    register `wamp.session.modify_details` -/
theorem create_no_modify {cfg : Config} {r : Realm} (h : Realm.create cfg = some r) (hm : cfg.metaModify = false) :
    ∀ p ∈ r.metaProcs, (p.2 == MetaProcSessionModifyDetails) = false := by
  have names : ∀ x ∈ metaProcNames cfg, (x == MetaProcSessionModifyDetails) = false := by
    unfold metaProcNames
    rw [hm]
    cases cfg.metaKill <;> decide
  exact fun p hp => names p.2 ((MetaRegs.create_metaRegs h).1 ▸ List.mem_map_of_mem hp)

end WpD
end Realm
end Nexus.L2

/-! ## C09: "recorded … and shown to others always"

The identity theorems of `Nexus.Props.C09` speak about the session details at the instant of the
attach.  Afterwards, in the L2 realm model (as in router/realm.go): -/

namespace Nexus.C09
open Nexus.L2 Nexus.L2.Realm Nexus.L2.Realm.WpD Nexus.Gen.N

/-- POST-JOIN STABILITY.  In a realm in which `wamp.session.modify_details` is not registered
    (`Config.metaModify = false`, `create_no_modify`), one external input run to quiescence —
    any message of any session, any meta-API call, departures, timeouts — leaves the details of
    every attached session exactly as they were: every session attached afterwards was attached
    before with the same key and the same details (ALL details, in particular `session`, `authid`,
    `authrole`, `authmethod`, `authprovider`), or is the session this very input attached, with the
    details the attach handed over.  The table of meta procedures is unchanged, so the hypothesis
    holds again for the next input. -/
theorem identity_stable_step (r : Realm) (op : Realm.Op)
    (hno : ∀ p ∈ r.metaProcs, (p.2 == MetaProcSessionModifyDetails) = false) :
    (∀ c' ∈ (r.step op).2.clients,
        (∃ c ∈ r.clients, c.key = c'.key ∧ c.details = c'.details) ∨
        (∃ l ro cap, op = .join c'.key l c'.details ro cap)) ∧
    (r.step op).2.metaProcs = r.metaProcs := by
  have h0 : KeepsDetails (fun k d => (∃ c ∈ r.clients, c.key = k ∧ c.details = d) ∨
      (∃ l ro cap, op = .join k l d ro cap)) r.metaProcs r :=
    ⟨fun c hc => Or.inl ⟨c, hc, rfl, rfl⟩, rfl⟩
  have h1 := h0.step hno op (fun k l d ro c e => Or.inr ⟨l, ro, c, e⟩)
  exact ⟨fun c' hc' => h1.1 c' hc', h1.2⟩

/-- The same as a lookup, for realms whose session keys are distinct: if `k` is attached before
    and after an input that is not a join of `k`, its details are the same. -/
theorem identity_stable_lookup (r : Realm) (op : Realm.Op)
    (hno : ∀ p ∈ r.metaProcs, (p.2 == MetaProcSessionModifyDetails) = false)
    (hn : (r.clients.map (·.key)).Nodup) (k : SessKey) (s s' : Session)
    (hs : r.clients.find? (fun c => c.key == k) = some s)
    (hs' : (r.step op).2.clients.find? (fun c => c.key == k) = some s')
    (hop : ∀ l d ro cap, op ≠ .join k l d ro cap) : s'.details = s.details := by
  obtain ⟨hm', hk'⟩ := find?_key hs'
  rcases (identity_stable_step r op hno).1 s' hm' with ⟨c, hc, e1, e2⟩ | ⟨l, ro, cap, e⟩
  · have hc' : r.client? c.key = some c := client?_of_mem hn hc
    rw [e1, hk'] at hc'
    cases hc'.symm.trans hs
    exact e2.symm
  · rw [hk'] at e
    exact absurd e (hop _ _ _ _)

-- non-vacuity: realms built from a configuration with `metaModify = false` satisfy the hypothesis
example (cfg : Config) (r : Realm) (h : Realm.create cfg = some r) (hm : cfg.metaModify = false) :
    ∀ p ∈ r.metaProcs, (p.2 == MetaProcSessionModifyDetails) = false := create_no_modify h hm
example : (∀ p ∈ ({ clients := [{ key := 5, details := [("authid", .str "alice")], roles := [], isLocal := false }] } :
    Realm).metaProcs, (p.2 == MetaProcSessionModifyDetails) = false) := fun _ h => nomatch h

namespace ModifyWitness
/-- an attached session with identity alice / user -/
def victim : Session :=
  { key := 5, details := [("authid", .str "alice"), ("authrole", .str "user")], roles := [], isLocal := false }
/-- another ordinary session, identity mallory / user -/
def attacker : Session :=
  { key := 6, details := [("authid", .str "mallory"), ("authrole", .str "user")], roles := [], isLocal := false }
/-- a realm holding both, with `wamp.session.modify_details` registered by the meta session as
    `setupMetaProcedures` does (`Config.MetaStrict`/… irrelevant; no Authorizer) -/
def realm : Realm :=
  registerMeta { clients := [victim, attacker], queues := [(5, []), (6, [])] } [MetaProcSessionModifyDetails]
/-- CALL wamp.session.modify_details(victim's session id, {authid: root, authrole: admin}) -/
def theCall : Msg :=
  .call 9 [] MetaProcSessionModifyDetails
    [.int (sidOf 5), .dict [("authid", .str "root"), ("authrole", .str "admin")]] []
end ModifyWitness

open ModifyWitness in
/-- THE EXCEPTION (recorded deviation from "recorded … and shown to others always"; faithful to
    router/realm.go:1379-1396 `modifySessionDetails`, which protects only the key `session`).
    In a realm with `wamp.session.modify_details` registered, ONE CALL by an ordinary session (6,
    authrole "user") rewrites `authid` and `authrole` of ANOTHER attached session (5): before the
    step session 5 is alice / user, after it root / admin; the caller gets an empty RESULT.  Who
    may call the procedure is left to the Authorizer (C10); the dealer has no check of its own.
    Everything that later discloses session 5 (`wamp.session.get`, `on_leave`, caller/publisher
    disclosure, `kill_by_authid`, `session.list` filters) uses the rewritten values. -/
theorem modify_details_rewrites_authid :
    -- before: alice / user
    (realm.clients.find? (fun c => c.key == 5)).map (fun c => (c.details.get? "authid", c.details.get? "authrole")) =
      some (some (.str "alice"), some (.str "user")) ∧
    -- one CALL by session 6
    ((realm.step (.msg 6 theCall)).2.clients.find? (fun c => c.key == 5)).map
        (fun c => (c.details.get? "authid", c.details.get? "authrole")) =
      some (some (.str "root"), some (.str "admin")) ∧
    -- the caller is answered with a RESULT, nobody else hears anything
    (realm.step (.msg 6 theCall)).1.out = [(6, [.result 9 [] [] []])] ∧
    -- and the hypothesis of `identity_stable_step` is what fails here
    realm.metaProcs.map (·.2) = [MetaProcSessionModifyDetails] := by
  refine ⟨by rfl, by rfl, by rfl, by rfl⟩

end Nexus.C09
