/-
  C20: the publications of the ghost trace.

  `Rec.pub? x` (Nexus/L2/Proofs/Trace.lean): the publication the action `x` hands to the broker goroutine, read
  off the action:
    * the handler of an attached session (external input `.msg k m`, or a message that waited in the
      transport: `inMsg`) reads a PUBLISH that the authorization gate lets through and that
      `broker.publish` accepts — valid topic, no payload passthru without the feature, no disallowed
      `disclose_me` (`pubAccepted`);
    * or the meta session publishes (`metaPub` task: session meta events, registration meta events,
      testaments), with the same acceptance test.
  `acceptedPubs tr`: those of a trace, in order.  Then

    the `.publish` steps among the broker steps of a trace are exactly `acceptedPubs`   (`bsteps_publish`)
    the entries a store of subscription `s` must hold are those accepted publications
      that match `s` and carry neither `exclude` nor `eligible`                         (`retained_trace`)
    an accepted publication of a CLIENT was sent by that client as a PUBLISH input      (`Rec.pub_src`)
-/
import Nexus.L2.Proofs.TraceReplies
import Nexus.L2.Proofs.BrokerHist

namespace Nexus.L2.WpE
open Nexus.L2 Nexus.L2.Realm Gen.N

/-- the id drawn for the publication -/
theorem PubRec.pubId (p : PubRec) : p.pub.pubId = pubBase + p.r.pubCount := rfl

/-- the accepted publications of a trace, in order -/
def acceptedPubs (tr : List Rec) : List PubRec := tr.filterMap Rec.pub?

def pubSteps (sc : Script) : List BStep := sc.bsteps.filter BStep.isPublish

theorem Rec.publish_steps (x : Rec) : pubSteps x.script = (x.pub?.map PubRec.step).toList := by
  have h := x.form
  generalize x.script = sc, x.call? = c?, x.pub? = p? at h ⊢
  cases h <;> rfl

/-- the publish steps of a trace are exactly its accepted publications, in order -/
theorem bsteps_publish (tr : List Rec) : (bstepsOf tr).filter BStep.isPublish = (acceptedPubs tr).map PubRec.step := by
  induction tr with
  | nil => rfl
  | cons x tr ih =>
    show (x.script.bsteps ++ bstepsOf tr).filter BStep.isPublish = _
    rw [List.filter_append, ih]
    have := x.publish_steps
    unfold pubSteps at this
    rw [this]
    unfold acceptedPubs
    rw [List.filterMap_cons]
    cases x.pub? with
    | none => rfl
    | some p => rfl

theorem retained_filter (s : Sub) : ∀ steps : List BStep, retained s steps = retained s (steps.filter BStep.isPublish)
  | [] => rfl
  | e :: rest => by
    cases e with
    | publish sess now p =>
      rw [List.filter_cons]
      simp only [BStep.isPublish, if_true, retained]
      rw [retained_filter s rest]
    | _ =>
      rw [List.filter_cons]
      simp only [BStep.isPublish, Bool.false_eq_true, if_false, retained]
      exact retained_filter s rest

/-- the entry a store of subscription `s` keeps for the accepted publication `p`: none unless the topic matches `s`
    under its policy and the options contain neither `exclude` nor `eligible` -/
def PubRec.retained? (s : Sub) (p : PubRec) : Option HistEntry :=
  if s.matchesTopic p.topic && !p.opts.contains "exclude" && !p.opts.contains "eligible"
  then some (retainedEntry s p.r.now p.pub) else none

theorem retained_pubs (s : Sub) : ∀ ps : List PubRec, retained s (ps.map PubRec.step) = ps.filterMap (PubRec.retained? s)
  | [] => rfl
  | p :: ps => by
    simp only [List.map_cons, PubRec.step, retained, List.filterMap_cons, PubRec.retained?]
    have e1 : p.pub.topic = p.topic := rfl
    have e2 : p.pub.opts = p.opts := rfl
    rw [e1, e2]
    split
    · rw [retained_pubs s ps]
    · exact retained_pubs s ps

/-- The ghost history of a store along a trace: the accepted publications that match the subscription and are not
    restricted by `exclude` / `eligible`, as the entries the store must hold, in order -/
theorem retained_trace (s : Sub) (tr : List Rec) :
    retained s (bstepsOf tr) = (acceptedPubs tr).filterMap (PubRec.retained? s) := by
  rw [retained_filter, bsteps_publish, retained_pubs]

/-- Where an accepted publication comes from: it is handed to the broker in a state with the broker, the publication
    counter, the clock and the session table of the state the action starts in; `broker.publish` accepts it; and the
    handler of `p.s` reads the PUBLISH and the gate lets it through — or the meta session publishes a meta event or
    testament -/
theorem Rec.pub_spec (x : Rec) {p : PubRec} (h : x.pub? = some p) :
    pubAccepted p.r p.s p.opts p.topic = true ∧ Still x.pre p.r ∧ p.r.now = x.pre.now ∧ p.r.session? = x.pre.session? ∧
    ((∃ req, x.Reads p.s (.publish req p.opts p.topic p.args p.kw) ∧
        (authzGate p.r p.s (.publish req p.opts p.topic p.args p.kw)).1 = true) ∨
     (∃ mp, x.act = .task (.metaPub mp) ∧ p.s = x.pre.metaS ∧ p.opts = mp.opts ∧ p.topic = mp.topic ∧
        p.args = mp.args ∧ p.kw = mp.kw)) := by
  have hf := x.form
  rw [h] at hf
  generalize x.script = sc, x.call? = c? at hf
  cases hf with
  | publish r s req opts topic args kw hs hn hse src hacc => exact ⟨hacc, hs, hn, hse, src.imp_left fun h => ⟨req, h⟩⟩

/-- an accepted publication of a CLIENT in a well-formed trace: the PUBLISH was brought by an external input, or it
    waited in the transport (`TasksOk P`) -/
theorem Rec.pub_src {P : SessKey → Msg → Prop} (x : Rec) (hw : x.wf) (ht : TasksOk P x.pre)
    (hop : ∀ k m, x.act = .op (.msg k m) → P k m) {p : PubRec} (h : x.pub? = some p)
    (hc : ∃ k m, x.act = .op (.msg k m) ∨ x.act = .task (.inMsg k m)) :
    ∃ req, P p.s.key (.publish req p.opts p.topic p.args p.kw) := by
  obtain ⟨_, _, _, _, ⟨req, src, _⟩ | ⟨mp, hact, _⟩⟩ := x.pub_spec h
  · exact ⟨req, (src.ok hw ht hop).resolve_right nofun⟩
  · obtain ⟨k, m, hk | hk⟩ := hc <;> rw [hact] at hk <;> cases hk

end Nexus.L2.WpE
