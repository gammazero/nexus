/-
  For C12 (caller disclosure on registrations): `Realm.handleRegister` as its four refusals, stated with
  the conditions as propositions the way the C12 theorems state them, or the dealer's `syncRegister`; and
  what `syncRegister` does to the `disclose` flags of the registrations.
-/
import Nexus.L2.Proofs.DealerRealmRpc

namespace Nexus.L2.WpA
open Gen.N
open Nexus.L2.Realm (handleRegister trySend applyD invalidUriErr knownPolicies)

/-- the four refusals of `dealer.register`, as a message for the sender (none = accepted) -/
def registerRefusal (r : Realm) (s : Session) (req : Nat) (opts : Dict) (proc : String) : Option Msg :=
  if validUri r.ds.d.strict (opts.optString OptMatch) proc = false then some (invalidUriErr tREGISTER req)
  else if proc.startsWith "wamp." = true ∧ s.key ≠ metaKey then some (invalidUriErr tREGISTER req)
  else if r.ds.d.allowDisclose = false ∧ opts.optFlag OptDiscloseCaller = true ∧
      sessAttr s.details "authrole" ≠ "trusted" then some (errMsg tREGISTER req ErrOptionDisallowedDiscloseMe)
  else if (opts.optString OptInvoke) ∉ knownPolicies then
    some (.error tREGISTER req [] ErrInvalidArgument [.str "<text>"] [])
  else none

theorem registerRefusal_cases {P : Option Msg → Prop} (r : Realm) (s : Session) (req : Nat) (opts : Dict)
    (proc : String)
    (huri : validUri r.ds.d.strict (opts.optString OptMatch) proc = false → P (some (invalidUriErr tREGISTER req)))
    (hwamp : proc.startsWith "wamp." = true ∧ s.key ≠ metaKey → P (some (invalidUriErr tREGISTER req)))
    (hdisc : r.ds.d.allowDisclose = false ∧ opts.optFlag OptDiscloseCaller = true ∧
        sessAttr s.details "authrole" ≠ "trusted" → P (some (errMsg tREGISTER req ErrOptionDisallowedDiscloseMe)))
    (hpol : (opts.optString OptInvoke) ∉ knownPolicies →
        P (some (.error tREGISTER req [] ErrInvalidArgument [.str "<text>"] [])))
    (hnone : ¬validUri r.ds.d.strict (opts.optString OptMatch) proc = false →
        ¬(proc.startsWith "wamp." = true ∧ s.key ≠ metaKey) →
        ¬(r.ds.d.allowDisclose = false ∧ opts.optFlag OptDiscloseCaller = true ∧
          sessAttr s.details "authrole" ≠ "trusted") →
        ¬(opts.optString OptInvoke) ∉ knownPolicies → P none) :
    P (registerRefusal r s req opts proc) := by
  unfold registerRefusal
  by_cases h1 : validUri r.ds.d.strict (opts.optString OptMatch) proc = false
  · rw [if_pos h1]; exact huri h1
  by_cases h2 : proc.startsWith "wamp." = true ∧ s.key ≠ metaKey
  · rw [if_neg h1, if_pos h2]; exact hwamp h2
  by_cases h3 : r.ds.d.allowDisclose = false ∧ opts.optFlag OptDiscloseCaller = true ∧
      sessAttr s.details "authrole" ≠ "trusted"
  · rw [if_neg h1, if_neg h2, if_pos h3]; exact hdisc h3
  by_cases h4 : (opts.optString OptInvoke) ∉ knownPolicies
  · rw [if_neg h1, if_neg h2, if_neg h3, if_pos h4]; exact hpol h4
  · rw [if_neg h1, if_neg h2, if_neg h3, if_neg h4]; exact hnone h1 h2 h3 h4

theorem handleRegister_eq (r : Realm) (s : Session) (req : Nat) (opts : Dict) (proc : String) :
    handleRegister r s req opts proc =
      match registerRefusal r s req opts proc with
      | some m => r.trySend ⟨s.key, m⟩
      | none => r.applyD (syncRegister r.ds s.key req proc (opts.optString OptMatch) (opts.optString OptInvoke)
          (opts.optFlag OptDiscloseCaller) (opts.optFlag OptForwardTimeout) (proc.startsWith "wamp.")) := by
  unfold handleRegister registerRefusal
  -- the handler's Boolean tests, put as the propositions `registerRefusal` branches on
  simp only [Bool.not_eq_true', Bool.and_eq_true, bne_iff_ne, List.contains_eq_mem, decide_eq_false_iff_not, and_assoc]
  by_cases h1 : validUri r.ds.d.strict (opts.optString OptMatch) proc = false
  · rw [if_pos h1, if_pos h1]
  rw [if_neg h1, if_neg h1]
  by_cases h2 : proc.startsWith "wamp." = true ∧ s.key ≠ metaKey
  · rw [if_pos h2, if_pos h2]
  rw [if_neg h2, if_neg h2]
  by_cases h3 : r.ds.d.allowDisclose = false ∧ opts.optFlag OptDiscloseCaller = true ∧
      sessAttr s.details "authrole" ≠ "trusted"
  · rw [if_pos h3, if_pos h3]
  rw [if_neg h3, if_neg h3]
  by_cases h4 : (opts.optString OptInvoke) ∉ knownPolicies
  · rw [if_pos h4, if_pos h4]
  · rw [if_neg h4, if_neg h4]

theorem syncRegister_regs_origin (s : DState) (callee : SessKey) (req : Nat) (proc m invoke : String)
    (disclose fwd wampURI : Bool) :
    ∀ g ∈ (syncRegister s callee req proc m invoke disclose fwd wampURI).st.d.regs,
      (∃ g0 ∈ s.d.regs, g0.id = g.id ∧ g0.disclose = g.disclose) ∨
      (g.id = s.d.nextReg + 1 ∧ g.callees = [callee] ∧ g.proc = proc ∧ g.disclose = disclose) := by
  refine syncRegister_cases (P := fun o => ∀ g ∈ o.st.d.regs,
      (∃ g0 ∈ s.d.regs, g0.id = g.id ∧ g0.disclose = g.disclose) ∨
      (g.id = s.d.nextReg + 1 ∧ g.callees = [callee] ∧ g.proc = proc ∧ g.disclose = disclose))
    s callee req proc m invoke disclose fwd wampURI ?_ ?_ ?_
  · intro _ g hg
    rcases List.mem_append.mp hg with hg | hg
    · exact Or.inl ⟨g, hg, rfl, rfl⟩
    · rw [List.mem_singleton.mp hg]; exact Or.inr ⟨rfl, rfl, rfl, rfl⟩
  · intro _ _ _ g hg; exact Or.inl ⟨g, hg, rfl, rfl⟩
  · intro reg hf _ _ _ g hg
    simp only [Dealer.setReg, List.mem_map] at hg
    obtain ⟨x, hx, rfl⟩ := hg
    by_cases h : (x.id == reg.id) = true
    · rw [if_pos h]; exact Or.inl ⟨reg, List.mem_of_find?_eq_some hf, rfl, rfl⟩
    · rw [if_neg h]; exact Or.inl ⟨x, hx, rfl, rfl⟩

end Nexus.L2.WpA
