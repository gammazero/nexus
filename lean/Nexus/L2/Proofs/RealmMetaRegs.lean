/-
  The meta registrations are intact in every reachable realm.

  `Realm.create` registers every meta procedure of the configuration (`registerMeta`) for the meta session:
  exact match, no sharing policy, caller disclosure on, and records the registration id in `metaProcs`.
  In every state reachable by any history of inputs (`Realm.Reachable`) each of these registrations is still
  in the dealer's table as the very same record — same id, callees `[metaKey]` —, it is the best match of its
  procedure URI, and `metaProcs` is unchanged.  (A registration loses a callee only by that callee's
  UNREGISTER or departure; the meta session sends nothing but YIELD / ERROR and never leaves:
  `WpC.MetaSafe`.  `join` under the meta session's key is a no-op of the model.)

  This is the invariant behind the meta-call round trip `C18_call_roundtrip_stmt`.
-/
import Nexus.L2.Proofs.WampNamespace
import Nexus.L2.Proofs.RealmKeys
import Nexus.L2.Proofs.LeaveTables

namespace Nexus.L2.MetaRegs
open Nexus.L2 Nexus.L2.Realm Nexus.L2.WpC Nexus.Gen.N

/-- a registration with the single ("") policy, served by `m` alone -/
def Solo (g : Reg) (m : SessKey) : Prop := g.callees = [m] ∧ g.policy = ""

/-! ### dealer level: such a registration stays, as the same record, unless `m` unregisters or leaves -/

section dealer
variable {g : Reg} {m : SessKey}

theorem mem_setReg_of_id {d : Dealer} {x : Reg} (hg : g ∈ d.regs) (hx : x.id = g.id → x = g) : g ∈ (d.setReg x).regs := by
  by_cases e : g.id = x.id
  · exact Nexus.L2.mem_setReg.2 (.inr ⟨(hx e.symm).symm, g, hg, e⟩)
  · exact Nexus.L2.mem_setReg.2 (.inl ⟨hg, e⟩)

theorem delCalleeReg_keep {d d' : Dealer} {k : SessKey} {id : Nat} {del : Bool}
    (hn : (d.regs.map (·.id)).Nodup) (hs : g.callees = [m]) (hk : k ≠ m) (hg : g ∈ d.regs)
    (h : d.delCalleeReg k id = some (d', del)) : g ∈ d'.regs ∧ (d'.regs.map (·.id)).Nodup := by
  obtain ⟨reg, hf, hkc, rfl, _⟩ := delCalleeReg_of_some h
  obtain ⟨hreg, hid⟩ := (findReg_eq_some hn).1 hf
  -- `k` is a callee of the registration touched, not of `g`
  have hne : g.id ≠ id := fun e => by
    have : reg = g := nodup_map_inj (f := fun x : Reg => x.id) hn hreg hg (hid.trans e.symm)
    rw [this, hs] at hkc
    exact hk (List.mem_singleton.1 hkc)
  split
  · exact ⟨List.mem_filter.mpr ⟨hg, by simpa using hne⟩, (List.filter_sublist.map _).nodup hn⟩
  · exact ⟨mem_setReg_of_id hg (fun e => absurd (e.symm.trans hid) hne), by rw [setReg_ids]; exact hn⟩

theorem removeRegs_keep (k : SessKey) (hs : g.callees = [m]) (hk : k ≠ m) (ids : List Nat) (d : Dealer)
    (hn : (d.regs.map (·.id)).Nodup) (hg : g ∈ d.regs) : g ∈ (removeRegs d k ids).1.regs :=
  (removeRegs_rel (R := fun d d' => (d.regs.map fun r : Reg => r.id).Nodup ∧ g ∈ d.regs → (d'.regs.map fun r : Reg => r.id).Nodup ∧ g ∈ d'.regs)
    k (fun _ => id) (fun f f' h => f' (f h)) (fun he h => (delCalleeReg_keep h.1 hs hk h.2 he).symm) ids d ⟨hn, hg⟩).2

theorem keep_removeSession {env : DEnv} {s : DState} (h : DealerInv s) (hs : g.callees = [m]) (hg : g ∈ s.d.regs)
    {k : SessKey} (hk : k ≠ m) : g ∈ (syncRemoveSession env s k).st.d.regs := by
  rw [syncRemoveSession_regs]
  exact removeRegs_keep k hs hk _ _ h.reg.regs.ids hg

theorem keep_of_sub {s s' : DState} (h : StateSub s s') (hg : g ∈ s.d.regs) : g ∈ s'.d.regs := by
  rw [h.regs]; exact hg

/-- before a call is pending a CALL changes the table of registrations at most by the round-robin cursor of the
    registration it routes to; a registration with one callee has no cursor to move -/
theorem _root_.Nexus.L2.Opens.keeps_solo {s S : DState} {c : ReqId} (h : DealerInv s) (o : Opens s c S)
    (hs : g.callees = [m]) (hg : g ∈ s.d.regs) : g ∈ S.d.regs := by
  have cursor {reg reg' : Reg} {callee : SessKey} {rnd : Nat} (hmem : reg ∈ s.d.regs)
      (hp : pickCallee reg rnd = some (callee, reg')) : g ∈ (s.d.setReg reg').regs := by
    refine mem_setReg_of_id hg fun hid => ?_
    have : reg = g := reg_eq_of_id h.reg.regs hmem hg ((pickCallee_shape hp).2.2.1.symm.trans hid)
    subst this
    rw [pickCallee_single hs rnd] at hp
    exact (Prod.mk.inj (Option.some.inj hp)).2.symm
  cases o with
  | same => exact hg
  | cursor hmem hp => exact cursor hmem hp
  | record _ hmem hp _ => exact cursor hmem hp

/-- answering a message keeps it: the only action that could take it away is the UNREGISTER of `m` itself -/
theorem _root_.Nexus.L2.DAct.keeps_solo {s : DState} {k : SessKey} {msg : Msg} {o : DOut} (h : DealerInv s)
    (st : DAct s k msg o) (hs : Solo g m) (hg : g ∈ s.d.regs) (hk : k ≠ m ∨ ∀ req reg, msg ≠ .unregister req reg) :
    g ∈ o.st.d.regs := by
  cases st with
  | register req opts proc mt invoke disclose fwd wampURI =>
    refine syncRegister_cases (P := fun o => g ∈ o.st.d.regs) s k req proc mt invoke disclose fwd wampURI
      (fun _ => List.mem_append_left _ hg) (fun _ _ _ => hg) fun reg hf hpol _ _ => mem_setReg_of_id hg fun e => ?_
    -- a registration joined by a second callee is shared, `g` is not
    have : reg = g := reg_eq_of_id h.reg.regs ((findProc_eq_some h.reg.regs.keys).1 hf).1 hg e
    exact absurd (.inl (this ▸ hs.2)) hpol
  | unregister req regId =>
    have hk : k ≠ m := hk.elim id fun h => absurd rfl (h req regId)
    refine syncUnregister_cases (P := fun o => g ∈ o.st.d.regs) s k req regId (fun _ => hg) fun d' del he => ?_
    exact (delCalleeReg_keep (d := { s.d with index := idxDel s.d.index k regId }) h.reg.regs.ids hs.1 hk hg he).1
  | call env req opts proc args kw rnd =>
    obtain ⟨S, ho, hm⟩ := syncCall_moves (env := env) h k req opts proc args kw rnd
    rw [hm.shrinks.sub.regs]
    exact ho.keeps_solo h hs.1 hg
  | cancel => exact keep_of_sub (syncCancel_shrinks ..).sub hg
  | error => exact keep_of_sub (syncError_shrinks ..).sub hg

end dealer

/-! ### realm level, per kind of step: `k_*` — a registration served by the meta session alone is kept;
    `mp_*` — `metaProcs` is unchanged -/

section realm
variable {g : Reg}

theorem k_handles {k : SessKey} {m : Msg} {r r' : Realm} (hs : Solo g metaKey) (hd : DealerInv r.ds)
    (hg : g ∈ r.ds.d.regs) (hk : k ≠ metaKey ∨ ∀ req reg, m ≠ .unregister req reg) (h : Handles k m r r') :
    g ∈ r'.ds.d.regs := by
  cases h with
  | same | quit => exact hg
  | reply e => exact trySend_ds r _ ▸ hg
  | replyQuit e mode _ => exact trySend_ds r _ ▸ hg
  | dealer st =>
    rw [applyD_ds]
    exact st.keeps_solo hd hs hg hk
  | yield s hs' req opts args kw e =>
    rw [handleYield_eq]
    dsimp only
    split <;> exact applyD_ds r _ ▸ keep_of_sub (syncYield_shrinks ..).sub hg
  | broker st ack e => split <;> simp only [trySend_ds, deliver_ds] <;> exact hg

theorem k_recvMsg {r : Realm} (hs : Solo g metaKey) (hd : DealerInv r.ds) (hm : MetaSafe r) (hg : g ∈ r.ds.d.regs)
    (k : SessKey) (m : Msg) : g ∈ (r.recvMsg k m).ds.d.regs :=
  recvMsg_cases (C := fun q => g ∈ q.ds.d.regs) r k m hg (fun _ _ _ _ _ => hg)
    (fun s hf _ _ => k_handles hs hd hg (.inl (hm.noClient s (find?_key hf).1)) (handleMsg_handles r s m))

theorem k_leave {r : Realm} (hs : Solo g metaKey) (hd : DealerInv r.ds) (hm : MetaSafe r) (hg : g ∈ r.ds.d.regs)
    (k : SessKey) (mode : LeaveMode) : g ∈ (r.leave k mode).ds.d.regs := by
  refine leave_cases (C := fun q => g ∈ q.ds.d.regs) r k mode (fun _ => hg) fun s hf => ?_
  rw [(leave_tables mode hf).2]
  exact keep_removeSession hd hs.1 hg (hm.client_ne (isClient_of_find hf))

theorem k_runTask {r : Realm} (hs : Solo g metaKey) (hd : DealerInv r.ds) (hm : MetaSafe r) (hg : g ∈ r.ds.d.regs)
    (t : Task) (ht : MTaskOk t) : g ∈ (r.runTask t).ds.d.regs := by
  refine runTask_cases (P := fun q => g ∈ q.ds.d.regs) r t (fun k m _ => k_recvMsg hs hd hm hg k m)
    (fun p _ => k_handles hs hd hg (.inr fun _ _ h => Msg.noConfusion h)
      (handlePublish_handles r r.metaS 0 p.opts p.topic p.args p.kw))
    (fun m e => k_handles hs hd hg (.inr fun req reg e' => ?_) (handleMsg_handles r r.metaS m))
    (fun req reg d a kw _ => metaInvoke_cases (C := fun q => g ∈ q.ds.d.regs) r req reg d a kw hg fun _ _ e => by
      rw [addTasks_ds, e.frame.1]; exact hg)
    (fun _ _ _ _ => hg)
    fun k mode _ _ => k_leave hs hd hm hg k mode
  subst e e'
  cases ht

theorem k_stepOp {r : Realm} (hs : Solo g metaKey) (hd : DealerInv r.ds) (hm : MetaSafe r) (hg : g ∈ r.ds.d.regs)
    (op : Op) : g ∈ (r.stepOp op).ds.d.regs :=
  stepOp_cases (C := fun q => g ∈ q.ds.d.regs) r op hg (fun _ _ _ _ _ _ _ _ => hg) (fun k m _ => k_recvMsg hs hd hm hg k m)
    (fun _ _ _ _ _ => hg) (fun _ _ _ => hg) (fun _ => hg)

theorem k_retryDue {r : Realm} (hg : g ∈ r.ds.d.regs) (x : Retry) : g ∈ (r.retryDue x).ds.d.regs := by
  rw [retryDue_ds]
  unfold retryOut
  exact keep_of_sub (syncYield_shrinks ..).sub hg

theorem k_timerDue {r : Realm} (hg : g ∈ r.ds.d.regs) (t : Timer) : g ∈ (r.timerDue t).ds.d.regs := by
  rw [timerDue_ds]
  exact keep_of_sub (syncCancel_shrinks ..).sub hg

end realm

theorem mp_taskAct {r r' : Realm} (h : TaskAct r r') : r'.metaProcs = r.metaProcs := by
  cases h with
  | eff h => exact h.metaProcs
  | invoke h => exact h.metaProcs
  | defer k mode hk hb => rfl
  | leave k mode s hk hf hb => exact (leave_ctl mode hf).metaProcs
  | none => rfl

theorem mp_stepOp {r : Realm} (hm : MetaSafe r) (op : Op) : (r.stepOp op).metaProcs = r.metaProcs :=
  stepOp_cases (C := fun q => q.metaProcs = r.metaProcs) r op rfl (fun _ _ _ _ _ _ _ _ => rfl)
    (fun k m _ => mp_taskAct (runTask_act hm (.inMsg k m) trivial)) (fun _ _ _ _ _ => rfl) (fun _ _ _ => rfl) (fun _ => rfl)

/-- a dealer action, hence a timed event, leaves `metaProcs` alone -/
theorem mp_applyD (r : Realm) (o : DOut) : (r.applyD o).metaProcs = r.metaProcs :=
  (congrArg Realm.metaProcs (applyD_fields r o) :)

theorem mp_timerDue (r : Realm) (t : Timer) : (r.timerDue t).metaProcs = r.metaProcs :=
  mp_applyD _ _

theorem mp_retryDue (r : Realm) (x : Retry) : (r.retryDue x).metaProcs = r.metaProcs := by
  simp only [retryDue, apply_ite Realm.metaProcs, mp_applyD, ite_self]

/-- `q` has the meta procedure table of `r` and still holds every registration that in `r` is served by the meta
    session alone.  A two-state relation, walked by `Keeps.of_rel` (`kept_step`). -/
def Kept (r q : Realm) : Prop :=
  q.metaProcs = r.metaProcs ∧ ∀ g, Solo g metaKey → g ∈ r.ds.d.regs → g ∈ q.ds.d.regs

theorem Kept.refl (r : Realm) : Kept r r := ⟨rfl, fun _ _ h => h⟩

theorem Kept.trans {a b c : Realm} (h1 : Kept a b) (h2 : Kept b c) : Kept a c :=
  ⟨h2.1.trans h1.1, fun g hs hg => h2.2 g hs (h1.2 g hs hg)⟩

theorem Kept.of_eq {r q : Realm} (h1 : q.metaProcs = r.metaProcs) (h2 : q.ds = r.ds) : Kept r q :=
  ⟨h1, fun _ _ hg => h2 ▸ hg⟩

/-- what one atomic action does, seen from the state `a` before it -/
theorem Kept.action (a : Realm) : Keeps (fun r => Ctl r ∧ r = a) (Kept a) where
  task := by
    rintro r t ts ht ⟨b, rfl⟩ _
    have hm0 := b.2.safe.tail ht
    exact Kept.trans (b := { r with tasks := ts }) (.of_eq rfl rfl)
      ⟨mp_taskAct (runTask_act hm0.1 t hm0.2), fun _ hs hg => k_runTask hs (b.1.1.tail ht).1.dinv hm0.1 hg t hm0.2⟩
  timer := by rintro r _ t _ ⟨_, rfl⟩ _; exact ⟨mp_timerDue _ t, fun _ _ hg => k_timerDue hg t⟩
  retry := by rintro r _ x _ ⟨_, rfl⟩ _; exact ⟨mp_retryDue _ x, fun _ _ hg => k_retryDue hg x⟩
  now := by rintro r n ⟨_, rfl⟩ _; exact .of_eq rfl rfl
  fuel := by rintro r m _ ⟨_, rfl⟩ _; exact .of_eq (setPanic_frame r _).metaProcs (setPanic_ds r _)
  flush := by rintro r ⟨_, rfl⟩ _; exact .of_eq rfl rfl

theorem kept_step {r : Realm} (hi : RealmInv r) (hp : FuelOnly r.panic) (hc : CtlInv r) (op : Op) : Kept r (r.step op).2 :=
  Ctl.step (.of_rel (R := Kept) Kept.trans Kept.action Kept.refl r) ⟨⟨hi, hp⟩, hc⟩
    ⟨mp_stepOp hc.safe op, fun _ hs hg => k_stepOp hs hi.dinv hc.safe hg op⟩

/-- what `registerMeta` leaves for one name: a registration of the meta session alone -/
def MetaReg (g : Reg) (e : Nat × String) : Prop :=
  g.id = e.1 ∧ g.proc = e.2 ∧ g.«match» = "" ∧ g.disclose = true ∧ Solo g metaKey

/-- By induction on the names.  A name that no registration carries (`hfresh`) finds no procedure, so `syncRegister`
    takes its first branch and appends a registration of the meta session alone; `Nodup` keeps the remaining names
    fresh after that, and the first conjunct carries the new registration through the remaining rounds. -/
theorem registerMeta_spec : ∀ (ps : List String) (r : Realm), DealerInv r.ds → ps.Nodup →
    (∀ p ∈ ps, ∀ x ∈ r.ds.d.regs, x.proc ≠ p) →
    (∀ x ∈ r.ds.d.regs, x ∈ (registerMeta r ps).ds.d.regs) ∧
    ∃ news, (registerMeta r ps).metaProcs = r.metaProcs ++ news ∧ news.map (·.2) = ps ∧
      ∀ e ∈ news, ∃ g ∈ (registerMeta r ps).ds.d.regs, MetaReg g e
  | [], r, _, _, _ => ⟨fun _ hx => hx, [], by simp [registerMeta], rfl, fun _ he => nomatch he⟩
  | p :: ps, r, hd, hn, hfresh => by
    unfold registerMeta
    extract_lets o id
    rw [List.nodup_cons] at hn
    have hnone : r.ds.d.findProc p (matchKind "") = none :=
      findProc_eq_none.2 (fun x hx hh => hfresh p (List.mem_cons_self ..) x hx hh.2)
    let newreg : Reg := { id := r.ds.d.nextReg + 1, proc := p, «match» := "", policy := "", disclose := true,
                          fwdTimeout := false, callees := [metaKey] }
    obtain ⟨hregs, hid⟩ : o.st.d.regs = r.ds.d.regs ++ [newreg] ∧ id = newreg.id :=
      syncRegister_cases (P := fun o => o.st.d.regs = r.ds.d.regs ++ [newreg] ∧ o.st.d.nextReg = newreg.id)
        r.ds metaKey 0 p "" "" true false true (fun _ => ⟨rfl, rfl⟩)
        (fun reg hf _ => by rw [hnone] at hf; cases hf) (fun reg hf _ _ _ => by rw [hnone] at hf; cases hf)
    have hd' : DealerInv o.st := syncRegister_inv hd _ _ _ _ _ _ _ _ (by decide)
    obtain ⟨ih1, news, ih2, ih3, ih4⟩ := registerMeta_spec ps
      { r with ds := o.st, metaProcs := r.metaProcs ++ [(id, p)] } hd' hn.2 (by
        intro q hq x hx
        have hx' : x ∈ r.ds.d.regs ++ [newreg] := hregs ▸ hx
        rcases List.mem_append.mp hx' with hx' | hx'
        · exact hfresh q (List.mem_cons_of_mem _ hq) x hx'
        · rw [List.mem_singleton.mp hx']
          intro e
          exact hn.1 (show p ∈ ps from (show newreg.proc = p from rfl) ▸ e ▸ hq))
    refine ⟨fun x hx => ih1 x (by rw [hregs]; exact List.mem_append_left _ hx), (id, p) :: news, ?_, ?_, ?_⟩
    · rw [ih2]; simp
    · simp [ih3]
    · intro e he
      rcases List.mem_cons.mp he with rfl | he
      · exact ⟨newreg, ih1 newreg (by rw [hregs]; exact List.mem_append_right _ (List.mem_singleton.mpr rfl)),
          hid.symm, rfl, rfl, rfl, rfl, rfl⟩
      · exact ih4 e he

/-- the configured names are those `metaProc` knows, less the optional groups that are switched off -/
theorem metaProcNames_sublist (cfg : Config) : (metaProcNames cfg).Sublist metaProcAll := by
  have opt : ∀ (b : Bool) (l : List String), (if b then l else []).Sublist l := by
    intro b l; cases b
    · exact List.nil_sublist l
    · exact List.Sublist.refl l
  exact (((List.Sublist.refl _).append (opt ..)).append (opt ..)).append (List.Sublist.refl _)

theorem metaProcNames_nodup (cfg : Config) : (metaProcNames cfg).Nodup :=
  (metaProcNames_sublist cfg).nodup metaProcAll_nodup

/-- the realm `create` builds: `metaProcs` names exactly the configured meta procedures, each bound to the id
    of a registration of the meta session alone -/
theorem create_metaRegs {cfg : Config} {r : Realm} (h : Realm.create cfg = some r) :
    r.metaProcs.map (·.2) = metaProcNames cfg ∧ ∀ e ∈ r.metaProcs, ∃ g ∈ r.ds.d.regs, MetaReg g e := by
  obtain rfl := create_some h
  obtain ⟨_, news, h2, h3, h4⟩ := registerMeta_spec (metaProcNames cfg)
    { cfg := cfg, broker := Broker.preInit { strict := cfg.strict, allowDisclose := cfg.allowDisclose } cfg.history,
      ds := { d := { strict := cfg.strict, allowDisclose := cfg.allowDisclose } } }
    (DealerInv.init _ _) (metaProcNames_nodup cfg) (fun _ _ x hx => nomatch hx)
  rw [h2]
  exact ⟨h3, h4⟩

end Nexus.L2.MetaRegs

namespace Nexus.L2.Realm
open Nexus.L2.MetaRegs Nexus.L2.WpC

/-- along every history: `metaProcs` is what `create` built, and every registration of the meta session
    alone (single policy) that `create` built is still in the table, as the same record -/
theorem Reachable.metaRegs_keep {cfg : Config} {r : Realm} (h : Reachable cfg r) :
    ∃ r0, Realm.create cfg = some r0 ∧ Kept r0 r :=
  h.from_create Kept.refl Kept.trans fun _ op hr => kept_step hr.inv.1 hr.inv.2 hr.ctl op

/-- The meta registrations are intact.  In every reachable realm, for every configured meta procedure `p`:
    the dealer's table holds a registration `g` of `p` — exact match, caller disclosure on — whose only callee
    is the meta session; it is the best match of the URI `p` (what a CALL to `p` is routed to); and
    `metaProcs` binds its id to `p` (so the invocation the meta session receives runs `metaProc … p`). -/
theorem Reachable.metaRegs {cfg : Config} {r : Realm} (h : Reachable cfg r) {p : String} (hp : p ∈ metaProcNames cfg) :
    ∃ g ∈ r.ds.d.regs, g.proc = p ∧ g.kind = .exact ∧ g.callees = [metaKey] ∧ g.disclose = true ∧
      r.ds.d.matchProcedure p = some g ∧ r.metaProcs.find? (fun e => e.1 == g.id) = some (g.id, p) := by
  obtain ⟨r0, h0, hmp, hk⟩ := h.metaRegs_keep
  obtain ⟨c1, c2⟩ := create_metaRegs h0
  have hpe : ∃ e ∈ r0.metaProcs, e.2 = p := by
    rw [← c1] at hp
    obtain ⟨e, he, rfl⟩ := List.mem_map.mp hp
    exact ⟨e, he, rfl⟩
  obtain ⟨e, he, hep⟩ := hpe
  obtain ⟨g, hg0, g1, g2, g3, g4, g5⟩ := c2 e he
  have hg : g ∈ r.ds.d.regs := hk g g5 hg0
  have hkind : g.kind = .exact := by unfold Reg.kind; rw [g3]; rfl
  have hproc : g.proc = p := g2.trans hep
  have hinv := h.inv.1.dinv
  refine ⟨g, hg, hproc, hkind, g5.1, g4, ?_, ?_⟩
  · unfold Dealer.matchProcedure
    rw [(findProc_eq_some hinv.reg.regs.keys).2 ⟨hg, hkind, hproc⟩]
  · rw [hmp]
    have hmem : (g.id, p) ∈ r0.metaProcs := by
      have : e = (g.id, p) := by rw [g1, ← hep]
      rw [← this]; exact he
    -- `find?` returns the first entry under `g.id`, which need not be `(g.id, p)` itself: but every entry is bound to a
    -- registration with its id (`c2`), here `g` since ids are unique, and so names the procedure of `g`
    cases hf : r0.metaProcs.find? (fun e => e.1 == g.id) with
    | none =>
      have := List.find?_eq_none.mp hf (g.id, p) hmem
      simp at this
    | some e' =>
      obtain ⟨h1, h2⟩ := find?_key_some (f := fun e : Nat × String => e.1) hf
      obtain ⟨g', hg0', g1', g2', _, _, g5'⟩ := c2 e' h1
      have hg' : g' ∈ r.ds.d.regs := hk g' g5' hg0'
      have : g' = g := reg_eq_of_id hinv.reg.regs hg' hg (g1'.trans h2)
      subst this
      have : e' = (g'.id, p) := by
        cases e' with
        | mk a b =>
          simp only at h2 g2'
          rw [h2, ← g2', hproc]
      rw [this]

end Nexus.L2.Realm
