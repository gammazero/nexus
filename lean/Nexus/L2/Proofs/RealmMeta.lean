/-
  The meta procedures (router/realm.go `metaProcMap` and the handlers registered in it) as a TABLE.  A meta procedure
  READS the realm through `view` — of an attached session only its key and details, the tables of dealer and broker,
  the testaments, `cleanDetails` — and WRITES it through at most one of three effects (`MetaEff`).  `metaProc_eq`
  says so once, by one pass over the dispatch chain of `Realm.metaProc`.  That the procedure names are pairwise
  distinct (`metaProcAll_nodup`) enters in one place: `metaOut_row`, which finds row `k` of the table under its name.
  What two runs in related realms do follows from `metaProc_eq` without looking at a procedure; what every
  procedure can do (`MetaStep`, `metaProc_step`) is read off the rows once (`metaOut_legal`); a fact about one
  procedure starts from its row (`metaProc_at`).
  At the end: `cleanDetails` (realm.go `cleanSessionDetails`) never shows a `transport.auth` dict.

  To add a procedure.  The model is the `if` chain `Realm.metaProc` and `metaProcNames` (L2/Realm.lean).  Append the
  row to `metaTable` and the test to the chain: `metaProc_eq` walks the chain in table order, one `cases hN` block a
  row, and ends in the tuple `ne_of_beq_false h0 … h22`; `metaOut_legal` is a `refine ⟨…⟩` with one slot a row,
  in table order; `metaProcNames_sublist` (RealmMetaRegs) needs `metaProcNames cfg` in the table's relative order.
  Append only: the 49 calls `metaProc_at N rfl` in Props/C05, C18, C20 name rows by number.
  To add an effect.  Here: `MetaEff`, `MetaEff.apply`, `MetaOut.Legal`, `MetaStep`, `metaProc_step`, `MetaStep.frame`.
  What a relation between realms makes of an effect: `eqoff_apply` (StallStep), `withCfg_apply` (AuthzRun),
  `kill_apply` (MetaKill).  One case per effect: `Conf.metaEffect` (RealmFrame), `RealmInv.metaEffect`,
  `metaProc_answer` (RealmInv), `TestamentsAttached.metaEffect` (RealmLeave), `qinv_metaEffect` (RealmQueue),
  `MetaStep.clean`, `metaInvoke_act` (ControlActions), `EndPending.metaInvoke` (EndPending), `KeepsDetails.metaProc`
  (IdentityStable), `calm_metaStep` (Trace), `tg_metaStep` (TraceTasks), `metaProc_answer`, `metaProc_tasks_nokill`,
  `metaStep_caps` (MetaCallRoundTrip); `C18_kill` reads `Legal` itself.
  To add a meta event: the header of RealmMetaEvents.
-/
import Nexus.L2.Realm
import Nexus.L2.Proofs.BrokerQuerySpec
import Nexus.L2.Proofs.DealerList
import Nexus.Base.Lemmas

namespace Nexus.L2
namespace Realm
open Gen.N

/-- the session filter argument of `session.count` / `session.list` -/
def sessFilter (args : List WVal) : Option (List String) :=
  match args with
  | [] => some []
  | a :: _ => strList? a

def sessSel (r : Realm) (f : List String) : List Session :=
  r.clients.filter (fun c => f.isEmpty || f.contains (authroleOf c))

def regArg (r : Realm) (args : List WVal) : Option Reg :=
  match args with
  | a :: _ => match a.asID with | some id => r.ds.d.findReg id | none => none
  | [] => none

def subArg (r : Realm) (args : List WVal) : Option Sub :=
  match args with
  | a :: _ => match a.asID with | some id => r.broker.findId id | none => none
  | [] => none

def badReasonOf (kw : Dict) : Bool := kwStr kw "reason" != "" && !validUri false "" (kwStr kw "reason")

def scopeOf (kw : Dict) : String := if kwStr kw "scope" == "" then "destroyed" else kwStr kw "scope"

def addToBucket (cur : TBucket) (scope : String) (t : Testament) : TBucket :=
  if scope == "destroyed" then { cur with destroyed := cur.destroyed ++ [t] }
  else { cur with detached := cur.detached ++ [t] }

def flushBucket (cur : TBucket) (scope : String) : TBucket :=
  if scope == "destroyed" then { cur with destroyed := [] } else { cur with detached := [] }

/-- the caller id `c` (a session id) is that of an attached client
    (`_, ok := r.clients[caller]` in `testamentAdd`, realm.go:1159) -/
def attachedCaller (r : Realm) (c : Nat) : Bool :=
  decide (sidBase ≤ c) && r.clients.any (fun s => s.key == c - sidBase)

theorem attachedCaller_false {r : Realm} {c : Nat} (h : c < sidBase ∨ ∀ s ∈ r.clients, s.key ≠ c - sidBase) :
    attachedCaller r c = false := by
  unfold attachedCaller
  rcases h with h | h
  · have : decide (sidBase ≤ c) = false := by simpa using h
    rw [this]; rfl
  · have : r.clients.any (fun s => s.key == c - sidBase) = false := by
      rw [List.any_eq_false]
      intro s hs'
      simpa using h s hs'
    rw [this]; simp

structure MetaView where
  sess : List (SessKey × Dict)
  ending : List SessKey
  clean : Dict → Dict
  dealer : Dealer
  broker : Broker
  testaments : List (SessKey × TBucket)

def view (r : Realm) : MetaView :=
  { sess := r.clients.map (fun c => (c.key, c.details)), ending := r.ending, clean := r.cleanDetails,
    dealer := r.ds.d, broker := r.broker, testaments := r.testaments }

inductive MetaEff where
  | none
  | kill (sel : SessKey → Dict → Bool) (g : Msg) (killAll : Bool)
  | modify (k : SessKey) (d : Dict)
  | testaments (t : List (SessKey × TBucket))

def MetaEff.apply (r : Realm) : MetaEff → Realm
  | .none => r
  | .kill sel g ka => (r.killWhere (fun c => sel c.key c.details) g ka).2
  | .modify k d => { r with clients := r.clients.map (fun c => if c.key == k then { c with details := d } else c) }
  | .testaments t => { r with testaments := t }

/-- the answer of a procedure that only reads: an error URI, or the arguments of the YIELD -/
inductive MetaAns where
  | err (uri : String)
  | ok (a : List WVal) (kw : Dict := [])

/-- the outcome of any procedure, the type of the rows of `metaTable`: like `MetaAns`, with the effect on the realm -/
inductive MetaOut where
  | err (uri : String)
  | ok (a : List WVal) (kw : Dict := []) (eff : MetaEff := .none)

/-- a reading procedure as a row of the table: no effect -/
def MetaAns.out : MetaAns → MetaOut
  | .err uri => .err uri
  | .ok a kw => .ok a kw

/-- what `metaProc` returns for an outcome: the ERROR or YIELD for invocation `req`, and `r` with the effect applied -/
def MetaOut.run (r : Realm) (req : Nat) : MetaOut → Msg × Realm
  | .err uri => (mErr req uri, r)
  | .ok a kw eff => (mYield req a kw, eff.apply r)

namespace MetaView
variable (v : MetaView) (details : Dict) (args : List WVal) (kw : Dict)

def sel (f : List String) : List (SessKey × Dict) :=
  v.sess.filter (fun p => f.isEmpty || f.contains (sessAttr p.2 "authrole"))

def find (sid : Nat) : Option (SessKey × Dict) := v.sess.find? (fun p => sidOf p.1 == sid)

/-- how many sessions `killWhere` tells to end -/
def victims (s : SessKey → Dict → Bool) : Nat := (v.sess.filter (fun p => s p.1 p.2 && !v.ending.contains p.1)).length

def idArg {α : Type} (find : Nat → Option α) : Option α :=
  match args with
  | a :: _ => match a.asID with | some id => find id | none => none
  | [] => none

-- realm.go `sessionCount`, `sessionList`, `sessionGet`

def sessionCount : MetaAns :=
  match sessFilter args with
  | none => .err ErrInvalidArgument
  | some f => .ok [.int (v.sel f).length]

def sessionList : MetaAns :=
  match sessFilter args with
  | none => .err ErrInvalidArgument
  | some f => .ok [.list ((v.sel f).map (fun p => sidVal p.1))]

def sessionGet : MetaAns :=
  match args with
  | [] => .err ErrNoSuchSession
  | a :: _ => match a.asID with
    | none => .err ErrNoSuchSession
    | some sid => match v.find sid with
      | none => .err ErrNoSuchSession
      | some p => .ok [.dict (v.clean p.2)]

-- realm.go `sessionKill`, `sessionKillByAuthid`, `sessionKillByAuthrole`, `sessionKillAll` (with `killSession`,
-- `killSessionsByDetail`, `killAllSessions`)

def goodbyeOf (all : Bool) : Msg := makeGoodbye (kwStr kw "reason") (kwStr kw "message") all

def kill : MetaOut :=
  match args with
  | [] => .err ErrNoSuchSession
  | a :: _ => match a.asID with
    | none => .err ErrNoSuchSession
    | some sid =>
      if callerOf details == some sid then .err ErrNoSuchSession
      else if badReasonOf kw then .err ErrInvalidURI
      else match v.find sid with
        | none => .err ErrNoSuchSession
        | some p => .ok [] [] (.kill (fun k _ => k == p.1) (goodbyeOf kw false) false)

def killBySel (key val : String) (k : SessKey) (d : Dict) : Bool :=
  some (sidOf k) != callerOf details && (match d.get? key with | some (.str x) => x == val | _ => false)

def killBy (key : String) : MetaOut :=
  match args with
  | [] => .err ErrNoSuchSession
  | a :: _ => match a.asString with
    | none => .err ErrNoSuchSession
    | some val =>
      if badReasonOf kw then .err ErrInvalidURI
      else .ok [.int (v.victims (killBySel details key val))] [] (.kill (killBySel details key val) (goodbyeOf kw false) false)

def killAll : MetaOut :=
  if badReasonOf kw then .err ErrInvalidURI
  else .ok [.int (v.victims (fun k _ => some (sidOf k) != callerOf details))] []
    (.kill (fun k _ => some (sidOf k) != callerOf details) (goodbyeOf kw true) true)

-- realm.go `sessionModifyDetails` (with `modifySessionDetails`)

def modifyDetails : MetaOut :=
  match args with
  | a :: b :: _ => match a.asID with
    | none => .err ErrInvalidArgument
    | some sid =>
      -- 1 = `sidOf metaKey`; Go: `sid == r.metaSess.ID`, realm.go:1092
      if sid == 1 then .err ErrNoSuchSession
      else match b.asDict with
        | none => .err ErrInvalidArgument
        | some delta =>
          if delta.contains "session" then .err ErrInvalidArgument
          else match v.find sid with
            | none => .err ErrNoSuchSession
            | some p => .ok [] [] (.modify p.1 (delta.foldl (fun acc (k, x) => match x with
                | .null => acc.erase k
                | _ => acc.set k x) p.2))
  | _ => .err ErrInvalidArgument

-- dealer.go `regList`, `regLookup`, `regMatch`; `regGet`, `regListCallees`, `regCountCallees` are `aboutReg`

def regList : MetaAns := .ok [idLists (v.dealer.regs.map (fun x => (x.kind, x.id)))]

def regLookup : MetaAns :=
  match args with
  | a :: _ => match a.asString with
    | some p => .ok [.int (match v.dealer.findProc p (matchKind (lookupMatchOpt args)) with | some x => x.id | none => 0)]
    | none => .ok [.int 0]
  | [] => .ok [.int 0]

def regMatch : MetaAns :=
  match args with
  | a :: _ => match a.asString with
    | some p => .ok [.int (match v.dealer.matchProcedure p with | some x => x.id | none => 0)]
    | none => .ok [.int 0]
  | [] => .ok [.int 0]

def aboutReg (f : Reg → WVal) : MetaAns :=
  match idArg args v.dealer.findReg with
  | none => .err ErrNoSuchRegistration
  | some x => .ok [f x]

-- broker.go `subList`, `subLookup`, `subMatch`; `subGet`, `subListSubscribers`, `subCountSubscribers` are `aboutSub`

def subList : MetaAns := .ok [idLists (v.broker.subs.map (fun x => (x.kind, x.id)))]

def subLookup : MetaAns :=
  match args with
  | a :: _ => match a.asString with
    | some t => .ok [.int (match v.broker.findTopic t (matchKind (lookupMatchOpt args)) with | some x => x.id | none => 0)]
    | none => .ok [.int 0]
  | [] => .ok [.int 0]

def subMatch : MetaAns :=
  match args with
  | a :: _ => match a.asString with
    | some t => .ok [.list ((v.broker.matching t).map (fun p => .int p.1.id))]
    | none => .ok [.list []]
  | [] => .ok [.list []]

def aboutSub (f : Sub → WVal) : MetaAns :=
  match idArg args v.broker.findId with
  | none => .err ErrNoSuchSubscription
  | some x => .ok [f x]

-- broker.go `subEventHistory`

def eventHistory : MetaAns :=
  match args with
  | [] => .err ErrInvalidArgument
  | a :: _ => match a.asID with
    | none => .err ErrInvalidArgument
    | some id => match histQuery? kw with
      | none => .err ErrInvalidArgument
      | some q =>
        match (if (v.broker.findId id).isSome then v.broker.hist.find? (fun h => h.sub == id) else none) with
        | none => .ok [] [("is_limit_reached", .bool false)]
        | some h =>
          .ok ((histAnswer { q with subTopic := ((v.broker.findId id).map (·.topic)).getD "" } h.entries).map histEntryVal)
            [("is_limit_reached", .bool (h.entries.length ≥ h.limit))]

-- realm.go `testamentAdd`, `testamentFlush`

def addTestament : MetaOut :=
  match callerOf details, args with
  | some c, t :: a :: k :: _ =>
    match t.asString, a.asList, k.asDict with
    | some topic, some targs, some tkw =>
      if scopeOf kw != "destroyed" && scopeOf kw != "detached" then .err ErrInvalidArgument
      else if !(decide (sidBase ≤ c) && v.sess.any (fun p => p.1 == c - sidBase)) then .ok []
      else .ok [] [] (.testaments ((v.testaments.filter (fun x => x.1 != c - sidBase)) ++
            [(c - sidBase,
              addToBucket (((v.testaments.find? (fun x => x.1 == c - sidBase)).map (·.2)).getD {}) (scopeOf kw)
                { topic := topic, args := targs, kw := tkw,
                  opts := (match kw.get? "publish_options" with
                    | some x => (x.asDict).getD []
                    | none => []) })]))
    | _, _, _ => .err ErrInvalidArgument
  | _, _ => .err ErrInvalidArgument

def flushTestaments : MetaOut :=
  match callerOf details with
  | none => .err ErrInvalidArgument
  | some c =>
    if scopeOf kw != "destroyed" && scopeOf kw != "detached" then .err ErrInvalidArgument
    else
      match v.testaments.find? (fun x => x.1 == c - sidBase) with
      | none => .ok []
      | some (_, cur) =>
        if (flushBucket cur (scopeOf kw)).destroyed.isEmpty && (flushBucket cur (scopeOf kw)).detached.isEmpty then
          .ok [] [] (.testaments (v.testaments.filter (fun x => x.1 != c - sidBase)))
        else
          .ok [] [] (.testaments (v.testaments.filter (fun x => x.1 != c - sidBase) ++
            [(c - sidBase, flushBucket cur (scopeOf kw))]))

end MetaView

/-- `metaProcMap` as `setupMetaProcedures` fills it (realm.go:243–279, same order, which is also the order in which
    `metaProc` tests for the names).  Go registers rows 3–6 only under `enableMetaKill` and row 7 only under
    `enableMetaModify`; the model gates them in `metaProcNames`, not in the table.  Row numbers are what
    `metaProc_at` is given. -/
def metaTable : List (String × (MetaView → Dict → List WVal → Dict → MetaOut)) :=
  [(MetaProcSessionCount, fun v _ a _ => (v.sessionCount a).out),                                          -- 0
   (MetaProcSessionList, fun v _ a _ => (v.sessionList a).out),                                            -- 1
   (MetaProcSessionGet, fun v _ a _ => (v.sessionGet a).out),                                              -- 2
   (MetaProcSessionKill, fun v d a kw => v.kill d a kw),                                                   -- 3
   (MetaProcSessionKillByAuthid, fun v d a kw => v.killBy d a kw "authid"),                                -- 4
   (MetaProcSessionKillByAuthrole, fun v d a kw => v.killBy d a kw "authrole"),                            -- 5
   (MetaProcSessionKillAll, fun v d _ kw => v.killAll d kw),                                               -- 6
   (MetaProcSessionModifyDetails, fun v _ a _ => v.modifyDetails a),                                       -- 7
   (MetaProcRegList, fun v _ _ _ => v.regList.out),                                                        -- 8
   (MetaProcRegLookup, fun v _ a _ => (v.regLookup a).out),                                                -- 9
   (MetaProcRegMatch, fun v _ a _ => (v.regMatch a).out),                                                  -- 10
   (MetaProcRegGet, fun v _ a _ => (v.aboutReg a fun x => regDetailsDict x.id x.proc x.«match» x.policy).out), -- 11
   (MetaProcRegListCallees, fun v _ a _ => (v.aboutReg a fun x => .list (x.callees.map sidVal)).out),      -- 12
   (MetaProcRegCountCallees, fun v _ a _ => (v.aboutReg a fun x => .int x.callees.length).out),            -- 13
   (MetaProcSubList, fun v _ _ _ => v.subList.out),                                                        -- 14
   (MetaProcSubLookup, fun v _ a _ => (v.subLookup a).out),                                                -- 15
   (MetaProcSubMatch, fun v _ a _ => (v.subMatch a).out),                                                  -- 16
   (MetaProcSubGet, fun v _ a _ => (v.aboutSub a subDetailsDict).out),                                     -- 17
   (MetaProcSubListSubscribers, fun v _ a _ => (v.aboutSub a fun x => .list (x.members.map sidVal)).out),  -- 18
   (MetaProcSubCountSubscribers, fun v _ a _ => (v.aboutSub a fun x => .int x.members.length).out),        -- 19
   (MetaProcEventHistory, fun v _ a kw => (v.eventHistory a kw).out),                                      -- 20
   (MetaProcSessionAddTestament, fun v d a kw => v.addTestament d a kw),                                   -- 21
   (MetaProcSessionFlushTestaments, fun v d _ kw => v.flushTestaments d kw)]                               -- 22

def metaProcAll : List String := metaTable.map (·.1)

theorem metaProcAll_nodup : metaProcAll.Nodup := by decide +kernel

/-- the dispatch of `metaProc` on the table: the row called `proc`, or no_such_procedure -/
def metaOut (v : MetaView) (proc : String) (details : Dict) (args : List WVal) (kw : Dict) : MetaOut :=
  match metaTable.find? (fun e => e.1 == proc) with
  | some e => e.2 v details args kw
  | none => .err ErrNoSuchProcedure

theorem metaOut_row (k : Nat) {n : String} {f : MetaView → Dict → List WVal → Dict → MetaOut}
    (hr : metaTable[k]? = some (n, f)) {proc : String} (hp : (proc == n) = true) (v : MetaView) (d : Dict)
    (a : List WVal) (kw : Dict) : metaOut v proc d a kw = f v d a kw := by
  unfold metaOut
  rw [(find?_key_eq_some metaProcAll_nodup).mpr ⟨List.mem_of_getElem? hr, (beq_iff_eq.mp hp).symm⟩]

theorem metaOut_unknown {p : String} (hp : p ∉ metaProcAll) (v : MetaView) (d : Dict) (a : List WVal) (kw : Dict) :
    metaOut v p d a kw = .err ErrNoSuchProcedure := by
  unfold metaOut
  have : metaTable.find? (fun e => e.1 == p) = none :=
    find?_key_eq_none.mpr fun e he (h : e.1 = p) => hp (h ▸ List.mem_map_of_mem he)
  rw [this]

theorem view_sel (r : Realm) (f : List String) : (view r).sel f = (sessSel r f).map (fun c => (c.key, c.details)) :=
  List.filter_map ..

theorem view_find (r : Realm) (sid : Nat) : (view r).find sid = (r.keyOfSid sid).map (fun c => (c.key, c.details)) :=
  List.find?_map ..

theorem view_victims (r : Realm) (s : SessKey → Dict → Bool) (g : Msg) (ka : Bool) :
    (view r).victims s = (r.killWhere (fun c => s c.key c.details) g ka).1 := by
  unfold MetaView.victims view
  rw [List.filter_map, List.length_map]
  rfl

theorem view_regArg (r : Realm) (args : List WVal) : MetaView.idArg args (view r).dealer.findReg = regArg r args := rfl

theorem view_subArg (r : Realm) (args : List WVal) : MetaView.idArg args (view r).broker.findId = subArg r args := rfl

theorem view_attached (r : Realm) (c : Nat) :
    (decide (sidBase ≤ c) && (view r).sess.any (fun p => p.1 == c - sidBase)) = attachedCaller r c := by
  unfold view attachedCaller
  rw [List.any_map]
  rfl

theorem aboutReg_run (r : Realm) (req : Nat) (args : List WVal) (f : Reg → WVal) :
    (match regArg r args with
      | none => (mErr req ErrNoSuchRegistration, r)
      | some x => (mYield req [f x], r)) = ((view r).aboutReg args f).out.run r req := by
  rw [MetaView.aboutReg, view_regArg]; cases regArg r args <;> rfl

theorem aboutSub_run (r : Realm) (req : Nat) (args : List WVal) (f : Sub → WVal) :
    (match subArg r args with
      | none => (mErr req ErrNoSuchSubscription, r)
      | some x => (mYield req [f x], r)) = ((view r).aboutSub args f).out.run r req := by
  rw [MetaView.aboutSub, view_subArg]; cases subArg r args <;> rfl

/-- The tests `proc == N` of the dispatch chain are decided one after the other (`cases` replaces every occurrence,
    also those inside a branch shared by several names); where one holds, the branch of `metaProc` is compared with
    the row of that name, following the matches on the arguments they share. -/
theorem metaProc_eq (r : Realm) (proc : String) (req : Nat) (details : Dict) (args : List WVal) (kw : Dict) :
    metaProc r proc req details args kw = (metaOut (view r) proc details args kw).run r req := by
  unfold metaProc
  extract_lets +onlyGivenNames caller reason message badReason
  cases h0 : proc == MetaProcSessionCount
  case true =>
    rw [if_pos (Bool.true_or _), metaOut_row 0 rfl h0]
    -- `metaProc` spells the filter argument out as a match on `args`; refolded into `sessFilter args` both sides
    -- branch on one term and `cases` decides them together
    show (match sessFilter args with | none => _ | some f => _) =
      MetaOut.run r req (MetaAns.out (match sessFilter args with | none => _ | some f => _))
    cases sessFilter args with
    | none => rfl
    | some f => simp only [view_sel, List.length_map]; rfl
  cases h1 : proc == MetaProcSessionList
  case true =>
    rw [if_pos (by decide), metaOut_row 1 rfl h1]
    show (match sessFilter args with | none => _ | some f => _) =
      MetaOut.run r req (MetaAns.out (match sessFilter args with | none => _ | some f => _))
    cases sessFilter args with
    | none => rfl
    | some f => simp only [view_sel, List.map_map]; rfl
  rw [if_neg (by decide)]
  cases h2 : proc == MetaProcSessionGet
  case true =>
    rw [if_pos (by decide), metaOut_row 2 rfl h2]
    unfold MetaView.sessionGet
    rcases args with _ | ⟨a, _⟩
    · rfl
    dsimp only
    cases a.asID with
    | none => rfl
    | some sid => dsimp only; rw [view_find]; cases r.keyOfSid sid <;> rfl
  rw [if_neg (by decide)]
  cases h3 : proc == MetaProcSessionKill
  case true =>
    rw [if_pos (by decide), metaOut_row 3 rfl h3]
    unfold MetaView.kill
    rcases args with _ | ⟨a, _⟩
    · rfl
    dsimp only
    cases a.asID with
    | none => rfl
    | some sid =>
      dsimp only; rw [view_find, apply_ite (MetaOut.run r req), apply_ite (MetaOut.run r req)]
      cases r.keyOfSid sid <;> rfl
  rw [if_neg (by decide)]
  cases h4 : proc == MetaProcSessionKillByAuthid
  case true =>
    rw [if_pos (Bool.true_or _), metaOut_row 4 rfl h4]
    unfold MetaView.killBy
    rcases args with _ | ⟨a, _⟩
    · rfl
    dsimp only
    cases a.asString with
    | none => rfl
    | some x => dsimp only; rw [apply_ite (MetaOut.run r req), view_victims r _ (MetaView.goodbyeOf kw false) false]; rfl
  cases h5 : proc == MetaProcSessionKillByAuthrole
  case true =>
    rw [if_pos (by decide), metaOut_row 5 rfl h5]
    unfold MetaView.killBy
    rcases args with _ | ⟨a, _⟩
    · rfl
    dsimp only
    cases a.asString with
    | none => rfl
    | some x => dsimp only; rw [apply_ite (MetaOut.run r req), view_victims r _ (MetaView.goodbyeOf kw false) false]; rfl
  rw [if_neg (by decide)]
  cases h6 : proc == MetaProcSessionKillAll
  case true =>
    rw [if_pos (by decide), metaOut_row 6 rfl h6]
    rw [MetaView.killAll, apply_ite (MetaOut.run r req), view_victims r _ (MetaView.goodbyeOf kw true) true]
    rfl
  rw [if_neg (by decide)]
  cases h7 : proc == MetaProcSessionModifyDetails
  case true =>
    rw [if_pos (by decide), metaOut_row 7 rfl h7]
    unfold MetaView.modifyDetails
    rcases args with _ | ⟨a, _ | ⟨b, _⟩⟩
    · rfl
    · rfl
    dsimp only
    cases a.asID with
    | none => rfl
    | some sid =>
      dsimp only; rw [apply_ite (MetaOut.run r req)]
      cases b.asDict with
      | none => rfl
      | some delta =>
        dsimp only; rw [view_find, apply_ite (MetaOut.run r req)]
        cases r.keyOfSid sid <;> rfl
  rw [if_neg (by decide)]
  cases h8 : proc == MetaProcRegList
  case true =>
    rw [if_pos (by decide), metaOut_row 8 rfl h8]
    rfl
  rw [if_neg (by decide)]
  cases h9 : proc == MetaProcRegLookup
  case true =>
    rw [if_pos (by decide), metaOut_row 9 rfl h9]
    unfold MetaView.regLookup
    rcases args with _ | ⟨a, _⟩
    · rfl
    dsimp only
    cases a.asString <;> rfl
  rw [if_neg (by decide)]
  cases h10 : proc == MetaProcRegMatch
  case true =>
    rw [if_pos (by decide), metaOut_row 10 rfl h10]
    unfold MetaView.regMatch
    rcases args with _ | ⟨a, _⟩
    · rfl
    dsimp only
    cases a.asString <;> rfl
  rw [if_neg (by decide)]
  cases h11 : proc == MetaProcRegGet
  case true =>
    rw [if_pos (by simp only [Bool.true_or]), metaOut_row 11 rfl h11]
    exact aboutReg_run ..
  cases h12 : proc == MetaProcRegListCallees
  case true =>
    rw [if_pos (by simp only [Bool.false_or, Bool.true_or]), metaOut_row 12 rfl h12]
    exact aboutReg_run ..
  cases h13 : proc == MetaProcRegCountCallees
  case true =>
    rw [if_pos (by decide), metaOut_row 13 rfl h13]
    exact aboutReg_run ..
  rw [if_neg (by decide)]
  cases h14 : proc == MetaProcSubList
  case true =>
    rw [if_pos (by decide), metaOut_row 14 rfl h14]
    rfl
  rw [if_neg (by decide)]
  cases h15 : proc == MetaProcSubLookup
  case true =>
    rw [if_pos (by decide), metaOut_row 15 rfl h15]
    unfold MetaView.subLookup
    rcases args with _ | ⟨a, _⟩
    · rfl
    dsimp only
    cases a.asString <;> rfl
  rw [if_neg (by decide)]
  cases h16 : proc == MetaProcSubMatch
  case true =>
    rw [if_pos (by decide), metaOut_row 16 rfl h16]
    unfold MetaView.subMatch
    rcases args with _ | ⟨a, _⟩
    · rfl
    dsimp only
    cases a.asString <;> rfl
  rw [if_neg (by decide)]
  cases h17 : proc == MetaProcSubGet
  case true =>
    rw [if_pos (by simp only [Bool.true_or]), metaOut_row 17 rfl h17]
    exact aboutSub_run ..
  cases h18 : proc == MetaProcSubListSubscribers
  case true =>
    rw [if_pos (by simp only [Bool.false_or, Bool.true_or]), metaOut_row 18 rfl h18]
    exact aboutSub_run ..
  cases h19 : proc == MetaProcSubCountSubscribers
  case true =>
    rw [if_pos (by decide), metaOut_row 19 rfl h19]
    exact aboutSub_run ..
  rw [if_neg (by decide)]
  cases h20 : proc == MetaProcEventHistory
  case true =>
    rw [if_pos (by decide), metaOut_row 20 rfl h20]
    unfold MetaView.eventHistory
    rcases args with _ | ⟨a, _⟩
    · rfl
    dsimp only
    cases a.asID with
    | none => rfl
    | some id =>
      dsimp only
      cases histQuery? kw with
      | none => rfl
      | some q =>
        dsimp only
        show (match (if (r.broker.findId id).isSome then r.broker.hist.find? (fun h => h.sub == id) else none) with
            | none => _ | some h => _) =
          MetaOut.run r req (MetaAns.out (match (if (r.broker.findId id).isSome then r.broker.hist.find? (fun h => h.sub == id) else none) with
            | none => _ | some h => _))
        cases (if (r.broker.findId id).isSome then r.broker.hist.find? (fun h => h.sub == id) else none) <;> rfl
  rw [if_neg (by decide)]
  cases h21 : proc == MetaProcSessionAddTestament
  case true =>
    rw [if_pos (by decide), metaOut_row 21 rfl h21]
    unfold MetaView.addTestament
    show (match callerOf details, args with | some c, t :: a :: k :: _ => _ | _, _ => _) = _
    cases callerOf details with
    | none => rfl
    | some c =>
      rcases args with _ | ⟨t, _ | ⟨a, _ | ⟨k, _⟩⟩⟩
      · rfl
      · rfl
      · rfl
      dsimp only
      cases t.asString <;> cases a.asList <;> cases k.asDict <;> try rfl
      dsimp only
      rw [apply_ite (MetaOut.run r req), apply_ite (MetaOut.run r req), view_attached]
      rfl
  rw [if_neg (by decide)]
  cases h22 : proc == MetaProcSessionFlushTestaments
  case true =>
    rw [if_pos (by decide), metaOut_row 22 rfl h22]
    unfold MetaView.flushTestaments
    show (match callerOf details with | none => _ | some c => _) = _
    cases callerOf details with
    | none => rfl
    | some c =>
      dsimp only; rw [apply_ite (MetaOut.run r req), show (view r).testaments = r.testaments from rfl]
      cases r.testaments.find? (fun x : SessKey × TBucket => x.1 == c - sidBase) with
      | none => rfl
      | some e => dsimp only; rw [apply_ite (MetaOut.run r req)]; rfl
  rw [if_neg (by decide)]
  rw [metaOut_unknown (by
    simp only [metaProcAll, metaTable, List.map_cons, List.map_nil, List.mem_cons, List.not_mem_nil, or_false, not_or]
    exact ⟨ne_of_beq_false h0, ne_of_beq_false h1, ne_of_beq_false h2, ne_of_beq_false h3, ne_of_beq_false h4, ne_of_beq_false h5, ne_of_beq_false h6, ne_of_beq_false h7, ne_of_beq_false h8, ne_of_beq_false h9, ne_of_beq_false h10, ne_of_beq_false h11, ne_of_beq_false h12, ne_of_beq_false h13, ne_of_beq_false h14, ne_of_beq_false h15, ne_of_beq_false h16, ne_of_beq_false h17, ne_of_beq_false h18, ne_of_beq_false h19, ne_of_beq_false h20, ne_of_beq_false h21, ne_of_beq_false h22⟩)]
  rfl

theorem metaProc_at (k : Nat) {n : String} {f : MetaView → Dict → List WVal → Dict → MetaOut}
    (hr : metaTable[k]? = some (n, f)) (r : Realm) (req : Nat) (d : Dict) (a : List WVal) (kw : Dict) :
    metaProc r n req d a kw = (f (view r) d a kw).run r req := by
  rw [metaProc_eq, metaOut_row k hr (beq_self_eq_true n)]

namespace WpA

def isKillProc (p : String) : Bool :=
  p == MetaProcSessionKill || p == MetaProcSessionKillByAuthid || p == MetaProcSessionKillByAuthrole ||
  p == MetaProcSessionKillAll

end WpA

/-- What constrains the effect of a row of `metaTable`: only a kill procedure kills — never the caller, with the
    GOODBYE of `goodbyeOf`, after the `reason` was accepted —, only `modify_details` modifies (whom and how is left
    open), only the testament procedures replace the testament table (under old keys or attached ones); an effect
    comes with an empty answer (kill: with a count).  Errors and effect-free answers are unconstrained.  Used by
    `metaProc_step` and where the selection or the GOODBYE itself matters (C18); everything else takes `MetaStep`. -/
def MetaOut.Legal (v : MetaView) (proc : String) (d kw : Dict) : MetaOut → Prop
  | .err _ => True
  | .ok _ _ .none => True
  | .ok _ kw' (.kill sel g ka) => kw' = [] ∧ g = MetaView.goodbyeOf kw ka ∧ ka = (proc == MetaProcSessionKillAll) ∧
      badReasonOf kw = false ∧ (∀ k dd, sel k dd = true → some (sidOf k) ≠ callerOf d) ∧
      WpA.isKillProc proc = true
  | .ok a kw' (.modify _ _) => a = [] ∧ kw' = [] ∧ (proc == MetaProcSessionModifyDetails) = true
  | .ok a kw' (.testaments t) => a = [] ∧ kw' = [] ∧
      (proc == MetaProcSessionAddTestament || proc == MetaProcSessionFlushTestaments) = true ∧
      ∀ x ∈ t, (∃ y ∈ v.testaments, y.1 = x.1) ∨ ∃ c ∈ v.sess, c.1 = x.1

theorem MetaOut.Legal.ofAns {v : MetaView} {proc : String} {d kw : Dict} (x : MetaAns) : x.out.Legal v proc d kw := by
  cases x <;> trivial

theorem metaOut_legal (v : MetaView) (proc : String) (d : Dict) (a : List WVal) (kw : Dict) :
    (metaOut v proc d a kw).Legal v proc d kw := by
  unfold metaOut
  split
  case h_2 => trivial
  case h_1 e he =>
  obtain rfl : e.1 = proc := by simpa using List.find?_some he
  have hm := List.mem_of_find?_eq_some he
  clear he
  revert e
  simp only [metaTable, List.forall_mem_cons, List.not_mem_nil, false_imp_iff, implies_true, and_true]
  refine ⟨.ofAns _, .ofAns _, .ofAns _, ?kill, ?killByAuthid, ?killByAuthrole, ?killAll, ?modify, .ofAns _, .ofAns _,
    .ofAns _, .ofAns _, .ofAns _, .ofAns _, .ofAns _, .ofAns _, .ofAns _, .ofAns _, .ofAns _, .ofAns _, .ofAns _,
    ?addTestament, ?flushTestaments⟩
  -- in each of the seven rows that can change the realm, every leaf but one is an error or an empty answer
  case kill =>
    unfold MetaView.kill
    repeat' split
    all_goals first | trivial | skip
    -- the session found under the id is not the caller: the id is not the caller's
    have hcaller : ¬ (callerOf d == some _) = true := ‹_›
    have hsid := List.find?_some (‹_› : v.find _ = some _)
    refine ⟨rfl, rfl, rfl, by simpa using ‹¬ badReasonOf kw = true›, fun k _ hk e => hcaller ?_, rfl⟩
    simp only [beq_iff_eq] at hk hsid ⊢
    rw [← e, hk, hsid]
  case killByAuthid =>
    unfold MetaView.killBy
    repeat' split
    all_goals first | trivial | exact ⟨rfl, rfl, rfl, by simpa using ‹¬ badReasonOf kw = true›,
      fun k dd hk e => by simp [MetaView.killBySel, e] at hk, rfl⟩
  case killByAuthrole =>
    unfold MetaView.killBy
    repeat' split
    all_goals first | trivial | exact ⟨rfl, rfl, rfl, by simpa using ‹¬ badReasonOf kw = true›,
      fun k dd hk e => by simp [MetaView.killBySel, e] at hk, rfl⟩
  case killAll =>
    unfold MetaView.killAll
    split
    · trivial
    · exact ⟨rfl, rfl, rfl, by simpa using ‹¬ badReasonOf kw = true›, fun k _ hk => by simpa using hk, rfl⟩
  case modify =>
    unfold MetaView.modifyDetails
    repeat' split
    all_goals first | trivial | exact ⟨rfl, rfl, rfl⟩
  -- the new testament table: the entries under other keys, and possibly one under the caller's key, which
  -- `add_testament` has checked to be that of an attached client and `flush_testaments` has found in the old table
  case addTestament =>
    unfold MetaView.addTestament
    repeat' split
    all_goals first | trivial | refine ⟨rfl, rfl, rfl, fun x hx => ?_⟩
    all_goals
      rcases List.mem_append.mp hx with hx | hx
      · exact .inl ⟨x, (List.mem_filter.mp hx).1, rfl⟩
      · rw [List.mem_singleton.mp hx]
        have hg : ¬(!(decide (sidBase ≤ _) && v.sess.any _)) = true := ‹_›
        simp only [Bool.not_eq_true', Bool.not_eq_false, Bool.and_eq_true, List.any_eq_true, beq_iff_eq] at hg
        exact .inr hg.2
  case flushTestaments =>
    unfold MetaView.flushTestaments
    repeat' split
    all_goals first | trivial | refine ⟨rfl, rfl, rfl, fun x hx => ?_⟩
    · exact .inl ⟨x, (List.mem_filter.mp hx).1, rfl⟩
    · rcases List.mem_append.mp hx with hx | hx
      · exact .inl ⟨x, (List.mem_filter.mp hx).1, rfl⟩
      · rw [List.mem_singleton.mp hx]
        have hf : v.testaments.find? _ = some _ := ‹_›
        exact .inl ⟨_, List.mem_of_find?_eq_some hf, by simpa using List.find?_some hf⟩

/-- One run of `metaProc r proc req …`: the answer is an ERROR of the invocation or a YIELD without options,
    both carrying `req`; the state is unchanged, or — only after a YIELD — some sessions are told to end with a
    GOODBYE of `makeGoodbye` (the four `kill` procedures only), or the details of one session are replaced
    (`modify_details` only), or the testament table is replaced by a table each of whose keys was a key of the
    old table or is the key of an attached client.  This is `MetaOut.Legal` on the realm, with the selection and
    the answer's payload forgotten: what a relation or invariant is carried through, one case per effect (the
    header lists the lemmas that do); the control fields alone are `MetaAct`. -/
inductive MetaStep (r : Realm) (proc : String) (req : Nat) : Msg × Realm → Prop
  | err (uri : String) : MetaStep r proc req (mErr req uri, r)
  | same (a : List WVal) (kw : Dict) : MetaStep r proc req (mYield req a kw, r)
  | kill (hp : (proc == MetaProcSessionKill) = true ∨
        (proc == MetaProcSessionKillByAuthid || proc == MetaProcSessionKillByAuthrole) = true ∨
        (proc == MetaProcSessionKillAll) = true)
      (sel : Session → Bool) (reason message : String) (all ka : Bool) (a : List WVal) :
      MetaStep r proc req (mYield req a, (r.killWhere sel (makeGoodbye reason message all) ka).2)
  | modify (hp : (proc == MetaProcSessionModifyDetails) = true) (k : SessKey) (d : Dict) :
      MetaStep r proc req (mYield req [],
        { r with clients := r.clients.map (fun c => if c.key == k then { c with details := d } else c) })
  | testaments (t : List (SessKey × TBucket))
      (h : ∀ x ∈ t, (∃ y ∈ r.testaments, y.1 = x.1) ∨ ∃ c ∈ r.clients, c.key = x.1) :
      MetaStep r proc req (mYield req [], { r with testaments := t })

/-- no effect reaches the dealer, the yield retries, the queues or the meta session's state -/
theorem MetaStep.frame {r : Realm} {proc : String} {req : Nat} {o : Msg × Realm} (e : MetaStep r proc req o) :
    o.2.ds = r.ds ∧ o.2.retries = r.retries ∧ o.2.queues = r.queues ∧ o.2.metaS = r.metaS := by
  cases e <;> exact ⟨rfl, rfl, rfl, rfl⟩

theorem metaProc_step (r : Realm) (proc : String) (req : Nat) (details : Dict) (args : List WVal) (kw : Dict) :
    MetaStep r proc req (metaProc r proc req details args kw) := by
  rw [metaProc_eq]
  have h := metaOut_legal (view r) proc details args kw
  generalize metaOut (view r) proc details args kw = o at h ⊢
  cases o with
  | err uri => exact .err uri
  | ok a kw' eff =>
    cases eff with
    | none => exact .same a kw'
    | kill sel g ka =>
      obtain ⟨rfl, rfl, _, _, _, hp⟩ := h
      exact .kill (by simpa only [WpA.isKillProc, Bool.or_eq_true, or_assoc] using hp) _ (kwStr kw "reason")
        (kwStr kw "message") ka ka a
    | modify k d => obtain ⟨rfl, rfl, hp⟩ := h; exact .modify hp k d
    | testaments t =>
      obtain ⟨rfl, rfl, _, ht⟩ := h
      refine .testaments t fun x hx => (ht x hx).imp id ?_
      rintro ⟨c, hc, e⟩
      obtain ⟨s, hs, rfl⟩ := List.mem_map.mp hc
      exact ⟨s, hs, e⟩

theorem metaProc_addTestament_unattached (r : Realm) (req c : Nat) (details : Dict) (kw : Dict) (topic : String)
    (targs : List WVal) (tkw : Dict) (rest : List WVal) (hc : callerOf details = some c)
    (hs : scopeOf kw = "destroyed" ∨ scopeOf kw = "detached")
    (hna : c < sidBase ∨ ∀ s ∈ r.clients, s.key ≠ c - sidBase) :
    metaProc r MetaProcSessionAddTestament req details (.str topic :: .list targs :: .dict tkw :: rest) kw =
      (mYield req [], r) := by
  have hsc : (scopeOf kw != "destroyed" && scopeOf kw != "detached") = false := by
    rcases hs with h | h <;> simp [h]
  rw [metaProc_at 21 rfl]
  unfold MetaView.addTestament
  rw [hc]
  simp only [WVal.asString, WVal.asList, WVal.asDict, hsc, view_attached, attachedCaller_false hna, Bool.false_eq_true,
    if_false, Bool.not_false, if_true]
  rfl

/-- the strict-mode copy loop only copies values of `details` -/
theorem strictCopy_get? (details : Dict) (k : String) (v : WVal) : ∀ (ks : List String) (acc : Dict),
    Dict.get? (ks.foldl (fun acc k => match details.get? k with
      | some v => acc.set k v
      | none => acc) acc) k = some v → details.get? k = some v ∨ Dict.get? acc k = some v
  | [], acc, h => Or.inr h
  | k0 :: ks, acc, h => by
    simp only [List.foldl_cons] at h
    rcases strictCopy_get? details k v ks _ h with h | h
    · exact Or.inl h
    · cases hd : details.get? k0 with
      | none => rw [hd] at h; exact Or.inr h
      | some v0 =>
        rw [hd] at h
        by_cases e : k0 = k
        · subst e
          rw [Dict.get?_set_self] at h
          exact Or.inl (h ▸ hd)
        · rw [Dict.get?_set_ne _ _ e] at h
          exact Or.inr h

theorem cleanDetails_no_transport_auth (r : Realm) (details : Dict) (t a : Dict)
    (h : Dict.get? (r.cleanDetails details) "transport" = some (.dict t)) : Dict.get? t "auth" ≠ some (.dict a) := by
  unfold cleanDetails at h
  extract_lets std clean at h
  have hclean : ∀ v, Dict.get? clean "transport" = some v → details.get? "transport" = some v := by
    intro v hv
    show details.get? "transport" = some v
    have hv' : Dict.get? (if r.cfg.metaStrict then _ else details) "transport" = some v := hv
    split at hv'
    · rcases strictCopy_get? details "transport" v _ [] hv' with h | h
      · exact h
      · cases h
    · exact hv'
  split at h
  · rename_i t0 ht0
    split at h
    · rw [Dict.get?_set_self] at h
      cases h
      rw [Dict.get?_erase_self]
      exact fun e => nomatch e
    · rename_i hna
      have := hclean _ h
      rw [ht0] at this
      cases this
      exact fun e => hna a e
  · rename_i hnd
    exact absurd (hclean _ h) (fun e => hnd t e)

end Realm
end Nexus.L2
