/-
  How the `sync*` functions change the dealer state, apart from REGISTER/UNREGISTER and the new call a CALL
  records: calls end, flags of stored invocations change, timers are cancelled or armed (`Shrinks`, with its
  parts `StateSub` and `TimersGrow`).  `Shrinks` holds whatever the state, so it is proved of the functions
  themselves, branch by branch, and not only of the moves found under the invariant (`Moves.shrinks`).  Then call
  timers: entries of the timer table are appended or get their `canceled` flag set, never removed or revived by a
  `sync*` function (`DStep.timers_grow_or_dropped`).  That the recorded timer is cancelled with its call is said by
  `cancelMark_cancels` and `TimersGrowC.cancelled`, which no theorem uses: `TimerLive` says more.
-/
import Nexus.L2.Proofs.DealerRemove

namespace Nexus.L2
open Gen.N

/-- the timer `syncCall` arms for a router-side timeout of `timeout` ms at time `env.now` -/
def newTimer (env : DEnv) (s : DState) (caller : SessKey) (req : Nat) (timeout : Nat) : Timer :=
  { id := s.nextTimer + 1, deadline := env.now + min timeout maxTimeoutMs, caller := caller, req := req, canceled := false }

theorem armTimer_pos {env : DEnv} {s : DState} {caller : SessKey} {req : Nat} {v : Invk} {timeout : Nat}
    (h : 0 < timeout) :
    armTimer env s caller req v timeout =
      { s with timers := s.timers ++ [newTimer env s caller req timeout]
               nextTimer := s.nextTimer + 1
               d := s.d.setInv { v with timer := some (s.nextTimer + 1) } } := by
  unfold armTimer
  rw [if_pos h]
  rfl

/-- arming the timer of a stored invocation leaves it stored, but for the timer it records -/
theorem armTimer_stores {env : DEnv} {s : DState} {v : Invk} (hv : v ∈ s.d.invs) (caller : SessKey) (req t : Nat) :
    ∃ tm, ({ v with timer := tm } : Invk) ∈ (armTimer env s caller req v t).d.invs := by
  unfold armTimer
  split
  · exact ⟨_, mem_setInv_self hv rfl⟩
  · exact ⟨v.timer, hv⟩

theorem armTimer_zero {env : DEnv} {s : DState} {caller : SessKey} {req : Nat} {v : Invk} :
    armTimer env s caller req v 0 = s := by
  unfold armTimer
  rw [if_neg (by omega)]

/-- `l'` is `l` with some `canceled` flags set and new timers appended -/
def TimersGrow (l l' : List Timer) : Prop :=
  ∃ (g : Timer → Timer) (extra : List Timer), l' = l.map g ++ extra ∧
    ∀ t, (g t).shape = t.shape ∧ (t.canceled = true → (g t).canceled = true)

theorem TimersGrow.refl (l : List Timer) : TimersGrow l l :=
  ⟨id, [], by simp, fun _ => ⟨rfl, id⟩⟩

theorem TimersGrow.trans {a b c : List Timer} (h1 : TimersGrow a b) (h2 : TimersGrow b c) : TimersGrow a c := by
  obtain ⟨g1, e1, rfl, hg1⟩ := h1
  obtain ⟨g2, e2, rfl, hg2⟩ := h2
  refine ⟨g2 ∘ g1, e1.map g2 ++ e2, by simp [List.map_append, List.map_map], fun t => ?_⟩
  exact ⟨((hg2 (g1 t)).1).trans (hg1 t).1, fun hc => (hg2 (g1 t)).2 ((hg1 t).2 hc)⟩

theorem TimersGrow.of_eq {a b : List Timer} (h : b = a) : TimersGrow a b := h ▸ TimersGrow.refl a

theorem TimersGrow.cancelTimer (s : DState) (t : Option Nat) : TimersGrow s.timers (s.cancelTimer t).timers := by
  rw [cancelTimer_timers]
  refine ⟨fun x => if some x.id = t then { x with canceled := true } else x, [], by simp, fun x => ?_⟩
  by_cases hx : some x.id = t <;> simp [hx, Timer.shape]

theorem TimersGrow.append (l e : List Timer) : TimersGrow l (l ++ e) :=
  ⟨id, e, by simp, fun _ => ⟨rfl, id⟩⟩

/-- a timer in the table stays in the table (same id, call, deadline), and stays cancelled once cancelled -/
theorem TimersGrow.mem {l l' : List Timer} (h : TimersGrow l l') {t : Timer} (ht : t ∈ l) :
    ∃ t' ∈ l', t'.shape = t.shape ∧ (t.canceled = true → t'.canceled = true) := by
  obtain ⟨g, e, rfl, hg⟩ := h
  exact ⟨g t, List.mem_append_left _ (List.mem_map_of_mem ht), (hg t).1, (hg t).2⟩

/-- `s'` has the same registrations and invocation-id generators as `s`, and every invocation stored in `s'` was
    stored in `s` with the same id, call and callee -/
structure StateSub (s s' : DState) : Prop where
  gen : s'.invGen = s.invGen
  regs : s'.d.regs = s.d.regs
  invs : ∀ v' ∈ s'.d.invs, ∃ v ∈ s.d.invs, v.shapeC = v'.shapeC

theorem StateSub.refl (s : DState) : StateSub s s := ⟨rfl, rfl, fun v hv => ⟨v, hv, rfl⟩⟩

theorem StateSub.trans {a b c : DState} (h1 : StateSub a b) (h2 : StateSub b c) : StateSub a c :=
  ⟨h2.gen.trans h1.gen, h2.regs.trans h1.regs, fun v hv => by
    obtain ⟨w, hw, he⟩ := h2.invs v hv
    obtain ⟨u, hu, he'⟩ := h1.invs w hw
    exact ⟨u, hu, he'.trans he⟩⟩

theorem StateSub.cancelTimer (s : DState) (t : Option Nat) : StateSub s (s.cancelTimer t) :=
  ⟨by simp, by simp, fun v hv => ⟨v, by simpa using hv, rfl⟩⟩

theorem StateSub.setInv {s : DState} {v v' : Invk} (hv : v ∈ s.d.invs) (hs : v'.shapeC = v.shapeC) :
    StateSub s { s with d := s.d.setInv v' } := by
  refine ⟨rfl, rfl, fun w hw => ?_⟩
  rcases mem_setInv.1 hw with ⟨hw, _⟩ | ⟨rfl, _⟩
  · exact ⟨w, hw, rfl⟩
  · exact ⟨v, hv, hs.symm⟩

theorem StateSub.forget (s : DState) (c i : ReqId) : StateSub s { s with d := s.d.forget c i } :=
  ⟨rfl, rfl, fun v hv => ⟨v, (List.mem_filter.1 hv).1, rfl⟩⟩

/-- What CANCEL, YIELD, INVOCATION ERROR and the loops of session removal do to the state, and a CALL after it has
    recorded the new call: registrations, id generators, the callee index and the two configuration flags stay;
    stored invocations keep id, call and callee or go; calls go; timers are cancelled or appended.  None of this needs
    the invariant. -/
structure Shrinks (s s' : DState) : Prop where
  sub : StateSub s s'
  timers : TimersGrow s.timers s'.timers
  index : s'.d.index = s.d.index
  calls : ∀ c ∈ s'.d.calls, c ∈ s.d.calls
  flags : s'.d.strict = s.d.strict ∧ s'.d.allowDisclose = s.d.allowDisclose

theorem Shrinks.refl (s : DState) : Shrinks s s := ⟨.refl s, .refl _, rfl, fun _ h => h, rfl, rfl⟩

theorem Shrinks.trans {a b c : DState} (h1 : Shrinks a b) (h2 : Shrinks b c) : Shrinks a c :=
  ⟨h1.sub.trans h2.sub, h1.timers.trans h2.timers, h2.index.trans h1.index, fun x hx => h1.calls x (h2.calls x hx),
    h2.flags.1.trans h1.flags.1, h2.flags.2.trans h1.flags.2⟩

theorem Shrinks.cancelTimer (s : DState) (t : Option Nat) : Shrinks s (s.cancelTimer t) :=
  ⟨.cancelTimer s t, .cancelTimer s t, by simp, by simp, by simp⟩

theorem Shrinks.setInv {s : DState} {v v' : Invk} (hv : v ∈ s.d.invs) (hs : v'.shapeC = v.shapeC) :
    Shrinks s { s with d := s.d.setInv v' } :=
  ⟨.setInv hv hs, .refl _, rfl, fun _ h => h, rfl, rfl⟩

/-- another dealer record with the registrations, the index and the flags of `s.d` and some of its invocations and calls -/
theorem Shrinks.drop {s : DState} {d : Dealer} (hr : d.regs = s.d.regs) (hx : d.index = s.d.index)
    (hf : d.strict = s.d.strict ∧ d.allowDisclose = s.d.allowDisclose)
    (hi : ∀ v ∈ d.invs, v ∈ s.d.invs) (hc : ∀ c ∈ d.calls, c ∈ s.d.calls) : Shrinks s { s with d := d } :=
  ⟨⟨rfl, hr, fun v hv => ⟨v, hi v hv, rfl⟩⟩, .refl _, hx, hc, hf⟩

theorem Shrinks.forget (s : DState) (c i : ReqId) : Shrinks s { s with d := s.d.forget c i } :=
  .drop rfl rfl ⟨rfl, rfl⟩ (fun _ h => (List.mem_filter.1 h).1) (fun _ h => (List.mem_filter.1 h).1)

theorem Shrinks.endCall (s : DState) (t : Option Nat) (c i : ReqId) :
    Shrinks s { s.cancelTimer t with d := s.d.forget c i } := by
  have := (Shrinks.cancelTimer s t).trans (.forget _ c i)
  rwa [cancelTimer_d] at this

/-- session `k` occurs in the dealer's tables: as a callee of a registration, as the caller of a pending call, as
    the callee of a stored invocation, or as a key of the callee index -/
def DState.refs (s : DState) (k : SessKey) : Prop :=
  (∃ id, calleeRel s.d.regs id k) ∨ (∃ c ∈ s.d.calls, c.sess = k) ∨ (∃ v ∈ s.d.invs, v.callee = k) ∨
    (∃ e ∈ s.d.index, e.1 = k)

theorem Shrinks.refs {s s' : DState} (hs : Shrinks s s') (k : SessKey) (h : s'.refs k) : s.refs k := by
  rcases h with ⟨id, h⟩ | ⟨c, hc, he⟩ | ⟨v, hv, he⟩ | ⟨e, he, hk⟩
  · exact Or.inl ⟨id, hs.sub.regs ▸ h⟩
  · exact Or.inr (Or.inl ⟨c, hs.calls c hc, he⟩)
  · obtain ⟨w, hw, hws⟩ := hs.sub.invs v hv
    simp only [Invk.shapeC, Prod.mk.injEq] at hws
    exact Or.inr (Or.inr (Or.inl ⟨w, hw, hws.2.2.1.trans he⟩))
  · exact Or.inr (Or.inr (Or.inr ⟨e, hs.index ▸ he, hk⟩))

theorem armTimer_shrinks {env : DEnv} {s : DState} {v : Invk} (hv : v ∈ s.d.invs) (caller : SessKey) (req t : Nat) :
    Shrinks s (armTimer env s caller req v t) := by
  unfold armTimer
  split
  · exact ⟨⟨rfl, rfl, (StateSub.setInv (v' := { v with timer := some (s.nextTimer + 1) }) hv rfl).invs⟩,
      .append _ _, rfl, fun _ h => h, rfl, rfl⟩
  · exact .refl s

theorem preCancel_shrinks (s : DState) (v : Invk) (t : Nat) : Shrinks s (preCancel s v t) := by
  unfold preCancel
  split
  · exact .cancelTimer _ _
  · exact .refl s

theorem Move.shrinks {s s' : DState} (m : Move s s') : Shrinks s s' := by
  cases m with
  | flag hv hc _ _ => exact .setInv hv hc
  | @mark v hv => exact (Shrinks.setInv (v' := { v with canceled := true }) hv rfl).trans (.cancelTimer _ _)
  | endCall => exact .endCall _ _ _ _
  | rearm hv env _ t => exact (preCancel_shrinks _ _ t).trans (armTimer_shrinks (by rw [preCancel_d]; exact hv) ..)

theorem Moves.shrinks {s s' : DState} (m : Moves s s') : Shrinks s s' := by
  induction m with
  | refl => exact .refl _
  | step mv _ ih => exact mv.shrinks.trans ih

theorem syncError_shrinks (s : DState) (callee : SessKey) (req : Nat) (details : Dict) (err : String)
    (args : List WVal) (kw : Dict) : Shrinks s (syncError s callee req details err args kw).st :=
  (syncError_moves ..).shrinks

theorem syncCancel_shrinks (env : DEnv) (s : DState) (caller : SessKey) (req : Nat) (mode reason : String)
    (errArgs : List WVal) : Shrinks s (syncCancel env s caller req mode reason errArgs).st := by
  apply syncCancel_cases (P := fun o => Shrinks s o.st)
  · exact .refl s
  · intro i v _ _ hf _
    have h1 : Shrinks s (cancelMark s v) :=
      (Shrinks.setInv (v' := { v with canceled := true }) (findInv_some_mem hf).1 rfl).trans (.cancelTimer _ _)
    exact cancelOut_cases (P := fun o => Shrinks s o.st) h1 fun _ _ => h1.trans (.forget _ _ _)

theorem yieldTimer_shrinks (s : DState) (progress : Bool) (v : Invk) : Shrinks s (yieldTimer s progress v) := by
  unfold yieldTimer
  split
  · exact .refl s
  · exact .cancelTimer _ _

theorem syncYield_shrinks (env : DEnv) (s : DState) (callee : SessKey) (req : Nat) (opts : Dict)
    (args : List WVal) (kw : Dict) (progress canRetry : Bool) :
    Shrinks s (syncYield env s callee req opts args kw progress canRetry).st := by
  have hfin (v : Invk) : Shrinks s (yieldFinish s progress v ⟨callee, req⟩) := by
    unfold yieldFinish
    split
    · exact yieldTimer_shrinks s progress v
    · exact (yieldTimer_shrinks s progress v).trans (.forget _ _ _)
  apply syncYield_cases (P := fun o => Shrinks s o.st)
  case unknown | interrupt | foreign => intros; exact .refl s
  case noCaller | callerBad | deliver => intro v; intros; exact hfin v
  case calleeBad =>
    intro v _ _ _ _
    exact ((yieldTimer_shrinks s progress v).trans (.cancelTimer _ _)).trans (.forget _ _ _)
  case retry => intro v; intros; exact yieldTimer_shrinks s progress v
  case giveup =>
    intro v _ _ _ _ _ _ _
    have := (yieldTimer_shrinks s progress v).trans
      (syncCancel_shrinks env (yieldTimer s progress v) v.callId.sess v.callId.req CancelModeKillNoWait ErrCanceled [])
    dsimp only
    split
    · exact this
    · exact this.trans (.forget _ _ _)

theorem dispatch_shrinks {env : DEnv} {s : DState} {v : Invk} (hv : v ∈ s.d.invs) (caller : SessKey) (req : Nat)
    (callee : SessKey) (invReq timeout : Nat) (m : Msg) :
    Shrinks s (dispatch env s caller req callee invReq v timeout m).st := by
  unfold dispatch
  split
  · exact syncError_shrinks ..
  · exact armTimer_shrinks hv ..

/-- whether the call is refused, sent or meets a full queue, the registrations after its first chunk are those with
    the cursor moved -/
theorem firstChunk_regs (env : DEnv) (s : DState) (reg : Reg) (caller : SessKey) (req : Nat) (opts : Dict)
    (proc : String) (args : List WVal) (kw : Dict) (callee : SessKey) (reg' : Reg) :
    (firstChunk env s reg caller req opts proc args kw callee reg').st.d.regs = (s.d.setReg reg').regs := by
  rw [firstChunk_eq]
  split
  · rfl
  · rfl
  · exact (dispatch_shrinks (List.mem_append_right _ (List.mem_singleton.2 rfl)) ..).sub.regs

/-- From some state `S` with the timers and the callee index of `s` (which: `Opens`, under the invariant) a CALL
    only `Shrinks`. -/
theorem syncCall_shrinks (env : DEnv) (s : DState) (caller : SessKey) (req : Nat) (opts : Dict) (proc : String)
    (args : List WVal) (kw : Dict) (rnd : Nat) :
    ∃ S : DState, S.timers = s.timers ∧ S.d.index = s.d.index ∧
      Shrinks S (syncCall env s caller req opts proc args kw rnd).st := by
  rw [syncCall_eq]
  split
  · split
    · exact ⟨s, rfl, rfl, .refl s⟩
    · rename_i v0 hf
      split
      · exact ⟨s, rfl, rfl, .refl s⟩
      · have hv0 := (findInv_some_mem hf).1
        have hm : ({ v0 with inProgress := opts.optFlag OptProgress } : Invk) ∈
            (s.d.setInv { v0 with inProgress := opts.optFlag OptProgress }).invs :=
          mem_setInv_self hv0 rfl
        refine ⟨s, rfl, rfl, (Shrinks.setInv (v' := { v0 with inProgress := opts.optFlag OptProgress }) hv0 rfl).trans ?_⟩
        unfold laterChunk dispatchL
        dsimp only
        split
        · exact syncError_shrinks ..
        · exact (preCancel_shrinks _ _ _).trans (armTimer_shrinks (by rw [preCancel_d]; exact hm) ..)
  · split
    · exact ⟨s, rfl, rfl, .refl s⟩
    · split
      · exact ⟨s, rfl, rfl, .refl s⟩
      · split
        · exact ⟨s, rfl, rfl, .refl s⟩
        · split
          · exact ⟨s, rfl, rfl, .refl s⟩
          · rw [firstChunk_eq]
            split
            · refine ⟨_, ?_, ?_, .refl _⟩ <;> rfl
            · refine ⟨_, ?_, ?_, .refl _⟩ <;> rfl
            · refine ⟨_, ?_, ?_, dispatch_shrinks (List.mem_append_right _ (List.mem_singleton.2 rfl)) ..⟩ <;> rfl

theorem uncancelServed_shrinks (s : DState) (invk : Invk) : Shrinks s (uncancelServed s invk) := by
  refine (Shrinks.cancelTimer s invk.timer).trans ?_
  unfold uncancelServed
  split
  · rename_i cur hf
    exact .setInv (v' := { cur with canceled := false }) (findInv_some_mem hf).1 rfl
  · exact .refl _

theorem cancelServed_shrinks (env : DEnv) (k : SessKey) : ∀ (l : List Invk) (s : DState),
    Shrinks s (cancelServed env s k l).1
  | [], s => .refl s
  | invk :: rest, s => by
    by_cases hc : (invk.callee != k || !s.d.calls.contains invk.callId) = true
    · rw [cancelServed_cons_skip rest hc]; exact cancelServed_shrinks env k rest s
    · rw [cancelServed_cons_hit rest hc]
      exact ((uncancelServed_shrinks s invk).trans (syncCancel_shrinks ..)).trans (cancelServed_shrinks env k rest _)

theorem dropOne_shrinks (s : DState) (c : ReqId) : Shrinks s (dropOne s c) := by
  have hd : ∀ S : DState, S.d = s.d → ∀ i, Shrinks S { S with d := ((s.d.delCall c).delByCall c).delInv i } :=
    fun S hS i => .drop (by rw [hS]; rfl) (by rw [hS]; rfl) (by rw [hS]; exact ⟨rfl, rfl⟩) (fun _ h => hS ▸ (List.mem_filter.1 h).1)
      (fun _ h => hS ▸ (List.mem_filter.1 h).1)
  unfold dropOne
  simp only
  split
  · split
    · exact (Shrinks.cancelTimer s _).trans (hd _ (cancelTimer_d s _) _)
    · exact hd s rfl _
  · exact .drop rfl rfl ⟨rfl, rfl⟩ (fun _ h => h) (fun _ h => (List.mem_filter.1 h).1)

theorem dropCalls_shrinks (k : SessKey) : ∀ (l : List ReqId) (s : DState), Shrinks s (dropCalls s k l)
  | [], s => .refl s
  | c :: rest, s => by
    by_cases hck : (c.sess != k) = true
    · rw [dropCalls_cons_skip rest hck]; exact dropCalls_shrinks k rest s
    · rw [dropCalls_cons_hit rest hck]
      exact (dropOne_shrinks s c).trans (dropCalls_shrinks k rest _)

/-- Once the registrations and the index entry of the departing session are gone, its removal only `Shrinks`. -/
theorem syncRemoveSession_shrinks (env : DEnv) (s : DState) (k : SessKey) :
    Shrinks { s with d := { (removeRegs s.d k ((idxGet s.d.index k).getD [])).1 with
                index := idxDrop (removeRegs s.d k ((idxGet s.d.index k).getD [])).1.index k } }
      (syncRemoveSession env s k).st := by
  unfold syncRemoveSession
  dsimp only
  exact (cancelServed_shrinks env k _ _).trans (dropCalls_shrinks k _ _)

theorem syncRemoveSession_regs (env : DEnv) (s : DState) (k : SessKey) :
    (syncRemoveSession env s k).st.d.regs = (removeRegs s.d k ((idxGet s.d.index k).getD [])).1.regs :=
  (syncRemoveSession_shrinks env s k).sub.regs

theorem syncRegister_st (s : DState) (callee : SessKey) (req : Nat) (proc m invoke : String)
    (disclose fwd wampURI : Bool) :
    ∃ regs n ix, (syncRegister s callee req proc m invoke disclose fwd wampURI).st =
      { s with d := { s.d with regs := regs, nextReg := n, index := ix } } := by
  apply syncRegister_cases (P := fun o => ∃ regs n ix, o.st = { s with d := { s.d with regs := regs, nextReg := n, index := ix } })
  · intro _; exact ⟨_, _, _, rfl⟩
  · intro _ _ _; exact ⟨_, _, _, rfl⟩
  · intro _ _ _ _ _; exact ⟨_, _, _, rfl⟩

theorem syncUnregister_st (s : DState) (callee : SessKey) (req regId : Nat) :
    ∃ regs, (syncUnregister s callee req regId).st =
      { s with d := { s.d with regs := regs, index := idxDel s.d.index callee regId } } := by
  apply syncUnregister_cases (P := fun o => ∃ regs, o.st =
    { s with d := { s.d with regs := regs, index := idxDel s.d.index callee regId } })
  · intro _; exact ⟨_, rfl⟩
  · intro d _ h
    rw [delCalleeReg_frame h]
    exact ⟨_, rfl⟩

theorem DStep.timers_grow_or_dropped {s : DState} {o : DOut} (st : DStep s o) :
    TimersGrow s.timers o.st.timers ∨ ∃ p, o = { st := { s with timers := s.timers.filter p } } := by
  cases st with
  | register callee req proc m invoke disclose fwd wampURI =>
    obtain ⟨_, _, _, h⟩ := syncRegister_st s callee req proc m invoke disclose fwd wampURI
    exact .inl (.of_eq (by rw [h]))
  | unregister callee req regId =>
    obtain ⟨_, h⟩ := syncUnregister_st s callee req regId
    exact .inl (.of_eq (by rw [h]))
  | call env caller req opts proc args kw rnd =>
    obtain ⟨S, ht, _, hs⟩ := syncCall_shrinks env s caller req opts proc args kw rnd
    exact .inl (ht ▸ hs.timers)
  | cancel => exact .inl (syncCancel_shrinks ..).timers
  | yield => exact .inl (syncYield_shrinks ..).timers
  | error => exact .inl (syncError_shrinks ..).timers
  | removeSession env k => exact .inl (syncRemoveSession_shrinks env s k).timers
  | dropTimers p => exact .inr ⟨p, rfl⟩

/-- No `sync*` function removes a timer from the table or revives a cancelled one: timers leave the table
    only when they fire (`Realm.timerDue`, the `dropTimers` step).  The hypothesis speaks about the one step that can
    drop timers: if the step is `dropTimers p`, then `p` keeps every timer (it holds vacuously for all other steps that
    change anything, and for a no-op step with `p = fun _ => true`). -/
theorem DStep.timers_grow {s : DState} {o : DOut} (st : DStep s o)
    (hkeep : ∀ p, o = { st := { s with timers := s.timers.filter p } } → ∀ t ∈ s.timers, p t = true) :
    TimersGrow s.timers o.st.timers := by
  rcases st.timers_grow_or_dropped with h | ⟨p, rfl⟩
  · exact h
  · exact .of_eq (List.filter_eq_self.2 (hkeep p rfl))

/-- … stated without hypothesis: across any step a timer of the table either stays (same id, call, deadline; cancelled
    stays cancelled), or the step is the expiry bookkeeping `dropTimers p` and `p` rejects it. -/
theorem DStep.timer_persists_or_dropped {s : DState} {o : DOut} (st : DStep s o) {t : Timer} (ht : t ∈ s.timers) :
    (∃ t' ∈ o.st.timers, t'.shape = t.shape ∧ (t.canceled = true → t'.canceled = true)) ∨
    (∃ p, o = { st := { s with timers := s.timers.filter p } } ∧ p t = false) := by
  rcases st.timers_grow_or_dropped with h | ⟨p, rfl⟩
  · exact .inl (h.mem ht)
  · cases hp : p t with
    | true => exact .inl ⟨t, List.mem_filter.2 ⟨ht, hp⟩, rfl, id⟩
    | false => exact .inr ⟨p, rfl, hp⟩

theorem cancelMark_cancels (s : DState) (v : Invk) {tid : Nat} (hv : v.timer = some tid) :
    ∀ t ∈ (cancelMark s v).timers, t.id = tid → t.canceled = true := by
  intro t ht hid
  exact cancelTimer_dead _ _ t ht (by rw [hv, hid])

/-- `TimersGrow`, and every timer with id `tid` that was in the table is cancelled afterwards -/
def TimersGrowC (tid : Nat) (l l' : List Timer) : Prop :=
  ∃ (g : Timer → Timer) (extra : List Timer), l' = l.map g ++ extra ∧
    (∀ t, (g t).shape = t.shape ∧ (t.canceled = true → (g t).canceled = true)) ∧
    ∀ t, t.id = tid → (g t).canceled = true

/-- the timer with id `tid`, if it was in the table, is in the table and cancelled -/
theorem TimersGrowC.cancelled {tid : Nat} {l l' : List Timer} (h : TimersGrowC tid l l') (hn : (l'.map (·.id)).Nodup)
    {t : Timer} (ht : t ∈ l) (hid : t.id = tid) : ∀ t' ∈ l', t'.id = tid → t'.canceled = true := by
  obtain ⟨g, e, rfl, hg, hc⟩ := h
  intro t' ht' hid'
  have hgt : g t ∈ l.map g ++ e := List.mem_append_left _ (List.mem_map_of_mem ht)
  have hgid : (g t).id = tid := (congrArg (·.1) (hg t).1).trans hid
  have : t' = g t := nodup_map_inj hn ht' hgt (hid'.trans hgid.symm)
  rw [this]; exact hc t hid

theorem uncancel_timers (s : DState) (cur : Invk) : (uncancel s cur).timers = s.timers := rfl

end Nexus.L2
