/-
  The dealer's procedure lookup (`Dealer.matchProcedure`, Go `syncMatchProcedure`) and callee choice (`pickCallee`).
  `matchProcedure` satisfies the order-independent specification `BestMatch` (exact beats prefix beats wildcard;
  longest pattern wins inside a class), and under key uniqueness the exact / prefix winner does not depend on the
  table order.  `pickCallee` per invocation policy, the round-robin rotation, and the exact condition under which
  the Go code panics.
-/
import Nexus.L2.Dealer
import Nexus.Base.Lemmas

namespace Nexus.L2
open Gen.N

theorem utf8ByteSize_eq_length (s : String) : s.utf8ByteSize = s.toUTF8.toList.length := by
  rw [byteArray_toList_eq]; rfl

theorem isPrefixOf_eq_of_length : ∀ {a b c : List UInt8},
    isPrefixOf a c = true → isPrefixOf b c = true → a.length = b.length → a = b
  | [], [], _, _, _, _ => rfl
  | [], _ :: _, _, _, _, h => by simp at h
  | _ :: _, [], _, _, _, h => by simp at h
  | _ :: _, _ :: _, [], h, _, _ => by simp [isPrefixOf] at h
  | x :: a, y :: b, z :: c, ha, hb, hl => by
    simp only [isPrefixOf, Bool.and_eq_true, decide_eq_true_eq] at ha hb
    have := isPrefixOf_eq_of_length ha.2 hb.2 (by simpa using hl)
    rw [ha.1, hb.1, this]

theorem prefixMatch_eq_of_size {proc p q : String}
    (hp : prefixMatch proc p = true) (hq : prefixMatch proc q = true)
    (hs : p.utf8ByteSize = q.utf8ByteSize) : p = q := by
  rw [utf8ByteSize_eq_length, utf8ByteSize_eq_length] at hs
  exact string_eq_of_utf8_eq (isPrefixOf_eq_of_length hp hq hs)

def Reg.plen (r : Reg) : Nat := r.proc.utf8ByteSize
def Reg.isExactFor (r : Reg) (proc : String) : Prop := r.kind = .exact ∧ r.proc = proc
def Reg.isPfxFor (r : Reg) (proc : String) : Prop := r.kind = .pfx ∧ prefixMatch proc r.proc = true
def Reg.isWildFor (r : Reg) (proc : String) : Prop := r.kind = .wild ∧ wildcardMatch proc r.proc = true

/-- the specification of the lookup as a relation between a table (as a membership predicate, so
independent of table order) and the result -/
def BestMatch (regs : List Reg) (proc : String) (res : Option Reg) : Prop :=
  (∀ r, res = some r → r ∈ regs) ∧
  ((∃ e ∈ regs, e.isExactFor proc) → ∃ r, res = some r ∧ r.isExactFor proc) ∧
  ((¬ ∃ e ∈ regs, e.isExactFor proc) → (∃ p ∈ regs, p.isPfxFor proc) →
      ∃ r, res = some r ∧ r.isPfxFor proc ∧ ∀ p ∈ regs, p.isPfxFor proc → p.plen ≤ r.plen) ∧
  ((¬ ∃ e ∈ regs, e.isExactFor proc) → (¬ ∃ p ∈ regs, p.isPfxFor proc) → (∃ w ∈ regs, w.isWildFor proc) →
      ∃ r, res = some r ∧ r.isWildFor proc ∧ ∀ w ∈ regs, w.isWildFor proc → w.plen ≤ r.plen) ∧
  ((¬ ∃ e ∈ regs, e.isExactFor proc) → (¬ ∃ p ∈ regs, p.isPfxFor proc) → (¬ ∃ w ∈ regs, w.isWildFor proc) → res = none)

theorem bestBy_eq_none (len : Reg → Nat) : ∀ {l : List Reg}, bestBy len l = none ↔ l = []
  | [] => by simp [bestBy]
  | r :: rs => by
    simp only [bestBy, reduceCtorEq, iff_false]
    cases bestBy len rs with
    | none => simp
    | some b => dsimp only; split <;> simp

theorem bestBy_spec {len : Reg → Nat} : ∀ {l : List Reg} {r : Reg},
    bestBy len l = some r → r ∈ l ∧ ∀ x ∈ l, len x ≤ len r
  | [], r, h => by simp [bestBy] at h
  | a :: rs, r, h => by
    simp only [bestBy] at h
    cases hb : bestBy len rs with
    | none =>
      rw [hb] at h
      have hnil : rs = [] := (bestBy_eq_none len).1 hb
      subst hnil
      cases h
      exact ⟨List.mem_singleton.2 rfl, fun x hx => by rw [List.mem_singleton.1 hx]; exact Nat.le_refl _⟩
    | some b =>
      rw [hb] at h
      obtain ⟨hbm, hbmax⟩ := bestBy_spec hb
      dsimp only at h
      by_cases hgt : len b > len a
      · rw [if_pos hgt] at h
        cases h
        refine ⟨List.mem_cons_of_mem _ hbm, fun x hx => ?_⟩
        rcases List.mem_cons.1 hx with rfl | hx
        · exact Nat.le_of_lt hgt
        · exact hbmax x hx
      · rw [if_neg hgt] at h
        cases h
        refine ⟨List.mem_cons_self, fun x hx => ?_⟩
        rcases List.mem_cons.1 hx with rfl | hx
        · exact Nat.le_refl _
        · exact Nat.le_trans (hbmax x hx) (Nat.le_of_not_lt hgt)

def Dealer.pfxCands (d : Dealer) (proc : String) : List Reg :=
  d.regs.filter (fun r => r.kind == .pfx && prefixMatch proc r.proc)

def Dealer.wildCands (d : Dealer) (proc : String) : List Reg :=
  d.regs.filter (fun r => r.kind == .wild && wildcardMatch proc r.proc)

theorem Dealer.mem_pfxCands {d : Dealer} {proc : String} {r : Reg} :
    r ∈ d.pfxCands proc ↔ r ∈ d.regs ∧ r.isPfxFor proc := by
  simp [Dealer.pfxCands, Reg.isPfxFor]

theorem Dealer.mem_wildCands {d : Dealer} {proc : String} {r : Reg} :
    r ∈ d.wildCands proc ↔ r ∈ d.regs ∧ r.isWildFor proc := by
  simp [Dealer.wildCands, Reg.isWildFor]

theorem BestMatch.of_none {regs : List Reg} {proc : String}
    (hnoE : ¬ ∃ e ∈ regs, e.isExactFor proc) (hnoP : ¬ ∃ p ∈ regs, p.isPfxFor proc)
    (hnoW : ¬ ∃ w ∈ regs, w.isWildFor proc) : BestMatch regs proc none := by
  refine ⟨?_, ?_, ?_, ?_, ?_⟩
  · intro x hxr; cases hxr
  · intro he; exact absurd he hnoE
  · intro _ hp; exact absurd hp hnoP
  · intro _ _ hw; exact absurd hw hnoW
  · intro _ _ _; rfl

theorem matchProcedure_bestMatch (d : Dealer) (proc : String) :
    BestMatch d.regs proc (d.matchProcedure proc) := by
  show BestMatch d.regs proc (match d.findProc proc .exact with
    | some r => some r
    | none => match bestBy Reg.plen (d.pfxCands proc) with
      | some r => some r
      | none => bestBy Reg.plen (d.wildCands proc))
  cases hE : d.findProc proc .exact with
  | some r =>
    have hmem : r ∈ d.regs := List.mem_of_find?_eq_some hE
    have hx : r.isExactFor proc := by simpa [Reg.isExactFor] using List.find?_some hE
    exact ⟨fun x hxr => by cases hxr; exact hmem, fun _ => ⟨r, rfl, hx⟩, fun hne => absurd ⟨r, hmem, hx⟩ hne,
      fun hne => absurd ⟨r, hmem, hx⟩ hne, fun hne => absurd ⟨r, hmem, hx⟩ hne⟩
  | none =>
    have hnoE : ¬ ∃ e ∈ d.regs, e.isExactFor proc := by
      rintro ⟨e, he, hx⟩
      simpa [Reg.isExactFor, hx.1, hx.2] using List.find?_eq_none.1 hE e he
    dsimp only
    cases hP : bestBy Reg.plen (d.pfxCands proc) with
    | some r =>
      obtain ⟨hm, hmax⟩ := bestBy_spec hP
      obtain ⟨hmem, hx⟩ := Dealer.mem_pfxCands.1 hm
      exact ⟨fun x hxr => by cases hxr; exact hmem, fun he => absurd he hnoE,
        fun _ _ => ⟨r, rfl, hx, fun p hp hpx => hmax p (Dealer.mem_pfxCands.2 ⟨hp, hpx⟩)⟩,
        fun _ hne => absurd ⟨r, hmem, hx⟩ hne, fun _ hne => absurd ⟨r, hmem, hx⟩ hne⟩
    | none =>
      have hnil := (bestBy_eq_none Reg.plen).1 hP
      have hnoP : ¬ ∃ p ∈ d.regs, p.isPfxFor proc := by
        rintro ⟨p, hp, hpx⟩
        have : p ∈ d.pfxCands proc := Dealer.mem_pfxCands.2 ⟨hp, hpx⟩
        rw [hnil] at this
        cases this
      dsimp only
      cases hW : bestBy Reg.plen (d.wildCands proc) with
      | some r =>
        obtain ⟨hm, hmax⟩ := bestBy_spec hW
        obtain ⟨hmem, hx⟩ := Dealer.mem_wildCands.1 hm
        exact ⟨fun x hxr => by cases hxr; exact hmem, fun he => absurd he hnoE, fun _ hp => absurd hp hnoP,
          fun _ _ _ => ⟨r, rfl, hx, fun w hw hwx => hmax w (Dealer.mem_wildCands.2 ⟨hw, hwx⟩)⟩,
          fun _ _ hne => absurd ⟨r, hmem, hx⟩ hne⟩
      | none =>
        have hnilW := (bestBy_eq_none Reg.plen).1 hW
        have hnoW : ¬ ∃ w ∈ d.regs, w.isWildFor proc := by
          rintro ⟨w, hw, hwx⟩
          have : w ∈ d.wildCands proc := Dealer.mem_wildCands.2 ⟨hw, hwx⟩
          rw [hnilW] at this
          cases this
        exact BestMatch.of_none hnoE hnoP hnoW

theorem BestMatch.of_mem_iff {l l' : List Reg} (h : ∀ r, r ∈ l ↔ r ∈ l') {proc : String}
    {res : Option Reg} : BestMatch l proc res → BestMatch l' proc res := by
  unfold BestMatch
  simp only [h]
  exact id

theorem BestMatch.of_perm {l l' : List Reg} (h : l.Perm l') {proc : String} {res : Option Reg} :
    BestMatch l proc res → BestMatch l' proc res :=
  BestMatch.of_mem_iff (fun _ => h.mem_iff)

def KeyUnique (regs : List Reg) : Prop :=
  regs.Pairwise (fun a b => ¬ (a.kind = b.kind ∧ a.proc = b.proc))

theorem KeyUnique.eq_of : ∀ {regs : List Reg}, KeyUnique regs → ∀ {a b : Reg},
    a ∈ regs → b ∈ regs → a.kind = b.kind → a.proc = b.proc → a = b
  | [], _, _, _, ha, _, _, _ => by cases ha
  | x :: rs, hu, a, b, ha, hb, hk, hp => by
    obtain ⟨hx, hrs⟩ := List.pairwise_cons.1 hu
    rcases List.mem_cons.1 ha with rfl | ha'
    · rcases List.mem_cons.1 hb with rfl | hb'
      · rfl
      · exact absurd ⟨hk, hp⟩ (hx b hb')
    · rcases List.mem_cons.1 hb with rfl | hb'
      · exact absurd ⟨hk.symm, hp.symm⟩ (hx a ha')
      · exact KeyUnique.eq_of (regs := rs) hrs ha' hb' hk hp

theorem KeyUnique.perm {l l' : List Reg} (h : l.Perm l') : KeyUnique l → KeyUnique l' := by
  unfold KeyUnique
  exact (h.pairwise_iff (R := fun (a b : Reg) => ¬ (a.kind = b.kind ∧ a.proc = b.proc))
    (fun hxy hyx => hxy ⟨hyx.1.symm, hyx.2.symm⟩)).1

theorem BestMatch.unique_exact_or_pfx {regs : List Reg} {proc : String} {r1 r2 : Reg}
    (hu : KeyUnique regs)
    (h1 : BestMatch regs proc (some r1)) (h2 : BestMatch regs proc (some r2))
    (hm : (∃ e ∈ regs, e.isExactFor proc) ∨ (∃ p ∈ regs, p.isPfxFor proc)) : r1 = r2 := by
  have hm1 : r1 ∈ regs := h1.1 r1 rfl
  have hm2 : r2 ∈ regs := h2.1 r2 rfl
  by_cases hE : ∃ e ∈ regs, e.isExactFor proc
  · obtain ⟨x1, hx1, he1⟩ := h1.2.1 hE
    obtain ⟨x2, hx2, he2⟩ := h2.2.1 hE
    cases hx1; cases hx2
    exact hu.eq_of hm1 hm2 (he1.1.trans he2.1.symm) (he1.2.trans he2.2.symm)
  · have hP : ∃ p ∈ regs, p.isPfxFor proc := hm.resolve_left hE
    obtain ⟨x1, hx1, hp1, hmax1⟩ := h1.2.2.1 hE hP
    obtain ⟨x2, hx2, hp2, hmax2⟩ := h2.2.2.1 hE hP
    cases hx1; cases hx2
    have hlen : r1.proc.utf8ByteSize = r2.proc.utf8ByteSize :=
      Nat.le_antisymm (hmax2 r1 hm1 hp1) (hmax1 r2 hm2 hp2)
    exact hu.eq_of hm1 hm2 (hp1.1.trans hp2.1.symm) (prefixMatch_eq_of_size hp1.2 hp2.2 hlen)

/-- so under key uniqueness the lookup does not depend on the table order, except among equally
long wildcard patterns -/
theorem matchProcedure_perm (d d' : Dealer) (proc : String) (hp : d.regs.Perm d'.regs)
    (hu : KeyUnique d.regs)
    (hm : (∃ e ∈ d.regs, e.isExactFor proc) ∨ (∃ p ∈ d.regs, p.isPfxFor proc)) :
    d'.matchProcedure proc = d.matchProcedure proc := by
  have h1 : BestMatch d.regs proc (d.matchProcedure proc) := matchProcedure_bestMatch d proc
  have h2 : BestMatch d.regs proc (d'.matchProcedure proc) :=
    BestMatch.of_perm hp.symm (matchProcedure_bestMatch d' proc)
  have hsome : ∀ {res : Option Reg}, BestMatch d.regs proc res → ∃ r, res = some r := by
    intro res h
    by_cases hE : ∃ e ∈ d.regs, e.isExactFor proc
    · obtain ⟨r, hr, _⟩ := h.2.1 hE
      exact ⟨r, hr⟩
    · obtain ⟨r, hr, _⟩ := h.2.2.1 hE (hm.resolve_left hE)
      exact ⟨r, hr⟩
  obtain ⟨r1, hr1⟩ := hsome h1
  obtain ⟨r2, hr2⟩ := hsome h2
  rw [hr1] at h1
  rw [hr2] at h2
  rw [hr1, hr2, BestMatch.unique_exact_or_pfx hu h2 h1 hm]

theorem matchProcedure_mem {d : Dealer} {proc : String} {r : Reg}
    (h : d.matchProcedure proc = some r) : r ∈ d.regs :=
  (matchProcedure_bestMatch d proc).1 r h

theorem matchProcedure_none_iff (d : Dealer) (proc : String) :
    d.matchProcedure proc = none ↔
      ¬ ∃ r ∈ d.regs, r.isExactFor proc ∨ r.isPfxFor proc ∨ r.isWildFor proc := by
  have hb := matchProcedure_bestMatch d proc
  constructor
  · intro hnone
    rw [hnone] at hb
    rintro ⟨r, hr, hx⟩
    by_cases hE : ∃ e ∈ d.regs, e.isExactFor proc
    · obtain ⟨x, hx', _⟩ := hb.2.1 hE
      cases hx'
    · by_cases hP : ∃ p ∈ d.regs, p.isPfxFor proc
      · obtain ⟨x, hx', _⟩ := hb.2.2.1 hE hP
        cases hx'
      · have hW : ∃ w ∈ d.regs, w.isWildFor proc := by
          rcases hx with hx | hx | hx
          · exact absurd ⟨r, hr, hx⟩ hE
          · exact absurd ⟨r, hr, hx⟩ hP
          · exact ⟨r, hr, hx⟩
        obtain ⟨x, hx', _⟩ := hb.2.2.2.1 hE hP hW
        cases hx'
  · intro hno
    refine hb.2.2.2.2 ?_ ?_ ?_
    · rintro ⟨r, hr, hx⟩; exact hno ⟨r, hr, Or.inl hx⟩
    · rintro ⟨r, hr, hx⟩; exact hno ⟨r, hr, Or.inr (Or.inl hx)⟩
    · rintro ⟨r, hr, hx⟩; exact hno ⟨r, hr, Or.inr (Or.inr hx)⟩

/-- where the next round-robin pick reads: the cursor, 0 if beyond the list (dealer.go:751) -/
def rrStart (reg : Reg) : Nat := if reg.next ≥ reg.callees.length then 0 else reg.next

theorem eq_singleton_of {α : Type} {l : List α} (hne : l ≠ []) (h2 : ¬ 2 ≤ l.length) :
    ∃ c, l = [c] := by
  match l, hne, h2 with
  | [], hne, _ => exact absurd rfl hne
  | [c], _, _ => exact ⟨c, rfl⟩
  | _ :: _ :: _, _, h2 => simp at h2

theorem rrStart_lt {reg : Reg} (hne : reg.callees ≠ []) : rrStart reg < reg.callees.length := by
  have hpos : 0 < reg.callees.length := List.length_pos_iff.2 hne
  unfold rrStart
  split <;> omega

theorem pickCallee_single {reg : Reg} {c : SessKey} (h : reg.callees = [c]) (rnd : Nat) :
    pickCallee reg rnd = some (c, reg) := by
  simp [pickCallee, h]

/-- `pickCallee` with at least two callees, written without the pattern match -/
theorem pickCallee_multi {reg : Reg} (h2 : 2 ≤ reg.callees.length) (rnd : Nat) :
    pickCallee reg rnd =
      if reg.policy == InvokeFirst then reg.callees.head?.map (fun x => (x, reg))
      else if reg.policy == InvokeRoundRobin then
        (reg.callees[rrStart reg]?).map (fun x => (x, { reg with next := rrStart reg + 1 }))
      else if reg.policy == InvokeRandom then
        (reg.callees[rnd % reg.callees.length]?).map (fun x => (x, reg))
      else if reg.policy == InvokeLast then reg.callees.getLast?.map (fun x => (x, reg))
      else none := by
  unfold pickCallee rrStart
  match h : reg.callees with
  | [] => simp [h] at h2
  | [c] => simp [h] at h2
  | c :: c' :: cs => simp

theorem policy_ne :
    InvokeRoundRobin ≠ InvokeFirst ∧ InvokeRandom ≠ InvokeFirst ∧ InvokeLast ≠ InvokeFirst ∧
    InvokeRandom ≠ InvokeRoundRobin ∧ InvokeLast ≠ InvokeRoundRobin ∧ InvokeLast ≠ InvokeRandom := by
  decide

theorem pickCallee_first {reg : Reg} {c : SessKey} {cs : List SessKey} (h : reg.callees = c :: cs)
    (hp : reg.policy = InvokeFirst) (rnd : Nat) : pickCallee reg rnd = some (c, reg) := by
  cases cs with
  | nil => exact pickCallee_single h rnd
  | cons c' cs =>
    rw [pickCallee_multi (by simp [h])]
    simp [hp, h]

theorem pickCallee_last {reg : Reg} (hne : reg.callees ≠ []) (hp : reg.policy = InvokeLast) (rnd : Nat) :
    pickCallee reg rnd = some (reg.callees.getLast hne, reg) := by
  have hlast := List.getLast?_eq_some_getLast hne
  by_cases h2 : 2 ≤ reg.callees.length
  · rw [pickCallee_multi h2]
    simp [hp, policy_ne, hlast]
  · obtain ⟨c, hc⟩ : ∃ c, reg.callees = [c] := eq_singleton_of hne h2
    rw [pickCallee_single hc]
    have hl : reg.callees.getLast? = some c := by rw [hc]; rfl
    rw [hlast] at hl
    injection hl with hl
    rw [hl]

theorem pickCallee_random {reg : Reg} (hne : reg.callees ≠ []) (hp : reg.policy = InvokeRandom) (rnd : Nat) :
    ∃ c, pickCallee reg rnd = some (c, reg) ∧ c ∈ reg.callees ∧
      reg.callees[rnd % reg.callees.length]? = some c := by
  have hpos : 0 < reg.callees.length := List.length_pos_iff.2 hne
  have hlt : rnd % reg.callees.length < reg.callees.length := Nat.mod_lt _ hpos
  have hc := List.getElem?_eq_getElem hlt
  refine ⟨reg.callees[rnd % reg.callees.length], ?_, List.getElem_mem hlt, hc⟩
  by_cases h2 : 2 ≤ reg.callees.length
  · rw [pickCallee_multi h2]
    simp [hp, policy_ne, hc]
  · obtain ⟨c, hc1⟩ : ∃ c, reg.callees = [c] := eq_singleton_of hne h2
    rw [pickCallee_single hc1]
    simp [hc1]

theorem pickCallee_rr {reg : Reg} (hne : reg.callees ≠ []) (hp : reg.policy = InvokeRoundRobin) (rnd : Nat) :
    ∃ c, reg.callees[rrStart reg % reg.callees.length]? = some c ∧
      pickCallee reg rnd =
        some (c, if reg.callees.length = 1 then reg else { reg with next := rrStart reg + 1 }) := by
  have hlt := rrStart_lt hne
  have hc := List.getElem?_eq_getElem hlt
  rw [Nat.mod_eq_of_lt hlt]
  refine ⟨reg.callees[rrStart reg], hc, ?_⟩
  by_cases h2 : 2 ≤ reg.callees.length
  · rw [pickCallee_multi h2, if_neg (show ¬ reg.callees.length = 1 by omega)]
    simp [hp, policy_ne, hc]
  · obtain ⟨c, hc1⟩ : ∃ c, reg.callees = [c] := eq_singleton_of hne h2
    have h0 : rrStart reg = 0 := by
      have : rrStart reg < 1 := by simpa [hc1] using hlt
      omega
    rw [pickCallee_single hc1, if_pos (by simp [hc1])]
    simp [hc1, h0]

theorem rrStart_step {reg : Reg} (hne : reg.callees ≠ []) :
    rrStart { reg with next := rrStart reg + 1 } = (rrStart reg + 1) % reg.callees.length := by
  have hlt := rrStart_lt hne
  show (if rrStart reg + 1 ≥ reg.callees.length then 0 else rrStart reg + 1) = _
  split
  · next h =>
    have : rrStart reg + 1 = reg.callees.length := by omega
    rw [this, Nat.mod_self]
  · next h => rw [Nat.mod_eq_of_lt (by omega)]

/-- k consecutive picks on a registration whose callee list does not change: fold `pickCallee`,
collecting the chosen callees and threading the updated registration; stops at `none` -/
def pickIter (reg : Reg) : List Nat → List SessKey × Reg
  | [] => ([], reg)
  | rnd :: rest =>
    match pickCallee reg rnd with
    | none => ([], reg)
    | some (c, reg') =>
      let (cs, r) := pickIter reg' rest
      (c :: cs, r)

/-- the i-th (from 0) of k consecutive round-robin picks hits callee (start + i) mod n -/
theorem pickCallee_rr_rotation {reg : Reg} (hp : reg.policy = InvokeRoundRobin)
    (hn : 2 ≤ reg.callees.length) (rnds : List Nat) :
    (pickIter reg rnds).1.length = rnds.length ∧
    ∀ i (_ : i < rnds.length),
      ((pickIter reg rnds).1)[i]? = reg.callees[(rrStart reg + i) % reg.callees.length]? := by
  induction rnds generalizing reg with
  | nil => exact ⟨rfl, fun i hi => absurd hi (Nat.not_lt_zero i)⟩
  | cons rnd rest ih =>
    have hne : reg.callees ≠ [] := by
      intro h; rw [h] at hn; simp at hn
    obtain ⟨c, hc, hpick⟩ := pickCallee_rr hne hp rnd
    rw [Nat.mod_eq_of_lt (rrStart_lt hne)] at hc
    rw [if_neg (show ¬ reg.callees.length = 1 by omega)] at hpick
    have ih' := ih (reg := { reg with next := rrStart reg + 1 }) hp hn
    have hI : (pickIter reg (rnd :: rest)).1 =
        c :: (pickIter { reg with next := rrStart reg + 1 } rest).1 := by
      simp [pickIter, hpick]
    rw [hI]
    refine ⟨by simp [ih'.1], fun i hi => ?_⟩
    cases i with
    | zero =>
      have h0 : (rrStart reg + 0) % reg.callees.length = rrStart reg :=
        Nat.mod_eq_of_lt (rrStart_lt hne)
      rw [h0, hc]
      rfl
    | succ j =>
      rw [List.getElem?_cons_succ, ih'.2 j (by simpa using hi), rrStart_step hne]
      show reg.callees[((rrStart reg + 1) % reg.callees.length + j) % reg.callees.length]? = _
      rw [Nat.mod_add_mod, Nat.add_assoc, Nat.add_comm 1 j]

theorem pickCallee_mem {reg : Reg} {rnd : Nat} {c : SessKey} {reg' : Reg}
    (h : pickCallee reg rnd = some (c, reg')) :
    c ∈ reg.callees ∧ reg' = { reg with next := reg'.next } := by
  -- every policy picks by position and pairs the pick with the registration, the cursor moved or not
  have pick : ∀ {o : Option SessKey} {r : Reg}, o.map (fun x => (x, r)) = some (c, reg') → o = some c ∧ reg' = r := by
    intro o r ho
    obtain ⟨x, hx, he⟩ := Option.map_eq_some_iff.1 ho
    cases he; exact ⟨hx, rfl⟩
  by_cases h2 : 2 ≤ reg.callees.length
  · rw [pickCallee_multi h2] at h
    split at h
    · exact ⟨List.mem_of_mem_head? (pick h).1, (pick h).2 ▸ rfl⟩
    · split at h
      · exact ⟨List.mem_of_getElem? (pick h).1, (pick h).2 ▸ rfl⟩
      · split at h
        · exact ⟨List.mem_of_getElem? (pick h).1, (pick h).2 ▸ rfl⟩
        · split at h
          · exact ⟨List.mem_of_getLast? (pick h).1, (pick h).2 ▸ rfl⟩
          · cases h
  · by_cases hne : reg.callees = []
    · simp [pickCallee, hne] at h
    · obtain ⟨c0, hcs⟩ := eq_singleton_of hne h2
      rw [pickCallee_single hcs] at h
      cases h
      exact ⟨by rw [hcs]; exact List.mem_singleton.2 rfl, rfl⟩

/-- the only way to get `none` (the Go code panics there): empty list, or ≥ 2 callees under a
policy that is none of first/roundrobin/random/last -/
theorem pickCallee_none_iff (reg : Reg) (rnd : Nat) :
    pickCallee reg rnd = none ↔
      reg.callees = [] ∨
      (2 ≤ reg.callees.length ∧ reg.policy ≠ InvokeFirst ∧ reg.policy ≠ InvokeRoundRobin ∧
        reg.policy ≠ InvokeRandom ∧ reg.policy ≠ InvokeLast) := by
  by_cases hne : reg.callees = []
  · simp [pickCallee, hne]
  · constructor
    · intro hnone
      right
      obtain ⟨c, cs, hcs⟩ := List.exists_cons_of_ne_nil hne
      have h2 : 2 ≤ reg.callees.length := by
        cases cs with
        | nil => rw [pickCallee_single hcs] at hnone; cases hnone
        | cons _ _ => simp [hcs]
      refine ⟨h2, ?_, ?_, ?_, ?_⟩ <;> intro hpol
      · rw [pickCallee_first hcs hpol] at hnone; cases hnone
      · obtain ⟨x, _, hx⟩ := pickCallee_rr hne hpol rnd
        rw [hx] at hnone; cases hnone
      · obtain ⟨x, hx, _⟩ := pickCallee_random hne hpol rnd
        rw [hx] at hnone; cases hnone
      · rw [pickCallee_last hne hpol] at hnone; cases hnone
    · rintro (h | ⟨h2, h1, hrr, hrnd, hl⟩)
      · exact absurd h hne
      · rw [pickCallee_multi h2]
        simp [h1, hrr, hrnd, hl]

namespace DealerMatchEx

def reg (id : Nat) (proc m : String) (policy : String := InvokeSingle) (callees : List SessKey := [7])
    (next : Nat := 0) : Reg :=
  { id := id, proc := proc, «match» := m, policy := policy, disclose := false, fwdTimeout := false,
    next := next, callees := callees }

/-- one exact, two prefix and two wildcard registrations, all of which match `a.b.c` -/
def dealer : Dealer :=
  { regs := [ reg 4 "..c" MatchWildcard, reg 2 "a." MatchPrefix, reg 1 "a.b.c" MatchExact,
              reg 5 ".b.c" MatchWildcard, reg 3 "a.b" MatchPrefix ] }

/-- exact beats the two prefixes and the two wildcards (which all match) -/
example : (dealer.matchProcedure "a.b.c").map (·.id) = some 1 := by decide +kernel
/-- no exact: the longer prefix `a.b` (3 bytes) beats `a.` (2 bytes) -/
example : (dealer.matchProcedure "a.b.d").map (·.id) = some 3 := by decide +kernel
/-- only the shorter prefix matches (and the wildcard `..c`, which loses to any prefix) -/
example : (dealer.matchProcedure "a.x.c").map (·.id) = some 2 := by decide +kernel
/-- no exact, no prefix: the longer wildcard `.b.c` (4 bytes) beats `..c` (3 bytes) -/
example : (dealer.matchProcedure "x.b.c").map (·.id) = some 5 := by decide +kernel
/-- only `..c` matches -/
example : (dealer.matchProcedure "x.y.c").map (·.id) = some 4 := by decide +kernel
/-- nothing matches -/
example : (dealer.matchProcedure "x.y.z").map (·.id) = none := by decide +kernel

/-- round robin over three callees starting at cursor 2: 12, 10, 11, 12; the stored cursor is 3 (wrapped on the next pick) -/
example :
    let r := pickIter (reg 9 "p" MatchExact InvokeRoundRobin [10, 11, 12] 2) [0, 0, 0, 0]
    (r.1, r.2.next) = ([12, 10, 11, 12], 3) := by decide +kernel
/-- a cursor beyond the list (the list shrank) restarts at 0 -/
example :
    (pickIter (reg 9 "p" MatchExact InvokeRoundRobin [10, 11] 5) [0, 0, 0]).1 = [10, 11, 10] := by
  decide +kernel
/-- two callees under policy `single`: the Go code panics -/
example : (pickCallee (reg 9 "p" MatchExact InvokeSingle [10, 11]) 0).isNone = true := by
  decide +kernel

end DealerMatchEx

end Nexus.L2
