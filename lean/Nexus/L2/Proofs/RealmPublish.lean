/-
  Realm-level characterisation of the broker-facing handlers `Realm.handlePublish`,
  `Realm.handleSubscribe`, `Realm.handleUnsubscribe` (router/broker.go `publish`, `subscribe`,
  `unsubscribe` as run by a session's handler goroutine, plus the delivery of what the broker
  goroutine sends): each is `deliver` of an explicit list of sends on an explicit state; per-queue
  consequences through `RealmQueue`; ordering of EVENTs in one recipient's queue (C08); EVENTs are
  produced only for members (C08, SUBSCRIBED … UNSUBSCRIBED bracket).
-/
import Nexus.L2.Proofs.RealmQueue
import Nexus.L2.Proofs.BrokerDeliver
import Nexus.L2.Proofs.RealmMetaEvents

namespace Nexus.L2
namespace Realm
open Gen.N

theorem optFlag_iff (d : Dict) (k : String) : d.optFlag k = true ↔ d.get? k = some (.bool true) := by
  unfold Dict.optFlag WVal.flag
  split
  · rename_i b h; rw [h]; cases b <;> simp
  · rename_i h
    constructor
    · intro hh; cases hh
    · intro hh; exact absurd hh (h true)

theorem handlePublish_invalid (r : Realm) (s : Session) (req : Nat) (opts : Dict) (topic : String) (args : List WVal)
    (kw : Dict) (hv : validUri r.broker.strict "" topic = false) :
    handlePublish r s req opts topic args kw = r.deliver (ackList opts ⟨s.key, invalidUriErr tPUBLISH req⟩) := by
  rw [handlePublish_spec, if_pos hv]

theorem handlePublish_ppt (r : Realm) (s : Session) (req : Nat) (opts : Dict) (topic : String) (args : List WVal)
    (kw : Dict) (hv : validUri r.broker.strict "" topic = true) (hp : pptRefused s opts = true) :
    handlePublish r s req opts topic args kw =
      (r.trySend ⟨s.key, abortMsg "<text>"⟩).ended s.key .aborted := by
  rw [handlePublish_spec, hv, hp]; rfl

theorem handlePublish_refused (r : Realm) (s : Session) (req : Nat) (opts : Dict) (topic : String) (args : List WVal)
    (kw : Dict) (hv : validUri r.broker.strict "" topic = true) (hp : pptRefused s opts = false)
    (hd : discloseRefused r opts = true) :
    handlePublish r s req opts topic args kw =
      r.deliver (ackList opts ⟨s.key, errMsg tPUBLISH req ErrOptionDisallowedDiscloseMe⟩) := by
  rw [handlePublish_spec, hv, hp, hd]; rfl

theorem handlePublish_ok (r : Realm) (s : Session) (req : Nat) (opts : Dict) (topic : String) (args : List WVal)
    (kw : Dict) (hv : validUri r.broker.strict "" topic = true) (hp : pptRefused s opts = false)
    (hd : discloseRefused r opts = false) :
    handlePublish r s req opts topic args kw =
      ({ r with pubCount := r.pubCount + 1,
                broker := (r.broker.syncPublish r.session? r.now (pubOf r s opts topic args kw)).1 } : Realm).deliver
        ((r.broker.syncPublish r.session? r.now (pubOf r s opts topic args kw)).2 ++
          ackList opts ⟨s.key, .published req (pubBase + r.pubCount)⟩) := by
  rw [handlePublish_spec, hv, hp, hd]; rfl

theorem brokerStep_frame (r : Realm) (b : Broker) (n : Nat) (ss : List Send) :
    let r' := ({ r with pubCount := n, broker := b } : Realm).deliver ss
    r'.broker = b ∧ r'.pubCount = n ∧ r'.clients = r.clients ∧ r'.ds = r.ds ∧ r'.closedPeers = r.closedPeers ∧
    r'.ghosts = r.ghosts ∧ r'.ending = r.ending ∧ r'.testaments = r.testaments ∧ r'.retries = r.retries ∧
    r'.now = r.now ∧ r'.cfg = r.cfg :=
  have h := deliver_frame ss ({ r with pubCount := n, broker := b } : Realm)
  ⟨h.broker, h.pubCount, h.clients, h.ds, h.closedPeers, h.ghosts, h.ending, h.testaments, h.retries, h.now, h.cfg⟩

theorem brokerStep_queue (r : Realm) (b : Broker) (n : Nat) (ss : List Send) (k : SessKey) (c : Session)
    (hk : k ≠ metaKey) (hc : r.client? k = some c) :
    (({ r with pubCount := n, broker := b } : Realm).deliver ss).queueOf k =
      accept c.cap (r.queueOf k) (msgsTo k ss) :=
  queueOf_deliver_client ss ({ r with pubCount := n, broker := b } : Realm) k c hk hc

theorem brokerStep_queue_other (r : Realm) (b : Broker) (n : Nat) (ss : List Send) (k : SessKey)
    (hk : k = metaKey ∨ r.client? k = none) :
    (({ r with pubCount := n, broker := b } : Realm).deliver ss).queueOf k = r.queueOf k :=
  queueOf_deliver_other ss ({ r with pubCount := n, broker := b } : Realm) k hk

theorem handleSubscribe_invalid (r : Realm) (s : Session) (req : Nat) (opts : Dict) (topic : String)
    (hv : validUri r.broker.strict (opts.optString OptMatch) topic = false) :
    handleSubscribe r s req opts topic = r.deliver [⟨s.key, invalidUriErr tSUBSCRIBE req⟩] := by
  unfold handleSubscribe
  simp only [hv, Bool.not_false, if_true]
  rfl

theorem handleSubscribe_ok (r : Realm) (s : Session) (req : Nat) (opts : Dict) (topic : String)
    (hv : validUri r.broker.strict (opts.optString OptMatch) topic = true) :
    handleSubscribe r s req opts topic =
      ({ r with pubCount := r.pubCount +
                  (r.broker.syncSubscribe s.key req topic (opts.optString OptMatch) r.pubCount).2.2,
                broker := (r.broker.syncSubscribe s.key req topic (opts.optString OptMatch) r.pubCount).1 } : Realm).deliver
        (r.broker.syncSubscribe s.key req topic (opts.optString OptMatch) r.pubCount).2.1 := by
  unfold handleSubscribe
  simp only [hv, Bool.not_true, Bool.false_eq_true, if_false]

/-- the publication id of an EVENT for subscription `i` -/
def evPubOf (i : Nat) : Msg → Option Nat
  | .event sub pub _ _ _ => if sub = i then some pub else none
  | _ => none

structure PubReq where
  req : Nat
  opts : Dict
  topic : String
  args : List WVal
  kw : Dict

/-- session `s` sends a sequence of PUBLISH messages, each handled to completion -/
def publishSeq (r : Realm) (s : Session) : List PubReq → Realm
  | [] => r
  | x :: rest => publishSeq (handlePublish r s x.req x.opts x.topic x.args x.kw) s rest

/-- the publication ids drawn for those requests, in order (a request that is refused draws none) -/
def publishedIds (r : Realm) (s : Session) : List PubReq → List Nat
  | [] => []
  | x :: rest =>
    (if (handlePublish r s x.req x.opts x.topic x.args x.kw).pubCount = r.pubCount then []
     else [pubBase + r.pubCount]) ++
    publishedIds (handlePublish r s x.req x.opts x.topic x.args x.kw) s rest

theorem accept_sublist (cap : Nat) (ms : List Msg) : ∀ q, ∃ added, accept cap q ms = q ++ added ∧ added.Sublist ms := by
  induction ms with
  | nil => intro q; exact ⟨[], by simp [accept_nil], List.Sublist.refl _⟩
  | cons m ms ih =>
    intro q
    rw [accept_cons]
    split
    · obtain ⟨a, e, hs⟩ := ih (q ++ [m])
      exact ⟨m :: a, by rw [e]; simp, hs.cons_cons m⟩
    · obtain ⟨a, e, hs⟩ := ih q
      exact ⟨a, e, hs.cons m⟩

theorem deliver_added (ss : List Send) (r : Realm) (k : SessKey) (c : Session) (hk : k ≠ metaKey)
    (hc : r.client? k = some c) :
    ∃ added, (r.deliver ss).queueOf k = r.queueOf k ++ added ∧ added.Sublist (msgsTo k ss) := by
  rw [queueOf_deliver_client ss r k c hk hc]
  exact accept_sublist c.cap (msgsTo k ss) (r.queueOf k)

theorem evPubOf_eq (i : Nat) (m : Msg) :
    evPubOf i m = if m.eventSub? == some i then m.eventPub? else none := by
  cases m with
  | event sub pub d a kw => by_cases h : sub = i <;> simp [evPubOf, Msg.eventSub?, Msg.eventPub?, h]
  | _ => rfl

theorem evPubOf_some {i : Nat} {m : Msg} {p : Nat} (h : evPubOf i m = some p) : m.eventSub? = some i := by
  unfold evPubOf at h
  split at h
  · split at h
    · rename_i e; rw [e]; rfl
    · cases h
  · cases h

theorem msgsTo_events (k : SessKey) (i : Nat) (l : List Send) :
    (msgsTo k l).filterMap (evPubOf i) = (through l k i).filterMap (fun x => x.msg.eventPub?) := by
  unfold msgsTo through
  rw [List.filterMap_map, List.filterMap_filter, List.filterMap_filter]
  congr 1; funext x
  simp only [Function.comp, evPubOf_eq]
  cases x.to == k <;> rfl

theorem msgsTo_no_events {ss : List Send} {k : SessKey} {i : Nat}
    (hno : ∀ x ∈ ss, x.to = k → x.msg.eventSub? ≠ some i) : (msgsTo k ss).filterMap (evPubOf i) = [] := by
  rw [msgsTo_events, through, List.filter_eq_nil_iff.mpr, List.filterMap_nil]
  intro x hx hc
  simp only [Bool.and_eq_true, beq_iff_eq] at hc
  exact hno x hx hc.1 hc.2

theorem handlePublish_outcome (r : Realm) (s : Session) (req : Nat) (opts : Dict) (topic : String) (args : List WVal)
    (kw : Dict) :
    (∃ l t e, (∀ x ∈ l, x.msg.eventSub? = none) ∧
      handlePublish r s req opts topic args kw = { r.deliver l with tasks := t, ending := e }) ∨
    ∃ p ack, p.pubId = pubBase + r.pubCount ∧ (∀ x ∈ ack, x.msg.eventSub? = none) ∧
      handlePublish r s req opts topic args kw =
        ({ r with pubCount := r.pubCount + 1, broker := (r.broker.syncPublish r.session? r.now p).1 } : Realm).deliver
          ((r.broker.syncPublish r.session? r.now p).2 ++ ack) := by
  refine handlePublish_cases (P := fun r' => (∃ l t e, (∀ x ∈ l, x.msg.eventSub? = none) ∧
      r' = { r.deliver l with tasks := t, ending := e }) ∨
      ∃ p ack, p.pubId = pubBase + r.pubCount ∧ (∀ x ∈ ack, x.msg.eventSub? = none) ∧ r' =
        ({ r with pubCount := r.pubCount + 1, broker := (r.broker.syncPublish r.session? r.now p).1 } : Realm).deliver
          ((r.broker.syncPublish r.session? r.now p).2 ++ ack))
    r s req opts topic args kw ?_ ?_ ?_ ?_
  · exact .inl ⟨[], _, _, nofun, rfl⟩
  · exact fun uri a => .inl ⟨[⟨s.key, .error tPUBLISH req [] uri a []⟩], _, _,
      fun x hx => List.mem_singleton.mp hx ▸ rfl, rfl⟩
  · exact fun _ _ => .inl ⟨[⟨s.key, abortMsg "<text>"⟩], _, _, fun x hx => List.mem_singleton.mp hx ▸ rfl, rfl⟩
  · refine fun _ _ _ => .inr ⟨_, _, rfl, ?_, rfl⟩
    intro x hx
    unfold ackList at hx
    split at hx
    · exact List.mem_singleton.mp hx ▸ rfl
    · cases hx

theorem handlePublish_pubCount_le (r : Realm) (s : Session) (req : Nat) (opts : Dict) (topic : String)
    (args : List WVal) (kw : Dict) : r.pubCount ≤ (handlePublish r s req opts topic args kw).pubCount := by
  rcases handlePublish_outcome r s req opts topic args kw with ⟨l, _, _, _, h⟩ | ⟨p, ack, _, _, h⟩ <;> rw [h]
  · exact Nat.le_of_eq (deliver_frame l r).pubCount.symm
  · rw [(brokerStep_frame r _ _ _).2.1]; exact Nat.le_succ _

theorem handlePublish_step {r : Realm} (hb : BrokerInv r.broker) (s : Session) (x : PubReq) (k : SessKey)
    (c : Session) (hk : k ≠ metaKey) (hc : r.client? k = some c) (i : Nat) :
    let r' := handlePublish r s x.req x.opts x.topic x.args x.kw
    BrokerInv r'.broker ∧ r'.client? k = some c ∧ r'.broker.subs = r.broker.subs ∧ r.pubCount ≤ r'.pubCount ∧
    ∃ added, r'.queueOf k = r.queueOf k ++ added ∧
      (added.filterMap (evPubOf i)).Sublist (if r'.pubCount = r.pubCount then [] else [pubBase + r.pubCount]) := by
  intro r'
  rcases handlePublish_outcome r s x.req x.opts x.topic x.args x.kw with ⟨l, t, e, hl, h⟩ | ⟨p, ack, hid, hack, h⟩ <;>
    rw [show r' = _ from h]
  · have hf := deliver_frame l r
    obtain ⟨added, e, hs⟩ := deliver_added l r k c hk hc
    refine ⟨hf.broker ▸ hb, (client?_of_frame hf k).trans hc, congrArg _ hf.broker, Nat.le_of_eq hf.pubCount.symm,
      added, e, ?_⟩
    have := hs.filterMap (evPubOf i)
    rw [msgsTo_no_events fun y hy _ => by rw [hl y hy]; nofun] at this
    exact this.trans (List.nil_sublist _)
  · obtain ⟨f1, f2, f3, _⟩ := brokerStep_frame r (r.broker.syncPublish r.session? r.now p).1 (r.pubCount + 1)
      ((r.broker.syncPublish r.session? r.now p).2 ++ ack)
    obtain ⟨added, e, hs⟩ := deliver_added ((r.broker.syncPublish r.session? r.now p).2 ++ ack)
      { r with pubCount := r.pubCount + 1, broker := _ } k c hk hc
    refine ⟨by rw [f1]; exact hb.publish _ _ _, by unfold client?; rw [f3]; exact hc,
      by rw [f1]; exact (syncPublish_tables _ _ _ _).1, by rw [f2]; exact Nat.le_succ _, added, e, ?_⟩
    rw [f2, if_neg (by omega)]
    refine (hs.filterMap (evPubOf i)).trans ?_
    rw [msgsTo_append, List.filterMap_append, msgsTo_no_events (ss := ack) fun y hy _ => by rw [hack y hy]; nofun,
      List.append_nil, msgsTo_events, ← hid]
    rcases syncPublish_events_pub hb r.session? r.now p k i with h | h <;> rw [h]
    · exact List.nil_sublist _
    · exact List.Sublist.refl _

/-- C08 at realm level: while session `s` sends PUBLISH after PUBLISH, the queue of recipient `k`
    only grows, and the EVENTs it gains through subscription `i` carry, in queue order, a
    subsequence of the publication ids drawn for those requests in request order (an id is missing
    when `k` was not a recipient of that publication or its queue was full at that moment). -/
theorem publishSeq_events (s : Session) (k : SessKey) (c : Session) (hk : k ≠ metaKey) (i : Nat) :
    ∀ (ps : List PubReq) {r : Realm}, BrokerInv r.broker → r.client? k = some c →
      ∃ added, (publishSeq r s ps).queueOf k = r.queueOf k ++ added ∧
        (added.filterMap (evPubOf i)).Sublist (publishedIds r s ps)
  | [], r, _, _ => ⟨[], by simp [publishSeq], List.Sublist.refl _⟩
  | x :: rest, r, hb, hc => by
    obtain ⟨hb', hc', _, _, a1, e1, s1⟩ := handlePublish_step hb s x k c hk hc i
    obtain ⟨a2, e2, s2⟩ := publishSeq_events s k c hk i rest hb' hc'
    refine ⟨a1 ++ a2, ?_, ?_⟩
    · simp only [publishSeq]
      rw [e2, e1, List.append_assoc]
    · simp only [publishedIds]
      rw [List.filterMap_append]
      exact List.Sublist.append s1 s2

theorem publishedIds_increasing (s : Session) : ∀ (ps : List PubReq) (r : Realm),
    (∀ n ∈ publishedIds r s ps, pubBase + r.pubCount ≤ n) ∧ (publishedIds r s ps).Pairwise (· < ·)
  | [], _ => ⟨fun _ h => (nomatch h), List.Pairwise.nil⟩
  | x :: rest, r => by
    obtain ⟨ih1, ih2⟩ := publishedIds_increasing s rest (handlePublish r s x.req x.opts x.topic x.args x.kw)
    have hmono := handlePublish_pubCount_le r s x.req x.opts x.topic x.args x.kw
    simp only [publishedIds]
    constructor
    · intro n hn
      rcases List.mem_append.mp hn with h | h
      · split at h
        · cases h
        · rw [List.mem_singleton.mp h]; exact Nat.le_refl _
      · have := ih1 n h; omega
    · rw [List.pairwise_append]
      refine ⟨?_, ih2, ?_⟩
      · split
        · exact List.Pairwise.nil
        · exact List.pairwise_singleton _ _
      · intro a ha b hb
        split at ha
        · cases ha
        · rename_i hne
          rw [List.mem_singleton.mp ha]
          have := ih1 b hb
          omega

/-- broker-facing inputs of attached sessions -/
inductive BMsg where
  | publish (s : Session) (x : PubReq)
  | subscribe (s : Session) (req : Nat) (opts : Dict) (topic : String)
  | unsubscribe (s : Session) (req sub : Nat)

def handleB (r : Realm) : BMsg → Realm
  | .publish s x => handlePublish r s x.req x.opts x.topic x.args x.kw
  | .subscribe s req opts topic => handleSubscribe r s req opts topic
  | .unsubscribe s req sub => handleUnsubscribe r s req sub

def runB (r : Realm) (l : List BMsg) : Realm := l.foldl handleB r

/-- the publication ids of the EVENTs for subscription `i` in a queue, in order -/
def eventsOf (i : Nat) (q : List Msg) : List Nat := q.filterMap (evPubOf i)

theorem msgsTo_others {k : SessKey} {l : List Send} (h : ∀ x ∈ l, x.to ≠ k) : msgsTo k l = [] := by
  rw [msgsTo, List.filter_eq_nil_iff.mpr fun x hx => by simpa using h x hx, List.map_nil]

theorem handleSubscribe_reply {r : Realm} (hb : BrokerInv r.broker) (s c : Session) (req : Nat) (opts : Dict)
    (topic : String) (hv : validUri r.broker.strict (opts.optString OptMatch) topic = true)
    (hk : s.key ≠ metaKey) (hc : r.client? s.key = some c) :
    ∃ id, (handleSubscribe r s req opts topic).queueOf s.key =
        accept c.cap (r.queueOf s.key) [.subscribed req id] ∧
      (handleSubscribe r s req opts topic).broker.isMember s.key id := by
  obtain ⟨id, rest, hs, hrest, hmem⟩ := syncSubscribe_members hb s.key req topic (opts.optString OptMatch) r.pubCount
  rw [handleSubscribe_ok r s req opts topic hv]
  refine ⟨id, ?_, (brokerStep_frame r _ _ _).1 ▸ (hmem _ _).mpr (.inr ⟨rfl, rfl⟩)⟩
  rw [brokerStep_queue r _ _ _ s.key c hk hc, hs, msgsTo_cons, if_pos rfl, msgsTo_others fun x hx => (hrest x hx).1]

theorem handleUnsubscribe_reply {r : Realm} (hb : BrokerInv r.broker) (s c : Session) (req sub : Nat)
    (hk : s.key ≠ metaKey) (hc : r.client? s.key = some c) :
    (r.broker.isMember s.key sub →
      (handleUnsubscribe r s req sub).queueOf s.key = accept c.cap (r.queueOf s.key) [.unsubscribed req] ∧
      ¬ (handleUnsubscribe r s req sub).broker.isMember s.key sub) ∧
    (¬ r.broker.isMember s.key sub →
      (handleUnsubscribe r s req sub).queueOf s.key =
        accept c.cap (r.queueOf s.key) [.error tUNSUBSCRIBE req [] ErrNoSuchSubscription [] []] ∧
      (handleUnsubscribe r s req sub).broker = r.broker) := by
  rw [handleUnsubscribe_eq]
  dsimp only
  rw [brokerStep_queue r _ _ _ s.key c hk hc, (brokerStep_frame r _ _ _).1]
  refine ⟨fun hm => ?_, fun hm => ?_⟩
  · obtain ⟨rest, hs, hrest⟩ := syncUnsubscribe_members hb s.key req sub r.pubCount hm
    rw [hs, msgsTo_cons, if_pos rfl, msgsTo_others fun x hx => (hrest x hx).1]
    exact ⟨rfl, fun h => ((syncUnsubscribe_isMember hb s.key req sub r.pubCount _ _).mp h).2 ⟨rfl, rfl⟩⟩
  · rw [syncUnsubscribe_not_member hm]
    exact ⟨by simp only [msgsTo_cons, if_true, msgsTo_nil]; rfl, rfl⟩

end Realm
end Nexus.L2
