/-
  Nothing ever ends the meta session (C04) — the invariant `MetaSafe`.

  The meta session (key `metaKey`) publishes the meta events and the testaments and answers the
  meta-procedure invocations.  The handlers abort / end exactly one session: the sender of the message
  being handled (`eff_handleMsg`).  The meta session "sends"
    * publications whose options come from testaments: the only abort branch of `handlePublish` is
      "uses payload passthru without announcing the feature" — dead for the meta session, whose roles
      announce it (`Realm.metaS`; finding F44, fixed in /repo by 4df1911);
    * the answers of the meta-procedure handler: `YIELD` with empty options (so the PPT abort branch of
      `syncYield` is dead) or `ERROR` of type INVOCATION (no violation) — `cleanAnswer`;
    * retried YIELDs of that kind (`retryDue`).
  `MetaSafe` says so for a state; it is kept by every atomic action and every input (`MetaSafe.keeps`,
  `MetaSafe.stepOp`): a `join` or `drop` that names `metaKey` is a no-op of the model (the router draws random
  non-zero session ids different from the meta id).
-/
import Nexus.L2.Proofs.ControlActions

namespace Nexus.L2.WpC
open Nexus.L2 Nexus.L2.Realm Nexus.Gen.N

/-- The pending tasks `MetaSafe` admits.  Each invariant has its own predicate on the tasks in the list — `TaskOk` for
    `RealmInv` (the meta session's message is an answer; `cleanAnswer` is more), `TOk P` for the trace invariants — and
    one on the tasks an action may append: `NewTask P` for `Eff` (which gives `MTaskOk`: `mtaskOk_of_new`), `NewOk` for
    `TG` (which gives `TOk P`: `NewOk.tOk`). -/
def MTaskOk : Task → Prop
  | .leave j _ => j ≠ metaKey
  | .metaMsg m => cleanAnswer m = true
  | _ => True

structure MetaSafe (r : Realm) : Prop where
  noClient : ∀ c ∈ r.clients, c.key ≠ metaKey
  ending : metaKey ∉ r.ending
  tasks : ∀ t ∈ r.tasks, MTaskOk t
  deferred : ∀ d ∈ r.deferred, d.1 ≠ metaKey
  retries : ∀ x ∈ r.retries, x.callee = metaKey → pptScheme x.opts = ""
  mkey : r.metaS.key = metaKey
  metaPPT : r.metaS.hasFeature RolePublisher FeaturePayloadPassthruMode = true

theorem MetaSafe.client_ne {r : Realm} (h : MetaSafe r) {k : SessKey} (hk : r.isClient k) : k ≠ metaKey := by
  obtain ⟨c, hc, rfl⟩ := hk
  exact h.noClient c hc

theorem MetaSafe.congr {r r' : Realm} (hm : MetaSafe r) (hc : r'.clients = r.clients) (he : r'.ending = r.ending)
    (ht : r'.tasks = r.tasks) (hd : r'.deferred = r.deferred) (hr : r'.retries = r.retries) (hs : r'.metaS = r.metaS) :
    MetaSafe r' :=
  ⟨hc ▸ hm.noClient, he ▸ hm.ending, ht ▸ hm.tasks, hd ▸ hm.deferred, hr ▸ hm.retries, hs ▸ hm.mkey, hs ▸ hm.metaPPT⟩

theorem MetaSafe.tail {r : Realm} (hm : MetaSafe r) {t : Task} {ts : List Task} (ht : r.tasks = t :: ts) :
    MetaSafe ({ r with tasks := ts } : Realm) ∧ MTaskOk t :=
  ⟨{ hm with tasks := fun t' ht' => hm.tasks t' (by rw [ht]; exact List.mem_cons_of_mem _ ht') },
   hm.tasks t (by rw [ht]; exact List.mem_cons_self ..)⟩

theorem syncYield_aborts_nil (env : DEnv) (s : DState) (callee : SessKey) (req : Nat) (opts : Dict)
    (args : List WVal) (kw : Dict) (progress canRetry : Bool) (hp : pptScheme opts = "") :
    (syncYield env s callee req opts args kw progress canRetry).aborts = [] := by
  apply syncYield_cases (P := fun o => o.aborts = [])
  case calleeBad =>
    intro _ _ _ _ h1
    rw [yieldPptCalleeBad, hp] at h1
    cases h1
  case giveup => intros; exact syncCancel_aborts ..
  all_goals intros; rfl

/-- the sessions a client-side action in state `r` may end: attached, not yet ending -/
def ActP (r : Realm) (j : SessKey) : Prop := r.isClient j ∧ r.ending.contains j = false

/-- the `Retry` entries an action in state `r` may create: first turn 1 ms later, for an attached, not
    ending, not busy session — or for the meta session, with empty YIELD options -/
def ActQ (r : Realm) (x : Retry) : Prop :=
  x.start = r.now ∧ x.next = r.now + yieldRetryDelayMs ∧ x.delay = yieldRetryDelayMs ∧
  ((r.isClient x.callee ∧ r.ending.contains x.callee = false ∧ r.busy x.callee = false) ∨
   (x.callee = metaKey ∧ x.opts = []))

/-- The five shapes of one internal task (`runTask`), as far as the control fields go. -/
inductive TaskAct (r : Realm) : Realm → Prop
  | eff {r'} : Eff (ActP r) (ActQ r) r r' → TaskAct r r'
  | invoke {r'} : MetaAct r r' → TaskAct r r'
  | defer (k : SessKey) (mode : LeaveMode) : k ≠ metaKey → r.busy k = true →
      TaskAct r { r with deferred := r.deferred ++ [(k, mode)] }
  | leave (k : SessKey) (mode : LeaveMode) (s : Session) : k ≠ metaKey →
      r.clients.find? (fun c => c.key == k) = some s → r.busy k = false → TaskAct r (r.leave k mode)
  | none : TaskAct r r

theorem eff_metaMsg {r : Realm} (hm : MetaSafe r) (m : Msg) (hc : cleanAnswer m = true) :
    Eff (ActP r) (ActQ r) r (handleMsg r r.metaS m) := by
  rw [handleMsg_eq, authzGate_meta r r.metaS m hm.mkey]
  simp only [if_true]
  cases m
  case yield req opts args kw =>
    have ho : opts = [] := by
      cases opts with
      | nil => rfl
      | cons a b => cases hc
    subst ho
    refine eff_handleYield _ _ _ _ _ _ ?_ ?_
    · rw [syncYield_aborts_nil _ _ _ _ _ _ _ _ _ (by decide)]
      intro j hj; cases hj
    · exact fun _ => ⟨rfl, rfl, rfl, Or.inr ⟨hm.mkey, rfl⟩⟩
  case error typ req details err args kw =>
    have ht : typ = tINVOCATION := by simpa [cleanAnswer] using hc
    subst ht
    have e : Realm.dispatch r r.metaS (.error tINVOCATION req details err args kw) =
        handleError r r.metaS req details err args kw := by
      unfold Realm.dispatch
      simp only
      rw [if_neg (by decide)]
    rw [e]
    exact eff_applyD_nil (syncError_aborts ..)
  all_goals cases hc

theorem eff_metaPub {r : Realm} (hm : MetaSafe r) (p : MetaPub) {P : SessKey → Prop} {Q : Retry → Prop} :
    Eff P Q r (r.metaPublish p) :=
  eff_handlePublish _ _ _ _ _ _ _ (fun h => by rw [hm.metaPPT] at h; simp at h)

theorem runTask_act {r : Realm} (hm : MetaSafe r) (t : Task) (ht : MTaskOk t) : TaskAct r (r.runTask t) := by
  cases t with
  | metaPub p => exact .eff (eff_metaPub hm p)
  | metaInvoke req reg details args kw => exact .invoke (metaInvoke_act r req reg details args kw)
  | metaMsg m => exact .eff (eff_metaMsg hm m ht)
  | inMsg k m =>
    refine .eff ((eff_recvMsg r k m).mono ?_ ?_)
    · rintro j ⟨rfl, h1, h2⟩; exact ⟨h1, h2⟩
    · rintro x ⟨⟨req, opts, args, kw, _, rfl, _, _⟩, h1, h2, h3⟩
      exact ⟨rfl, rfl, rfl, Or.inl ⟨h1, h2, h3⟩⟩
  | leave k mode =>
    rw [runTask_leave]
    split
    · rename_i hb; exact .defer k mode ht hb
    · rename_i hb
      exact leave_cases r k mode (fun _ => .none) fun s hf => .leave k mode s ht hf (by simpa using hb)

theorem mtaskOk_of_new {P : SessKey → Prop} (hp : ∀ j, P j → j ≠ metaKey) : ∀ {t : Task}, NewTask P t → MTaskOk t
  | .leave j _, h => hp j h
  | .metaPub _, _ => trivial
  | .metaInvoke .., _ => trivial
  | .metaMsg _, h => h.elim
  | .inMsg .., h => h.elim

theorem MetaSafe.eff {r r' : Realm} {P : SessKey → Prop} {Q : Retry → Prop} (hm : MetaSafe r) (h : Eff P Q r r')
    (hp : ∀ j, P j → j ≠ metaKey) (hq : ∀ x, Q x → x.callee = metaKey → pptScheme x.opts = "") : MetaSafe r' := by
  refine ⟨by rw [h.clients]; exact hm.noClient, fun hin => ?_, Grown.forall h.tasks hm.tasks fun _ => mtaskOk_of_new hp,
    by rw [h.deferred]; exact hm.deferred, Grown.forall h.retries hm.retries hq,
    by rw [h.metaS]; exact hm.mkey, by rw [h.metaS]; exact hm.metaPPT⟩
  exact Grown.forall (q := (· ≠ metaKey)) h.ending (fun _ hj e => hm.ending (e ▸ hj)) hp _ hin rfl

/-- what every shape of `TaskAct` has in common: no client joins, no task and no mark of an attached session goes, the
    retry table grows by entries of `ActQ` -/
theorem taskAct_frame {r r' : Realm} (h : TaskAct r r') :
    (∀ j, r'.isClient j → r.isClient j) ∧ (∀ t ∈ r.tasks, t ∈ r'.tasks) ∧
    (∀ k, r'.isClient k → k ∈ r.ending → k ∈ r'.ending) ∧
    Grown (ActQ r) r.retries r'.retries := by
  cases h with
  | eff h => exact ⟨fun j => (h.isClient j).mp, Grown.subset h.tasks, fun k _ => Grown.subset h.ending k, h.retries⟩
  | invoke h =>
    obtain ⟨ts, rsp, hts, _, _⟩ := h.tasks
    exact ⟨fun j => (h.isClient j).mp, fun t ht => hts ▸ List.mem_append_left _ (List.mem_append_left _ ht),
      fun k _ => Grown.subset h.ending k, Grown.of_eq h.retries⟩
  | defer k' mode _ _ => exact ⟨fun _ h => h, fun _ h => h, fun _ _ h => h, Grown.of_eq rfl⟩
  | none => exact ⟨fun _ h => h, fun _ h => h, fun _ _ h => h, Grown.of_eq rfl⟩
  | leave k' mode s _ hf _ =>
    have lc := leave_ctl mode hf
    refine ⟨fun j ⟨c, hc, e⟩ => ⟨c, (List.mem_filter.mp (lc.clients ▸ hc)).1, e⟩, Grown.subset lc.tasks,
      fun k ⟨c, hc, e⟩ hke => ?_, Grown.of_eq lc.retries⟩
    have := (List.mem_filter.mp (lc.clients ▸ hc)).2
    rw [e] at this
    exact lc.ending ▸ List.mem_filter.mpr ⟨hke, this⟩

theorem MetaSafe.taskAct {r r' : Realm} (hm : MetaSafe r) (h : TaskAct r r') : MetaSafe r' := by
  cases h with
  | eff h =>
    refine hm.eff h (fun _ h => hm.client_ne h.1) ?_
    rintro x ⟨_, _, _, h | h⟩ hk
    · exact absurd hk (hm.client_ne h.1)
    · rw [h.2]; decide
  | none => exact hm
  | defer k mode hk hb =>
    exact { hm with
      deferred := List.forall_mem_append.mpr ⟨hm.deferred, List.forall_mem_singleton.mpr hk⟩ }
  | leave k mode s hk hf hb =>
    have lc := leave_ctl mode hf
    refine ⟨?_, ?_, Grown.forall lc.tasks hm.tasks fun _ => mtaskOk_of_new fun _ h => h.elim,
      by rw [lc.deferred]; exact hm.deferred, by rw [lc.retries]; exact hm.retries, by rw [lc.metaS]; exact hm.mkey,
      by rw [lc.metaS]; exact hm.metaPPT⟩
    · rw [lc.clients]; intro c hc; exact hm.noClient c (List.mem_filter.mp hc).1
    · rw [lc.ending]; intro hin; exact hm.ending (List.mem_filter.mp hin).1
  | invoke h =>
    obtain ⟨e, he, pe⟩ := h.ending
    obtain ⟨ts, rsp, hts, hrsp, pts⟩ := h.tasks
    refine ⟨?_, ?_, ?_, by rw [h.deferred]; exact hm.deferred, by rw [h.retries]; exact hm.retries,
      by rw [h.metaS]; exact hm.mkey, by rw [h.metaS]; exact hm.metaPPT⟩
    · exact fun c hc => hm.client_ne ((h.isClient c.key).mp ⟨c, hc, rfl⟩)
    · rw [he]
      exact fun hin => (List.mem_append.mp hin).elim hm.ending (fun hin => hm.client_ne (pe _ hin).1 rfl)
    · rw [hts]
      refine List.forall_mem_append.mpr ⟨List.forall_mem_append.mpr ⟨hm.tasks, fun t ht => ?_⟩, fun t ht => ?_⟩
      · obtain ⟨j, mode, rfl, hj, _⟩ := pts t ht
        exact hm.client_ne hj
      · rw [List.mem_singleton.mp ht]; exact hrsp

theorem MetaSafe.runTask {r : Realm} (hm : MetaSafe r) (t : Task) (ht : MTaskOk t) : MetaSafe (r.runTask t) :=
  hm.taskAct (runTask_act hm t ht)

/-- an external input that does not use the meta session's key as a client key.  (Not a hypothesis of
    anything below: `join metaKey` and `drop metaKey` are no-ops of the model.) -/
def OpK : Op → Prop
  | .join k .. => k ≠ metaKey
  | .drop k => k ≠ metaKey
  | _ => True

theorem MetaSafe.map_clients {r : Realm} (hm : MetaSafe r) (f : Session → Session) (hf : ∀ c, (f c).key = c.key)
    (gh : List SessKey) : MetaSafe { r with clients := r.clients.map f, ghosts := gh } := by
  refine { hm with noClient := fun c hc => ?_ }
  obtain ⟨c0, h0, rfl⟩ := List.mem_map.mp hc
  rw [hf]; exact hm.noClient c0 h0

theorem MetaSafe.stepOp {r : Realm} (hm : MetaSafe r) (op : Op) : MetaSafe (r.stepOp op) :=
  stepOp_cases r op hm
    (fun k _ _ _ _ _ hop _ => { hm with
      noClient := List.forall_mem_append.mpr ⟨hm.noClient, List.forall_mem_singleton.mpr hop⟩
      tasks := List.forall_mem_append.mpr ⟨hm.tasks, fun t ht => by rw [List.mem_singleton.mp ht]; trivial⟩ })
    (fun k m _ => hm.taskAct (runTask_act hm (.inMsg k m) trivial))
    (fun k _ gh hg _ => hm.map_clients _ (hg.at_key · k) gh)
    (fun k ⟨c, hc, hk⟩ _ => hm.eff (eff_end (P := (· ≠ metaKey)) (Q := fun _ => False) r k .lost (hk ▸ hm.noClient c hc))
      (fun _ h => h) (fun _ h => h.elim))
    (fun _ => hm.congr rfl rfl rfl rfl rfl rfl)

theorem MetaSafe.timerDue {r : Realm} (hm : MetaSafe r) (t : Timer) : MetaSafe (r.timerDue t) :=
  hm.eff (eff_timerDue (P := fun _ => False) (Q := fun _ => False) r t) (fun _ h => absurd h id) (fun _ h => absurd h id)

theorem retryOut_aborts {r : Realm} (hm : MetaSafe r) {x : Retry} (hx : x ∈ r.retries) :
    ∀ j ∈ (retryOut r x).aborts, j = x.callee ∧ j ≠ metaKey := by
  intro j hj
  have hjc : j = x.callee := syncYield_aborts _ _ _ _ _ _ _ _ _ j hj
  refine ⟨hjc, ?_⟩
  intro hjm
  have : (retryOut r x).aborts = [] :=
    syncYield_aborts_nil _ _ _ _ _ _ _ _ _ (hm.retries x hx (hjc ▸ hjm))
  rw [this] at hj; cases hj

theorem MetaSafe.retryDue {r : Realm} (hm : MetaSafe r) {x : Retry} (hx : x ∈ r.retries) : MetaSafe (r.retryDue x) := by
  have hm1 : MetaSafe ({ r with retries := r.retries.filter (fun y => y.callee != x.callee) } : Realm) :=
    { hm with retries := fun y hy => hm.retries y (List.mem_filter.mp hy).1 }
  have hm2 : MetaSafe (retryMid r x) := hm1.eff (eff_applyD (P := fun j => j ≠ metaKey) (Q := fun _ => False) _ _
    (fun j hj => (retryOut_aborts hm hx j hj).2)) (fun _ h => h) (fun _ h => h.elim)
  refine retryDue_cases r x ?_ ?_
  · exact ⟨hm2.noClient, hm2.ending, hm2.tasks, hm2.deferred,
      List.forall_mem_append.mpr ⟨hm2.retries, List.forall_mem_singleton.mpr (hm.retries x hx)⟩,
      hm2.mkey, hm2.metaPPT⟩
  · refine ⟨hm2.noClient, hm2.ending, ?_, fun d hd => hm2.deferred d (List.mem_filter.mp hd).1, hm2.retries,
      hm2.mkey, hm2.metaPPT⟩
    refine List.forall_mem_append.mpr ⟨List.forall_mem_append.mpr ⟨hm2.tasks, fun t ht => ?_⟩, fun t ht => ?_⟩
    · obtain ⟨d, _, rfl⟩ := List.mem_map.mp ht; trivial
    · obtain ⟨d, hd, rfl⟩ := List.mem_map.mp ht
      exact hm2.deferred d (List.mem_filter.mp hd).1

theorem MetaSafe.setPanic {r : Realm} (hm : MetaSafe r) (p : Option String) : MetaSafe (r.setPanic p) :=
  have f := setPanic_frame r p
  hm.congr f.clients f.ending (setPanic_tasks r p) f.deferred f.retries f.metaS

theorem MetaSafe.keeps : Keeps (fun _ => True) MetaSafe where
  task ht _ h := (h.tail ht).1.runTask _ (h.tail ht).2
  timer _ _ h := h.timerDue _
  retry hd _ h := h.retryDue (nextDue_retry hd)
  now _ _ h := h.congr rfl rfl rfl rfl rfl rfl
  fuel _ _ h := h.setPanic _
  flush _ h := h.congr rfl rfl rfl rfl rfl rfl

theorem MetaSafe.advance : ∀ (fuel : Nat) {r : Realm} (target : Nat), MetaSafe r → MetaSafe (advance fuel r target) :=
  fun fuel _ target => MetaSafe.keeps.advance fuel target

theorem create_metaSafe {cfg : Config} {r : Realm} (h : Realm.create cfg = some r) : MetaSafe r ∧ r.deferred = [] ∧ r.ending = [] := by
  rw [create_some h, registerMeta_eq]
  refine ⟨⟨?_, ?_, ?_, ?_, ?_, rfl, ?_⟩, rfl, rfl⟩
  · intro c hc; cases hc
  · intro hin; cases hin
  · intro t ht; cases ht
  · intro d hd; cases hd
  · intro x hx; cases hx
  · exact (by decide : ({} : Realm).metaS.hasFeature RolePublisher FeaturePayloadPassthruMode = true)

theorem _root_.Nexus.L2.Realm.Reachable.metaSafe {cfg : Config} {r : Realm} (h : Realm.Reachable cfg r) : MetaSafe r :=
  Sound.reachable (MetaSafe.keeps.weaken fun _ _ => trivial) (fun _ hc => (create_metaSafe hc).1)
    (fun _ op _ hm => hm.stepOp op) h

/-- realm states reachable by inputs that never use the meta session's key as a client key
    (a restriction `MetaSafe` does not need: every `Realm.Reachable` state is `MetaSafe`, see above) -/
inductive ReachableK (cfg : Config) : Realm → Prop
  | init {r : Realm} : Realm.create cfg = some r → ReachableK cfg r
  | step {r : Realm} (op : Op) : ReachableK cfg r → OpK op → ReachableK cfg (r.step op).2

theorem ReachableK.reachable {cfg : Config} {r : Realm} (h : ReachableK cfg r) : Realm.Reachable cfg r := by
  induction h with
  | init h => exact .init h
  | step op _ _ ih => exact .step op ih

theorem ReachableK.metaSafe {cfg : Config} {r : Realm} (h : ReachableK cfg r) : MetaSafe r :=
  h.reachable.metaSafe

end Nexus.L2.WpC
