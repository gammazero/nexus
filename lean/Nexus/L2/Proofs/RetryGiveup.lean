/-
  C07 (yield retry loop): the last turn (phase 16) and who can make the dealer answer "again".
-/
import Nexus.L2.Proofs.RetryInv

namespace Nexus.L2.WpC
open Nexus.L2.Realm Gen.N

theorem retryOut_giveup {r : Realm} (hd : DealerInv r.ds) {x : Retry} (hp : InPhase x 16) (hnow : r.now = x.next)
    {v : Invk} (hf : r.ds.d.findInv ⟨x.callee, x.req⟩ = some v) (hfull : r.isFull v.callId.sess = true)
    (h1 : yieldPptCalleeBad r.denv x.callee x.opts = false)
    (h2 : yieldPptCallerBad r.denv v.callId.sess x.opts = false) :
    retryOut r x =
      if v.canceled then { st := yieldFinish r.ds x.progress v ⟨x.callee, x.req⟩ }
      else
        { st := { cancelMark (yieldTimer r.ds x.progress v) v with
                  d := (cancelMark (yieldTimer r.ds x.progress v) v).d.forget v.callId ⟨x.callee, x.req⟩ }
          sends := (if canInterrupt r.denv v CancelModeKillNoWait
                    then [interruptOf v ⟨x.callee, x.req⟩ CancelModeKillNoWait ErrCanceled] else []) ++
                   [callErr v.callId [] ErrCanceled [] []] } := by
  obtain ⟨hv, hid⟩ := findInv_some_mem hf
  rw [(retryOut_last hp hnow).2.2.1, syncYield_some' hd.call x.opts x.args x.kw x.progress false hf]
  exact yieldOut_giveup hd x.args x.kw x.progress hv hid h1 h2 hfull

theorem applyD_full_queue (r : Realm) (o : DOut) {k : SessKey} (hfull : r.isFull k = true)
    (hk : r.isClient k) : (r.applyD o).dqueueOf k = r.dqueueOf k := by
  unfold isFull at hfull
  by_cases hm : k = metaKey
  · rw [if_pos hm] at hfull; cases hfull
  · rw [if_neg hm] at hfull
    unfold session? at hfull
    rw [if_neg hm] at hfull
    cases hc : r.clients.find? (fun s => s.key == k) with
    | none =>
      obtain ⟨c, hcm, hck⟩ := hk
      have := List.find?_eq_none.mp hc c hcm
      simp [hck] at this
    | some c =>
      rw [hc] at hfull
      simp only [ge_iff_le, decide_eq_true_eq] at hfull
      rw [dapplyD_queueOf r o hm hc]
      have : c.cap - r.queueLen k = 0 := by omega
      rw [this]
      simp

theorem retryDue_full_queue (r : Realm) (x : Retry) {k : SessKey} (hfull : r.isFull k = true) (hk : r.isClient k) :
    (r.retryDue x).dqueueOf k = r.dqueueOf k := by
  -- after the dealer part the turn touches no queue
  have hq : (r.retryDue x).queues = (retryMid r x).queues := by
    rw [retryDue_eq]; split <;> rfl
  have e : (retryMid r x).dqueueOf k = r.dqueueOf k := applyD_full_queue _ _ hfull hk
  unfold dqueueOf at e ⊢
  rw [hq]
  exact e

theorem syncYield_again_full {env : DEnv} {s : DState} {callee : SessKey} {req : Nat} {opts : Dict} {args : List WVal}
    {kw : Dict} {progress : Bool}
    (h : (syncYield env s callee req opts args kw progress true).again = true) :
    ∃ v ∈ s.d.invs, v.id = ⟨callee, req⟩ ∧ v.callee = callee ∧ env.full v.callId.sess = true := by
  revert h
  apply syncYield_cases (P := fun o => o.again = true →
    ∃ v ∈ s.d.invs, v.id = ⟨callee, req⟩ ∧ v.callee = callee ∧ env.full v.callId.sess = true)
  case retry => intro v hf he _ _ _ hfull _ _; exact ⟨v, (findInv_some_mem hf).1, (findInv_some_mem hf).2, he, hfull⟩
  all_goals intros; contradiction

theorem Enter.none_full {k : SessKey} {r r' : Realm} (e : Enter k r r')
    (hfree : ∀ v ∈ r.ds.d.invs, v.callee = k → r.isFull v.callId.sess = false) : r'.retries = r.retries := by
  obtain ⟨_, hr | ⟨req, opts, args, kw, ha, _⟩⟩ := e
  · exact hr
  · obtain ⟨v, hv, _, hc, hfull⟩ := syncYield_again_full ha
    have := hfree v hv hc
    have hfull' : r.isFull v.callId.sess = true := hfull
    rw [this] at hfull'
    cases hfull'

theorem Enter.mem {k : SessKey} {r r' : Realm} (e : Enter k r r') {x : Retry} (hx : x ∈ r'.retries) :
    x ∈ r.retries ∨ x.callee = k := by
  obtain ⟨_, hr | ⟨req, opts, args, kw, _, hr⟩⟩ := e
  · exact Or.inl (hr ▸ hx)
  · rw [hr] at hx
    rcases List.mem_append.mp hx with hx | hx
    · exact Or.inl hx
    · rw [List.mem_singleton.mp hx]; exact Or.inr rfl

theorem adv_retry_fired {target : Nat} {r r' : Realm} {evs : List (Realm × Due)} (h : Adv target r evs r') :
    RealmInv r → RetryInv r → r.now ≤ target →
    ∀ p ∈ evs, ∀ x, p.2 = .retry x →
      RealmInv p.1 ∧ RetryInv p.1 ∧ x ∈ p.1.retries ∧ p.1.now ≤ x.next ∧ x.next ≤ target ∧
      (∃ n, 1 ≤ n ∧ n ≤ 16 ∧ InPhase x n) ∧
      fireDue p.1 (.retry x) = drain taskFuel (({ p.1 with now := x.next } : Realm).retryDue x) ∧
      RetryInv ({ p.1 with now := x.next } : Realm) := by
  induction h with
  | done _ => intro _ _ _ p hp; cases hp
  | @fire r d evs r' hn _ ih =>
    intro hi hr hle p hp x hx
    rcases List.mem_cons.1 hp with rfl | hp
    · simp only at hx
      subst hx
      obtain ⟨hxle, hj, hdx⟩ := hr.due hn
      obtain ⟨hmem, hnx, hm⟩ := hdx x rfl
      have hm' : max r.now x.next = x.next := hm
      refine ⟨hi, hr, hmem, hnx, hxle, (hr.1 x hmem).1, ?_, hm' ▸ hj⟩
      show drain taskFuel (({ r with now := max r.now x.next } : Realm).retryDue x) = _
      rw [hm']
    · obtain ⟨h4, h5⟩ := fireDue_retry hi hr hle hn
      exact ih (fireDue_rinv hi hn) h4 h5 p hp x hx

end Nexus.L2.WpC
