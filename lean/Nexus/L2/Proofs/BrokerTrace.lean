/-
  The publish steps of a broker history: `Trace n steps n'` says that the `.publish` steps of `steps` carry, in
  order, fresh increasing ids between `pubBase + n` and `pubBase + n'`, with details that name neither the topic nor
  the publisher (`PubOk`).
-/
import Nexus.L2.Proofs.BrokerHist

namespace Nexus.L2.WpA
open Nexus.L2 Gen.N

def PubOk (p : Publication) : Prop :=
  ∀ key, (key = "topic" ∨ isPublisherKey key) → p.baseDetails.get? key = none

def Trace : Nat → List BStep → Nat → Prop
  | n, [], n' => n ≤ n'
  | n, e :: rest, n' =>
    match e with
    | .publish _ _ p => ∃ m, n ≤ m ∧ p.pubId = pubBase + m ∧ PubOk p ∧ Trace (m + 1) rest n'
    | _ => Trace n rest n'

theorem Trace.le : ∀ {steps : List BStep} {n n' : Nat}, Trace n steps n' → n ≤ n'
  | [], _, _, h => h
  | e :: rest, n, n', h => by
    cases e with
    | publish sess now p =>
      obtain ⟨m, h1, _, _, h2⟩ := h
      have := Trace.le h2
      omega
    | _ => exact Trace.le (steps := rest) h

theorem Trace.mono_left : ∀ {steps : List BStep} {n n' m : Nat}, Trace n steps n' → m ≤ n → Trace m steps n'
  | [], n, n', m, h, hm => Nat.le_trans hm h
  | e :: rest, n, n', m, h, hm => by
    cases e with
    | publish sess now p =>
      obtain ⟨m', h1, h2, h3, h4⟩ := h
      exact ⟨m', Nat.le_trans hm h1, h2, h3, h4⟩
    | _ => exact Trace.mono_left (steps := rest) h hm

theorem Trace.append : ∀ {s1 s2 : List BStep} {a b c : Nat}, Trace a s1 b → Trace b s2 c → Trace a (s1 ++ s2) c
  | [], s2, a, b, c, h1, h2 => Trace.mono_left h2 h1
  | e :: rest, s2, a, b, c, h1, h2 => by
    cases e with
    | publish sess now p =>
      obtain ⟨m', g1, g2, g3, g4⟩ := h1
      exact ⟨m', g1, g2, g3, Trace.append g4 h2⟩
    | _ => exact Trace.append (s1 := rest) h1 h2

theorem Trace.mono_right : ∀ {steps : List BStep} {n n' m : Nat}, Trace n steps n' → n' ≤ m → Trace n steps m := by
  intro steps n n' m h hm
  have := h.append (s2 := []) hm
  rwa [List.append_nil] at this

theorem Trace.pubOk : ∀ {steps : List BStep} {n n' : Nat}, Trace n steps n' →
    ∀ sess now p, BStep.publish sess now p ∈ steps → PubOk p
  | [], _, _, _, _, _, _, hm => nomatch hm
  | e :: rest, n, n', h, sess, now, p, hm => by
    cases e with
    | publish sess' now' p' =>
      obtain ⟨m, _, _, h3, h4⟩ := h
      rcases List.mem_cons.mp hm with he | hm'
      · cases he; exact h3
      · exact Trace.pubOk h4 sess now p hm'
    | _ =>
      rcases List.mem_cons.mp hm with he | hm'
      · cases he
      · exact Trace.pubOk (steps := rest) h sess now p hm'

def stepPubId : BStep → Option Nat
  | .publish _ _ p => some p.pubId
  | _ => none

theorem Trace.ids : ∀ {steps : List BStep} {n n' : Nat}, Trace n steps n' →
    (steps.filterMap stepPubId).Pairwise (· < ·) ∧
    ∀ i ∈ steps.filterMap stepPubId, pubBase + n ≤ i ∧ i < pubBase + n'
  | [], _, _, _ => ⟨List.Pairwise.nil, fun _ hi => nomatch hi⟩
  | e :: rest, n, n', h => by
    cases e with
    | publish sess now p =>
      obtain ⟨m, h1, h2, _, h4⟩ := h
      obtain ⟨ih1, ih2⟩ := Trace.ids h4
      have hle := Trace.le h4
      simp only [List.filterMap_cons, stepPubId]
      refine ⟨List.pairwise_cons.mpr ⟨fun i hi => ?_, ih1⟩, fun i hi => ?_⟩
      · have := (ih2 i hi).1; omega
      · rcases List.mem_cons.mp hi with rfl | hi
        · omega
        · have := ih2 i hi; omega
    | _ => simpa only [List.filterMap_cons, stepPubId] using Trace.ids (steps := rest) h

end Nexus.L2.WpA
