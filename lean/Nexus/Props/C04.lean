/-
  C04 — No client input or timing can crash or wedge the router  (the L2 part: no panic, isolation).

  Property text (L2 clauses).  "Whatever a client sends — any message type in any session state,
  any value in any option, detail or argument position — and whenever sessions join, drop, stall
  or time passes, the router does not panic; a session that misbehaves is ended (ABORT / GOODBYE)
  without affecting the other sessions beyond the documented effects of its departure."

  In the realm model (`Nexus.L2.Realm`) every Go code path able to panic is an explicit `panic`
  marker in the state: `trySend` to a session whose peer is closed ("send on closed channel"), and
  the dealer's panics (`syncCall`: several callees under the single policy / an
  `invocationByCall` entry without invocation; `syncRemoveSession`: callee index naming a
  nonexistent registration).  Two further markers are artefacts of the model, not Go panics: the
  fuel of `drain` ("model: task fuel exhausted", 100000 internal tasks per input) and of `advance`
  ("model: timed-event fuel exhausted", 10000 timed events per tick).

  clause                                                          theorem
  --------------------------------------------------------------  ------------------------------
  in every state reachable from `Realm.create cfg` by any          C04_no_panic_partial
  history of inputs the panic flag is `none` or a fuel marker:
  no Go-panic branch of the model is ever taken
  … the same for one input from any state satisfying the          C04_no_panic_step
  invariant (observed flag and stored flag)
  … per atomic action: every external input, every internal       C04_no_panic_atomic
  task, every timed event leaves the flag exactly as it was
  full strength (flag always `none`)                               C04_no_panic_full  (def, open)
  a message that is a protocol violation only schedules the        C04_violation_only_ends_sender
  sender's departure: no table, no queue, no other session
  is touched
  the departure of x (every mode): every other session stays       C04_isolation
  attached, keeps exactly its subscriptions and registrations,
  and its queue is only appended to (ERRORs for calls x served,
  meta events, testament events — the documented effects);
  invariant kept, no panic
  … no panic independent of an earlier fuel marker: from            C04_no_panic_clean,
  any state satisfying the invariant with the flag reset every      C04_no_panic_clean_reachable
  atomic action leaves it `none`, a step at most a fuel marker
  who can be ended: the dealer aborts only the session              C04_aborts_only_sender,
  whose message it handles, the broker only the publisher (one      C04_publish_ends_only_sender,
  exact case), a message handler only the sender                    C04_message_ends_only_sender
  nothing ever ends the meta session (false of the router           C04_meta_never_ends,
  before the fix of F44, /repo 4df1911): in every reachable         C04_meta_safe_preserved,
  state (`Realm.Reachable`, any history of inputs) it is not in     C04_meta_never_ends_full (def),
  `ending`, no departure of it is pending or deferred, its          C04_meta_never_ends_full_holds,
  pending answers / retries cannot take an abort branch             C04_meta_never_ends_restricted
  (`MetaSafe`); kept by every atomic action.  (`join`/`drop`
  under the meta session's key are no-ops of the model.)
  what every reachable realm satisfies about session keys           C04_reachable_keys
  (Nexus/L2/Proofs/RealmKeys.lean)
  a protocol violation as an input (`stepOp (.msg k m)`,            C04_violation_input
  through the busy/ending gate and the authorization gate): only
  the sender's departure is queued; refused by an Authorizer ⇒ the
  session is not ended
  isolation over the whole step of the input that ends x            C04_isolation_step,
  (departure + meta events + testaments, run to quiescence):        C04_isolation_step_reachable
  others' attachment, subscriptions, registrations, testaments
  and calls not served by x are exactly as before

  Why `_partial`.  `C04_no_panic_full` would say that the fuel markers never fire either.  That is
  a statement about the size of the task cascade of one input (a `kill_all` of n sessions queues n
  departures, each queuing its registrations' meta events, testaments and `on_leave`): finite for
  every state — tasks spawn tasks only along leave → metaPub → (abort of the meta session: no-op) and
  metaInvoke → metaMsg → leave — but not bounded by a constant, so with more than ~10^5 attached
  sessions the marker is reachable in principle.  It is a resource bound of the executable model
  (the correspondence harness reports a fuel marker as a harness failure, never as a router
  panic), not a behaviour of the router; no termination bound is proved here.  What is proved
  unconditionally is that the flag never holds anything else — in particular never the
  "send to session … whose peer is closed" marker and never a dealer panic, which are the sites a
  client could hope to reach.

  The dealer part rests on `DealerInv` and the `syncX_panic` / `syncCall_panic`
  lemmas (`handleRegister` lets only `knownPolicies` through, `registerMeta` passes ""); the
  closed-peer part on live references of `RealmInv` (every send target is an attached session or
  the meta session).
-/
import Nexus.L2.Proofs.RealmLeave
import Nexus.L2.Proofs.RealmPublish
import Nexus.L2.Proofs.StepIsolation
import Nexus.L2.Proofs.RealmKeys

namespace Nexus.C04
open Nexus.L2 Nexus.L2.Realm Nexus.Gen.N Nexus.L2.WpC

/-- Every atomic action leaves the panic flag exactly as it was (under the invariant, which every
    one of them preserves): external inputs, internal tasks (any pending one), call timeouts, yield
    retries, session departures in every mode. -/
theorem C04_no_panic_atomic (r : Realm) (hi : RealmInv r) :
    (∀ op, (r.stepOp op).panic = r.panic) ∧
    (∀ t, TaskOk t → (r.runTask t).panic = r.panic) ∧
    (∀ t, (r.timerDue t).panic = r.panic) ∧
    (∀ x ∈ r.retries, (r.retryDue x).panic = r.panic) ∧
    (∀ k mode, r.busy k = false → (r.leave k mode).panic = r.panic) :=
  ⟨fun op => (stepOp_inv hi op).2, fun t ht => (runTask_inv hi t ht).2, fun t => (timerDue_rinv hi t).2,
   fun x hx => (retryDue_rinv hi x (hi.retr x hx)).2,
   fun k mode hb => (leave_inv hi k mode hb).2.1⟩

/-- One input run to quiescence, from any state satisfying the invariant whose flag is clean: the
    flag observed by the harness and the flag stored are `none` or a fuel marker of the model. -/
theorem C04_no_panic_step (r : Realm) (hi : RealmInv r) (hp : FuelOnly r.panic) (op : Op) :
    FuelOnly (r.step op).1.panic ∧ FuelOnly (r.step op).2.panic ∧ RealmInv (r.step op).2 :=
  ⟨(step_inv hi hp op).2.2, (step_inv hi hp op).2.1, (step_inv hi hp op).1⟩

/-- For every configuration, every history of inputs (any message type in any session state, any
    `WVal` anywhere, joins, drops, stalls, resumes, ticks): the panic flag of the reached state, and
    the flag observed after any further input, is `none` or one of the two fuel markers of the
    model — never a Go-panic site. -/
theorem C04_no_panic_partial (cfg : Config) (r : Realm) (h : Realm.Reachable cfg r) :
    FuelOnly r.panic ∧ ∀ op, FuelOnly (r.step op).1.panic :=
  ⟨h.inv.2, fun op => (step_inv h.inv.1 h.inv.2 op).2.2⟩

/-- what `FuelOnly` excludes: the closed-peer marker and the dealer panics -/
example : ¬ FuelOnly (some "send to session 7 whose peer is closed") ∧
    ¬ FuelOnly (some "syncCall: multiple callees registered with single policy") ∧
    ¬ FuelOnly (some "syncCall: invocationByCall entry without invocation (nil dereference)") ∧
    ¬ FuelOnly (some "syncRemoveSession: callee had ID of nonexistent registration") := by
  unfold FuelOnly
  decide +kernel

/-- Full strength: the flag is always `none`.  Open (needs a bound on the task cascade of one
    input in terms of the fuel constants; see the file header). -/
def C04_no_panic_full : Prop :=
  ∀ (cfg : Config) (r : Realm), Realm.Reachable cfg r → r.panic = none

/-- A message that is a protocol violation — a message type the router does not expect from a
    client (HELLO, WELCOME, ABORT, PUBLISHED, SUBSCRIBED, UNSUBSCRIBED, EVENT, RESULT, REGISTERED,
    UNREGISTERED, INVOCATION, INTERRUPT, unknown types) or an ERROR that does not answer an
    INVOCATION — does nothing but schedule the departure of its sender: broker, dealer, clients,
    queues, testaments are returned unchanged; one `leave (violation)` task is appended and the
    sender is marked as ending. -/
theorem C04_violation_only_ends_sender (r : Realm) (s : Session) (m : Msg)
    (hm : (∃ t, m = .other t) ∨ (∃ a b, m = .hello a b) ∨ (∃ a b, m = .welcome a b) ∨ (∃ a b, m = .abort a b) ∨
          (∃ a b, m = .published a b) ∨ (∃ a b, m = .subscribed a b) ∨ (∃ a, m = .unsubscribed a) ∨
          (∃ a b c d e, m = .event a b c d e) ∨ (∃ a b c d, m = .result a b c d) ∨ (∃ a b, m = .registered a b) ∨
          (∃ a, m = .unregistered a) ∨ (∃ a b c d e, m = .invocation a b c d e) ∨ (∃ a b, m = .interrupt a b) ∨
          (∃ typ a b c d e, m = .error typ a b c d e ∧ typ ≠ tINVOCATION)) :
    ∃ text, dispatch r s m =
      { r with tasks := r.tasks ++ [.leave s.key (.violation text)], ending := r.ending ++ [s.key] } := by
  rcases hm with ⟨t, rfl⟩ | ⟨a, b, rfl⟩ | ⟨a, b, rfl⟩ | ⟨a, b, rfl⟩ | ⟨a, b, rfl⟩ | ⟨a, b, rfl⟩ | ⟨a, rfl⟩ |
    ⟨a, b, c, d, e, rfl⟩ | ⟨a, b, c, d, rfl⟩ | ⟨a, b, rfl⟩ | ⟨a, rfl⟩ | ⟨a, b, c, d, e, rfl⟩ | ⟨a, b, rfl⟩ |
    ⟨typ, a, b, c, d, e, rfl, hne⟩
  iterate 13 exact ⟨"unexpected message", rfl⟩
  refine ⟨"invalid ERROR", ?_⟩
  show (if typ != tINVOCATION then _ else _) = _
  rw [if_pos (bne_iff_ne.mpr hne)]

/-- The departure of an attached session `x`, in every mode (lost transport / GOODBYE, kill, abort,
    protocol violation, shutdown), as seen by every other session `k`:
    `k` stays attached; `k` is a member of exactly the subscriptions it was a member of; `k` is a
    callee of exactly the registrations it was a callee of; the queue of every session is the old
    queue with messages appended (nothing lost, nothing reordered, nothing removed); the invariant
    holds and nothing panics. -/
theorem C04_isolation (r : Realm) (hi : RealmInv r) (x : SessKey) (mode : LeaveMode)
    (hx : r.isClient x) (hnb : r.busy x = false) :
    let r' := r.leave x mode
    (∀ k, k ≠ x → (r'.isClient k ↔ r.isClient k)) ∧
    (∀ k id, k ≠ x → (r'.broker.isMember k id ↔ r.broker.isMember k id)) ∧
    (∀ k id, k ≠ x → (calleeRel r'.ds.d.regs id k ↔ calleeRel r.ds.d.regs id k)) ∧
    (∀ k, ∃ extra, queueOfList r'.queues k = queueOfList r.queues k ++ extra) ∧
    RealmInv r' ∧ r'.panic = r.panic := by
  intro r'
  obtain ⟨h1, h2, _⟩ := leave_inv hi x mode hnb
  obtain ⟨s, hf⟩ := isClient_find? hx
  exact ⟨fun k hk => (leave_isClient r x mode k).trans (and_iff_left hk),
    fun k id hk => (leave_strikes hi mode hf id k).1.trans (and_iff_left hk),
    fun k id hk => (leave_strikes hi mode hf id k).2.trans (and_iff_left hk), qgrow_leave r x mode, h1, h2⟩

/-- The panic flag keeps its first marker (`setPanic`), so `C04_no_panic_partial` alone would not see a
    closed-peer send or a dealer panic that happens after a fuel marker of the model was set.  This
    theorem closes that gap: from any state satisfying the invariant, with the flag reset to `none`,
    every atomic action — external input, internal task, call timeout, retry turn, departure — leaves
    the flag `none`, and a whole input run to quiescence leaves at most a fuel marker.  So no Go-panic
    site is reached after an earlier fuel marker either. -/
theorem C04_no_panic_clean (r : Realm) (hi : RealmInv r) :
    (∀ op, (({ r with panic := none } : Realm).stepOp op).panic = none) ∧
    (∀ t, TaskOk t → (({ r with panic := none } : Realm).runTask t).panic = none) ∧
    (∀ t, (({ r with panic := none } : Realm).timerDue t).panic = none) ∧
    (∀ x ∈ r.retries, (({ r with panic := none } : Realm).retryDue x).panic = none) ∧
    (∀ k mode, r.busy k = false → (({ r with panic := none } : Realm).leave k mode).panic = none) ∧
    (∀ op, FuelOnly (({ r with panic := none } : Realm).step op).1.panic ∧
           FuelOnly (({ r with panic := none } : Realm).step op).2.panic) := by
  have hi0 : RealmInv ({ r with panic := none } : Realm) :=
    hi.same
  obtain ⟨a1, a2, a3, a4, a5⟩ := C04_no_panic_atomic _ hi0
  exact ⟨a1, a2, a3, a4, a5, fun op => ⟨(step_inv hi0 (Or.inl rfl) op).2.2, (step_inv hi0 (Or.inl rfl) op).2.1⟩⟩

/-- … in particular in every reachable state (whatever its flag holds). -/
theorem C04_no_panic_clean_reachable (cfg : Config) (r : Realm) (h : Realm.Reachable cfg r) (op : Op) :
    FuelOnly (({ r with panic := none } : Realm).step op).1.panic ∧
    (({ r with panic := none } : Realm).stepOp op).panic = none :=
  ⟨((C04_no_panic_clean r h.inv.1).2.2.2.2.2 op).1, (C04_no_panic_clean r h.inv.1).1 op⟩

example : RealmInv ({ panic := some "model: task fuel exhausted" } : Realm) :=
  (RealmInv.plain [] [] [] []).same

/-- The dealer aborts nobody but the session whose message it is processing: `syncCall` at most the
    caller, `syncYield` at most the yielding callee; cancel, error, register, unregister and the removal
    of a session abort nobody. -/
theorem C04_aborts_only_sender (env : DEnv) (s : DState) (k : SessKey) :
    (∀ req opts proc args kw rnd, ∀ j ∈ (syncCall env s k req opts proc args kw rnd).aborts, j = k) ∧
    (∀ req opts args kw progress canRetry, ∀ j ∈ (syncYield env s k req opts args kw progress canRetry).aborts, j = k) ∧
    (∀ req opts args kw progress canRetry, pptScheme opts = "" →
        (syncYield env s k req opts args kw progress canRetry).aborts = []) ∧
    (∀ req mode reason errArgs, (syncCancel env s k req mode reason errArgs).aborts = []) ∧
    (∀ req details err args kw, (syncError s k req details err args kw).aborts = []) ∧
    (∀ req proc m invoke disclose fwd wampURI, (syncRegister s k req proc m invoke disclose fwd wampURI).aborts = []) ∧
    (∀ req regId, (syncUnregister s k req regId).aborts = []) ∧
    (syncRemoveSession env s k).aborts = [] :=
  ⟨fun _ _ _ _ _ _ => syncCall_aborts _ _ _ _ _ _ _ _ _, fun _ _ _ _ _ _ => syncYield_aborts _ _ _ _ _ _ _ _ _,
   fun _ _ _ _ _ _ hp => syncYield_aborts_nil _ _ _ _ _ _ _ _ _ hp, fun _ _ _ _ => syncCancel_aborts ..,
   fun _ _ _ _ _ => syncError_aborts .., fun _ _ _ _ _ _ _ => syncRegister_aborts ..,
   fun _ _ => syncUnregister_aborts .., syncRemoveSession_aborts ..⟩

theorem mem_tasks_of_append {old new ts : List Task} (e : new = old ++ ts)
    (p : ∀ t ∈ ts, ∃ a b c d e, t = Task.metaInvoke a b c d e) :
    ∀ t ∈ new, t ∈ old ∨ ∃ a b c d e, t = Task.metaInvoke a b c d e :=
  fun t ht => (List.mem_append.mp (e ▸ ht)).imp_right (p t)

/-- The broker ends nobody but the publisher, and only in one case: a valid topic, payload passthru
    (`ppt_scheme`) used, and the publisher has not announced the feature.  In every other case `ending`
    and the task list (up to invocations for the meta session) are untouched. -/
theorem C04_publish_ends_only_sender (r : Realm) (s : Session) (req : Nat) (opts : Dict) (topic : String)
    (args : List WVal) (kw : Dict) :
    ((validUri r.broker.strict "" topic &&
        (pptScheme opts != "" && !s.hasFeature RolePublisher FeaturePayloadPassthruMode)) = true →
      (handlePublish r s req opts topic args kw).ending = r.ending ++ [s.key]) ∧
    ((validUri r.broker.strict "" topic &&
        (pptScheme opts != "" && !s.hasFeature RolePublisher FeaturePayloadPassthruMode)) = false →
      (handlePublish r s req opts topic args kw).ending = r.ending ∧
      ∀ t ∈ (handlePublish r s req opts topic args kw).tasks, t ∈ r.tasks ∨ ∃ a b c d e, t = .metaInvoke a b c d e) := by
  refine ⟨fun h => ?_, fun h => ?_⟩
  · obtain ⟨hv, hp⟩ := Bool.and_eq_true_iff.mp h
    rw [handlePublish_ppt r s req opts topic args kw hv hp]
    exact congrArg (· ++ [s.key]) (trySend_frame r _).ending
  · -- the branches of `handlePublish` but the abort: nothing, one reply, the deliveries of the publication
    refine handlePublish_cases (P := fun q => q.ending = r.ending ∧
        ∀ t ∈ q.tasks, t ∈ r.tasks ∨ ∃ a b c d e, t = Task.metaInvoke a b c d e) r s req opts topic args kw
      ⟨rfl, fun _ => Or.inl⟩
      (fun _ _ => ⟨(trySend_frame _ _).ending, mem_tasks_of_append (dtrySend_tasks ..) fun _ => dmetaTask_shape⟩)
      (fun hv hp => by unfold pptRefused at hp; rw [hv, hp] at h; cases h)
      (fun _ _ _ => ⟨(deliver_frame _ _).ending, mem_tasks_of_append (ddeliver_tasks ..) fun _ => dmetaTasks_shape⟩)

-- non-vacuity: a publisher without the feature using `ppt_scheme` on a valid topic is ended (and nobody else)
example : let s : Session := { key := 5, details := [], roles := [], isLocal := false }
    (handlePublish { clients := [s] } s 1 [(OptPPTScheme, .str "x")] "a.b" [] []).ending = [5] := by
  decide +kernel

/-- Who can be ended by a message: its sender.  Whatever message `m` the handler of session `s` processes,
    in whatever state (authorization gate included): every key appended to `ending`, every `leave` task
    queued, is `s.key`; apart from that only meta events / meta invocations are queued; a retry entry is
    created only for a YIELD of `s`; the client table, the deferred departures and the meta session are
    untouched.  (`Eff`, Nexus/L2/Proofs/ControlEffect.lean.)  No hypothesis: this is a fact about the code
    paths of `handleInboundMessages`, not about reachable states. -/
theorem C04_message_ends_only_sender (r : Realm) (s : Session) (m : Msg) :
    (∃ e, (handleMsg r s m).ending = r.ending ++ e ∧ ∀ j ∈ e, j = s.key) ∧
    (∃ ts, (handleMsg r s m).tasks = r.tasks ++ ts ∧
      ∀ t ∈ ts, (∃ mode, t = .leave s.key mode) ∨ (∃ p, t = .metaPub p) ∨ ∃ a b c d e, t = .metaInvoke a b c d e) ∧
    (handleMsg r s m).clients = r.clients ∧ (handleMsg r s m).deferred = r.deferred ∧
    (handleMsg r s m).metaS = r.metaS ∧
    (∃ xs, (handleMsg r s m).retries = r.retries ++ xs ∧ ∀ x ∈ xs, x.callee = s.key ∧ ∃ req opts args kw, m = .yield req opts args kw) := by
  have h := eff_handleMsg r s m
  obtain ⟨ts, hts, pts⟩ := h.tasks
  obtain ⟨xs, hxs, pxs⟩ := h.retries
  refine ⟨Grown.mono h.ending fun _ hj => hj.1, ⟨ts, hts, ?_⟩, h.clients, h.deferred, h.metaS, ⟨xs, hxs, ?_⟩⟩
  · intro t ht
    have := pts t ht
    cases t with
    | leave j mode => exact Or.inl ⟨mode, by rw [show j = s.key from this.1]⟩
    | metaMsg m => exact absurd this id
    | inMsg k m => exact absurd this id
    | metaPub p => exact Or.inr (Or.inl ⟨p, rfl⟩)
    | metaInvoke a b c d e => exact Or.inr (Or.inr ⟨a, b, c, d, e, rfl⟩)
  · intro x hx
    obtain ⟨req, opts, args, kw, hm, rfl, _, _⟩ := pxs x hx
    exact ⟨rfl, req, opts, args, kw, hm⟩

/-- Nothing ever ends the meta session.  In every reachable state (`Realm.Reachable`: any history of inputs
    whatsoever; a `join` under the meta session's key or the key of an attached client and a `drop` of a key
    that names no attached client cannot occur — session ids are drawn by the router, only an attached client
    has a transport to lose — and are no-ops of the model): the meta session is not in
    `ending`, no departure of it is pending or deferred, no client is stored under its key, it announces
    the publisher payload-passthru feature, every answer it has pending is a `YIELD` with empty options or
    an `ERROR(INVOCATION)`, and a retried YIELD of it carries no `ppt_scheme` (`MetaSafe`).  So the realm
    never loses the goroutine every `onJoin`, `onLeave` and meta event blocks on.

    This is false of the router before the fix of F44 (/repo 4df1911: a testament with
    `ppt_scheme` made the meta session abort itself: `handlePublish` by a meta session without the
    feature appends `metaKey` to `ending`, see the example below). -/
theorem C04_meta_never_ends (cfg : Config) (r : Realm) (h : Realm.Reachable cfg r) :
    metaKey ∉ r.ending ∧ (∀ t ∈ r.tasks, ∀ mode, t ≠ .leave metaKey mode) ∧
    (∀ d ∈ r.deferred, d.1 ≠ metaKey) ∧ MetaSafe r := by
  have hm := h.metaSafe
  refine ⟨hm.ending, ?_, hm.deferred, hm⟩
  intro t ht mode e
  subst e
  exact hm.tasks _ ht rfl

/-- the statement restricted to histories that never use the meta session's key as a client key is a
    special case -/
theorem C04_meta_never_ends_restricted (cfg : Config) (r : Realm) (h : ReachableK cfg r) :
    metaKey ∉ r.ending ∧ (∀ t ∈ r.tasks, ∀ mode, t ≠ .leave metaKey mode) ∧
    (∀ d ∈ r.deferred, d.1 ≠ metaKey) ∧ MetaSafe r :=
  C04_meta_never_ends cfg r h.reachable

/-- … kept by every single atomic action (so for every interleaving of the goroutines' actions, not only at
    quiescence): external inputs, internal tasks, timeouts, retry turns. -/
theorem C04_meta_safe_preserved (r : Realm) (hm : MetaSafe r) :
    (∀ op, MetaSafe (r.stepOp op)) ∧ (∀ t, MTaskOk t → MetaSafe (r.runTask t)) ∧
    (∀ t, MetaSafe (r.timerDue t)) ∧ (∀ x ∈ r.retries, MetaSafe (r.retryDue x)) ∧
    (∀ op, MetaSafe (r.step op).2) :=
  ⟨fun op => hm.stepOp op, fun t h => hm.runTask t h, fun t => hm.timerDue t, fun _ hx => hm.retryDue hx,
   fun op => MetaSafe.keeps.step (hm.stepOp op)⟩

example (r : Realm) (hm : MetaSafe r) (t : Task) (ht : t ∈ r.tasks) : MTaskOk t := hm.tasks t ht

-- what the theorem excludes: the pre-fix meta session (no roles) publishing a testament with `ppt_scheme`
example : let old : Session := { key := metaKey, details := [], roles := [], isLocal := true }
    (handlePublish {} old 0 [(OptPPTScheme, .str "x")] "some.topic" [] []).ending = [metaKey] := by
  decide +kernel

/-- the statement over all histories of the model's input type -/
def C04_meta_never_ends_full : Prop :=
  ∀ (cfg : Config) (r : Realm), Realm.Reachable cfg r → metaKey ∉ r.ending ∧ ∀ t ∈ r.tasks, ∀ mode, t ≠ .leave metaKey mode

/-- … holds (`Op.drop k` for a key naming no attached client, e.g. the meta session's own, is a no-op of the
    model). -/
theorem C04_meta_never_ends_full_holds : C04_meta_never_ends_full :=
  fun cfg r h => ⟨(C04_meta_never_ends cfg r h).1, (C04_meta_never_ends cfg r h).2.1⟩

/-- `drop metaKey` on a realm without a client under that key changes nothing -/
example (r : Realm) (h : ∀ c ∈ r.clients, c.key ≠ metaKey) : r.stepOp (.drop metaKey) = r :=
  stepOp_drop_absent h

/-- Session keys of a reachable realm (any history of inputs): no client is stored under the meta session's
    key, the keys of the attached clients are pairwise distinct, every session marked as ending is attached
    (`Nexus.L2.Realm.Reachable.clients_wf`); every session with a deferred departure, with input waiting in its
    transport or with a testament bucket is an attached client, a handler in the retry loop belongs to an
    attached client or the meta session (`Nexus.L2.Realm.Reachable.refs_wf`). -/
theorem C04_reachable_keys (cfg : Config) (r : Realm) (h : Realm.Reachable cfg r) :
    ((∀ c ∈ r.clients, c.key ≠ metaKey) ∧ (r.clients.map (·.key)).Nodup ∧
      (∀ k ∈ r.ending, r.clients.any (·.key == k) = true)) ∧
    ((∀ k ∈ r.ending, r.isClient k) ∧ (∀ d ∈ r.deferred, r.isClient d.1 ∧ r.busy d.1 = true) ∧
      (∀ e ∈ r.inbox, r.isClient e.1) ∧ (∀ t ∈ r.testaments, r.isClient t.1) ∧
      (∀ x ∈ r.retries, x.callee = metaKey ∨ r.isClient x.callee)) :=
  ⟨h.clients_wf, h.refs_wf⟩

/-- Input level.  A protocol violation arriving (`stepOp (.msg k m)`, through the gate of `recvMsg`) from an
    attached session `k` that is not already ending and whose handler is not in the yield retry loop, and
    that the authorization gate lets through (always the case without an Authorizer, for exempt local
    sessions, and when the Authorizer allows the message): nothing happens but that the sender is marked as
    ending and its departure `leave k (violation …)` (ABORT, then `onLeave`) is queued — no table, queue, or
    other session is touched.
    If an Authorizer refuses the message (it is consulted for every message type, `realm.go`
    `handleInboundMessages`), the session is not ended: the router answers ERROR (or nothing) and goes on —
    second part. -/
theorem C04_violation_input (r : Realm) (k : SessKey) (s : Session) (m : Msg)
    (hf : r.clients.find? (fun c => c.key == k) = some s) (hm : isViolation m = true)
    (he : r.ending.contains k = false) (hb : r.busy k = false) :
    ((authzGate r s m).1 = true →
      ∃ text, r.stepOp (.msg k m) =
        { r with tasks := r.tasks ++ [.leave k (.violation text)], ending := r.ending ++ [k] }) ∧
    ((authzGate r s m).1 = false →
      r.stepOp (.msg k m) = (authzGate r s m).2 ∧ (r.stepOp (.msg k m)).ending = r.ending ∧
      (∀ t ∈ (r.stepOp (.msg k m)).tasks, t ∈ r.tasks ∨ ∃ a b c d e, t = .metaInvoke a b c d e) ∧
      (r.stepOp (.msg k m)).clients = r.clients) := by
  refine ⟨stepOp_violation m hf hm he hb, fun hg => ?_⟩
  have e0 := (stepOp_msg_handled m hf he hb).trans (handleMsg_denied hg)
  rw [e0]
  -- the gate refuses silently or with one ERROR to the sender
  exact ⟨rfl, authzGate_cases (P := fun x => x.2.ending = r.ending ∧
      (∀ t ∈ x.2.tasks, t ∈ r.tasks ∨ ∃ a b c d e, t = Task.metaInvoke a b c d e) ∧ x.2.clients = r.clients)
    r s m ⟨rfl, fun _ => Or.inl, rfl⟩ ⟨rfl, fun _ => Or.inl, rfl⟩
    (fun _ _ => ⟨(trySend_frame _ _).ending, mem_tasks_of_append (dtrySend_tasks ..) fun _ => dmetaTask_shape,
      (trySend_frame _ _).clients⟩)⟩

-- non-vacuity: an attached, idle session sends WELCOME; no Authorizer
example : let s : Session := { key := 5, details := [], roles := [], isLocal := false }
    (({ clients := [s] } : Realm).stepOp (.msg 5 (.welcome 1 []))).ending = [5] := by
  decide +kernel

/-- Isolation over the whole step.  `C04_isolation` is about the single atomic `leave x`; this is about the
    input that ends `x` (`EndsInput`: lost transport, GOODBYE, protocol violation let through by the gate)
    and everything it causes until the realm is quiet again: the departure, the meta events
    (`on_unsubscribe`, `on_unregister`, `on_delete`, `on_leave`) and the testaments it queues for the meta
    session, and their publication.  From a state satisfying the invariants with nothing pending, `x`
    attached, not ending, its handler not in the retry loop, and unless the model's task fuel runs out:
    * `x` is attached no more; every other session is attached iff it was;
    * every other session is a member of exactly the subscriptions, a callee of exactly the registrations it
      was (`x` of none);
    * the pending calls afterwards are exactly the old ones that `x` neither made nor served: every other
      session's calls not served by `x` are still pending (the calls `x` served are answered with ERROR,
      `C05_leave_served_calls`);
    * the testament table is the old one without `x`'s bucket: nobody else's testament is touched, none is
      published;
    in particular no other session is ended, killed or aborted by the cascade (nothing but `leave x` and
    `metaPub` tasks ever becomes pending: `OnlyLeaveX`, and the meta session cannot be ended by its own
    publications: `C04_meta_never_ends`). -/
theorem C04_isolation_step (r : Realm) (hi : RealmInv r) (hc : CtlInv r) (ht : r.tasks = []) (x : SessKey)
    (hx : r.isClient x) (hb : r.busy x = false) (he : x ∉ r.ending) (op : Op) (hop : EndsInput r x op)
    (hp : (r.step op).2.panic = none) :
    ¬ (r.step op).2.isClient x ∧
    (∀ k, k ≠ x → ((r.step op).2.isClient k ↔ r.isClient k)) ∧
    (∀ k id, (r.step op).2.broker.isMember k id ↔ r.broker.isMember k id ∧ k ≠ x) ∧
    (∀ id k, calleeRel (r.step op).2.ds.d.regs id k ↔ calleeRel r.ds.d.regs id k ∧ k ≠ x) ∧
    (∀ c ∈ (r.step op).2.ds.d.calls, c ∈ r.ds.d.calls ∧ c.sess ≠ x ∧ ∀ v ∈ r.ds.d.invs, v.callee = x → v.callId ≠ c) ∧
    (∀ c ∈ r.ds.d.calls, c.sess ≠ x → (∀ v ∈ r.ds.d.invs, v.callee = x → v.callId ≠ c) → c ∈ (r.step op).2.ds.d.calls) ∧
    (r.step op).2.testaments = r.testaments.filter (fun t => t.1 != x) :=
  step_isolated hi hc ht hx hb he hop hp

/-- … for every history of inputs (`Realm.Reachable`) whose panic flag is clean. -/
theorem C04_isolation_step_reachable (cfg : Config) (r : Realm) (h : Realm.Reachable cfg r) (hp0 : r.panic = none) (x : SessKey)
    (hx : r.isClient x) (hb : r.busy x = false) (he : x ∉ r.ending) (op : Op) (hop : EndsInput r x op)
    (hp : (r.step op).2.panic = none) (k : SessKey) (hk : k ≠ x) :
    ((r.step op).2.isClient k ↔ r.isClient k) ∧
    (∀ id, (r.step op).2.broker.isMember k id ↔ r.broker.isMember k id) ∧
    (∀ id, calleeRel (r.step op).2.ds.d.regs id k ↔ calleeRel r.ds.d.regs id k) ∧
    (∀ c ∈ r.ds.d.calls, c.sess = k → (∀ v ∈ r.ds.d.invs, v.callId = c → v.callee ≠ x) → c ∈ (r.step op).2.ds.d.calls) ∧
    (∀ t ∈ r.testaments, t.1 = k → t ∈ (r.step op).2.testaments) := by
  obtain ⟨_, g2, g3, g4, _, g6, g7⟩ := C04_isolation_step r h.inv.1 h.ctl (Reachable.quiescent h hp0)
    x hx hb he op hop hp
  refine ⟨g2 k hk, fun id => (g3 k id).trans (and_iff_left hk), fun id => (g4 id k).trans (and_iff_left hk), ?_, ?_⟩
  · intro c hc hs hv
    exact g6 c hc (hs ▸ hk) (fun v hv' hvx e => hv v hv' e hvx)
  · intro t ht' htk
    rw [g7]
    exact List.mem_filter.mpr ⟨ht', by simpa [htk] using hk⟩

-- non-vacuity: two attached sessions, nothing pending (both invariants hold); session 1 loses its transport
example : let r0 : Realm := (({} : Realm).stepOp (.join 1 false [] [] 8)).stepOp (.join 2 false [] [] 8)
    let r : Realm := { r0 with tasks := [] }
    RealmInv r ∧ CtlInv r ∧ r.tasks = [] ∧
    r.isClient 1 ∧ r.busy 1 = false ∧ 1 ∉ r.ending ∧ EndsInput r 1 (.drop 1) ∧ (r.step (.drop 1)).2.panic = none ∧
    (r.step (.drop 1)).2.clients.map (·.key) = [2] := by
  intro r0 r
  have hi0 : RealmInv r0 := (stepOp_inv (stepOp_inv (RealmInv.plain [] [] [] []) _).1 _).1
  have hc0 : CtlInv r0 := (ctlInv_empty.stepOp' (.join 1 false [] [] 8)).stepOp' (.join 2 false [] [] 8)
  obtain ⟨e1, e2, e3⟩ : r.busy 1 = false ∧ 1 ∉ r.ending ∧
      (r.step (.drop 1)).2.panic = none ∧ (r.step (.drop 1)).2.clients.map (·.key) = [2] := by decide +kernel
  exact ⟨hi0.of_parts rfl hi0.binv hi0.dinv hi0.bmem hi0.dref hi0.callers hi0.retr (by intro t h; cases h) hi0.inb rfl,
    hc0.congr ⟨hc0.safe.noClient, hc0.safe.ending, (by intro t h; cases h), hc0.safe.deferred, hc0.safe.retries,
      hc0.safe.mkey, hc0.safe.metaPPT⟩ rfl rfl rfl rfl,
    rfl, ⟨_, List.mem_cons_self .., rfl⟩, e1, e2, Or.inl rfl, e3⟩

end Nexus.C04
