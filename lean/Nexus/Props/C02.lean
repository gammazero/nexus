/-
  C02 — Every routed CALL gets exactly one final RESULT or ERROR.

  Property text.  "For every CALL from a caller that stays attached and keeps reading, the caller
  receives at most one final reply (a RESULT without the progress flag or an ERROR of type CALL)
  bearing that call's request id, preceded only by progressive RESULTs of that same call and followed
  by nothing more for that request; it never receives a reply for a request id it did not issue.  It
  receives exactly one final reply as soon as the call cannot be routed, or the callee has answered
  finally, or the callee's session has ended, or the caller cancelled it in skip or killnowait mode,
  or its router-handled timeout expired with no kill-mode cancel outstanding - whatever the callee
  and bystanders do (duplicate, late, foreign, malformed or missing answers)."

  All theorems are about the dealer model `Nexus.L2.Dealer` (tied to router/dealer.go by the `l2`
  correspondence family), for EVERY state satisfying `DealerInv` (hence every reachable state:
  `Reachable.inv`), EVERY environment `DEnv` (session table, queue-full predicate, time) and every
  argument.  A *step* (`DStep s o`) is one atomic action of the dealer goroutine: any `sync*` function
  with any arguments, or timers leaving the timer table.

  Vocabulary (Nexus/L2/Proofs/DealerReply.lean; `DStep`, `Run` in DealerRemove.lean).  A call id is
  `c = (caller session, request)`.
  `x.replyTo = some c`  — the queued message `x` is a RESULT or an ERROR of type CALL, addressed to
                          session `c.sess`, bearing request id `c.req`;
  `isFinalReply`        — RESULT whose details do not have `progress: true`, or ERROR(CALL);
  `repliesFor c sends`, `finalsFor c sends`, `progsFor c sends` — the replies / final / progressive
                          replies to `c` among the messages a step sends (in order);
  `IsCallStep s o c`    — the step is `syncCall` for the CALL message (first or later chunk) with id `c`;
  `Run s tr s'`         — a sequence of consecutive steps from `s` to `s'`; `tr` lists (state before, output).

  clause                                                            theorem
  ----------------------------------------------------------------  -----------------------------------
  a final reply is emitted only in a step that removes the call     C02_final_removes_call
    (calls, invocationByCall, invocations), one per step
  at most one final; nothing more for that request afterwards       C02_at_most_one_final (one step),
                                                                    C02_nothing_after_final (any run until
                                                                    the next CALL with that id)
  preceded only by progressive RESULTs of that same call            C02_progress_only_before_final
  never a reply for a request id it did not issue                   C02_no_foreign_reply
  exactly one final reply as soon as the call cannot be routed      C02_unroutable_nomatch, C02_unroutable_refused,
                                                                    C02_unroutable_callee_full,
                                                                    C02_later_chunk_callee_full
  … the callee has answered finally                                 C02_callee_final_yield (+ _payload),
                                                                    C02_callee_final_error
    that reply is the RESULT with the YIELD's payload unchanged     C02_callee_final_yield_payload
    (needs: the caller's queue has room, passthru not misused)
  … the callee's session has ended (also after a kill-mode cancel)  C02_callee_gone
  … the caller cancelled in skip or killnowait mode                 C02_cancel_skip_killnowait
  … router-handled timeout expired, no kill-mode cancel outstanding C02_timeout
  caller not reading (queue full): what happens instead             C02_full_retry, C02_full_giveup,
                                                                    C02_full_dropped_at_realm

  END TO END (realm level, queues): how the realm hands the dealer's messages to the sessions' queues
  (`Realm.applyD` / `Realm.deliver`; `dqueueOf r k` = the router→client queue of k, `dmsgsTo k sends` = the
  messages of `sends` addressed to k, `qReplies req ms` = the replies to request `req` among `ms`).
  dealer `sends` are delivered in order; a full queue drops that       C02_realm_delivery
    message only; meta INVOCATIONs → `metaInvoke` tasks, aborts →
    `leave … aborted` tasks
  the handlers are `applyD` of the `sync*` functions                   C02_realm_handlers
  callee's session ends (`Realm.leave`, not a shutdown): one ERROR     C02_realm_callee_gone
    canceled appended to the caller's queue
  call timer fires in `Realm.advance`: one ERROR timeout appended      C02_realm_timeout
  … never in a tick that ends before the deadline                      C02_realm_timeout_not_before
  callee gone and timeout, in every reachable realm (the dealer        C02_realm_callee_gone_reachable,
    invariant and "the caller is not the meta session" hold there)       C02_realm_timeout_reachable

  the whole episode of a call incl. later chunks: progress* final?     C02_episode, C02_episode_from_call,
    and nothing after the final until a NEW call re-uses the id          C02_nothing_after_final_chunks
  every pending call goes back to a CALL step of its caller            C02_pending_was_called
  a CALL the Authorizer refuses is answered by the handler, the        C02_realm_call_denied
    dealer never sees it
  … so a refused LATER CHUNK of a pending progressive call gives the   C02_realm_one_final_full (def),
    caller an ERROR while the call lives on: TWO final replies for       C02_realm_one_final_full_fails
    one request id at realm level (finding; not a dealer step)

  "keeps reading" is the hypothesis `env.full caller = false` where a RESULT is to be delivered by
  `syncYield` (the only place where the dealer itself looks at the caller's queue).  ERROR replies are
  handed to the realm's `trySend`, which drops a message for a full queue (`C02_full_dropped_at_realm`).

  Findings.  Two clauses were false of the router before the fixes in /repo named below (both confirmed
  on the real router); the model follows the fixed code:
  * a later chunk of a pending progressive call whose procedure did not resolve any more was answered
    ERROR no_such_procedure while the call stayed pending → second final reply later
    (fixes 63465ac, 0365a6a: a later chunk is routed to the stored callee without matching its URI again,
    so it cannot be "unroutable"; if the callee's queue is full: `C02_later_chunk_callee_full`);
  * (C04) two callees under an unknown `invoke` policy string made `syncCall` panic (fix 5b7e81a).
-/
import Nexus.L2.Proofs.DealerReply
import Nexus.L2.Proofs.DealerExamples
import Nexus.L2.Proofs.DealerRealmRpc
import Nexus.L2.Proofs.DealerOrder
import Nexus.L2.Proofs.RealmAuthz
import Nexus.L2.Proofs.RealmKeys
import Nexus.L2.Proofs.RealmCreate
import Nexus.L2.Proofs.TraceQueue

namespace Nexus.C02
open Nexus.L2 Nexus.Gen.N Nexus

/-- Whenever a step emits a final reply for `c`, it emits exactly one reply for `c` and `c` is removed
    from `calls`, `invocationByCall` and `invocations` in the same step. -/
theorem C02_final_removes_call {s : DState} {o : DOut} (h : DealerInv s) (st : DStep s o) (c : ReqId)
    (hf : finalsFor c o.sends ≠ []) :
    (repliesFor c o.sends).length = 1 ∧ c ∉ o.st.d.calls ∧ o.st.d.byCall? c = none ∧
      ∀ v ∈ o.st.d.invs, v.callId ≠ c := by
  have hr := st.replyOK h c
  have hinv := st.inv h
  have hc := hr.final hf
  have hne : repliesFor c o.sends ≠ [] := by
    intro he; apply hf; simp [finalsFor, he]
  exact ⟨Nat.le_antisymm hr.one (List.length_pos_iff.2 hne), hc, hinv.call.byCall?_none hc,
    fun v hv he => hc (he ▸ (hinv.call.inv_call hv).1)⟩

example : finalsFor ⟨2, 5⟩ (syncYield Ex.env Ex.sCall 1 1 [] [.int 8] [] false true).sends ≠ [] := by decide +kernel

/-- A final reply for `c` is only ever emitted in a step that starts with `c` pending (or is the CALL
    for `c` itself, which then is not recorded) and ends with `c` not pending; a step emits at most one
    reply for `c`. -/
theorem C02_at_most_one_final {s : DState} {o : DOut} (h : DealerInv s) (st : DStep s o) (c : ReqId) :
    (repliesFor c o.sends).length ≤ 1 ∧
      (finalsFor c o.sends ≠ [] → (c ∈ s.d.calls ∨ IsCallStep s o c) ∧ c ∉ o.st.d.calls) := by
  have hr := st.replyOK h c
  refine ⟨hr.one, fun hf => ⟨hr.known ?_, hr.final hf⟩⟩
  intro he; apply hf; simp [finalsFor, he]

/-- Once `c` is not pending (in particular right after its final reply, `C02_final_removes_call`), nothing is sent for
    that request, whatever callers, callees and bystanders do, as long as no NEW call with that id is made (a CALL step
    for `c` in a state where `c` is not pending; later chunks of a pending call are allowed). -/
theorem C02_nothing_after_final_chunks {s s' : DState} {tr : List (DState × DOut)} (c : ReqId) (run : Run s tr s') :
    DealerInv s → c ∉ s.d.calls → (∀ p ∈ tr, IsCallStep p.1 p.2 c → c ∈ p.1.d.calls) →
    (∀ p ∈ tr, repliesFor c p.2.sends = []) ∧ c ∉ s'.d.calls ∧ DealerInv s' := by
  intro h hc hno
  obtain ⟨h1, h2⟩ := (run.blocks c h hno).quiet hc
  exact ⟨fun p hp => List.flatten_eq_nil_iff.1 h1 _ (List.mem_map_of_mem hp), h2, run.inv h⟩

/-- Once `c` is not pending (in particular right after its final reply, `C02_final_removes_call`),
    nothing more is sent for that request, whatever callers, callees and bystanders do, until the
    caller issues a new CALL with that id. -/
theorem C02_nothing_after_final {s s' : DState} {tr : List (DState × DOut)} (c : ReqId) (run : Run s tr s') :
    DealerInv s → c ∉ s.d.calls → (∀ p ∈ tr, ¬ IsCallStep p.1 p.2 c) →
    (∀ p ∈ tr, repliesFor c p.2.sends = []) ∧ c ∉ s'.d.calls ∧ DealerInv s' :=
  fun h hc hno => C02_nothing_after_final_chunks c run h hc fun p hp hx => absurd hx (hno p hp)

/-- THE EPISODE OF ONE CALL (later chunks included).  Over any run in which every CALL step carrying the id `c` is a
    later chunk of the pending call `c` (no NEW call re-uses the id), whatever the callee, the caller and bystanders
    do in between: the replies sent for `c` are a list of progressive RESULTs followed by at most one final reply,
    and with the final reply the call is gone at the end of the run.  (`C08_progress_order` is the special case
    without later chunks.) -/
theorem C02_episode {s s' : DState} {tr : List (DState × DOut)} (c : ReqId) (run : Run s tr s') :
    DealerInv s → (∀ p ∈ tr, IsCallStep p.1 p.2 c → c ∈ p.1.d.calls) →
    ∃ ps f, replyStream c tr = ps ++ f ∧ (∀ x ∈ ps, x.msg.isFinalReply = false) ∧
      (f = [] ∨ ∃ x, f = [x] ∧ x.msg.isFinalReply = true ∧ c ∉ s'.d.calls) := by
  intro h hno
  rw [replyStream, List.flatMap_def]
  exact (run.blocks c h hno).episode

/-- … starting WITH the CALL that opens the call: the first step may be any step (in particular the first chunk of
    `c`, when `c` is not pending yet); all later CALL steps with that id must be chunks of the pending call. -/
theorem C02_episode_from_call {s s' : DState} {o : DOut} {tr : List (DState × DOut)} (c : ReqId)
    (run : Run s ((s, o) :: tr) s') (h : DealerInv s)
    (hno : ∀ p ∈ tr, IsCallStep p.1 p.2 c → c ∈ p.1.d.calls) :
    ∃ ps f, replyStream c ((s, o) :: tr) = ps ++ f ∧ (∀ x ∈ ps, x.msg.isFinalReply = false) ∧
      (f = [] ∨ ∃ x, f = [x] ∧ x.msg.isFinalReply = true ∧ c ∉ s'.d.calls) := by
  obtain ⟨_, st, rest⟩ := Run.head run
  have b := rest.blocks c (st.inv h) hno
  rw [replyStream, List.flatMap_def]
  exact Blocks.episode_cons (st.replyOK h c).one (st.replyOK h c).final' b b.episode

/-- the hypotheses are met: the first chunk of the progressive call (2, 7) (state `Ex.sReg` → `Ex.sProg`), then a
    later chunk — a CALL step for (2, 7) in a state where it is pending -/
example : Run Ex.sReg [(Ex.sReg, syncCall Ex.env Ex.sReg 2 7 [(OptProgress, .bool true)] "p" [] [] 0),
      (Ex.sProg, syncCall Ex.env Ex.sProg 2 7 [] "p" [] [] 0)]
      (syncCall Ex.env Ex.sProg 2 7 [] "p" [] [] 0).st ∧ (⟨2, 7⟩ : ReqId) ∈ Ex.sProg.d.calls :=
  ⟨.cons (.call ..) (.cons (.call ..) (.nil _)), by decide +kernel⟩

/-- A REPLY ONLY FOR A REQUEST THAT WAS ISSUED (run form of `C02_no_foreign_reply`).  If `c` is not pending at the start
    of a run and pending at its end, the run contains a CALL step by session `c.sess` with request id `c.req` that
    found `c` not pending and recorded it.  So every pending call — and hence (`C02_no_foreign_reply`) every reply —
    goes back to a CALL message its caller has sent. -/
theorem C02_pending_was_called {s s' : DState} {tr : List (DState × DOut)} (c : ReqId) (run : Run s tr s') :
    DealerInv s → c ∉ s.d.calls → c ∈ s'.d.calls →
    ∃ p ∈ tr, IsCallStep p.1 p.2 c ∧ c ∉ p.1.d.calls ∧ c ∈ p.2.st.d.calls := by
  induction run with
  | nil s => intro _ hc hc'; exact absurd hc' hc
  | @cons s o tr s' st _ ih =>
    intro h hc hc'
    by_cases hmid : c ∈ o.st.d.calls
    · rcases st.calls_sub h c hmid with hx | hx
      · exact absurd hx hc
      · exact ⟨(s, o), List.mem_cons_self .., hx, hc, hmid⟩
    · obtain ⟨p, hp, hq⟩ := ih (st.inv h) hmid hc'
      exact ⟨p, List.mem_cons_of_mem _ hp, hq⟩

example : (⟨2, 5⟩ : ReqId) ∉ Ex.sReg.d.calls ∧ (⟨2, 5⟩ : ReqId) ∈ Ex.sCall.d.calls := by decide +kernel

/-- A progressive RESULT for `c` is emitted only while `c` is pending, and leaves it pending: progressive
    results come before the final reply only. -/
theorem C02_progress_only_before_final {s : DState} {o : DOut} (h : DealerInv s) (st : DStep s o) (c : ReqId)
    (hp : progsFor c o.sends ≠ []) : c ∈ s.d.calls ∧ c ∈ o.st.d.calls ∧ finalsFor c o.sends = [] := by
  have hr := st.replyOK h c
  obtain ⟨h1, h2⟩ := hr.prog hp
  refine ⟨h1, h2, ?_⟩
  cases hf : finalsFor c o.sends with
  | nil => rfl
  | cons x xs => exact absurd h2 (hr.final (by simp [hf]))

example : progsFor ⟨2, 5⟩ (syncYield Ex.env Ex.sCall 1 1 [] [.int 8] [] true true).sends ≠ [] := by decide +kernel

/-- RESULT / ERROR(CALL) messages go only to the session `c.sess` of a call `c` that is pending when
    the step starts (or whose CALL is being processed), with `c`'s request id: a session never gets a
    reply for a request id it did not issue. -/
theorem C02_no_foreign_reply {s : DState} {o : DOut} (h : DealerInv s) (st : DStep s o) (x : Send) (hx : x ∈ o.sends)
    (c : ReqId) (hc : x.replyTo = some c) : c ∈ s.d.calls ∨ IsCallStep s o c := by
  apply (st.replyOK h c).known
  intro he
  have : x ∈ repliesFor c o.sends := List.mem_filter.2 ⟨hx, by simp [hc]⟩
  rw [he] at this; cases this

/-- No registration matches (and the CALL is not a chunk of a pending call): exactly one ERROR
    no_such_procedure to the caller, nothing recorded, nothing else sent. -/
theorem C02_unroutable_nomatch {env : DEnv} {s : DState} (h : DealerInv s) (caller : SessKey) (req : Nat) (opts : Dict)
    (proc : String) (args : List WVal) (kw : Dict) (rnd : Nat) (hc : (⟨caller, req⟩ : ReqId) ∉ s.d.calls)
    (hm : s.d.matchProcedure proc = none) :
    syncCall env s caller req opts proc args kw rnd =
      { st := s, sends := [callErr ⟨caller, req⟩ [] ErrNoSuchProcedure [] []] } :=
  syncCall_nomatch caller req opts args kw rnd hm (h.call.byCall?_none hc)

example : Ex.sCall.d.matchProcedure "q" = none ∧ (⟨2, 9⟩ : ReqId) ∉ Ex.sCall.d.calls := by decide +kernel

/-- A later chunk of a pending call whose callee has no room: the call is ended with exactly one ERROR
    network_failure to the caller (the only message of the step) and removed. -/
theorem C02_later_chunk_callee_full {env : DEnv} {s : DState} (h : DealerInv s) {v : Invk} (hv : v ∈ s.d.invs)
    (opts : Dict) (proc : String) (args : List WVal) (kw : Dict) (rnd : Nat)
    (hprog : (opts.optFlag OptProgress && !hasFeat env v.callId.sess RoleCaller FeatureProgCallInvocations) = false)
    (hf : env.full v.callee = true) :
    (syncCall env s v.callId.sess v.callId.req opts proc args kw rnd).sends =
        [callErr v.callId [] ErrNetworkFailure [.str "<text>"] []] ∧
      v.callId ∉ (syncCall env s v.callId.sess v.callId.req opts proc args kw rnd).st.d.calls := by
  obtain ⟨_, hb, hfi⟩ := h.call.inv_call hv
  rw [syncCall_later proc args kw rnd hprog hb hfi, laterChunk_full_eq h opts args kw hb hfi hf]
  refine ⟨rfl, ?_⟩
  show v.callId ∉ s.d.calls.filter (· != v.callId)
  simp

/-- The CALL is refused (callee lacks a feature the call needs, or `disclose_me` is not allowed):
    exactly one ERROR(CALL) with the refusal's URI to the caller, nothing sent to anybody else, the
    call is not recorded. -/
theorem C02_unroutable_refused {env : DEnv} {s : DState} (h : DealerInv s) {caller : SessKey} {req : Nat} {opts : Dict}
    {proc : String} (args : List WVal) (kw : Dict) {rnd : Nat} {reg reg' : Reg} {callee : SessKey} {e : String}
    (hc : (⟨caller, req⟩ : ReqId) ∉ s.d.calls) (hm : s.d.matchProcedure proc = some reg)
    (hprog : (opts.optFlag OptProgress && !hasFeat env caller RoleCaller FeatureProgCallInvocations) = false)
    (hp : pickCallee reg rnd = some (callee, reg'))
    (hr : callRefusal env s.d.allowDisclose reg caller callee opts = some (.err e)) :
    (syncCall env s caller req opts proc args kw rnd).sends = [callErr ⟨caller, req⟩ [] e [] []] ∧
      (syncCall env s caller req opts proc args kw rnd).st.d.calls = s.d.calls ∧
      (syncCall env s caller req opts proc args kw rnd).st.d.invs = s.d.invs ∧
      (syncCall env s caller req opts proc args kw rnd).st.d.byCall = s.d.byCall := by
  rw [syncCall_picked args kw hm hprog (h.call.byCall?_none hc) hp, firstChunk_eq, hr]
  exact ⟨rfl, rfl, rfl, rfl⟩

example : (match callRefusal Ex.env false Ex.regPlain 2 3 [(OptProgress, .bool true)] with
    | some (.err e) => e | _ => "") = ErrFeatureNotSupported := by decide +kernel

/-- The chosen callee's queue is full: exactly one ERROR network_failure to the caller, the call is not
    recorded. -/
theorem C02_unroutable_callee_full {env : DEnv} {s : DState} (h : DealerInv s) {caller : SessKey} {req : Nat} {opts : Dict}
    {proc : String} (args : List WVal) (kw : Dict) {rnd : Nat} {reg reg' : Reg} {callee : SessKey}
    (hc : (⟨caller, req⟩ : ReqId) ∉ s.d.calls) (hm : s.d.matchProcedure proc = some reg)
    (hprog : (opts.optFlag OptProgress && !hasFeat env caller RoleCaller FeatureProgCallInvocations) = false)
    (hp : pickCallee reg rnd = some (callee, reg'))
    (hr : callRefusal env s.d.allowDisclose reg caller callee opts = none) (hf : env.full callee = true) :
    (syncCall env s caller req opts proc args kw rnd).sends =
        [callErr ⟨caller, req⟩ [] ErrNetworkFailure [.str "<text>"] []] ∧
      (syncCall env s caller req opts proc args kw rnd).st.d.calls = s.d.calls := by
  rw [syncCall_picked args kw hm hprog (h.call.byCall?_none hc) hp,
    firstChunk_full_eq h (matchProcedure_mem hm) args kw (pickCallee_shape hp).1 hc hr hf]
  exact ⟨rfl, fullOut_fresh_calls hc _ _⟩

/-- The owning callee answers a pending call with a non-progress YIELD and the caller is able to
    receive: exactly one reply to the caller, it is final, the call is removed.  This holds for a call
    in the cancelled-kill state too (the callee's answer becomes the final reply). -/
theorem C02_callee_final_yield {env : DEnv} {s : DState} (h : DealerInv s) {v : Invk} (hv : v ∈ s.d.invs) (opts : Dict)
    (args : List WVal) (kw : Dict) (canRetry : Bool) (hfull : env.full v.callId.sess = false) :
    ∃ x, repliesFor v.callId (syncYield env s v.id.sess v.id.req opts args kw false canRetry).sends = [x] ∧
      x.msg.isFinalReply = true ∧
      v.callId ∉ (syncYield env s v.id.sess v.id.req opts args kw false canRetry).st.d.calls :=
  yield_final h hv opts args kw canRetry hfull

/-- … and unless payload passthru is misused the reply is the RESULT with the YIELD's payload unchanged
    (details: the `ppt_*` keys of the YIELD when passthru is used, else empty). -/
theorem C02_callee_final_yield_payload {env : DEnv} {s : DState} (h : DealerInv s) {v : Invk} (hv : v ∈ s.d.invs)
    (opts : Dict) (args : List WVal) (kw : Dict) (canRetry : Bool) (hfull : env.full v.callId.sess = false)
    (h1 : yieldPptCalleeBad env v.id.sess opts = false) (h2 : yieldPptCallerBad env v.callId.sess opts = false) :
    (syncYield env s v.id.sess v.id.req opts args kw false canRetry).sends =
      [⟨v.callId.sess, .result v.callId.req (yieldDetails opts false) args kw⟩] := by
  rw [syncYield_owner h hv opts args kw false canRetry, yieldOut_deliver args kw false canRetry v h1 h2 hfull]

example : (syncYield Ex.env Ex.sKill 1 1 [] [.int 8] [] false true).sends.map Ex.summary = [(2, 50, some 5, true)] := by
  decide +kernel

/-- The owning callee answers a pending call with an INVOCATION ERROR: exactly that error (URI, details,
    payload unchanged) as ERROR(CALL) to the caller, call removed. -/
theorem C02_callee_final_error {s : DState} (h : DealerInv s) {v : Invk} (hv : v ∈ s.d.invs) (details : Dict)
    (err : String) (args : List WVal) (kw : Dict) :
    (syncError s v.id.sess v.id.req details err args kw).sends = [callErr v.callId details err args kw] ∧
      v.callId ∉ (syncError s v.id.sess v.id.req details err args kw).st.d.calls := by
  rw [syncError_owner h hv details err args kw]
  exact ⟨rfl, by simp⟩

/-- The callee's session ends: every call it was serving — also one with a kill-mode cancel
    outstanding — gets exactly one ERROR wamp.error.canceled to its caller and is removed. -/
theorem C02_callee_gone {env : DEnv} {s : DState} (h : DealerInv s) (k : SessKey) {v : Invk} (hv : v ∈ s.d.invs)
    (hk : v.callee = k) :
    repliesFor v.callId (syncRemoveSession env s k).sends = [goneErr v.callId] ∧
      v.callId ∉ (syncRemoveSession env s k).st.d.calls := by
  rcases syncRemoveSession_replies (env := env) h k v.callId with ⟨_, h2⟩ | ⟨h1, _⟩
  · exact absurd rfl (h2 v hv hk)
  · exact ⟨h1, fun hc => (syncRemoveSession_calls h k v.callId hc).2.2 v hv hk rfl⟩

/-- the cancelled-kill state of `Ex.sKill`: the callee leaves, the caller is answered -/
example : (syncRemoveSession Ex.env Ex.sKill 1).sends.map Ex.summary = [(2, 8, some 5, true)] ∧
    (syncRemoveSession Ex.env Ex.sKill 1).st.d.calls = [] := by decide +kernel

/-- CANCEL of a pending, not yet cancelled call in a mode other than kill (skip, killnowait), or in kill
    mode when the callee cannot be interrupted: exactly one ERROR(CALL) with the cancel's reason to the
    caller, call removed. -/
theorem C02_cancel_skip_killnowait {env : DEnv} {s : DState} (h : DealerInv s) {c : ReqId} {v : Invk}
    (hv : v ∈ s.d.invs) (hvc : v.callId = c) (hcan : v.canceled = false) (mode reason : String) (errArgs : List WVal)
    (hmode : mode ≠ CancelModeKill ∨ canInterrupt env v mode = false) :
    repliesFor c (syncCancel env s c.sess c.req mode reason errArgs).sends = [callErr c [] reason errArgs []] ∧
      c ∉ (syncCancel env s c.sess c.req mode reason errArgs).st.d.calls := by
  rw [syncCancel_live h hv hvc hcan]
  split
  · rename_i hci
    have hk : ¬ mode = CancelModeKill := hmode.elim id (fun hx => by rw [hx] at hci; cases hci)
    rw [if_neg hk]; exact ⟨by simp [repliesFor_cons], by simp⟩
  · exact ⟨by simp [repliesFor_cons], by simp⟩

example : (syncCancel Ex.env Ex.sCall 2 5 CancelModeSkip ErrCanceled []).sends.map Ex.summary = [(2, 8, some 5, true)] := by
  decide +kernel

/-- The router-side timeout of a pending call fires (`syncCancel` in killnowait mode with reason
    wamp.error.timeout, as posted by the timer goroutine) and no cancel is outstanding: exactly one
    ERROR wamp.error.timeout to the caller, call removed. -/
theorem C02_timeout {env : DEnv} {s : DState} (h : DealerInv s) {c : ReqId} {v : Invk}
    (hv : v ∈ s.d.invs) (hvc : v.callId = c) (hcan : v.canceled = false) :
    repliesFor c (syncCancel env s c.sess c.req CancelModeKillNoWait ErrTimeout [.str "<text>"]).sends =
        [callErr c [] ErrTimeout [.str "<text>"] []] ∧
      c ∉ (syncCancel env s c.sess c.req CancelModeKillNoWait ErrTimeout [.str "<text>"]).st.d.calls :=
  C02_cancel_skip_killnowait h hv hvc hcan _ _ _ (Or.inl (by decide))

example : (syncCancel Ex.env Ex.sTimed 2 6 CancelModeKillNoWait ErrTimeout [.str "<text>"]).sends.map Ex.summary =
    [(1, 69, none, false), (2, 8, some 6, true)] := by decide +kernel

/-- Caller's queue full, retries left: nothing is sent, the call stays as it is (the handler re-posts the
    YIELD later; a non-progress YIELD has already stopped the call timer). -/
theorem C02_full_retry {env : DEnv} {s : DState} (h : DealerInv s) {v : Invk} (hv : v ∈ s.d.invs) (opts : Dict)
    (args : List WVal) (kw : Dict) (progress : Bool) (hfull : env.full v.callId.sess = true)
    (h1 : yieldPptCalleeBad env v.id.sess opts = false) (h2 : yieldPptCallerBad env v.callId.sess opts = false) :
    syncYield env s v.id.sess v.id.req opts args kw progress true =
      { st := yieldTimer s progress v, again := true } := by
  rw [syncYield_owner h hv opts args kw progress true, yieldOut_retry args kw progress v h1 h2 hfull]

/-- Caller's queue full, no retry left: the RESULT is dropped and the call is cancelled (killnowait,
    wamp.error.canceled): a not yet cancelled call is removed, its ERROR handed to the realm (which
    drops it if the queue is still full), the callee interrupted when possible. -/
theorem C02_full_giveup {env : DEnv} {s : DState} (h : DealerInv s) {v : Invk} (hv : v ∈ s.d.invs) (opts : Dict)
    (args : List WVal) (kw : Dict) (progress : Bool) (hfull : env.full v.callId.sess = true)
    (h1 : yieldPptCalleeBad env v.id.sess opts = false) (h2 : yieldPptCallerBad env v.callId.sess opts = false)
    (hcan : v.canceled = false) :
    (syncYield env s v.id.sess v.id.req opts args kw progress false).sends =
        (if canInterrupt env v CancelModeKillNoWait
          then [interruptOf v v.id CancelModeKillNoWait ErrCanceled] else []) ++ [callErr v.callId [] ErrCanceled [] []] ∧
      v.callId ∉ (syncYield env s v.id.sess v.id.req opts args kw progress false).st.d.calls := by
  rw [syncYield_owner h hv opts args kw progress false, yieldOut_giveup h args kw progress hv rfl h1 h2 hfull,
    if_neg (by simp [hcan])]
  exact ⟨rfl, by simp⟩

/-- The realm's `trySend` drops a message for a session whose queue is full: nothing else changes. -/
theorem C02_full_dropped_at_realm (r : Realm) (k : SessKey) (m : Msg) (c : Session) (hk : k ≠ metaKey)
    (hc : r.clients.find? (fun c => c.key == k) = some c) (hfull : r.queueLen k ≥ c.cap) :
    r.trySend ⟨k, m⟩ = r :=
  Realm.trySend_full r ⟨k, m⟩ hk hc hfull

/-- DELIVERY.  Applying a dealer action `o` (`Realm.applyD`):
    * the queue of an attached client `k` becomes its old content followed by the messages of `o.sends` addressed
      to `k`, in the order of `o.sends`, cut off where the capacity `c.cap` is reached — a message that meets a
      full queue is dropped, nothing else is affected;
    * INVOCATIONs addressed to the meta session become `metaInvoke` tasks (in order), then come the dealer's meta
      events (`metaPub` tasks), then one `leave k aborted` task per aborted session;
    * the dealer state is `o.st`. -/
theorem C02_realm_delivery (r : Realm) (o : DOut) :
    (∀ (k : SessKey) (c : Session), k ≠ metaKey → r.clients.find? (fun c => c.key == k) = some c →
      (r.applyD o).dqueueOf k = r.dqueueOf k ++ (Realm.dmsgsTo k o.sends).take (c.cap - r.queueLen k)) ∧
    (r.applyD o).tasks = r.tasks ++ o.sends.filterMap Realm.dmetaTask ++ o.metaPubs.map Task.metaPub ++
      o.aborts.map (fun k => Task.leave k .aborted) ∧
    (r.applyD o).ending = r.ending ++ o.aborts ∧
    (r.applyD o).ds = o.st :=
  ⟨fun _ _ hk hc => Realm.dapplyD_queueOf r o hk hc, Realm.dapplyD_tasks r o, Realm.dapplyD_ending r o, Realm.applyD_ds r o⟩

/-- the RPC handlers of a session goroutine, the call timer and the retry turn are `applyD` of the `sync*`
    functions (so `C02_realm_delivery` describes their observable effect) -/
theorem C02_realm_handlers (r : Realm) (s : Session) (req : Nat) (opts : Dict) (proc : String) (args : List WVal)
    (kw : Dict) (details : Dict) (err : String) (t : Timer) :
    r.handleCall s req opts proc args kw = r.applyD (syncCall r.denv r.ds s.key req opts proc args kw r.rnd) ∧
    r.handleError s req details err args kw = r.applyD (syncError r.ds s.key req details err args kw) ∧
    ((Realm.cancelMode opts = CancelModeKillNoWait ∨ Realm.cancelMode opts = CancelModeKill ∨
        Realm.cancelMode opts = CancelModeSkip) →
      r.handleCancel s req opts = r.applyD (syncCancel r.denv r.ds s.key req (Realm.cancelMode opts) ErrCanceled [])) ∧
    (∀ k, (r.handleYield s req opts args kw).dqueueOf k =
      (r.applyD (syncYield r.denv r.ds s.key req opts args kw (opts.optFlag OptProgress) true)).dqueueOf k) ∧
    r.timerDue t =
      ({ r with ds := { r.ds with timers := r.ds.timers.filter (fun y => y.id != t.id) } } : Realm).applyD
        (syncCancel r.denv { r.ds with timers := r.ds.timers.filter (fun y => y.id != t.id) } t.caller t.req
          CancelModeKillNoWait ErrTimeout [.str "<text>"]) := by
  refine ⟨rfl, rfl, Realm.handleCancel_known s req opts, ?_, rfl⟩
  intro k
  unfold Realm.handleYield
  simp only
  split <;> rfl

/-- in `Ex.sKill`, of the messages the departing callee 1's `syncRemoveSession` sends exactly one is addressed to
    caller 2, and it is an ERROR (type code 8) -/
example : (Realm.dmsgsTo 2 (syncRemoveSession Ex.env Ex.sKill 1).sends).map Msg.typeCode = [8] := by decide +kernel

/-- CALLEE GONE, end to end.  Session `k` leaves (any `mode` but a realm shutdown).  For every call it was serving
    (`v`, also one in the cancelled-kill state) whose caller is an attached client with room for the dealer's
    messages: the caller's queue is extended by a list `app` containing exactly one reply for that request — ERROR
    (CALL, req, wamp.error.canceled) — and the call is gone from the dealer. -/
theorem C02_realm_callee_gone (r : Realm) (h : DealerInv r.ds) {k : SessKey} {s : Session} (mode : LeaveMode)
    (hfind : r.clients.find? (fun c => c.key == k) = some s) (hmode : mode.isShutdown = false)
    {v : Invk} (hv : v ∈ r.ds.d.invs) (hk : v.callee = k) {c : Session} (hcm : v.callId.sess ≠ metaKey)
    (hc : r.clients.find? (fun c => c.key == v.callId.sess) = some c)
    (hroom : (Realm.leaveSend r k mode).queueLen v.callId.sess +
      (Realm.dmsgsTo v.callId.sess (syncRemoveSession (Realm.leaveSend r k mode).denv r.ds k).sends).length ≤ c.cap) :
    ∃ app, (r.leave k mode).dqueueOf v.callId.sess = (Realm.leaveSend r k mode).dqueueOf v.callId.sess ++ app ∧
      Realm.qReplies v.callId.req app = [.error tCALL v.callId.req [] ErrCanceled [.str "<text>"] []] ∧
      v.callId ∉ (syncRemoveSession (Realm.leaveSend r k mode).denv r.ds k).st.d.calls := by
  -- the whole departure and its first stage (the announcement), each as offers to the caller's bounded queue
  have hL := (WpE.spec_leave r k mode).queueOf hcm hc
  have hS := (WpE.shaped_leaveSend r k mode).spec.queueOf hcm hc
  rw [WpE.leaveScript_offers hfind hmode, Realm.msgsTo_append, Realm.accept_append, ← hS, Realm.msgsTo_append,
    Realm.accept_append, Realm.accept_eq_take, Realm.accept_eq_take,
    List.take_of_length_le (by rw [← Realm.queueLen_eq]; exact Nat.le_sub_of_add_le' hroom), List.append_assoc] at hL
  obtain ⟨h1, hgone⟩ := C02_callee_gone (env := (Realm.leaveSend r k mode).denv) h k hv hk
  refine ⟨_, hL, ?_, hgone⟩
  -- the dealer's messages hold the one reply; the broker's meta events, as far as they fit, answer no request
  rw [Realm.qReplies_append, Realm.qReplies_of_none (ms := List.take _ _) fun _ hm => by
    obtain ⟨x, hx, _, rfl⟩ := Realm.dmem_msgsTo (List.mem_of_mem_take hm)
    exact Realm.dbrokerRemove_noreply _ _ _ x hx]
  refine (congrArg (· ++ []) (Realm.dqReplies_msgsTo v.callId _)).trans ?_
  rw [h1]; rfl

/-- TIMEOUT, end to end.  In `Realm.advance … target` the next due event is the timer `t` of a pending, not
    cancelled call (so `t.deadline ≤ target`).  Then `advance` fires it with the clock at the deadline; the
    caller's queue is extended, in order and as far as it has room, by the dealer's messages `app` for it (at most
    two), among which there is exactly one reply for that request: ERROR(CALL, req, wamp.error.timeout); the call is
    removed; and `advance` goes on from there. -/
theorem C02_realm_timeout (r : Realm) (h : DealerInv r.ds) (fuel target : Nat) (t : Timer)
    (hn : Realm.nextDue r target = some (.timer t)) {v : Invk} (hv : v ∈ r.ds.d.invs)
    (hvc : v.callId = ⟨t.caller, t.req⟩) (hcan : v.canceled = false) {c : Session} (hcm : t.caller ≠ metaKey)
    (hc : r.clients.find? (fun c => c.key == t.caller) = some c) :
    t.deadline ≤ target ∧
    Realm.advance (fuel + 1) r target =
      Realm.advance fuel (Realm.drain Realm.taskFuel
        (({ r with now := max r.now t.deadline } : Realm).timerDue t)) target ∧
    ∃ app, (({ r with now := max r.now t.deadline } : Realm).timerDue t).dqueueOf t.caller =
        r.dqueueOf t.caller ++ app.take (c.cap - r.queueLen t.caller) ∧
      Realm.qReplies t.req app = [.error tCALL t.req [] ErrTimeout [.str "<text>"] []] ∧ app.length ≤ 2 ∧
      (⟨t.caller, t.req⟩ : ReqId) ∉ (({ r with now := max r.now t.deadline } : Realm).timerDue t).ds.d.calls :=
  by
  refine ⟨(Realm.nextDue_timer hn).2.2.1, by simp only [Realm.advance, hn]; rfl, ?_⟩
  let R : Realm := { r with now := max r.now t.deadline }
  have hi := h.filterTimers (fun y => y.id != t.id)
  obtain ⟨h1, h3⟩ := C02_timeout (env := R.denv) hi hv hvc hcan
  exact ⟨_, (WpE.shaped_timerDue R t).spec.queueOf_take hcm hc,
    (Realm.dqReplies_msgsTo ⟨t.caller, t.req⟩ _).trans (congrArg (List.map (·.msg)) h1),
    Nat.le_trans (Realm.dmsgsTo_length_le ..) (syncCancel_sends_length ..), by rw [Realm.timerDue_ds]; exact h3⟩

/-- `C02_realm_callee_gone` and `C02_realm_timeout` in every REACHABLE realm (any history of inputs): the dealer
    invariant holds, and the caller — an attached client — does not carry the meta session's key
    (`Realm.Reachable.find?_ne_meta`: `join` under that key is a no-op of the model), so the two side conditions
    `DealerInv r.ds` and `… ≠ metaKey` are discharged. -/
theorem C02_realm_callee_gone_reachable {cfg : Config} {r : Realm} (hr : Realm.Reachable cfg r) {k : SessKey} {s : Session}
    (mode : LeaveMode) (hfind : r.clients.find? (fun c => c.key == k) = some s) (hmode : mode.isShutdown = false)
    {v : Invk} (hv : v ∈ r.ds.d.invs) (hk : v.callee = k) {c : Session}
    (hc : r.clients.find? (fun c => c.key == v.callId.sess) = some c)
    (hroom : (Realm.leaveSend r k mode).queueLen v.callId.sess +
      (Realm.dmsgsTo v.callId.sess (syncRemoveSession (Realm.leaveSend r k mode).denv r.ds k).sends).length ≤ c.cap) :
    ∃ app, (r.leave k mode).dqueueOf v.callId.sess = (Realm.leaveSend r k mode).dqueueOf v.callId.sess ++ app ∧
      Realm.qReplies v.callId.req app = [.error tCALL v.callId.req [] ErrCanceled [.str "<text>"] []] ∧
      v.callId ∉ (syncRemoveSession (Realm.leaveSend r k mode).denv r.ds k).st.d.calls :=
  C02_realm_callee_gone r hr.inv.1.dinv mode hfind hmode hv hk (hr.find?_ne_meta hc) hc hroom

theorem C02_realm_timeout_reachable {cfg : Config} {r : Realm} (hr : Realm.Reachable cfg r) (fuel target : Nat) (t : Timer)
    (hn : Realm.nextDue r target = some (.timer t)) {v : Invk} (hv : v ∈ r.ds.d.invs)
    (hvc : v.callId = ⟨t.caller, t.req⟩) (hcan : v.canceled = false) {c : Session}
    (hc : r.clients.find? (fun c => c.key == t.caller) = some c) :
    t.deadline ≤ target ∧
    Realm.advance (fuel + 1) r target =
      Realm.advance fuel (Realm.drain Realm.taskFuel
        (({ r with now := max r.now t.deadline } : Realm).timerDue t)) target ∧
    ∃ app, (({ r with now := max r.now t.deadline } : Realm).timerDue t).dqueueOf t.caller =
        r.dqueueOf t.caller ++ app.take (c.cap - r.queueLen t.caller) ∧
      Realm.qReplies t.req app = [.error tCALL t.req [] ErrTimeout [.str "<text>"] []] ∧ app.length ≤ 2 ∧
      (⟨t.caller, t.req⟩ : ReqId) ∉ (({ r with now := max r.now t.deadline } : Realm).timerDue t).ds.d.calls :=
  C02_realm_timeout r hr.inv.1.dinv fuel target t hn hv hvc hcan (hr.find?_ne_meta hc) hc

/-- … and never earlier: in a tick to a time before its deadline a timer does not fire. -/
theorem C02_realm_timeout_not_before {target : Nat} {r r' : Realm} {evs : List (Realm × Realm.Due)}
    (h : Realm.Adv target r evs r') (t : Timer) (hlt : target < t.deadline) : ∀ p ∈ evs, p.2 ≠ .timer t := by
  intro p hp he
  have := (h.fired p hp t he).2.2.1
  omega

/-- the ERROR `authzMessage` answers a refused CALL with -/
def deniedCallErr (dec : String) (req : Nat) : Msg :=
  if dec == "fail" then .error tCALL req [] ErrAuthorizationFailed [.str "<text>"] []
  else .error tCALL req [] ErrNotAuthorized [] []

/-- A CALL REFUSED BY THE AUTHORIZER never reaches the dealer: the handler answers it itself (realm.go
    `authzMessage`).  For an attached client `c` that is subject to authorization and whose CALL the rule table does
    not allow: the dealer state is untouched; exactly one message is appended to the caller's queue if it has room
    (none if it is full) — ERROR(CALL, req, wamp.error.not_authorized), or wamp.error.authorization_failed with one
    argument when the Authorizer failed — which has the form of a final reply for that request; no other queue changes. -/
theorem C02_realm_call_denied (r : Realm) (rules : List AuthzRule) (s c : Session) (req : Nat) (opts : Dict)
    (proc : String) (args : List WVal) (kw : Dict)
    (hcfg : r.cfg.authz = some rules) (hex : Realm.exempt r.cfg.localAuthz s = false)
    (hdec : ¬ (Realm.authzDecision rules s.key (.call req opts proc args kw) = "allow" ∨
      Realm.authzDecision rules s.key (.call req opts proc args kw) = "allowerr"))
    (hc : r.clients.find? (fun c => c.key == s.key) = some c) :
    (Realm.handleMsg r s (.call req opts proc args kw)).ds = r.ds ∧
    (Realm.handleMsg r s (.call req opts proc args kw)).dqueueOf s.key =
      (if r.queueLen s.key ≥ c.cap then r.dqueueOf s.key
       else r.dqueueOf s.key ++ [deniedCallErr (Realm.authzDecision rules s.key (.call req opts proc args kw)) req]) ∧
    (∀ k, k ≠ s.key → (Realm.handleMsg r s (.call req opts proc args kw)).dqueueOf k = r.dqueueOf k) ∧
    (deniedCallErr (Realm.authzDecision rules s.key (.call req opts proc args kw)) req).replyReq = some req ∧
    (deniedCallErr (Realm.authzDecision rules s.key (.call req opts proc args kw)) req).isFinalReply = true := by
  have hk : s.key ≠ metaKey := fun e => by simp [Realm.exempt, e] at hex
  have hden : ∀ dec, Realm.denialReply dec (.call req opts proc args kw) = some (deniedCallErr dec req) := by
    intro dec
    unfold Realm.denialReply deniedCallErr
    simp only [Bool.false_eq_true, if_false]
    rfl
  rw [Realm.handleMsg_eq_handleMsgG, hcfg, Option.map_some, Realm.handleMsgG_some,
    if_neg (not_or.mpr ⟨ne_true_of_eq_false hex, hdec⟩), hden]
  have e := Realm.trySend_client_effect r
    ⟨s.key, deniedCallErr (Realm.authzDecision rules s.key (.call req opts proc args kw)) req⟩ hk hc
  refine ⟨Realm.trySend_ds _ _, ?_, fun k hne => Realm.queueOf_trySend_ne r hne,
    ?_, ?_⟩
  · by_cases hfull : r.queueLen s.key ≥ c.cap
    · exact (congrArg (·.queueOf s.key) (e.1 hfull)).trans (if_pos hfull).symm
    · exact (e.2 (Nat.lt_of_not_le hfull)).1.trans (if_neg hfull).symm
  · unfold deniedCallErr; split <;> rfl
  · unfold deniedCallErr; split <;> rfl

/-- a realm whose Authorizer denies CALLs to "q" -/
def Ex.cfgDenyQ : Config := { authz := some [{ typ := 48, uri := "q", sess := none, decision := "deny" }] }

theorem create_denyQ : Realm.create Ex.cfgDenyQ =
    some { Realm.metaRealm with cfg := Ex.cfgDenyQ, broker := ({} : Broker).preInit Ex.cfgDenyQ.history } :=
  Realm.create_eq Ex.cfgDenyQ rfl rfl rfl rfl rfl (by decide +kernel)

/-- the hypotheses of `C02_realm_call_denied` are met by the remote session 5 calling "q" in such a realm -/
example :
    let s5 : Session := { key := 5, details := [], roles := [], isLocal := false }
    let r : Realm := { cfg := Ex.cfgDenyQ, clients := [s5], queues := [(5, [])] }
    r.cfg.authz = some [{ typ := 48, uri := "q", sess := none, decision := "deny" }] ∧
    Realm.exempt r.cfg.localAuthz s5 = false ∧
    Realm.authzDecision [{ typ := 48, uri := "q", sess := none, decision := "deny" }] 5 (.call 1 [] "q" [] []) = "deny" ∧
    (r.clients.find? (fun c => c.key == s5.key)).isSome = true := by
  intro s5 r
  exact ⟨rfl, by decide +kernel, by decide +kernel, by decide +kernel⟩

def Ex.runObs (r : Realm) : List Realm.Op → List Realm.Observed × Realm
  | [] => ([], r)
  | op :: ops => ((r.step op).1 :: (Ex.runObs (r.step op).2 ops).1, (Ex.runObs (r.step op).2 ops).2)

/-- the final replies for request `req` session `k` reads over a history -/
def finalsSeen (obs : List Realm.Observed) (k : SessKey) (req : Nat) : List Msg :=
  (obs.flatMap (fun o => (o.out.filter (fun q => q.1 == k)).flatMap (·.2))).filter
    (fun m => m.replyReq == some req && m.isFinalReply)

/-- the `progress` flags of the CALL messages session `k` sends with request id `req`, in order -/
def chunkFlags (ops : List Realm.Op) (k : SessKey) (req : Nat) : List Bool :=
  ops.filterMap (fun op => match op with
    | .msg k' (.call q opts _ _ _) => if k' = k ∧ q = req then some (opts.optFlag OptProgress) else none
    | _ => none)

/-- the request id is used for one call: all its CALL messages but the last carry `progress: true` -/
def OneCall (flags : List Bool) : Prop := ∀ i, i + 1 < flags.length → flags[i]! = true

/-- full strength at realm level: over every history from a fresh realm, a session that uses a request id for one call
    (possibly a progressive call invocation in several chunks) reads at most one final reply for it -/
def C02_realm_one_final_full : Prop :=
  ∀ (cfg : Config) (r0 : Realm), Realm.create cfg = some r0 → ∀ (ops : List Realm.Op) (k : SessKey) (req : Nat),
    OneCall (chunkFlags ops k req) → (finalsSeen (Ex.runObs r0 ops).1 k req).length ≤ 1

/-- the history: callee 1 registers "p"; caller 2 opens the progressive call 7 to "p" (allowed); its last chunk names
    "q" — the dealer would route it to the stored callee without looking at the URI, but the Authorizer denies it:
    ERROR(CALL, 7, not_authorized) to the caller, the call stays pending; then the callee answers: RESULT(7). -/
def Ex.opsDenied : List Realm.Op :=
  [ .join 1 false [] [(RoleCallee, [FeatureCallCanceling, FeatureProgCallInvocations])] 8,
    .join 2 false [] [(RoleCaller, [FeatureProgCallInvocations])] 8,
    .msg 1 (.register 1 [] "p"),
    .msg 2 (.call 7 [(OptProgress, .bool true)] "p" [] []),
    .msg 2 (.call 7 [] "q" [] []),
    .msg 1 (.yield 1 [] [.int 1] []) ]

/-- FALSE, of the model and (by reading realm.go `authzMessage` + dealer.go `syncCall`) of the router: the ERROR the
    handler sends for a refused LATER CHUNK of a pending progressive call invocation is a final reply by its form, but
    the call is not ended — its callee's answer is a second final reply for the same request.  (The dealer-level
    statement `C02_episode` is not affected: the refused chunk never becomes a dealer step.) -/
theorem C02_realm_one_final_full_fails : ¬ C02_realm_one_final_full := by
  intro hfull
  have hone : OneCall (chunkFlags Ex.opsDenied 2 7) := by
    rw [show chunkFlags Ex.opsDenied 2 7 = [true, false] by decide +kernel]
    intro i hi
    have : i = 0 := by simp at hi; omega
    subst this
    rfl
  -- the caller reads ERROR(CALL, 7) and then RESULT(7)
  exact absurd (hfull _ _ create_denyQ Ex.opsDenied 2 7 hone) (by decide +kernel)

end Nexus.C02
