/-
  C12 (allocation model) — "in-process recipients get private copies of details and payload".

  Property text (the clause addressed here).  "[…] The details of a message delivered to one recipient
  […] never change after delivery; in-process recipients get private copies of details and payload […]."

  The L2 value model (`Nexus.L2.eventDetails`, `mkEvent`) cannot express aliasing: it computes VALUES.
  This file is a small model of the ALLOCATIONS of `prepareEvent` (router/broker.go): every container
  (a Go map or a slice's backing array) is named by a reference, and `make` / `maps.Copy` into a new map /
  `slices.Clone` draw a fresh reference from a counter — the heap never hands out an address twice
  while the object lives, and the harness keeps every delivered EVENT alive.

      details := make(wamp.Dict, …)            -- one per recipient (d1)
      event.Arguments, event.ArgumentsKw = msg.Arguments, msg.ArgumentsKw     -- shared with the PUBLISH
      if subscriber.IsLocal() {
          options := make(…); event.Details = options                         -- d2, fresh
          if msg.Arguments != nil   { event.Arguments   = slices.Clone(…) }   -- fresh
          if msg.ArgumentsKw != nil { event.ArgumentsKw = (new map, copied) } -- fresh
      }

  A container that is absent (`nil`; for `Arguments` also the empty slice, whose clone has no backing
  array of its own and cannot be written through) has no reference: `Option Nat`.

  clause                                                                theorem
  --------------------------------------------------------------------  -----------------------------------
  one recipient: an in-process recipient's containers are all fresh
    (drawn from the counter during this call), pairwise distinct; a
    remote recipient's details are fresh, its payload is the
    publisher's (it is serialised, never handed over)                    C12_alloc_prepareEvent
  one publication, any list of recipients: the references handed to
    in-process recipients are pairwise distinct (across recipients
    and within one) and fresh                                            C12_alloc_publication
  a whole run — any sequence of publications, each with containers
    that exist when it is published, each to any recipients: ALL
    references handed to in-process recipients in the run are pairwise
    distinct, and none is a container of the publication it was made
    for (nor of any object that existed when it was made)                C12_alloc_run

  THE TIE TO THE GO CODE IS NOT A THEOREM.  That `prepareEvent` allocates as modelled here is checked
  on every run by the pointer check of the l2 correspondence family (/verif/harness/l2/impl.go,
  `world.aliased`): it records the addresses (`reflect.Value.Pointer`) of `Details`, `Arguments` and
  `ArgumentsKw` of every EVENT delivered to an in-process client and reports any address seen before —
  for another recipient, or an earlier EVENT of the same recipient.  The theorems below say what that
  check can never find IF the code allocates as modelled; the family says that it does on the inputs it
  runs.  The clause "never change after delivery" is likewise covered only by the family (re-reading
  at quiescence).
-/
namespace Nexus.C12.Alloc

/- A container (a map, or the backing array of a slice) is named by a reference: a natural number, the value of the
   allocation counter when it was made.  References are written `Nat` throughout. -/

/-- the containers of a PUBLISH as it reaches `prepareEvent`: the details dict `broker.publish` built, the
    publisher's `Arguments` and `ArgumentsKw` (absent if nil) -/
structure PubRefs where
  details : Nat
  args : Option Nat
  kw : Option Nat

/-- the containers of an EVENT -/
structure EvRefs where
  details : Nat
  args : Option Nat
  kw : Option Nat

def PubRefs.all (p : PubRefs) : List Nat := p.details :: (p.args.toList ++ p.kw.toList)
def EvRefs.all (e : EvRefs) : List Nat := e.details :: (e.args.toList ++ e.kw.toList)

/-- `slices.Clone` / "new map, copied": a fresh reference if the container is present -/
def clone (c : Option Nat) (next : Nat) : Option Nat × Nat :=
  match c with
  | some _ => (some next, next + 1)
  | none => (none, next)

/-- `prepareEvent` for one recipient; `next` is the allocation counter -/
def prepareEvent (p : PubRefs) (isLocal : Bool) (next : Nat) : EvRefs × Nat :=
  let d1 := next                       -- details := make(...)
  let next := next + 1
  if isLocal then
    let d2 := next                     -- options := make(...); event.Details = options
    let next := next + 1
    let (a, next) := clone p.args next
    let (k, next) := clone p.kw next
    ({ details := d2, args := a, kw := k }, next)
  else ({ details := d1, args := p.args, kw := p.kw }, next)

/-- one publication to the recipients `rs` (true = in-process), in order -/
def publishTo (p : PubRefs) : List Bool → Nat → List (Bool × EvRefs) × Nat
  | [], next => ([], next)
  | l :: rs, next =>
    let (e, next) := prepareEvent p l next
    let (es, next) := publishTo p rs next
    ((l, e) :: es, next)

/-- the references handed to in-process recipients -/
def localRefs (out : List (Bool × EvRefs)) : List Nat := (out.filter (·.1)).flatMap (·.2.all)

/-- strictly increasing, within [lo, hi) -/
def Incr (lo : Nat) (l : List Nat) (hi : Nat) : Prop := l.Pairwise (· < ·) ∧ ∀ x ∈ l, lo ≤ x ∧ x < hi

theorem Incr.nil {lo hi : Nat} : Incr lo [] hi := ⟨List.Pairwise.nil, fun _ h => nomatch h⟩

theorem Incr.append {a b c : Nat} {l1 l2 : List Nat} (h1 : Incr a l1 b) (h2 : Incr b l2 c) (hab : a ≤ b) (hbc : b ≤ c) :
    Incr a (l1 ++ l2) c := by
  refine ⟨List.pairwise_append.mpr ⟨h1.1, h2.1, fun x hx y hy => ?_⟩, fun x hx => ?_⟩
  · have := (h1.2 x hx).2
    have := (h2.2 y hy).1
    omega
  · rcases List.mem_append.mp hx with h | h
    · have := h1.2 x h; omega
    · have := h2.2 x h; omega

theorem Incr.mono {a a' b b' : Nat} {l : List Nat} (h : Incr a l b) (ha : a' ≤ a) (hb : b ≤ b') :
    Incr a' l b' :=
  ⟨h.1, fun x hx => ⟨Nat.le_trans ha (h.2 x hx).1, Nat.lt_of_lt_of_le (h.2 x hx).2 hb⟩⟩

theorem Incr.nodup {lo hi : Nat} {l : List Nat} (h : Incr lo l hi) : l.Nodup :=
  h.1.imp (fun hab => Nat.ne_of_lt hab)

theorem clone_spec (c : Option Nat) (next : Nat) :
    next ≤ (clone c next).2 ∧ Incr next (clone c next).1.toList (clone c next).2 ∧
    ((clone c next).1.isSome = c.isSome) := by
  cases c with
  | none => exact ⟨Nat.le_refl _, Incr.nil, rfl⟩
  | some r =>
    refine ⟨Nat.le_succ _, ⟨List.pairwise_singleton .., fun x hx => ?_⟩, rfl⟩
    cases List.mem_singleton.mp hx
    exact ⟨Nat.le_refl _, Nat.lt_succ_self _⟩

end Nexus.C12.Alloc

namespace Nexus.C12
open Alloc

/-- ONE RECIPIENT.  `prepareEvent` only advances the counter.  For an in-process recipient all containers of the EVENT
    are fresh — drawn from the counter during this call —, strictly increasing (so pairwise distinct), and a
    container is present iff the publisher's is.  For a remote recipient the details are fresh and the payload
    containers are the publisher's. -/
theorem C12_alloc_prepareEvent (p : PubRefs) (isLocal : Bool) (next : Nat) :
    next < (prepareEvent p isLocal next).2 ∧
    (isLocal = true →
      Incr next (prepareEvent p isLocal next).1.all (prepareEvent p isLocal next).2 ∧
      (prepareEvent p isLocal next).1.args.isSome = p.args.isSome ∧
      (prepareEvent p isLocal next).1.kw.isSome = p.kw.isSome) ∧
    (isLocal = false →
      (prepareEvent p isLocal next).1.details = next ∧ (prepareEvent p isLocal next).1.args = p.args ∧
      (prepareEvent p isLocal next).1.kw = p.kw) := by
  cases isLocal with
  | false =>
    exact ⟨Nat.lt_succ_self _, nofun, fun _ => ⟨rfl, rfl, rfl⟩⟩
  | true =>
    obtain ⟨a1, a2, a3⟩ := clone_spec p.args (next + 1 + 1)
    obtain ⟨k1, k2, k3⟩ := clone_spec p.kw (clone p.args (next + 1 + 1)).2
    refine ⟨?_, fun _ => ⟨?_, a3, k3⟩, nofun⟩
    · show next < (clone p.kw (clone p.args (next + 1 + 1)).2).2
      omega
    · have hd : Incr next [next + 1] (next + 1 + 1) :=
        ⟨List.pairwise_singleton .., fun x hx => by cases List.mem_singleton.mp hx; omega⟩
      exact hd.append (a2.append k2 a1 k1) (by omega) (Nat.le_trans a1 k1)

end Nexus.C12

namespace Nexus.C12.Alloc

/-- non-vacuity: an in-process recipient of a PUBLISH with arguments and no keyword arguments, counter at 10:
    details 11 (10 was the first `make`, replaced), arguments 12 -/
example : (prepareEvent { details := 3, args := some 4, kw := none } true 10).1.all = [11, 12] ∧
    (prepareEvent { details := 3, args := some 4, kw := none } true 10).2 = 13 ∧
    (prepareEvent { details := 3, args := some 4, kw := none } false 10).1.all = [10, 4] := by decide

theorem publishTo_spec (p : PubRefs) : ∀ (rs : List Bool) (next : Nat),
    next ≤ (publishTo p rs next).2 ∧ Incr next (localRefs (publishTo p rs next).1) (publishTo p rs next).2 ∧
    (publishTo p rs next).1.map (·.1) = rs
  | [], next => ⟨Nat.le_refl _, Incr.nil, rfl⟩
  | l :: rs, next => by
    obtain ⟨h1, h2, _⟩ := C12_alloc_prepareEvent p l next
    obtain ⟨i1, i2, i3⟩ := publishTo_spec p rs (prepareEvent p l next).2
    refine ⟨Nat.le_trans (Nat.le_of_lt h1) i1, ?_, congrArg (l :: ·) i3⟩
    cases l with
    | false => exact i2.mono (Nat.le_of_lt h1) (Nat.le_refl _)
    | true => exact (h2 rfl).1.append i2 (Nat.le_of_lt h1) i1

end Nexus.C12.Alloc

namespace Nexus.C12
open Alloc

/-- ONE PUBLICATION, any recipients in any order: the references handed to its in-process recipients are pairwise
    distinct — between recipients and within one EVENT — and all fresh (at least the counter at the start, so different
    from every container that existed then, in particular the publisher's). -/
theorem C12_alloc_publication (p : PubRefs) (rs : List Bool) (next : Nat) :
    (localRefs (publishTo p rs next).1).Nodup ∧ ∀ x ∈ localRefs (publishTo p rs next).1, next ≤ x :=
  ⟨(publishTo_spec p rs next).2.1.nodup, fun x hx => ((publishTo_spec p rs next).2.1.2 x hx).1⟩

end Nexus.C12

namespace Nexus.C12.Alloc

/-- a publication: its containers and its recipients -/
structure Pub where
  refs : PubRefs
  recips : List Bool

/-- a sequence of publications; between two of them the heap may allocate `gap` further objects (the next PUBLISH
    message, session tables, …) -/
def run : List (Pub × Nat) → Nat → List (Pub × List (Bool × EvRefs)) × Nat
  | [], next => ([], next)
  | (pb, gap) :: rest, next =>
    let (out, next) := publishTo pb.refs pb.recips next
    let (outs, next) := run rest (next + gap)
    ((pb, out) :: outs, next)

/-- all references handed to in-process recipients in a run, in order -/
def runLocalRefs (res : List (Pub × List (Bool × EvRefs))) : List Nat := res.flatMap (fun x => localRefs x.2)

theorem run_spec : ∀ (ps : List (Pub × Nat)) (next : Nat),
    next ≤ (run ps next).2 ∧ Incr next (runLocalRefs (run ps next).1) (run ps next).2
  | [], next => ⟨Nat.le_refl _, Incr.nil⟩
  | (pb, gap) :: rest, next => by
    obtain ⟨h1, h2, _⟩ := publishTo_spec pb.refs pb.recips next
    obtain ⟨i1, i2⟩ := run_spec rest ((publishTo pb.refs pb.recips next).2 + gap)
    have hle := Nat.le_trans (Nat.le_add_right _ gap) i1
    exact ⟨Nat.le_trans h1 hle, h2.append (i2.mono (Nat.le_add_right ..) (Nat.le_refl _)) h1 hle⟩

/-- every publication of the run, with the counter at which it is made -/
def runAt : List (Pub × Nat) → Nat → List (Pub × Nat × List (Bool × EvRefs))
  | [], _ => []
  | (pb, gap) :: rest, next =>
    (pb, next, (publishTo pb.refs pb.recips next).1) :: runAt rest ((publishTo pb.refs pb.recips next).2 + gap)

end Nexus.C12.Alloc

namespace Nexus.C12
open Alloc

/-- A WHOLE RUN: any sequence of publications (any containers, any recipients, any other allocations in between).
    * All references handed to in-process recipients over the run are pairwise distinct.
    * Each is fresh when made: at least the counter value at which its publication is processed — hence different
      from every container that existed at that moment, in particular from the containers of its own PUBLISH
      (`pb.refs.all`, when these exist then: `< at`) and of every earlier one. -/
theorem C12_alloc_run (ps : List (Pub × Nat)) (next : Nat) :
    (runLocalRefs (run ps next).1).Nodup ∧
    ∀ e ∈ runAt ps next, ∀ x ∈ localRefs e.2.2, e.2.1 ≤ x ∧
      ((∀ y ∈ e.1.refs.all, y < e.2.1) → x ∉ e.1.refs.all) := by
  refine ⟨(run_spec ps next).2.nodup, ?_⟩
  induction ps generalizing next with
  | nil => intro e he; cases he
  | cons a rest ih =>
    obtain ⟨pb, gap⟩ := a
    intro e he x hx
    rcases List.mem_cons.mp he with rfl | he
    · have hge := (C12_alloc_publication pb.refs pb.recips next).2 x hx
      refine ⟨hge, fun hall hmem => ?_⟩
      have h1 : x < next := hall x hmem
      omega
    · exact ih _ e he x hx

end Nexus.C12

namespace Nexus.C12.Alloc

/-- non-vacuity: two publications (the first to an in-process, a remote and another in-process recipient, the second —
    after 5 other allocations — to an in-process recipient), counter starting at 100 while the publishers' containers
    are 1, 2, 3 and 50, 51: the in-process recipients get 101, 102, 103 / 106, 107, 108 / 115, 116 — pairwise distinct,
    none of 1, 2, 3, 50, 51 — while the remote recipient shares the publisher's payload 2, 3 -/
example :
    let p1 : Pub := { refs := { details := 1, args := some 2, kw := some 3 }, recips := [true, false, true] }
    let p2 : Pub := { refs := { details := 50, args := some 51, kw := none }, recips := [true] }
    runLocalRefs (run [(p1, 5), (p2, 0)] 100).1 = [101, 102, 103, 106, 107, 108, 115, 116] ∧
    ((run [(p1, 5), (p2, 0)] 100).1.map (fun x => x.2.map (fun y => (y.1, y.2.all)))) =
      [[(true, [101, 102, 103]), (false, [104, 2, 3]), (true, [106, 107, 108])], [(true, [115, 116])]] := by
  decide

end Nexus.C12.Alloc

