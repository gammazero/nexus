/-
  C08 (dealer half) — Per-peer ordering guarantees.

  Property text (the RPC part).  "… calls by one caller routed to the same callee arrive there in call order;
  for each call, progressive results reach the caller in yield order and before the final reply.  A session
  sees … REGISTERED before the first INVOCATION and no new INVOCATION after UNREGISTERED for that
  registration - regardless of what any other sessions do at the same time."

  The dealer goroutine is one sequential process: a run of the dealer model is a list of atomic steps
  (`Run s tr s'`, `tr` = list of (state before, output)), and the messages of one step are handed to the
  recipients' queues in the order of `o.sends` (`Realm.deliver`, see `C02_realm_delivery`).  Hence the stream a
  session receives from the dealer is `outStream k tr` = the concatenation, in step order, of the messages each
  step sends to `k`; the replies to call `c` form `replyStream c tr`.  (That the queue and the transport keep this
  order is the L3 half, Nexus.Props.C08.)  All theorems hold for every run from a state satisfying `DealerInv`,
  i.e. whatever other sessions do in between.

  clause                                                             theorem
  -----------------------------------------------------------------  ------------------------------------
  two calls routed to the same callee: INVOCATIONs arrive in call     C08_call_order
    order, with increasing invocation ids
  per call: replies are progressive* then at most one final,          C08_progress_order
    nothing follows
  … also over runs with later chunks of that call, as long as no      C08_progress_order_chunks
    new call takes its id while it is pending
  … each RESULT is the forwarding of one YIELD of the owning callee   C08_result_is_yield
    (payload unchanged), one per step: yield order = result order
  a new invocation (first chunk of a call) with registration id g     C08_reg_bracket_partial
    goes to k only while k is a callee of g
  a later chunk of a progressive call repeats callee, invocation id    C08_reg_bracket_later,
    and the registration id recorded at the first chunk — which was   C08_reg_recorded
    the id of a registration having k as callee at that time
  k becomes a callee of g only in its own REGISTER step, which        C08_registered_first
    sends REGISTERED(…, g) and no INVOCATION
  the UNREGISTER step sends UNREGISTERED, no INVOCATION, and k is     C08_unregistered_last
    no callee of g afterwards
  no new INVOCATION(…, g) to k while k is not a callee of g           C08_reg_bracket (over runs: before
                                                                      REGISTERED and after UNREGISTERED)
  literally "INVOCATION(…, g) to k only while k ∈ callees(g)"         C08_reg_bracket_full_fails (by design)

  Still false at full strength, by design (reported).  After fix 0365a6a a later chunk of a progressive call is
  delivered to the stored callee under the registration id stored at the first chunk, "also after that callee
  unregistered".  Hence "INVOCATION(…, g) reaches k only while k ∈ callees(g)" is false for continuations
  (`C08_reg_bracket_full_fails`, witness `Ex.sSharedUnreg`: sessions 1 and 3 share registration 2, session 1
  serves a pending progressive call, UNREGISTERs — and still gets the next chunk as INVOCATION(1, 2, …)).  The
  property text says "no new INVOCATION after UNREGISTERED": a continuation keeps the invocation id of an
  INVOCATION received before UNREGISTERED and is not a new one; with that reading the clause holds
  (`C08_reg_bracket`, `C08_reg_bracket_partial`).  The earlier defect — a chunk naming another procedure reached the
  callee under a registration id it never held — is gone: `C08_reg_bracket_later`.
-/
import Nexus.L2.Proofs.DealerOrder
import Nexus.L2.Proofs.DealerExamples
import Nexus.Props.C02
import Nexus.Props.C03

namespace Nexus.C08
open Nexus.L2 Nexus.Gen.N Nexus

/-- Two steps i < j of a run each open a new invocation towards callee `k` (an INVOCATION whose id is not that of a
    stored invocation — the first chunk of a call).  Then
    * each of the two steps is the CALL step of some caller `cᵢ` with request `qᵢ` (a new call: not pending before),
      the INVOCATION is the only message of that step, carries that CALL's arguments, and the step records the
      invocation `(k, rᵢ)` for the call `(cᵢ, qᵢ)`;
    * the callee's stream contains the two INVOCATIONs in the order of the two CALL steps, and the second has the
      larger invocation id.
    Nothing is assumed about the callers: in particular for `c₁ = c₂`, two calls by one caller that are routed to the
    same callee reach it in the order in which the dealer processed them (= the order the caller sent them,
    `C08.fifo_per_kind`), whatever other sessions do in between. -/
theorem C08_call_order {s s' s1 s2 : DState} {o1 o2 : DOut} {tr1 tr2 tr3 : List (DState × DOut)}
    (run : Run s (tr1 ++ (s1, o1) :: (tr2 ++ (s2, o2) :: tr3)) s') (h : DealerInv s) (k : SessKey)
    (x1 x2 : Send) (hx1 : x1 ∈ o1.sends) (hx2 : x2 ∈ o2.sends) (hk1 : x1.to = k) (hk2 : x2.to = k)
    {r1 g1 r2 g2 : Nat} {d1 d2 : Dict} {a1 a2 : List WVal} {kw1 kw2 : Dict}
    (hm1 : x1.msg = .invocation r1 g1 d1 a1 kw1) (hm2 : x2.msg = .invocation r2 g2 d2 a2 kw2)
    (hnew1 : ∀ v ∈ s1.d.invs, v.id ≠ ⟨k, r1⟩) (hnew2 : ∀ v ∈ s2.d.invs, v.id ≠ ⟨k, r2⟩) :
    r1 < r2 ∧
    outStream k (tr1 ++ (s1, o1) :: (tr2 ++ (s2, o2) :: tr3)) =
      outStream k tr1 ++ [x1.msg] ++ outStream k tr2 ++ [x2.msg] ++ outStream k tr3 ∧
    (∃ env c q opts proc rnd, o1 = syncCall env s1 c q opts proc a1 kw1 rnd ∧ o1.sends = [x1] ∧
      (⟨c, q⟩ : ReqId) ∉ s1.d.calls ∧ ∃ v ∈ o1.st.d.invs, v.callId = ⟨c, q⟩ ∧ v.id = ⟨k, r1⟩ ∧ v.regId = g1) ∧
    (∃ env c q opts proc rnd, o2 = syncCall env s2 c q opts proc a2 kw2 rnd ∧ o2.sends = [x2] ∧
      (⟨c, q⟩ : ReqId) ∉ s2.d.calls ∧ ∃ v ∈ o2.st.d.invs, v.callId = ⟨c, q⟩ ∧ v.id = ⟨k, r2⟩ ∧ v.regId = g2) := by
  obtain ⟨m1, runA, runB⟩ := Run.split run
  obtain ⟨e1, st1, runC⟩ := Run.head runB
  simp only at e1 st1 runC
  subst e1
  obtain ⟨m2, runD, runE⟩ := Run.split runC
  obtain ⟨e2, st2, _⟩ := Run.head runE
  simp only at e2 st2
  subst e2
  have hinv1 := runA.inv h
  have hinv2 := runD.inv (st1.inv hinv1)
  have hc1 := C03.C03_invocation_of_call hinv1 st1 x1 hx1 r1 g1 d1 a1 kw1 hm1 (hk1 ▸ hnew1)
  have hc2 := C03.C03_invocation_of_call hinv2 st2 x2 hx2 r2 g2 d2 a2 kw2 hm2 (hk2 ▸ hnew2)
  rw [hk1] at hc1
  rw [hk2] at hc2
  have hs1 : o1.sends = [x1] := by obtain ⟨_, _, _, _, _, _, _, hs, _⟩ := hc1; exact hs
  have hs2 : o2.sends = [x2] := by obtain ⟨_, _, _, _, _, _, _, hs, _⟩ := hc2; exact hs
  refine ⟨?_, ?_, hc1, hc2⟩
  · rcases C03.C03_inv_id_step hinv1 st1 x1 hx1 r1 g1 d1 a1 kw1 hm1 with ⟨_, e2, _⟩ | ⟨v, hv, hvi⟩
    · rcases C03.C03_inv_id_step hinv2 st2 x2 hx2 r2 g2 d2 a2 kw2 hm2 with ⟨f1, _, _⟩ | ⟨v, hv, hvi⟩
      · have := runD.gen_mono (st1.inv hinv1) k
        rw [hk1] at e2; rw [hk2] at f1
        omega
      · exact absurd (hk2 ▸ hvi) (hnew2 v hv)
    · exact absurd (hk1 ▸ hvi) (hnew1 v hv)
  · simp only [outStream_append, outStream_cons, hs1, hs2]
    simp [hk1, hk2]

/-- the hypotheses are met: two consecutive calls (2, 11), (2, 12) by session 2 to the round-robin registration "s" of
    `Ex.sShared`… both would go to different callees; to the single registration "p": both to session 1 -/
example : (syncCall Ex.env Ex.sReg 2 11 [] "p" [] [] 0).sends.map (fun x => (x.to, x.msg.typeCode)) = [(1, 68)] ∧
    (syncCall Ex.env (syncCall Ex.env Ex.sReg 2 11 [] "p" [] [] 0).st 2 12 [] "p" [] [] 0).sends.map
      (fun x => (x.to, match x.msg with | .invocation r _ _ _ _ => r | _ => 0)) = [(1, 2)] := by decide +kernel

/-- Over any run in which no CALL with id `c` occurs (the episode after the CALL was made): the replies sent for
    `c` are a list of progressive RESULTs followed by at most one final reply; after the final reply the call is
    gone and nothing follows. -/
theorem C08_progress_order {s s' : DState} {tr : List (DState × DOut)} (c : ReqId) (run : Run s tr s') :
    DealerInv s → (∀ p ∈ tr, ¬ IsCallStep p.1 p.2 c) →
    ∃ ps f, replyStream c tr = ps ++ f ∧ (∀ x ∈ ps, x.msg.isFinalReply = false) ∧
      (f = [] ∨ ∃ x, f = [x] ∧ x.msg.isFinalReply = true ∧ c ∉ s'.d.calls) :=
  fun h hno => C02.C02_episode c run h (fun p hp hc => absurd hc (hno p hp))

/-- … the same over runs that contain later chunks of the (progressive) call `c`: the only CALL steps with id `c`
    allowed are chunks of the pending call, i.e. no new call re-uses the id (`C02.C02_episode`; starting with the
    CALL that opens the call: `C02.C02_episode_from_call`). -/
theorem C08_progress_order_chunks {s s' : DState} {tr : List (DState × DOut)} (c : ReqId) (run : Run s tr s')
    (h : DealerInv s) (hno : ∀ p ∈ tr, IsCallStep p.1 p.2 c → c ∈ p.1.d.calls) :
    ∃ ps f, replyStream c tr = ps ++ f ∧ (∀ x ∈ ps, x.msg.isFinalReply = false) ∧
      (f = [] ∨ ∃ x, f = [x] ∧ x.msg.isFinalReply = true ∧ c ∉ s'.d.calls) :=
  C02.C02_episode c run h hno

/-- Every RESULT the dealer sends is the forwarding of one YIELD by the callee that owns the call's invocation —
    same arguments and keyword arguments, details `yieldDetails opts progress` — and it is the only message of
    that step.  So the RESULTs of a call appear in `replyStream` in the order of the callee's YIELD steps. -/
theorem C08_result_is_yield {s : DState} {o : DOut} (h : DealerInv s) (st : DStep s o) (x : Send)
    (hx : x ∈ o.sends) (hr : x.msg.isResult = true) :
    ∃ env callee req opts args kw progress canRetry,
      o = syncYield env s callee req opts args kw progress canRetry ∧
      ∃ v ∈ s.d.invs, v.id = ⟨callee, req⟩ ∧
        x = ⟨v.callId.sess, .result v.callId.req (yieldDetails opts progress) args kw⟩ ∧ o.sends = [x] := by
  obtain ⟨env, callee, req, opts, args, kw, progress, canRetry, rfl⟩ := (st.sends_kind x hx).2 hr
  refine ⟨env, callee, req, opts, args, kw, progress, canRetry, rfl, ?_⟩
  cases hf : s.d.findInv ⟨callee, req⟩ with
  | none =>
    rw [syncYield_unknown args kw progress canRetry hf] at hx
    split at hx
    · rw [List.mem_singleton.1 hx] at hr; cases hr
    · cases hx
  | some v =>
    have hv := findInv_some_mem hf
    rw [syncYield_some' h.call opts args kw progress canRetry hf] at hx ⊢
    refine ⟨v, hv.1, hv.2, ?_⟩
    revert hx
    have no {l : List Send} {Q : Prop} (hx : x ∈ l) (hl : ∀ y ∈ l, y.msg.isResult = false) : Q := by
      rw [hl x hx] at hr; cases hr
    refine yieldOut_cases (P := fun o => x ∈ o.sends →
      x = ⟨v.callId.sess, .result v.callId.req (yieldDetails opts progress) args kw⟩ ∧ o.sends = [x])
      h opts args kw progress canRetry hv.1 hv.2 ?_ ?_ ?_ ?_ ?_ ?_
    · intro _ hx; exact no hx (by simp [pptErr, callErr, abortMsg, Msg.isResult])
    · intro _ _ hx; exact no hx (by cases progress <;> simp [pptErr, callErr, Msg.isResult])
    · intro _ _ _ hx
      rw [List.mem_singleton.1 hx]
      exact ⟨rfl, rfl⟩
    · intro _ _ hx; cases hx
    · intro _ _ _ hx; cases hx
    · intro _ _ _ hx; exact no hx (by split <;> simp [interruptOf, callErr, Msg.isResult])

example : (syncYield Ex.env Ex.sCall 1 1 [] [.int 8] [] true true).sends.map Ex.summary = [(2, 50, some 5, false)] := by
  decide +kernel

/-- full strength: every INVOCATION carries the id of a registration its recipient is currently a callee of -/
def C08_reg_bracket_full : Prop :=
  ∀ (s : DState) (o : DOut), DealerInv s → DStep s o → ∀ x ∈ o.sends, ∀ (r g : Nat) (d : Dict) (a : List WVal) (kw : Dict),
    x.msg = .invocation r g d a kw → calleeRel s.d.regs g x.to

/-- true of every INVOCATION that opens a new invocation (the first chunk of a call) -/
theorem C08_reg_bracket_partial {s : DState} {o : DOut} (h : DealerInv s) (st : DStep s o) (x : Send)
    (hx : x ∈ o.sends) (r g : Nat) (d : Dict) (a : List WVal) (kw : Dict) (hm : x.msg = .invocation r g d a kw)
    (hnew : ∀ v ∈ s.d.invs, v.id ≠ ⟨x.to, r⟩) : calleeRel s.d.regs g x.to := by
  rcases st.invocation_origin h hx hm with ⟨_, _, _, hc⟩ | ⟨v, hv, hid, _⟩
  · exact hc
  · exact absurd hid (hnew v hv)

/-- A later chunk of a pending progressive call: the INVOCATION goes to the stored callee `v.callee` and repeats the
    registration id `v.regId` stored in the invocation (for every URI the chunk names). -/
theorem C08_reg_bracket_later {s : DState} {o : DOut} (h : DealerInv s) (st : DStep s o) (x : Send)
    (hx : x ∈ o.sends) (r g : Nat) (d : Dict) (a : List WVal) (kw : Dict) (hm : x.msg = .invocation r g d a kw)
    {v : Invk} (hv : v ∈ s.d.invs) (hvi : v.id = ⟨x.to, r⟩) : g = v.regId ∧ x.to = v.callee := by
  rcases st.invocation_origin h hx hm with ⟨_, _, hlt, _⟩ | ⟨w, hw, hwi, hc, hg⟩
  · -- an invocation that is opened has an id above every stored id of that callee
    exact absurd (hlt v hv (congrArg ReqId.sess hvi)) (by rw [hvi]; exact Nat.lt_irrefl r)
  · -- invocation ids are unique: the stored invocation continued is `v`
    cases nodup_map_inj h.call.invIds hv hw (hvi.trans hwi.symm)
    exact ⟨hg.symm, hc.symm⟩

/-- … and the stored registration id is the id of a registration that had the invocation's callee among its callees
    in the step that created the invocation; it does not change while the call is pending
    (`C03.C03_invocation_persists`). -/
theorem C08_reg_recorded {s : DState} {o : DOut} (h : DealerInv s) (st : DStep s o) {v' : Invk}
    (hv' : v' ∈ o.st.d.invs) (hnew : ∀ v ∈ s.d.invs, v.callId ≠ v'.callId) :
    calleeRel s.d.regs v'.regId v'.callee :=
  C03.C03_invocation_reg_recorded h st hv' hnew

/-- false for continuations, by design: in `Ex.sSharedUnreg` session 1 has UNREGISTERed the shared registration 2
    (session 3 keeps it alive) while serving the pending progressive call (2, 9); the next chunk reaches session 1
    as INVOCATION(1, 2, …) although it is no callee of registration 2 any more. -/
theorem C08_reg_bracket_full_fails : ¬ C08_reg_bracket_full := by
  intro hfull
  obtain ⟨hsum, hnot⟩ : (syncCall Ex.env Ex.sSharedUnreg 2 9 [(OptProgress, .bool true)] "s" [] [] 0).sends.map
      (fun x => (x.to, match x.msg with | .invocation r g _ _ _ => some (r, g) | _ => none)) = [(1, some (1, 2))] ∧
      ¬ calleeRel Ex.sSharedUnreg.d.regs 2 1 := by
    unfold calleeRel
    decide +kernel
  obtain ⟨x, hs, hfx⟩ := List.map_eq_singleton_iff.mp hsum
  obtain ⟨hto, hmsg⟩ := Prod.mk.inj hfx
  split at hmsg
  · rename_i r g d a kw hm
    cases hmsg
    exact hnot (hto ▸ hfull _ _ Ex.sSharedUnreg_reach.inv (.call ..) x (by rw [hs]; exact List.mem_singleton_self x)
      _ _ _ _ _ hm)
  · cases hmsg

/-- the chunk naming another procedure ("q", registration of session 3) reaches session 1 under the stored
    registration id 1 (fix 0365a6a) -/
example : (syncCall Ex.env Ex.sProg2 2 7 [(OptProgress, .bool true)] "q" [] [] 0).sends.map
    (fun x => (x.to, match x.msg with | .invocation r g _ _ _ => some (r, g) | _ => none)) = [(1, some (1, 1))] := by
  decide +kernel

/-- `k` becomes a callee of registration `g` only in its own REGISTER step; that step sends REGISTERED(req, g)
    to `k` (its only message) and no INVOCATION: REGISTERED precedes every INVOCATION of `g` in `k`'s stream. -/
theorem C08_registered_first {s : DState} {o : DOut} (h : DealerInv s) (st : DStep s o) (g : Nat) (k : SessKey)
    (hbefore : ¬ calleeRel s.d.regs g k) (hafter : calleeRel o.st.d.regs g k) :
    ∃ req proc m invoke disclose fwd wampURI, o = syncRegister s k req proc m invoke disclose fwd wampURI ∧
      o.sends = [⟨k, .registered req g⟩] := by
  rcases (st.frame h).callees g k hafter with hc | ⟨req, proc, m, invoke, disclose, fwd, wampURI, rfl⟩
  · exact absurd hc hbefore
  · refine ⟨req, proc, m, invoke, disclose, fwd, wampURI, rfl, ?_⟩
    rcases syncRegister_registered h k req proc m invoke disclose fwd wampURI with ⟨id, hs, hrel⟩ | ⟨hst, _⟩
    · rcases hrel g k hafter with hc | ⟨_, rfl⟩
      · exact absurd hc hbefore
      · exact hs
    · rw [hst] at hafter; exact absurd hafter hbefore

/-- The UNREGISTER step of a callee sends UNREGISTERED only (no INVOCATION), and afterwards the session is no
    callee of that registration. -/
theorem C08_unregistered_last {s : DState} (h : DealerInv s) (k : SessKey) (req g : Nat) (hr : calleeRel s.d.regs g k) :
    (syncUnregister s k req g).sends = [⟨k, .unregistered req⟩] ∧
      ¬ calleeRel (syncUnregister s k req g).st.d.regs g k :=
  C03.C03_unregistered h k req g hr

/-- While `k` is not a callee of registration `g` — from the start of the run until `k`'s next REGISTER, i.e. before
    REGISTERED(…, g) and after UNREGISTERED — no INVOCATION with registration id `g` opens a new invocation
    towards `k`, whatever other sessions do. -/
theorem C08_reg_bracket {s s' : DState} {tr : List (DState × DOut)} (run : Run s tr s') (g : Nat) (k : SessKey) :
    DealerInv s → ¬ calleeRel s.d.regs g k → (∀ p ∈ tr, ¬ IsRegisterStep p.1 p.2 k) →
    ∀ p ∈ tr, ∀ x ∈ p.2.sends, ∀ (r : Nat) (d : Dict) (a : List WVal) (kw : Dict),
      x.msg = .invocation r g d a kw → x.to = k → ∃ v ∈ p.1.d.invs, v.id = ⟨k, r⟩ := by
  induction run with
  | nil s => intro _ _ _ p hp; cases hp
  | @cons s o tr s' st rest ih =>
    intro h hnot hnoreg p hp x hx r d a kw hm hto
    rcases List.mem_cons.1 hp with rfl | hp
    · apply Classical.byContradiction
      intro hne
      have hnew : ∀ v ∈ s.d.invs, v.id ≠ ⟨x.to, r⟩ := fun v hv he => hne ⟨v, hv, hto ▸ he⟩
      exact hnot (hto ▸ C08_reg_bracket_partial h st x hx r g d a kw hm hnew)
    · have hnot' : ¬ calleeRel o.st.d.regs g k := fun hc =>
        ((st.frame h).callees g k hc).elim hnot (hnoreg (s, o) (List.mem_cons_self ..))
      exact ih (st.inv h) hnot' (fun q hq => hnoreg q (List.mem_cons_of_mem _ hq)) p hp x hx r d a kw hm hto

end Nexus.C08
