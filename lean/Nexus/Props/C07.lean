/-
C07 — "An unresponsive client never blocks others; the router never deadlocks" (concurrency-skeleton half)

  A client that stops reading has at most its configured outbound queue of messages buffered for it
  and loses the rest; every other session's requests are still answered and its events and
  invocations delivered completely and in order, without delay - the one bounded exception being
  that a callee yielding to a blocked caller is held back for at most the result-retry period before
  that call is cancelled. Under every interleaving of requests, meta-API calls, session kills,
  departures and realm operations, every request submitted to the router is eventually processed:
  its internal workers never wait on each other in a cycle.

clause → theorem (all over tables regenerated from /repo by gen target `sites`)
  at most its queue buffered, rest lost ............ bounded_queue, lossy_in_order (generic, Nexus/L3/Fifo)
      + every router→client send is non-blocking .... servers_never_block, workers_never_block_on_clients,
                                                      realm_workers_never_block_on_clients,
                                                      blocking_client_sends, rtr_waits_for_client_only_in_abort,
                                                      trySend_nonblocking, client_messages_nonblocking
  others not delayed by a stalled client ........... servers_never_block (dealer and broker never wait for a
                                                      client), dealer_broker_wait_for_nobody
  bounded exception: yield retry ................... retry_schedule (the handler's only timed wait; L2 covers
                                                      the cancellation at the deadline)
  bounded exception: the constants ................. retry_constants (table (j) = the L2 model's constants)
  workers never wait in a cycle .................... no_wait_cycle_router, no_deadlocked_set_router,
                                                      router_edges_descend (every wait-for edge descends the rank)
  … and nobody waits for a worker that has left .... router_progress (generic: Nexus/L3/Progress),
                                                      blocked_posters_reach_running_server
                                                      (with C06.servers_keep_serving, C06.server_waits_classified)
      table facts the edge derivation rests on ...... all_ops_classified, all_sites_have_roles,
                                                      roles_closed_under_calls, sync_ops_covered,
                                                      idle_ops_are_inboxes, transport_close_releases_reader,
                                                      meta_peer_message_kinds
      the generator records a closure's sites once per goroutine context, so the table completed with
      those contexts is the table; it has the edge router goroutine → refused client
      ............................................... routerEdgesX_eq, router_edges_completed
What is and is not claimed: see the docstrings; progress itself ("eventually processed") is absence of
wait cycles, servers that keep serving until the closer stops them, plus bounded waits under a fair Go
scheduler (trusted base), and the completeness of the edge table rests on the extractor (go/types) and on
`stall`'s runtime observation. The tables are taken with the records the generator adds for
closures called in a second goroutine context (`allChanOps` …, Nexus/L3/WpL3Wait.lean).
-/
import Nexus.L3.Wait
import Nexus.L3.Fifo
import Nexus.L3.WpL3Wait
import Nexus.L3.Progress
import Nexus.Props.C06
import Nexus.L2.Realm

namespace Nexus.C07
open Nexus.Gen.Sites Nexus.L3 Nexus.L3.WpL3

def runsIn (o : ChanOp) (r : Role) : Bool := (siteRoles o.fn o.gctx o.garg).contains r

def isClientSend (o : ChanOp) : Bool := decide (o.op = .send) && decide (o.cls = .peerSendClient)

/-- Every send to a client's outbound channel that can be executed by the dealer or the broker
    goroutine (the `sync*` functions, `trySend`, and the closures posted to their action channels) is
    a `select` with a `default` branch: the dealer and the broker never wait for a client. -/
theorem servers_never_block :
    ∀ o ∈ allChanOps, isClientSend o = true → (runsIn o .D || runsIn o .B) = true →
      o.sel = .selDefault := by
  decide +kernel

def blockingClientSends : List Nat :=
  (allChanOps.filter fun o => isClientSend o && !decide (o.sel = .selDefault)).map (·.key)

/-- One statement, `client.Send() <- &abortMsg` in the `sendAbort` closure of AttachClient: the ABORT
    of a refused attach. It is executed in two goroutine contexts: by the attaching goroutine, which
    holds no lock and serves nobody else ("Blocking OK; this is session goroutine"), and — because the
    closure is also called inside the action AttachClient posts to the router goroutine (router closed,
    unknown realm, realm auto-creation failed) — by the router goroutine. Since 9bf1a30 the WELCOME is
    sent, non-blocking, by the session's handler. -/
theorem blocking_client_sends :
    blockingClientSends = [key! "router.router.AttachClient|send|client.Send()",
                           key! "router.router.AttachClient|send|client.Send()@posted router.actionChan"] := by
  decide +kernel

/-- The blocking client sends are that ABORT, run by the attaching goroutine or by the router
    goroutine (the closure's sites are recorded once per goroutine context).

    What this means for the property: the router goroutine can block on a client — on the peer of
    an attach it refuses, if that peer's `Send()` channel has no room. It is the first message the
    router ever sends to that peer (before the post AttachClient has only *received* HELLO; CHALLENGE
    and WELCOME come later), so with the stock peers (local peer: a buffered channel of 64; socket
    peers: a buffer of `outQueueSize`, drained by the peer's writer goroutine, which also receives when
    that size is 0) the send finds room or a receiving writer and does not wait for the client; an
    embedding program that attaches its own `wamp.Peer` with an unbuffered `Send()` channel and does
    not read can stall the router goroutine, and with it AddRealm, RemoveRealm, Close and every Attach. The claim "no
    worker ever blocks on a client" holds for the realm's workers (`realm_workers_never_block_on_clients`),
    not for the router goroutine. -/
theorem workers_never_block_on_clients :
    ∀ o ∈ allChanOps, isClientSend o = true → o.sel ≠ .selDefault →
      o.fn = key! "router.router.AttachClient" ∧
      (siteRoles o.fn o.gctx o.garg = [.A1] ∨ siteRoles o.fn o.gctx o.garg = [.Rtr]) := by
  decide +kernel

/-- The workers of a realm and everything below the router goroutine. -/
def realmWorkers : List Role := [.A2, .H, .MP, .R, .HM, .T, .D, .B, .Mem, .Srv, .Rd, .W]

/-- No worker of a realm — realm goroutine, dealer, broker, session handlers, meta handlers, call
    timers — nor an attach inside the realm's critical section ever blocks on a client's queue: every
    send to a client that one of them can execute is a `select` with `default`. -/
theorem realm_workers_never_block_on_clients :
    ∀ o ∈ allChanOps, isClientSend o = true →
      (∃ r ∈ realmWorkers, r ∈ siteRoles o.fn o.gctx o.garg) → o.sel = .selDefault := by
  decide +kernel

/-- Non-vacuity: the realm's workers do send to clients. -/
example : (allChanOps.any fun o => isClientSend o &&
    realmWorkers.any fun r => (siteRoles o.fn o.gctx o.garg).contains r) = true := by decide +kernel

/-- Every message handed to a client (table (f)) goes through a non-blocking send, except that ABORT
    (in its two contexts). -/
theorem client_messages_nonblocking :
    ∀ m ∈ allMsgSends, m.toMeta = false → m.nonBlocking = false →
      m.key = key! "router.router.AttachClient|msg|send client Abort " ∨
      m.key = key! "router.router.AttachClient|msg|send client Abort @posted router.actionChan" := by
  decide +kernel

/-- `trySend` of broker and dealer is `select { case sess.Send() <- msg: default: }`. -/
theorem trySend_nonblocking :
    ∀ o ∈ chanOps, (o.fn = key! "router.broker.trySend" ∨ o.fn = key! "router.dealer.trySend") →
      o.op = .send ∧ o.cls = .peerSendClient ∧ o.sel = .selDefault := by
  decide +kernel

/-- (iv) A queue fed by non-blocking sends never holds more than its capacity … -/
theorem bounded_queue {μ : Type} (cap : Nat) (evs : List (Fifo.Ev μ)) :
    (Fifo.run cap Fifo.empty evs).queue.length ≤ cap :=
  Fifo.bounded_queue_from cap evs Fifo.empty (Nat.zero_le _)

/-- … and what the client does get is a subsequence, in order, of what was sent to it. -/
theorem lossy_in_order {μ : Type} (cap : Nat) (evs : List (Fifo.Ev μ)) :
    ((Fifo.run cap Fifo.empty evs).delivered ++ (Fifo.run cap Fifo.empty evs).queue).Sublist
      (Fifo.offered evs) := Fifo.fifo_lossy cap evs

/-- Every channel operation of the three trees is classified by `opTargets`. -/
theorem all_ops_classified : ∀ o ∈ allChanOps, (opTargets o).isSome = true :=
  Nexus.C06.wait_facts.2.2.1

/-- Every site with a goroutine context is executed by at least one known role. -/
theorem all_sites_have_roles :
    (∀ o ∈ allChanOps, (siteRoles o.fn o.gctx o.garg).isEmpty = false) ∧
    (∀ c ∈ allCloseSites, (siteRoles c.fn c.gctx c.garg).isEmpty = false) ∧
    (∀ g ∈ goSites, (siteRoles g.fn g.gctx g.garg).isEmpty = false) ∧
    (∀ m ∈ allMsgSends, (siteRoles m.fn m.gctx m.garg).isEmpty = false) :=
  ⟨Nexus.C06.wait_facts.2.2.2.1, by decide +kernel⟩

/-- The role table is closed under the static call table: whoever calls a function that reaches a
    site is itself classified, and runs the callee in a role the callee lists. -/
theorem roles_closed_under_calls : ∀ e ∈ calls, callOk e = true := by
  decide +kernel

/-- Every blocking operation on the close lock and the handler wait group has its targets. -/
theorem sync_ops_covered :
    ∀ s ∈ syncOps, syncNeedsTarget s = true → (lookup s.key syncTargets).isSome = true := by
  decide +kernel

/-- The operations excused as inboxes exist, are receives, and run in the role whose loop they are. -/
theorem idle_ops_are_inboxes :
    ∀ p ∈ idleOps, ∃ o ∈ chanOps, o.key = p.1 ∧ o.op ≠ .send ∧
      (siteRoles o.fn o.gctx o.garg = [p.2] ∨ (p.2 = .H ∧ siteRoles o.fn o.gctx o.garg = [.H, .HM])) := by
  have h : idleOps.all (fun p => chanOps.any fun o => Nat.beq o.key p.1 && !decide (o.op = .send) &&
      (decide (siteRoles o.fn o.gctx o.garg = [p.2]) ||
       (decide (p.2 = .H) && decide (siteRoles o.fn o.gctx o.garg = [.H, .HM])))) = true := by
    decide +kernel
  intro p hp
  have := List.all_eq_true.mp h p hp
  obtain ⟨o, ho, hc⟩ := List.any_eq_true.mp this
  simp only [Bool.and_eq_true, Bool.or_eq_true, Bool.not_eq_true', decide_eq_false_iff_not,
    decide_eq_true_eq] at hc
  exact ⟨o, ho, Nat.eq_of_beq_eq_true hc.1.1, hc.1.2, hc.2⟩

/-- websocketPeer.Close closes `closed` before it waits for the reader (`recvDone`);
    rawSocketPeer.Close never waits for the reader. -/
theorem transport_close_releases_reader :
    (order_transport_websocketPeer_Close.idxOf (key! "close(websocketPeer.closed)") <
      order_transport_websocketPeer_Close.idxOf (key! "<-websocketPeer.recvDone")) ∧
    (key! "<-websocketPeer.recvDone") ∈ order_transport_websocketPeer_Close ∧
    (∀ o ∈ chanOps, o.fn = key! "transport.rawSocketPeer.Close" → o.op = .recv →
      o.owner = key! "rawSocketPeer.writerDone") := by
  decide +kernel

/-- What travels through the meta peer towards the meta session's handler: PUBLISH (meta events,
    testaments), REGISTER (realm construction) and whatever the meta procedures return (YIELD or
    ERROR). No CALL, no UNREGISTER: the meta session's handler never starts a call timer and never
    runs the meta-event sends of dealer.unregister. -/
theorem meta_peer_message_kinds :
    ∀ m ∈ msgSends, m.toMeta = true →
      m.msgType = key! "Publish" ∨ m.msgType = key! "Register" ∨ m.msgType = key! "Message" := by
  decide +kernel

/-- The generator emits the sites of a closure once per goroutine context (`extraChanOps = []`), so
    the completed table is the table, `C06.routerEdges_eq`. -/
theorem routerEdgesX_eq : routerEdgesX = routerEdges := by
  simp only [routerEdgesX, waitEdgesX, allChanOps, WpL3Tables.extraChanOps, List.append_nil,
    routerEdges, waitEdges]

theorem router_edges_descend : Graph.Descends routerEdgesX rank :=
  Graph.checkRanks_descends (by rw [routerEdgesX_eq, Nexus.C06.routerEdges_eq]; decide +kernel)

/-- **The router's workers never wait on each other in a cycle.** The wait-for edges derived from
    the regenerated channel and lock tables descend the rank
    `Srv > Ext1, A1 > Rtr > Ext2 > A2 > H, MP > R > HM > T > D, B, Mem > Rd > W > C > Net`. A new
    blocking operation whose target is not of lower rank than its goroutine breaks this theorem. -/
theorem no_wait_cycle_router : Graph.Acyclic routerEdgesX :=
  Graph.no_wait_cycle routerEdgesX rank router_edges_descend

/-- The completed table has every edge of the table derived without the closure contexts; the one
    edge the closure contexts can add is the router goroutine waiting for the client it refuses. -/
theorem router_edges_completed :
    (∀ e ∈ routerEdges, e ∈ routerEdgesX) ∧
    (∀ e ∈ routerEdgesX, e ∈ routerEdges ∨ e = (.Rtr, .C)) ∧ (Role.Rtr, Role.C) ∈ routerEdgesX := by
  rw [routerEdgesX_eq]
  exact ⟨fun _ he => he, fun _ he => .inl he, by rw [Nexus.C06.routerEdges_eq]; decide⟩

theorem mem_opEdges {o : ChanOp} {a b : Role} :
    (a, b) ∈ opEdges o ↔ ∃ ts, opTargets o = some ts ∧ a ∈ feasibleRoles o ∧ b ∈ ts := by
  unfold opEdges
  cases opTargets o with
  | none => simp
  | some ts => simp [List.mem_flatMap]

/-- The edge Rtr → C comes from one operation, the ABORT of `blocking_client_sends` in the action posted
    to the router goroutine: the router goroutine waits for a client nowhere else. -/
theorem rtr_waits_for_client_only_in_abort :
    ∀ o ∈ allChanOps, (Role.Rtr, Role.C) ∈ opEdges o →
      o.key = key! "router.router.AttachClient|send|client.Send()@posted router.actionChan" :=
  Nexus.C06.wait_facts.2.2.2.2.1

example : ∃ o ∈ allChanOps, (Role.Rtr, Role.C) ∈ opEdges o := Nexus.C06.wait_facts.2.2.2.2.2

/-- Deadlock freedom: in every non-empty set of roles, one waits for nobody in the set. -/
theorem no_deadlocked_set_router (s : List Role) (hs : s ≠ []) :
    ∃ a ∈ s, ∀ b, (a, b) ∈ routerEdgesX → b ∉ s :=
  Graph.no_deadlocked_set routerEdgesX rank router_edges_descend s hs

/-- The dealer and the broker wait for nobody; the realm goroutine only for dealer, broker and the
    meta session's handler; that handler only for dealer and broker; a call timer only for the
    dealer. -/
theorem dealer_broker_wait_for_nobody :
    (∀ e ∈ routerEdgesX, e.1 ≠ .D ∧ e.1 ≠ .B) ∧
    (∀ e ∈ routerEdgesX, e.1 = .R → e.2 = .D ∨ e.2 = .B ∨ e.2 = .HM) ∧
    (∀ e ∈ routerEdgesX, e.1 = .HM → e.2 = .D ∨ e.2 = .B) ∧
    (∀ e ∈ routerEdgesX, e.1 = .T → e.2 = .D) := by
  rw [routerEdgesX_eq, Nexus.C06.routerEdges_eq]
  decide +kernel

/-- Non-vacuity: the check rejects a table with a cycle (the realm goroutine waiting for a session
    handler that waits for it). -/
example : Graph.checkRanks ((Role.R, Role.H) :: routerEdgesX) rank = false := by
  rw [routerEdgesX_eq, Nexus.C06.routerEdges_eq]
  decide +kernel

example : ¬ Graph.Acyclic ((Role.R, Role.H) :: (Role.H, Role.R) :: ([] : List (Role × Role))) :=
  fun h => h .R (.cons List.mem_cons_self (.single (List.mem_cons_of_mem _ List.mem_cons_self)))

/-- The handler of a callee whose RESULT cannot be queued sleeps 1, 2, 4, … ms between attempts
    (`yieldRetryDelay`, doubled each round) and stops retrying at the first wake-up at or after
    `sendResultDeadline` = 60 000 ms: wake-up k happens 2^k − 1 ms after the first attempt, and the
    first k with 2^k − 1 ≥ 60 000 is 16. The callee's handler is therefore held for at most
    65 535 ms of retries, whatever the caller does (here the arithmetic; `retry_constants` below ties
    the two constants of dealer.go to the L2 model's, through table (j) of the site tables). -/
def retryWake : Nat → Nat
  | 0 => 0
  | k + 1 => retryWake k + 2 ^ k

theorem retry_schedule :
    (∀ k, k < 16 → retryWake k < 60000) ∧ retryWake 16 = 65535 ∧ 60000 ≤ retryWake 16 := by
  refine ⟨?_, by decide, by decide⟩
  intro k hk
  have : ∀ k, k < 16 → retryWake k < 60000 := by decide
  exact this k hk

/-- The two constants of the retry loop, regenerated from dealer.go (`const sendResultDeadline =
    time.Minute`, `yieldRetryDelay = time.Millisecond`; table (j), nanoseconds), are the constants
    of the L2 model (`Realm.handleYield`, `Realm.retryDue`), and the schedule above is stated for
    them. (Table (j) is regenerated in Nexus.Gen.Sites; Nexus/L3/WpL3Tables.lean re-exports it.) -/
theorem retry_constants :
    lookup (key! "router.sendResultDeadline") Nexus.L3.WpL3Tables.durationConsts =
      some (Nexus.L2.Realm.sendResultDeadlineMs * 1000000) ∧
    lookup (key! "router.yieldRetryDelay") Nexus.L3.WpL3Tables.durationConsts =
      some (Nexus.L2.Realm.yieldRetryDelayMs * 1000000) ∧
    (∀ k, k < 16 → retryWake k * Nexus.L2.Realm.yieldRetryDelayMs < Nexus.L2.Realm.sendResultDeadlineMs) ∧
    Nexus.L2.Realm.sendResultDeadlineMs ≤ retryWake 16 * Nexus.L2.Realm.yieldRetryDelayMs := by
  -- the model's delay is 1 ms and its deadline 60 000 ms by definition: the third clause is `retry_schedule`
  exact ⟨by decide +kernel, by decide +kernel, fun k hk => (Nat.mul_one _).symm ▸ retry_schedule.1 k hk, by decide⟩

/-! `no_deadlocked_set_router` finds in every set of roles one that "waits for nobody in the set" — which
a *terminated* server does too. Progress needs the targets of the wait edges to be alive. -/

section Progress
open Nexus.L3.WpL3.Progress Nexus.L3.WpL3.Serve Nexus.L3.WpL3.ServeModel Nexus.L3.CloseModel Nexus.L3.Shutdown

/-- **No wait cycle ∧ servers keep serving ⇒ progress**, for the router's wait-for table: in any
    snapshot whose waits are edges of the regenerated table and in which nobody waits for a goroutine
    that has terminated, every blocked goroutine's wait chain ends at one that is running. The second
    hypothesis is what `C06.servers_keep_serving` / `blocked_posters_reach_running_server` establish
    for the realm's servers. -/
theorem router_progress (s : Snapshot Role)
    (hsub : ∀ a b, s.waits a b → (a, b) ∈ routerEdgesX)
    (hblk : ∀ a, s.status a = .blocked → ∃ b, s.waits a b)
    (hserve : ∀ a b, s.waits a b → s.status b ≠ .done)
    (a : Role) (ha : s.status a = .blocked) : ∃ z, Chain s.waits a z ∧ s.status z = .running :=
  chain_ends_running s rank ⟨fun a b hab => router_edges_descend (a, b) (hsub a b hab), hblk, hserve⟩ a ha

/-- Hypotheses of `router_progress`: a session handler blocked on the realm goroutine, which runs. -/
example : ∃ s : Snapshot Role,
    (∀ a b, s.waits a b → (a, b) ∈ routerEdgesX) ∧ (∀ a, s.status a = .blocked → ∃ b, s.waits a b) ∧
    (∀ a b, s.waits a b → s.status b ≠ .done) ∧ s.status .H = .blocked := by
  refine ⟨⟨fun r => if r = .H then .blocked else .running, fun a b => a = .H ∧ b = .R⟩, ?_, ?_, ?_, rfl⟩
  · rintro a b ⟨rfl, rfl⟩
    rw [routerEdgesX_eq, Nexus.C06.routerEdges_eq]
    decide
  · intro a h
    by_cases e : a = .H
    · exact ⟨.R, e, rfl⟩
    · simp [e] at h
  · rintro a b ⟨rfl, rfl⟩; decide

/-- The served-channel instance, with nothing assumed about the servers. In every configuration of
    the realm's shutdown system reachable by guarded steps (guards computed from the exit table,
    `C06.servers_guarded`), let `blockedIn` say which roles are blocked in a post to — or waiting for
    the answer from — which served channel (`C06.server_waits_classified`: these are the waits for the
    realm's servers). Then the chain poster → server → … from every blocked role ends, after at most
    three hops (H → R → HM → D), at a server that is alive and not blocked: nobody is wedged on a
    channel whose reader has left. The realm goroutine posts on behalf of a session handler that
    waits for it (`CloseModel.shutdownRole`), so "alive" for `R` as a *poster* means that handler. -/
theorem blocked_posters_reach_running_server (prog : List I) (hp : realmCloseProg = some prog)
    {c : Cfg Role SChan SFlag} (hreach : Nexus.C06.GReachRealm prog c)
    (blockedIn : Role → Option SChan)
    (hb : ∀ a ch, blockedIn a = some ch → (a, ch) ∈ rawPostPairs ∧ 0 < c.alive (shutdownRole a)) :
    ∀ a ch, blockedIn a = some ch →
      ∃ z, Chain (fun x y => ∃ ch', blockedIn x = some ch' ∧ serverOf ch' = y) a z ∧
        0 < c.alive z ∧ blockedIn z = none := by
  -- `blockedIn` and `c.alive` make a `Snapshot` (blocked where `blockedIn` says so, else running or done; a
  -- blocked role waits for the server of its channel).  It is `Live` by two facts decided on `rawPostPairsLit`:
  -- the server ranks below the poster, and every raw pair is a pair of `posts` once `shutdownRole` is applied,
  -- which is what `servers_keep_serving` asks for.  `chain_ends_running` does the rest.
  let snap : Snapshot Role :=
    { status := fun x => match blockedIn x with
        | some _ => .blocked
        | none => if 0 < c.alive x then .running else .done
      waits := fun x y => ∃ ch', blockedIn x = some ch' ∧ serverOf ch' = y }
  have hdesc : ∀ p ∈ rawPostPairs, rank (serverOf p.2) < rank p.1 := by
    rw [Nexus.C06.rawPostPairs_eq]
    decide
  have hmap : ∀ p ∈ rawPostPairs, posts (shutdownRole p.1) p.2 = true := by
    simp only [Nexus.C06.rawPostPairs_eq, Nexus.C06.posts_iff]
    decide
  have hlive : Live snap rank :=
    { descends := by
        rintro x y ⟨ch', h1, rfl⟩
        exact hdesc (x, ch') (hb x ch' h1).1
      blockedWaits := by
        intro x hx
        cases h : blockedIn x with
        | some ch' => exact ⟨serverOf ch', ch', h, rfl⟩
        | none =>
          simp only [snap, h] at hx
          split at hx <;> cases hx
      serving := by
        rintro x y ⟨ch', h1, rfl⟩
        obtain ⟨hm, hal⟩ := hb x ch' h1
        have hs := Nexus.C06.servers_keep_serving prog hp hreach (shutdownRole x) ch' (hmap (x, ch') hm) hal
        show (match blockedIn (serverOf ch') with
          | some _ => Status.blocked
          | none => if 0 < c.alive (serverOf ch') then Status.running else Status.done) ≠ .done
        split
        · nofun
        · simp [hs] }
  intro a ch ha
  obtain ⟨z, hc, hz⟩ := chain_ends_running snap rank hlive a (by simp [snap, ha])
  refine ⟨z, hc, ?_⟩
  simp only [snap] at hz
  split at hz
  · cases hz
  · next hbz =>
    refine ⟨?_, hbz⟩
    by_cases hp0 : 0 < c.alive z
    · exact hp0
    · simp [hp0] at hz

/-- Non-vacuity: a configuration and a `blockedIn` that satisfy the hypotheses — a session handler
    blocked on the realm goroutine (onLeave), the realm goroutine blocked on the meta session's
    handler (`dealer.removeSession` announcing an unregistration), that handler blocked on the dealer —
    and the chain the theorem yields ends at the dealer. -/
example (prog : List I) (hp : realmCloseProg = some prog) :
    ∃ (c : Cfg Role SChan SFlag) (blockedIn : Role → Option SChan),
      Nexus.C06.GReachRealm prog c ∧
      (∀ a ch, blockedIn a = some ch → (a, ch) ∈ rawPostPairs ∧ 0 < c.alive (shutdownRole a)) ∧
      blockedIn .H = some .realmChan ∧ blockedIn .R = some .metaChan ∧ blockedIn .HM = some .dealerChan ∧
      ∃ z, Chain (fun x y => ∃ ch', blockedIn x = some ch' ∧ serverOf ch' = y) .H z ∧
        0 < c.alive z ∧ blockedIn z = none := by
  let b : Role → Option SChan := fun r =>
    match r with | .H => some .realmChan | .R => some .metaChan | .HM => some .dealerChan | _ => none
  have h0 : Nexus.C06.GReachRealm prog Nexus.C06.exCfg := GReach.init (Nexus.C06.exCfg_init prog)
  have hb : ∀ a ch, b a = some ch → (a, ch) ∈ rawPostPairs ∧ 0 < Nexus.C06.exCfg.alive (shutdownRole a) := by
    intro a ch h
    cases a <;> simp only [b] at h <;> (try cases h) <;>
      exact ⟨by rw [Nexus.C06.rawPostPairs_eq]; decide, by decide⟩
  exact ⟨Nexus.C06.exCfg, b, h0, hb, rfl, rfl, rfl,
    blocked_posters_reach_running_server prog hp h0 b hb .H .realmChan rfl⟩

end Progress

end Nexus.C07
