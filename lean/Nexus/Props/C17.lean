/-
  C17 — "The client never crashes or hangs, whatever the router sends"

  Whatever messages arrive from the router side - any type in any order, unknown ids, any value
  types in details and arguments (including payload-passthru fields set by other, possibly
  hostile, clients), replies arriving exactly as a timeout or cancellation fires, abrupt
  disconnects - the client neither panics nor stops processing further messages, every pending
  and later API call returns (with an error where appropriate), Done() is signalled once the
  router says GOODBYE/ABORT or the transport ends, and Close() always returns, after which no
  goroutine or handler of the client remains.

  clause                                              theorem(s)
  --------------------------------------------------  ------------------------------------------
  never panics on any details/arguments (L1)          unpack_total (full strength since fix 652e15e);
                                                        regression: unpack_old_code_panics
  every bare assertion / unchecked index is known     sites_accounted, no_bare_site_left
  the receive loop never gets stuck handing over a    run_never_stuck (full strength since fix 710325f:
    reply (L3)                                          every schedule, duplicate replies included),
                                                        run_can_always_be_unblocked, stuck_is_forever;
                                                        regression: f16_witnesses_pass, f16_old_code_stuck
  … nor for good in the invocation queue              repeated_final_invocation_dropped, enqueue_escapes
                                                        (fix c166f26), regression: f42_witness_passes,
                                                        f42_old_code_blocks; BY DESIGN (an assumption,
                                                        not a finding) progressive chunks arriving faster
                                                        than the handler takes them make the loop wait:
                                                        inv_queue_never_blocks_full_fails,
                                                        inv_queue_blocks_only_open_invocation (partial),
                                                        inv_queue_wait_ends
  Close() always returns                              close_returns (full strength)
  only Close() closes the peer, once                  peer_closed_once (fix aee6f97); regression:
                                                        f41_witness_passes, f41_old_code_panics
  … and nothing panics                                STILL FALSE (open finding F43: a send concurrent
                                                        with Close): no_panic_full_fails (witness),
                                                        no_panic_partial (the only panic left is a send
                                                        on the channel Close() has closed), delimited
                                                        exactly by f43_exact (iff),
                                                        f43_every_send_after_close, f43_progressive_sender,
                                                        f43_blocked_sender
  Done() signalled once, on GOODBYE/ABORT/transport   done_signalled, session_end_closes_done,
    end                                                 goodbye_abort_end_session

  The L3 theorems are about the transition systems `Nexus.Client.R` / `Nexus.Client.I`, whose
  events are the atomic steps of the client's goroutines (every schedule is an event sequence),
  instantiated with facts regenerated from client/*.go (`R.cfgToday`, `({} : I.Cfg)`); reverting
  a fix changes a regenerated fact and breaks the corresponding proof. Goroutine leaks are
  observed by the family, not proved.
-/
import Nexus.Client.PptLemmas
import Nexus.Client.RendezvousLive
import Nexus.Client.InvokeProps
import Nexus.Client.ProgressiveProps

namespace Nexus.C17
open Nexus.Client Nexus.Gen

/-- The regenerated site table lists no bare assertion / unguarded index in the PPT code, and the
    decoded payload pointer is nil-checked. -/
theorem no_bare_site_left : PptFacts.gen.clean := gen_clean

/-- Full strength: for ANY details / arguments / decoder behaviour, none of the five functions that
    touch router-supplied PPT data panics. -/
theorem unpack_total (deser : Deser) (details : Dict) (args : List Val) (kw : Dict) (dealerPPT : Bool) :
    (unpackPPTPayload PptFacts.gen deser details args).isPanic = false ∧
    (unpackE2EEPayload PptFacts.gen deser details args).isPanic = false ∧
    (eventPpt PptFacts.gen deser details args kw).isPanic = false ∧
    (invocationPpt PptFacts.gen deser details args kw).isPanic = false ∧
    (prepareCallResult PptFacts.gen deser dealerPPT details args kw).isPanic = false :=
  ⟨unpackPPT_clean gen_clean .., unpackE2EE_clean gen_clean .., eventPpt_clean gen_clean ..,
   invocationPpt_clean gen_clean .., prepareCallResult_clean gen_clean ..⟩

/-- Non-vacuity / what the fixed code answers on the former crash inputs: an error, no panic. -/
example : (match eventPpt PptFacts.gen (fun _ _ => .err) [(N.OptPPTScheme, .str "mqtt")] [] [] with
    | .ok (.dropped .serialization) => true
    | _ => false) = true := by decide

/-- Regression witness (F15): with the site table of the code before the fix (every site bare,
    no nil check) the same EVENT — `ppt_scheme = "mqtt"`, no arguments — panics in `args[0]`. -/
theorem unpack_old_code_panics (deser : Deser) :
    eventPpt PptFacts.allBare deser [(N.OptPPTScheme, .str "mqtt")] [] [] =
      .panic (siteText "unpackPPTPayload" "index" "args[0]") := by rfl

/-- Every bare type assertion and every unchecked index in client/*.go (regenerated table) is in
    the hand-written account: guarded by a length check, bounded by a range loop, or
    application-supplied. A new bare site breaks this theorem. -/
theorem sites_accounted : ∀ s ∈ Client.sites, siteAccounted s = true := by decide

/-- Full strength: in no reachable state of the rendezvous — whatever the schedule, whatever the
    router sent (duplicate replies, replies at the instant a timer fires) — is the receive loop
    blocked for good in `runSignalReply`. -/
theorem run_never_stuck (evs : List R.Ev) (st : R.State) (_h : R.steps R.cfgToday {} evs = some st) :
    ¬ R.RunStuck R.cfgToday st :=
  R.today_not_stuck st

/-- … and that is not a matter of definition: from every reachable state in which nothing has
    crashed and the send side is open, the loop can be brought back to its select by steps of the
    goroutines it waits for (for a waiter that has gone: its own exit path, which closes `gone`). -/
theorem run_can_always_be_unblocked (st : R.State) (hr : R.Reachable R.cfgToday st)
    (hc : st.crashed = none) (hsc : st.sendClosed = false) :
    ∃ evs, (R.steps R.cfgToday st evs).map R.quietB = some true :=
  R.unblock_run R.cfgToday st (R.allInv_reachable _ st hr).corr hc hsc R.today_ppt R.today_abort (R.today_not_stuck st)

/-- What `RunStuck` means (for any configuration): no event of the loop is enabled, and whatever
    the other goroutines, timers, the router and Close do afterwards, it stays that way. -/
theorem stuck_is_forever (cfg : R.Cfg) (st : R.State) (hs : R.RunStuck cfg st) :
    (∀ ev, ev.isRun = true → R.step cfg st ev = none) ∧
    (∀ evs st', R.steps cfg st evs = some st' → R.RunStuck cfg st') :=
  ⟨fun ev he => R.stuck_no_run_step cfg st ev hs he, fun evs st' h => R.stuck_forever cfg st evs st' hs h⟩

/-- Regression witnesses (F16) on today's code: the reply arriving as its waiter times out, and
    the duplicate reply, end with the loop taking the `gone` case and Close() returning. -/
theorem f16_witnesses_pass :
    (R.steps R.cfgToday {} (Witness.f16 ++ Witness.f16Tail)).map R.closedOK = some true ∧
    (R.steps R.cfgToday {} (Witness.f16dup ++ Witness.f16Tail)).map R.closedOK = some true :=
  ⟨by decide, by decide⟩

/-- … whereas with the two-way select of before the fix both leave the loop stuck for good. -/
theorem f16_old_code_stuck :
    (∃ st, R.steps R.cfgOld {} Witness.f16 = some st ∧ R.RunStuck R.cfgOld st) ∧
    (∃ st, R.steps R.cfgOld {} Witness.f16dup = some st ∧ R.RunStuck R.cfgOld st) := by
  obtain ⟨s1, h1, b1⟩ := R.exists_of_map R.f16_old_stuck
  obtain ⟨s2, h2, b2⟩ := R.exists_of_map R.f16dup_old_stuck
  exact ⟨⟨s1, h1, R.stuck_of_stuckB _ s1 b1⟩, ⟨s2, h2, R.stuck_of_stuckB _ s2 b2⟩⟩

/-- A further INVOCATION for a live worker whose final (non-progressive) message was already
    received — a repeat from the router — is dropped: the state does not change. -/
theorem repeated_final_invocation_dropped (st : I.State) (i : I.Inv) (w : Nat)
    (hl : I.findLive st i.reg i.req st.n = some w) (hf : (st.ws w).final = true) :
    I.accept {} st i = st.emit (.repeated i.req) :=
  I.repeated_final_dropped {} st i w I.today_final_gate hl hf

/-- The wait for room in a worker's queue ends as soon as that worker's context has ended or the
    session has stopped receiving (which Close() forces after its grace period). -/
theorem enqueue_escapes (st : I.State) (w : Nat) (i : I.Inv) (hc : st.crashed = none)
    (hp : st.pendingSend = some (w, i)) (hx : (st.ws w).ctx.isSome = true ∨ st.recvDone = true) :
    ∃ st', I.step {} st .queueSendAbandon = some st' ∧ st'.pendingSend = none :=
  I.enqueue_escapes {} st w i (by decide) hc hp hx

/-- Regression witness (F42) on today's code: three INVOCATIONs with one request id while the
    handler runs the first — the repeats are dropped, the loop is free, one worker. -/
theorem f42_witness_passes :
    ((I.steps {} {} Witness.dupInv).map fun st => st.pendingSend.isNone && st.n == 1) = some true := by decide

theorem f42_old_code_blocks :
    ((I.steps { finalGate := false } {} Witness.dupInv).map fun st => st.pendingSend.isSome) = some true := by decide

/-- Full strength "the loop never waits in `handlerQueue <- msg`" … -/
def inv_queue_never_blocks_full : Prop :=
  ∀ evs st, I.steps {} {} evs = some st → st.pendingSend = none

/-- … is false BY DESIGN, not as a defect: progressive chunks of one invocation arriving faster
    than the application's handler takes them fill the one-slot queue and the loop waits
    (back-pressure; `Witness.progChunks`). This is an assumption of C17 (handlers of progressive
    invocations keep up or honour their context), not a finding. -/
theorem inv_queue_never_blocks_full_fails : ¬ inv_queue_never_blocks_full := by
  intro h
  have hb := I.progChunks_block
  cases hs : I.steps {} {} Witness.progChunks with
  | none => simp [hs] at hb
  | some st => simp [hs, h _ st hs] at hb

/-- Partial: the loop only ever comes to wait behind an invocation that is still open (its final
    message not yet received) and whose worker is live … -/
theorem inv_queue_blocks_only_open_invocation (st : I.State) (i : I.Inv) (w : Nat) (j : I.Inv)
    (hp : st.pendingSend = none) (h : (I.accept {} st i).pendingSend = some (w, j)) :
    (st.ws w).final = false ∧ (st.ws w).live = true :=
  I.blocks_only_on_open_invocation {} st i w j I.today_final_gate hp h

/-- … and while it waits, only the return of that worker's handler or the escapes of the select
    (`enqueue_escapes`) end the wait. -/
theorem inv_queue_wait_ends (cfg : I.Cfg) (st : I.State) (ev : I.Ev) (st' : I.State)
    (w : Nat) (i j : I.Inv) (hp : st.pendingSend = some (w, i))
    (hfull : ¬ (st.ws w).queue.length < cfg.queueCap) (hrun : (st.ws w).inner = .running j)
    (hev : ∀ r d, ev ≠ .handlerReturn w r d) (hev2 : ev ≠ .queueSendAbandon) (h : I.step cfg st ev = some st') :
    st'.pendingSend = some (w, i) ∧ ¬ (st'.ws w).queue.length < cfg.queueCap ∧ (st'.ws w).inner = .running j := by
  -- a step at worker `w'` that, if `w' = w`, leaves the queue and the running handler alone
  have keep {w' : Nat} {x : I.Worker}
      (hx : w' = w → x.queue = (st.ws w').queue ∧ x.inner = (st.ws w').inner) :
      ¬ ((st.setW w' x).ws w).queue.length < cfg.queueCap ∧ ((st.setW w' x).ws w).inner = .running j := by
    rcases I.setW_ws_eq st w' x w with ⟨rfl, e⟩ | ⟨_, e⟩ <;> rw [e]
    · rw [(hx rfl).1, (hx rfl).2]; exact ⟨hfull, hrun⟩
    · exact ⟨hfull, hrun⟩
  cases I.step_spec h with
  | tick | clientDone | endRecv | spRefuse => exact ⟨hp, hfull, hrun⟩
  | abandon => exact absurd rfl hev2
  | refused hn | crash hn | repeated hn | enqueued hn | blocked hn | ignored hn | created hn
  | interruptNone hn | interrupt hn => rw [hp] at hn; cases hn
  | sendDone hp' hroom | sendLost hp' hroom => rw [hp] at hp'; cases hp'; exact absurd hroom hfull
  | innerTake _ hi | sendRetryEnd hi | sendRetryMore hi => exact ⟨hp, keep fun e => by rw [e, hrun] at hi; cases hi⟩
  | @handlerDrop _ r | @handlerResultEnd _ r | @handlerResultMore _ r | @handlerWait _ r =>
    exact ⟨hp, keep fun e => absurd (by rw [e]) (hev r _)⟩
  | innerExit _ _ hi =>
    exact ⟨hp, keep fun e => by rw [e, hrun] at hi; rcases hi with hi | ⟨_, hi⟩ <;> cases hi⟩
  | _ => exact ⟨hp, keep fun _ => ⟨rfl, rfl⟩⟩

/-- Full strength: from every reachable state in which nothing has crashed, some continuation lets
    Close() return (the application's handlers return, the workers finish). -/
theorem close_returns (st : R.State) (hr : R.Reachable R.cfgToday st) (hc : st.crashed = none) :
    ∃ evs st', R.steps R.cfgToday st evs = some st' ∧ st'.close = .returned ∧ st'.crashed = none :=
  R.close_can_return R.cfgToday R.today_ppt R.today_abort st hr hc (R.today_not_stuck st)

/-- Only `Close()` closes the peer, as its last act: the send side is closed exactly when Close()
    has returned (no second close, no close from the ABORT path). -/
theorem peer_closed_once (st : R.State) (hr : R.Reachable R.cfgToday st) (h : st.sendClosed = true) :
    st.close = .returned :=
  (R.invClose_reachable R.cfgToday R.today_ppt R.today_abort st hr).1 h

/-- Regression witness (F41) on today's code: RESULT with `ppt_scheme` from a router that did not
    announce PPT, then Close(): ABORT, EndRecv, the loop exits, Close() returns, no panic. -/
theorem f41_witness_passes :
    (R.steps Witness.pptAbortCfg {} Witness.pptAbort).map R.closedOK = some true := by decide

theorem f41_old_code_panics :
    ((R.steps { Witness.pptAbortCfg with abortClosesSend := true } {}
      [.apiStart 1 .call "p1" false, .apiWait 1, .inject (.result 1 [(N.OptPPTScheme, .str "x_a")] [] []),
       .runRecv, .deliver, .finish 1, .closeStart]).map (·.crashed)) = some (some "send on closed channel") := by
  decide

/-- Full strength: no API call, no goroutine of the client and no Close() ever panics. -/
def no_panic_full : Prop :=
  ∀ evs st, R.steps R.cfgToday {} evs = some st → st.crashed = none

/-- Open finding F43 (`Witness.closeRace`): a Call is waiting; Close() completes and closes the
    send channel; the Call's context ends and its goroutine takes the ctx.Done branch before it
    sees Done(): CANCEL goes to the closed channel. (The same happens to any goroutine blocked in
    a send when Close() closes the channel.) -/
theorem no_panic_full_fails : ¬ no_panic_full := by
  intro h
  have hb := R.closeRace_crashes
  cases hs : R.steps R.cfgToday {} Witness.closeRace with
  | none => simp [hs] at hb
  | some st => simp [hs, h _ st hs] at hb

/-- Partial, with the exact guard: the ONLY panic left in the model is a send on the channel that
    Close() has closed — in particular nothing the router sends makes the client panic before
    Close() has returned. -/
theorem no_panic_partial (st : R.State) (hr : R.Reachable R.cfgToday st) (s : String)
    (h : st.crashed = some s) : s = "send on closed channel" ∧ st.sendClosed = true ∧ st.close = .returned := by
  have hi := R.invClose_reachable R.cfgToday R.today_ppt R.today_abort st hr
  obtain ⟨h1, h2⟩ := hi.2 s h
  exact ⟨h1, h2, hi.1 h2⟩

/-- F43 delimited by a theorem instead of an assumption. In the model a goroutine blocked in a send
    (a router that has stopped reading) is a goroutine whose sending event has not been taken yet, so
    a non-draining router only removes schedules; whenever the event is finally taken after `Close()`
    closed the channel — whether the goroutine was blocked in the send or arrives at it — it panics.
    EXACTLY: a run of today's client ends in a panic if and only if its last event was taken in an
    uncrashed state in which `Close()` had returned and closed the send channel and that event is
    such a send; the panic changes nothing else, and nothing can follow it. -/
theorem f43_exact (evs : List R.Ev) (st : R.State) (h : R.steps R.cfgToday {} evs = some st) :
    st.crashed.isSome = true ↔
    ∃ pre ev st1, evs = pre ++ [ev] ∧ R.steps R.cfgToday {} pre = some st1 ∧ st1.crashed = none ∧
      st1.close = .returned ∧ st1.sendClosed = true ∧
      R.step R.cfgToday st1 ev = some { st1 with crashed := some "send on closed channel" } ∧
      st = { st1 with crashed := some "send on closed channel" } :=
  R.crash_iff R.cfgToday R.today_ppt R.today_abort evs st h

/-- … and every send after `Close()` has closed the channel is such an event, whichever goroutine
    performs it (the request of an API call that passed its `Connected()` check, the CANCEL of a
    Call, …). -/
theorem f43_every_send_after_close (st st2 : R.State) (ev : R.Ev) (hc : st.crashed = none)
    (hsc : st.sendClosed = true) (h : R.stepCore R.cfgToday st ev = some st2) (hs : R.sentSomething st st2 = true) :
    R.step R.cfgToday st ev = some { st with crashed := some "send on closed channel" } :=
  R.send_after_close_panics R.cfgToday st st2 ev hc hsc h hs

/-- One more instance: the sender goroutine of a `CallProgressive`, which watches neither the call's
    return nor Done, sends its next chunk after `Close()` (explicit non-draining router: `P.State.stalled`;
    a blocked sender panics when the channel is closed under it). -/
theorem f43_progressive_sender :
    (RP.steps {} {} RP.senderAfterClose).map (fun st => (st.r.close, st.p.crashed)) =
      some (.returned, some "send on closed channel") := by decide

/-- A sender blocked by a router that does not read takes no step until the router reads again or
    the channel is closed; then it panics. -/
theorem f43_blocked_sender (cfg : P.Cfg) (st : P.State) (g : Nat) (hc : st.crashed = none)
    (hph : (st.ss g).phase = .sendingChunk true) (hst : st.stalled = true) :
    (st.sendClosed = false → P.step cfg st (.sendDone g) = none) ∧
    (st.sendClosed = true → P.step cfg st (.sendDone g) = some { st with crashed := some "send on closed channel" }) := by
  constructor <;> intro h <;> simp [P.step, hc, hph, hst, h]

/-- Non-vacuity: a reachable crashed state exists (the F43 witness). -/
example : ((R.steps R.cfgToday {} Witness.closeRace).map fun st => st.crashed.isSome && st.sendClosed) = some true := by
  decide

/-- Done() is closed exactly when the loop has exited, and exactly once. -/
theorem done_signalled (cfg : R.Cfg) (st : R.State) (hr : R.Reachable cfg st) :
    (st.done = true ↔ st.run = .exited) ∧ List.countP R.isDoneOut st.out = if st.done then 1 else 0 := by
  have hi := R.allInv_reachable cfg st hr
  exact ⟨hi.state.1, hi.doneOnce⟩

/-- When the loop (at its select) finds the transport closed, or a message whose case in
    `runReceiveFromRouter` returns true, at the head of its queue, taking it exits the loop and
    closes Done(). -/
theorem session_end_closes_done (cfg : R.Cfg) (st : R.State) (x : Option RMsg) (rest : List (Option RMsg))
    (hc : st.crashed = none) (hrun : st.run = .idle) (hin : st.inbox = x :: rest)
    (hx : R.endsSession x = true) :
    ∃ st', R.step cfg st .runRecv = some st' ∧ st'.done = true ∧ st'.run = .exited := by
  have hcore : ∃ st', R.stepCore cfg st .runRecv = some st' ∧ st'.done = true ∧ st'.run = .exited ∧
      R.sentSomething st st' = false := by
    -- taking such a message adds `recv m` and `done` to the log, neither of them a send
    have take2 (l : List R.Out) (a b : R.Out) :
        List.take (l.length + 1 + 1 - l.length) (a :: b :: l) = [a, b] := by
      rw [show l.length + 1 + 1 - l.length = 2 by omega]; rfl
    simp only [R.stepCore, R.runRecv, hrun, hin]
    cases x with
    | none => exact ⟨_, rfl, rfl, rfl, by simp [R.sentSomething, R.State.pop, R.Out.isSend]⟩
    | some m =>
      simp only [R.endsSession] at hx
      split at hx
      · rename_i b hact
        refine ⟨_, rfl, ?_, ?_, ?_⟩ <;> simp [R.dispatch, hact, R.sentSomething, take2, R.Out.isSend]
      · simp at hx
  obtain ⟨st', h1, h2, h3, h4⟩ := hcore
  exact ⟨st', by simp [R.step, hc, h1, h4], h2, h3⟩

/-- GOODBYE and ABORT are such messages (regenerated switch), the transport closing is one too. -/
theorem goodbye_abort_end_session (d : Dict) (reason : String) :
    R.endsSession (some (.goodbye d reason)) = true ∧ R.endsSession (some (.abort d reason)) = true ∧
    R.endsSession none = true := by
  refine ⟨?_, ?_, rfl⟩ <;> simp [R.endsSession, R.actionOf, RMsg.typeName, Client.recvSwitch]

end Nexus.C17
