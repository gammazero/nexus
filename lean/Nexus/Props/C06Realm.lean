/-
  C06 (realm/router-model half) — Router.Close and RemoveRealm are safe at any moment.

  Property text.  "Closing the router or removing a realm at any point - with handshakes,
  publications, calls, call timers, kills and disconnects in flight - always returns, never panics
  then or later (for instance when a timer of a call that was pending expires), tells every attached
  client GOODBYE wamp.close.system_shutdown or closes its transport, answers later attach attempts
  with an error or ABORT rather than a crash, and leaves no goroutine of the router behind.  Sessions
  of realms that were not removed are unaffected."

  This file is about the L2 model: `Router.shutdownRealm` (realm.close: the retry loops, deferred
  departures, waiting inbound messages and pending tasks are dropped — the handlers see `recvDone` —,
  then every attached client leaves in mode `.shutdown`, then the clients look: `flush`),
  `Router.step` for `.close`, `.removeRealm`, `.join`, `.addRealm`, `.sess`, `.tick`.  "At any
  moment" = the theorems hold for EVERY realm state satisfying the invariant `RealmInv` (every
  reachable state does, with calls, invocations, retry loops, deferred departures, pending tasks …
  in flight) and for every router state.  The concurrency half ("always returns", "no goroutine
  left", no post to a stopped goroutine) is Nexus/Props/C06.lean (L3).

  Vocabulary (Nexus/L2/Proofs/RealmShutdown.lean, RouterShutdown.lean, RealmQueue.lean):
    `byeMsg`        GOODBYE [] wamp.close.system_shutdown;
    `r.queueOf k`   the messages buffered for session k (first queue entry of k), `qlook` on a table;
    `sayBye qs c`   the queue table after GOODBYE has been offered to client c (appended iff room);
    `isAttach op`   op is a `.join` or an `.addRealm`;  `runROps rt ops` the router after a list of ops.

  clause                                                            theorem
  ----------------------------------------------------------------  ---------------------------------
  "tells every attached client GOODBYE system_shutdown or closes     C06_shutdown_tells_everyone
  its transport": after `shutdownRealm` nobody is attached, nothing
  is pending (retries, deferred, inbox, tasks), no panic; broker and
  dealer hold nothing of a client (C05_returns_to_empty), no
  testament of a client is left; nothing but the GOODBYEs is
  produced (quiet: no ERROR to callers, no meta event, no testament)
  … EVERY client's peer is closed (seen at once by a reading client,   shutdown_client, shutdown_reader
  after `resume` by a stalled one); EVERY client whose queue has room
  gets GOODBYE as its LAST message; a full queue is left as it is
  … the exact observation: `out`, `closed`, the queues, ghosts and     C06_shutdown_exact
  closed peers kept, as functions of the state before
  … in a REACHABLE realm (any history of inputs) no hypothesis on      C06_shutdown_reachable,
  keys is left: client keys are distinct, none is the meta key, so      C06_goodbye_any_key_full (def),
  EVERY reading client with room reads its buffer, then GOODBYE         C06_goodbye_any_key_full_holds
  … at the level of arbitrary states satisfying `RealmInv` the          C06_goodbye_any_key_state (def),
  GOODBYE clause does need "the client does not carry the meta key"     C06_goodbye_any_key_state_fails
  … for every realm of a router reachable by ANY history the           C06_reachable_realms_ok
  invariant holds (so only "distinct client keys" is assumed)
  Router.Close / RemoveRealm tell every client of every / the realm    C06_close_tells_everyone,
                                                                     C06_remove_tells_everyone
  … in a REACHABLE router with no hypothesis on the realm or its keys    C06_close_tells_everyone_reachable,
                                                                     C06_remove_tells_everyone_reachable,
                                                                     C06_close_no_panic_reachable
  "answers later attach attempts with an error": once closed, every   C06_closed_forever,
  later operation leaves the router unchanged, produces nothing, and   C06_close_is_final,
  every `.join` / `.addRealm` is refused — for every later history      C06_closed_realms_empty
  after RemoveRealm A: A is gone from the table; a join to A is        C06_removed_realm_refuses
  refused (no template) until an AddRealm with that URI; operations
  of A's former sessions produce nothing and change nothing; the
  clock does not touch A (none of its timers can fire); with a
  template the join re-creates A FRESH from the template
  "Sessions of realms that were not removed are unaffected"            C06_others_unaffected,
                                                                     C06_close_only_own_sessions

  HYPOTHESES ON SESSION KEYS (state-level theorems): client keys of one realm are distinct; the
  GOODBYE clause excludes a client carrying `metaKey` (= 0, the meta session).  Both hold in EVERY
  reachable realm, for any history of inputs (`Realm.Reachable.clients_wf`: `join` under a key in use
  or under the meta key is a no-op of the model), so `C06_shutdown_reachable` has neither.  Where a
  clause is about a reading client, its key is not the key of a ghost (a departed stalled session
  whose key was reused — the model names queues by session key).

  NOT here: "always returns" and "no goroutine left" (L3 / observed); `realms := []` makes "a call
  timer of a closed realm fires later" impossible in L2 by construction.
-/
import Nexus.L2.Proofs.RealmShutdown
import Nexus.L2.Proofs.RouterShutdown
import Nexus.Props.C05
import Nexus.L2.Proofs.RealmKeys
import Nexus.Props.C11

namespace Nexus.C06
open Nexus.L2 Nexus.L2.Realm Nexus.L2.Router Nexus.L2.WpC Nexus.Gen.N

/-- THE EXACT OBSERVATION of `realm.close`.  With `T` = the queue table after GOODBYE has been offered
    to every client in turn (`sayBye`: appended iff the queue has room), `G` = the old ghosts plus the
    clients that were not reading, `P` = the peers closed (the old unobserved closures plus every
    client):
    * `out`: the non-empty buffers of `T` of everybody who reads (not in `G`);
    * `closed`: the peers of `P` whose owner reads; the others stay in `closedPeers` until `resume`;
    * the queues kept are those of `G` (plus emptied entries of readers that are not closed: none of
      a client);
    * first-entry view of `T`: a client's queue is its old queue, plus GOODBYE iff it had room (and
      the client does not carry the meta key); every other queue is unchanged;
    * entry view of `T`: every buffer is an old buffer, or the old buffer of a client with exactly
      one GOODBYE appended, or the single GOODBYE.
    So the shutdown is QUIET: no caller gets an ERROR for a call the leaving callee was serving, no
    `on_leave` / `on_unsubscribe` / `on_unregister` / testament event is published. -/
theorem C06_shutdown_exact (r : Realm) (hi : RealmInv r) (hn : (r.clients.map (·.key)).Nodup) :
    let o := (Router.shutdownRealm r).1
    let r' := (Router.shutdownRealm r).2
    let T := r.clients.foldl sayBye r.queues
    let G := r.ghosts ++ (r.clients.filter (·.stalled)).map (·.key)
    let P := r.closedPeers ++ r.clients.map (·.key)
    o.out = T.filter (fun q => !G.contains q.1 && !q.2.isEmpty) ∧
    o.closed = P.filter (fun k => !G.contains k) ∧
    o.panic = r.panic ∧
    r'.queues = T.filter (fun q => G.contains q.1) ++
      (T.filter (fun q => !G.contains q.1 && !P.contains q.1)).map (fun q => (q.1, [])) ∧
    r'.ghosts = G ∧ r'.closedPeers = P.filter (fun k => G.contains k) ∧
    (∀ c ∈ r.clients, qlook T c.key =
      if c.key ≠ metaKey ∧ r.queueLen c.key < c.cap then r.queueOf c.key ++ [byeMsg] else r.queueOf c.key) ∧
    (∀ k, (∀ c ∈ r.clients, c.key ≠ k) → qlook T k = r.queueOf k) ∧
    (∀ q ∈ T, q ∈ r.queues ∨ ∃ c ∈ r.clients, q.1 = c.key ∧ c.key ≠ metaKey ∧
      ((∃ q0 ∈ r.queues, q0.1 = c.key ∧ q.2 = q0.2 ++ [byeMsg]) ∨ q.2 = [byeMsg])) := by
  intro o r' T G P
  obtain ⟨hs, hcl⟩ := shutFold_spec hi hn
  obtain ⟨fo, fc, fq, fp⟩ := shut_flush_noclients (shutFold r) hcl
  have hq : (shutFold r).queues = T := hs.queues
  have hg : (shutFold r).ghosts = G := hs.ghosts
  have hp : (shutFold r).closedPeers = P := hs.closedPeers
  rw [hq, hg] at fo
  rw [hg, hp] at fc fp
  rw [hq, hg, hp] at fq
  refine ⟨fo, fc, ?_, fq, hg, fp, ?_, ?_, ?_⟩
  · exact (flush_inv hs.inv).2.2.trans hs.panic
  · intro c hc
    rw [queueLen_eq, queueOf_eq]
    exact qlook_foldl_sayBye_client r.clients r.queues hn c hc
  · intro k hk
    exact qlook_foldl_sayBye_other r.clients r.queues k hk
  · exact mem_foldl_sayBye r.clients r.queues hn

-- non-vacuity: a realm with a reading client, a stalled one and one whose queue is full
example : RealmInv shutExRealm ∧ (shutExRealm.clients.map (·.key)).Nodup ∧ QueueInv shutExRealm :=
  ⟨RealmInv.plain _ _ _ _, by decide, by unfold QueueInv; decide⟩

-- the hypotheses hold in every reachable realm state (any history of inputs), and so does
-- `TestamentsAttached` (then NO testament bucket is left after the shutdown)
example {cfg : Config} {r : Realm} (h : Realm.Reachable cfg r) :
    RealmInv r ∧ (r.clients.map (·.key)).Nodup ∧ TestamentsAttached r :=
  ⟨h.inv.1, h.keys_nodup, h.testaments⟩

-- … and what its clients see: 1 reads GOODBYE, 3 reads what was buffered (full: no GOODBYE), both
-- see the closure; 2 (stalled) sees nothing yet, its GOODBYE waits
example : (Router.shutdownRealm shutExRealm).1.out = [(1, [byeMsg]), (3, [.other 99])] ∧
    (Router.shutdownRealm shutExRealm).1.closed = [1, 3] ∧
    (Router.shutdownRealm shutExRealm).2.queues = [(2, [byeMsg])] ∧
    (Router.shutdownRealm shutExRealm).2.ghosts = [2] ∧ (Router.shutdownRealm shutExRealm).2.closedPeers = [2] :=
  ⟨rfl, by decide +kernel, rfl, by decide +kernel⟩

/-- WHAT ONE CLIENT GETS from `realm.close`, `b` being its buffer after the farewell (GOODBYE appended
    iff there was room): if it reads (and its key is no ghost's) it sees its peer closed and reads
    `b`; otherwise the closure is recorded for its `resume` and `b` is what is kept for it. -/
theorem shutdown_client {r : Realm} (hi : RealmInv r) (hn : (r.clients.map (·.key)).Nodup) {c : Session}
    (hc : c ∈ r.clients) {b : List Msg}
    (hb : b = if c.key ≠ metaKey ∧ r.queueLen c.key < c.cap then r.queueOf c.key ++ [byeMsg] else r.queueOf c.key) :
    (c.stalled = false → c.key ∉ r.ghosts →
      c.key ∈ (Router.shutdownRealm r).1.closed ∧ (b ≠ [] → (c.key, b) ∈ (Router.shutdownRealm r).1.out)) ∧
    (c.stalled = true ∨ c.key ∈ r.ghosts →
      c.key ∈ (Router.shutdownRealm r).2.ghosts ∧ c.key ∈ (Router.shutdownRealm r).2.closedPeers ∧
      c.key ∉ (Router.shutdownRealm r).1.closed ∧ (Router.shutdownRealm r).2.queueOf c.key = b) := by
  obtain ⟨eo, ec, _, eq, eg, ep, hT, _⟩ := C06_shutdown_exact r hi hn
  have hP : c.key ∈ r.closedPeers ++ r.clients.map (·.key) := List.mem_append_right _ (List.mem_map.mpr ⟨c, hc, rfl⟩)
  rw [eo, ec, eg, ep, queueOf_eq, eq, qlook_kept, hb, ← hT c hc]
  refine ⟨fun h1 h2 => ?_, fun h => ?_⟩
  · -- a reader: its key is no ghost's when the handlers have exited
    have hg := Bool.eq_false_iff.mpr fun h =>
      ((ghosts_after hn hc).mp (List.contains_iff_mem.mp h)).elim h2 (fun h => by rw [h1] at h; cases h)
    refine ⟨List.mem_filter.mpr ⟨hP, by rw [hg]; rfl⟩, fun hne => List.mem_filter.mpr ⟨mem_of_qlook hne, ?_⟩⟩
    simp only [hg, Bool.not_false, Bool.true_and, Bool.not_eq_true', List.isEmpty_eq_false_iff]
    exact hne
  · have hm := (ghosts_after hn hc).mpr h.symm
    have hg := List.contains_iff_mem.mpr hm
    refine ⟨hm, List.mem_filter.mpr ⟨hP, hg⟩, fun hx => ?_, if_pos hg⟩
    have := (List.mem_filter.mp hx).2
    rw [hg] at this
    cases this

/-- … in particular a reading client sees the closure and, if its queue had room, GOODBYE last. -/
theorem shutdown_reader {r : Realm} (hi : RealmInv r) (hn : (r.clients.map (·.key)).Nodup) {c : Session}
    (hc : c ∈ r.clients) (hs : c.stalled = false) (hg : c.key ∉ r.ghosts) :
    c.key ∈ (Router.shutdownRealm r).1.closed ∧
    (c.key ≠ metaKey → r.queueLen c.key < c.cap →
      (c.key, r.queueOf c.key ++ [byeMsg]) ∈ (Router.shutdownRealm r).1.out) :=
  ⟨((shutdown_client hi hn hc rfl).1 hs hg).1, fun hm hroom =>
    ((shutdown_client hi hn hc (if_pos ⟨hm, hroom⟩).symm).1 hs hg).2 (by simp)⟩

/-- "TELLS EVERY ATTACHED CLIENT GOODBYE wamp.close.system_shutdown OR CLOSES ITS TRANSPORT" — for
    every realm state satisfying the invariant (whatever is in flight: calls, invocations, yield
    retry loops, deferred departures, waiting inbound messages, pending tasks, stalled clients)
    whose client keys are distinct.  After `Router.shutdownRealm r` (= `realm.close`, used by
    Router.Close and RemoveRealm), with `o` what the clients observe and `r'` the realm left:
    * nobody is attached; no retry loop, deferred departure, waiting message or task is left; the
      `panic` field is unchanged (in particular `none` stays `none`: nothing panics); no client key is
      left in `ending`;
    * `r'` satisfies the invariant; the broker index is empty, every subscription left is a
      memberless history subscription, every registration left is a meta procedure of the meta
      session, there is no call, invocation or link; the testament buckets of the clients are gone
      (all buckets, in a state where buckets belong to attached sessions: every reachable state);
    * what EVERY client gets — its peer closed, GOODBYE system_shutdown as the last message if its
      queue has room, nothing but the closure if it is full — is `shutdown_client` (at this level
      without GOODBYE for a client carrying the meta key, see `C06_goodbye_any_key_state_fails`; no
      reachable realm has one: `C06_shutdown_reachable`);
    * QUIET: every buffer anybody can read afterwards is a buffer that existed before, or the
      buffer of a client of this realm with exactly one GOODBYE appended, or empty; only peers of
      clients (and closures already pending) are reported closed;
    * the queue invariant is kept.
    Without distinct client keys `leave` removes all clients of a key at once, using the
    `stalled` flag of the first. -/
theorem C06_shutdown_tells_everyone (r : Realm) (hi : RealmInv r) (hn : (r.clients.map (·.key)).Nodup) :
    let o := (Router.shutdownRealm r).1
    let r' := (Router.shutdownRealm r).2
    -- nobody is attached, nothing is pending, nothing panicked
    r'.clients = [] ∧ r'.retries = [] ∧ r'.deferred = [] ∧ r'.inbox = [] ∧ r'.tasks = [] ∧
    r'.panic = r.panic ∧ o.panic = r.panic ∧
    (∀ c ∈ r.clients, c.key ∉ r'.ending) ∧
    -- the tables hold nothing of a client
    RealmInv r' ∧
    ((∀ s ∈ r'.broker.subs, s.members = [] ∧ r'.broker.hasHist s.id = true) ∧
      r'.broker.index = [] ∧
      (∀ g ∈ r'.ds.d.regs, g.callees = [metaKey]) ∧
      (∀ e ∈ r'.ds.d.index, e.1 = metaKey) ∧
      r'.ds.d.calls = [] ∧ r'.ds.d.invs = [] ∧ r'.ds.d.byCall = []) ∧
    r'.testaments = r.testaments.filter (fun t => !(r.clients.map (·.key)).contains t.1) ∧
    (TestamentsAttached r → r'.testaments = []) ∧
    -- nothing but that GOODBYE is produced
    (∀ q ∈ o.out ++ r'.queues, q ∈ r.queues ∨ q.2 = [] ∨ ∃ c ∈ r.clients, q.1 = c.key ∧ c.key ≠ metaKey ∧
      ((∃ q0 ∈ r.queues, q0.1 = c.key ∧ q.2 = q0.2 ++ [byeMsg]) ∨ q.2 = [byeMsg])) ∧
    (∀ k ∈ o.closed, k ∈ r.closedPeers ∨ ∃ c ∈ r.clients, c.key = k) ∧
    (QueueInv r → QueueInv r') := by
  intro o r'
  obtain ⟨hs, hcl⟩ := shutFold_spec hi hn
  have hfi := flush_inv hs.inv
  have hemp := C05.C05_returns_to_empty r' hfi.1 hcl
  have hkeys : ∀ c ∈ r.clients, (r.clients.map (·.key)).contains c.key = true :=
    fun c hc => List.contains_iff_mem.mpr (List.mem_map.mpr ⟨c, hc, rfl⟩)
  refine ⟨hcl, hs.retries, hs.deferred, hs.inbox, hs.tasks, hfi.2.1.trans hs.panic, hfi.2.2.trans hs.panic,
    ?_, hfi.1, ⟨hemp.1, hemp.2.1, hemp.2.2.1, hemp.2.2.2.1, hemp.2.2.2.2.1, hemp.2.2.2.2.2.1, hemp.2.2.2.2.2.2.1⟩,
    hs.testaments, ?_, fun q hq => ?_, fun k hk => ?_, shutdownRealm_qinv⟩
  · intro c hc h
    have := (List.mem_filter.mp (hs.ending ▸ (h : c.key ∈ (shutFold r).ending))).2
    rw [hkeys c hc] at this
    cases this
  · intro hta
    refine hs.testaments.trans (List.filter_eq_nil_iff.mpr fun t ht => ?_)
    obtain ⟨c, hc, hk⟩ := hta t ht
    rw [← hk, hkeys c hc]
    decide
  · rcases (flush_sub (shutFold r)).1 q hq with h | ⟨h, _⟩
    · rw [hs.queues] at h
      exact (mem_foldl_sayBye r.clients r.queues hn q h).elim Or.inl (fun h => Or.inr (Or.inr h))
    · exact Or.inr (Or.inl h)
  · have := (flush_sub (shutFold r)).2 k (List.mem_append_left _ hk)
    rw [hs.closedPeers] at this
    exact (List.mem_append.mp this).elim Or.inl (fun h => Or.inr (List.exists_of_mem_map h))

/-- the GOODBYE clause for EVERY client key, at the level of arbitrary states satisfying the invariant … -/
def C06_goodbye_any_key_state : Prop :=
  ∀ (r : Realm), RealmInv r → (r.clients.map (·.key)).Nodup → ∀ c ∈ r.clients, r.queueLen c.key < c.cap →
    c.stalled = false → c.key ∉ r.ghosts → (c.key, r.queueOf c.key ++ [byeMsg]) ∈ (Router.shutdownRealm r).1.out

/-- … is false: in a state (not a reachable one) where a client carries the meta session's key 0, that
    client is sent nothing (`trySend` to `metaKey` queues nothing), although its peer is closed.  This is
    why the state-level theorem has the guard `c.key ≠ metaKey`; `RealmInv` does not exclude such a state,
    reachability does. -/
theorem C06_goodbye_any_key_state_fails : ¬ C06_goodbye_any_key_state := by
  intro h
  have := h shutExRealmKey0 (RealmInv.plain _ _ _ _) (by decide) _ (List.mem_singleton.mpr rfl) (by decide) rfl (by decide)
  have e : (Router.shutdownRealm shutExRealmKey0).1.out = [] := rfl
  rw [e] at this
  cases this

/-- `realm.close` of a REACHABLE realm (any history of inputs, whatever is in flight): the statement of
    `C06_shutdown_tells_everyone` with no hypothesis on session keys.  Client keys are distinct and none is
    the meta session's (`Realm.Reachable.clients_wf`), every testament bucket belongs to an attached session.
    In particular:
    * EVERY client's peer is closed (observed at once by a reading client whose key is not a ghost's);
    * EVERY client whose queue has room — whatever its key — gets GOODBYE system_shutdown as its last
      message; a client whose queue is full keeps what was buffered;
    * nobody is attached afterwards, nothing is pending, no testament is left, the panic field is unchanged. -/
theorem C06_shutdown_reachable {cfg : Config} {r : Realm} (h : Realm.Reachable cfg r) :
    let o := (Router.shutdownRealm r).1
    let r' := (Router.shutdownRealm r).2
    r'.clients = [] ∧ r'.retries = [] ∧ r'.deferred = [] ∧ r'.inbox = [] ∧ r'.tasks = [] ∧ r'.testaments = [] ∧
    r'.panic = r.panic ∧ o.panic = r.panic ∧ RealmInv r' ∧
    (∀ c ∈ r.clients, c.stalled = false → c.key ∉ r.ghosts → c.key ∈ o.closed) ∧
    (∀ c ∈ r.clients, c.stalled = true ∨ c.key ∈ r.ghosts →
      c.key ∈ r'.ghosts ∧ c.key ∈ r'.closedPeers ∧ c.key ∉ o.closed) ∧
    (∀ c ∈ r.clients, r.queueLen c.key < c.cap →
      (c.stalled = false → c.key ∉ r.ghosts → (c.key, r.queueOf c.key ++ [byeMsg]) ∈ o.out) ∧
      (c.stalled = true ∨ c.key ∈ r.ghosts → r'.queueOf c.key = r.queueOf c.key ++ [byeMsg])) ∧
    (∀ c ∈ r.clients, ¬ r.queueLen c.key < c.cap →
      (c.stalled = false → c.key ∉ r.ghosts → r.queueOf c.key ≠ [] → (c.key, r.queueOf c.key) ∈ o.out) ∧
      (c.stalled = true ∨ c.key ∈ r.ghosts → r'.queueOf c.key = r.queueOf c.key)) := by
  intro o r'
  obtain ⟨hk, hn, _⟩ := h.clients_wf
  have hi := h.inv.1
  obtain ⟨t1, t2, t3, t4, t5, t6, t7, _, t9, _, _, t12, _⟩ := C06_shutdown_tells_everyone r hi hn
  refine ⟨t1, t2, t3, t4, t5, t12 h.testaments, t6, t7, t9,
    fun c hc h1 h2 => (shutdown_reader hi hn hc h1 h2).1, fun c hc hg => ?_, fun c hc hroom => ?_, fun c hc hfull => ?_⟩
  · obtain ⟨g1, g2, g3, _⟩ := (shutdown_client hi hn hc rfl).2 hg
    exact ⟨g1, g2, g3⟩
  · exact ⟨fun h1 h2 => (shutdown_reader hi hn hc h1 h2).2 (hk c hc) hroom,
      fun hg => ((shutdown_client hi hn hc (if_pos ⟨hk c hc, hroom⟩).symm).2 hg).2.2.2⟩
  · have hb := shutdown_client hi hn hc (if_neg fun hh => hfull hh.2).symm
    exact ⟨fun h1 h2 => (hb.1 h1 h2).2, fun hg => (hb.2 hg).2.2.2⟩

/-- the GOODBYE clause for EVERY client key of a reachable realm … -/
def C06_goodbye_any_key_full : Prop :=
  ∀ (cfg : Config) (r : Realm), Realm.Reachable cfg r → ∀ c ∈ r.clients, r.queueLen c.key < c.cap →
    c.stalled = false → c.key ∉ r.ghosts → (c.key, r.queueOf c.key ++ [byeMsg]) ∈ (Router.shutdownRealm r).1.out

/-- … holds: the state with a client under the meta key that refutes the clause over arbitrary states with
    `RealmInv` and distinct keys (`C06_goodbye_any_key_state_fails`) is reached by no history, `join metaKey`
    being a no-op of the model. -/
theorem C06_goodbye_any_key_full_holds : C06_goodbye_any_key_full :=
  fun _ _ h c hc hroom hs hg => ((C06_shutdown_reachable h).2.2.2.2.2.2.2.2.2.2.2.1 c hc hroom).1 hs hg

/-- "SESSIONS OF REALMS THAT WERE NOT REMOVED ARE UNAFFECTED" (restatement of `C11_remove_add`):
    `RemoveRealm A` leaves every other realm of the table unchanged (equality of the whole realm
    state) and the session→realm map unchanged, and (router invariant) what it makes observable —
    the shutdown GOODBYEs and closures — concerns sessions that had joined `A` only; `AddRealm` only
    appends realms named `cfg.uri` and makes nothing observable. -/
theorem C06_others_unaffected (rt : Router) :
    (∀ A, (rt.step (.removeRealm A)).2.others A = rt.others A ∧
          (rt.step (.removeRealm A)).2.sessRealm = rt.sessRealm ∧
          (rt.Inv → (∀ q ∈ (rt.step (.removeRealm A)).1.out, rt.joined A q.1) ∧
                    (∀ k ∈ (rt.step (.removeRealm A)).1.closed, rt.joined A k))) ∧
    (∀ cfg, (∃ l, (rt.step (.addRealm cfg)).2.realms = rt.realms ++ l ∧ ∀ p ∈ l, p.1 = cfg.uri) ∧
            (rt.step (.addRealm cfg)).2.sessRealm = rt.sessRealm ∧
            (rt.step (.addRealm cfg)).1.out = [] ∧ (rt.step (.addRealm cfg)).1.closed = []) :=
  C11.C11_remove_add rt

/-- `Router.Close` (restatement of `C11_close`): the table is emptied and the closed flag set; the
    observation is the concatenation of the per-realm shutdown observations, each computed from
    that realm alone and (router invariant) mentioning only sessions that had joined it. -/
theorem C06_close_only_own_sessions (rt : Router) :
    (rt.step .close).2.realms = [] ∧ (rt.step .close).2.closed = true ∧
    (rt.step .close).1.out = rt.realms.flatMap (fun p => (shutdownRealm p.2).1.out) ∧
    (rt.step .close).1.closed = rt.realms.flatMap (fun p => (shutdownRealm p.2).1.closed) ∧
    (rt.Inv → ∀ p ∈ rt.realms, (∀ q ∈ (shutdownRealm p.2).1.out, rt.joined p.1 q.1) ∧
                               (∀ k ∈ (shutdownRealm p.2).1.closed, rt.joined p.1 k)) :=
  C11.C11_close rt

/-- In a router reachable from `Router.create` by ANY history of well-formed operations every realm
    of the table satisfies the realm invariant and its `panic` field holds at most a fuel marker of
    the model: the hypothesis `RealmInv` of `C06_shutdown_tells_everyone` holds at every moment
    Close / RemoveRealm can be invoked. -/
theorem C06_reachable_realms_ok (rt : Router) (h : Router.Reachable rt) :
    ∀ p ∈ rt.realms, RealmInv p.2 ∧ FuelOnly p.2.panic :=
  fun p hp => ⟨(Router.Reachable.realmsKeysOk h p hp).1, (Router.Reachable.realmsKeysOk h p hp).2.1⟩

example : (Router.create [{}]).isSome = true := by decide +kernel

theorem close_no_panic (rt : Router) (h : ∀ q ∈ rt.realms, RealmInv q.2 ∧ q.2.panic = none) :
    (rt.step .close).1.panic = none := by
  rw [step_close, foldl_merge]
  exact List.findSome?_eq_none_iff.mpr fun q hq => (shutdown_panic (h q hq).1).trans (h q hq).2

/-- `Router.Close` tells every client of EVERY realm: for each realm of the table (invariant,
    distinct client keys) every reading client observes its peer closed, and if its queue has room
    reads its buffer followed by GOODBYE system_shutdown, in the observation of the `.close` step
    itself; the router is closed with an empty table; if no realm had panicked, nothing panics. -/
theorem C06_close_tells_everyone (rt : Router) (p : String × Realm) (hp : p ∈ rt.realms) (hi : RealmInv p.2)
    (hn : (p.2.clients.map (·.key)).Nodup) :
    (rt.step .close).2.closed = true ∧ (rt.step .close).2.realms = [] ∧
    (∀ c ∈ p.2.clients, c.stalled = false → c.key ∉ p.2.ghosts →
      c.key ∈ (rt.step .close).1.closed ∧
      (c.key ≠ metaKey → p.2.queueLen c.key < c.cap →
        (c.key, p.2.queueOf c.key ++ [byeMsg]) ∈ (rt.step .close).1.out)) ∧
    ((∀ q ∈ rt.realms, RealmInv q.2 ∧ (q.2.clients.map (·.key)).Nodup ∧ q.2.panic = none) →
      (rt.step .close).1.panic = none) := by
  obtain ⟨h1, h2, h3, h4, _⟩ := C06_close_only_own_sessions rt
  refine ⟨h2, h1, fun c hc hs hg => ?_, fun hall => ?_⟩
  · obtain ⟨g1, g2⟩ := shutdown_reader hi hn hc hs hg
    rw [h3, h4]
    exact ⟨List.mem_flatMap.mpr ⟨p, hp, g1⟩, fun hm hroom => List.mem_flatMap.mpr ⟨p, hp, g2 hm hroom⟩⟩
  · exact close_no_panic rt fun q hq => ⟨(hall q hq).1, (hall q hq).2.2⟩

/-- `RemoveRealm A` tells every client of `A`: the same, for the realm removed; the other realms
    and the session→realm map are untouched (`C06_others_unaffected`). -/
theorem C06_remove_tells_everyone (rt : Router) (A : String) (r : Realm) (hr : rt.realm? A = some r) (hi : RealmInv r)
    (hn : (r.clients.map (·.key)).Nodup) :
    (rt.step (.removeRealm A)).2.realm? A = none ∧
    (rt.step (.removeRealm A)).1.panic = r.panic ∧
    (∀ c ∈ r.clients, c.stalled = false → c.key ∉ r.ghosts →
      c.key ∈ (rt.step (.removeRealm A)).1.closed ∧
      (c.key ≠ metaKey → r.queueLen c.key < c.cap →
        (c.key, r.queueOf c.key ++ [byeMsg]) ∈ (rt.step (.removeRealm A)).1.out)) := by
  rw [step_remove_some hr]
  exact ⟨realm?_removed rt A, (C06_shutdown_exact r hi hn).2.2.1, fun c hc => shutdown_reader hi hn hc⟩

/-- `Router.Close` and `RemoveRealm` in a REACHABLE router (any history of well-formed operations), with NO
    hypothesis on the realm: every realm of the table satisfies the invariant, has pairwise distinct client keys
    and no client under the meta session's key (`Router.Reachable.realmsKeysOk`).  So for every realm `p` of
    the table / the realm `A` removed: EVERY reading client (whose key is not a ghost's) observes its peer
    closed and, if its queue has room — whatever its key — reads its buffer followed by GOODBYE
    system_shutdown, in the observation of that very step. -/
theorem C06_close_tells_everyone_reachable (rt : Router) (h : Router.Reachable rt) (p : String × Realm)
    (hp : p ∈ rt.realms) :
    (rt.step .close).2.closed = true ∧ (rt.step .close).2.realms = [] ∧
    (∀ c ∈ p.2.clients, c.stalled = false → c.key ∉ p.2.ghosts →
      c.key ∈ (rt.step .close).1.closed ∧
      (p.2.queueLen c.key < c.cap → (c.key, p.2.queueOf c.key ++ [byeMsg]) ∈ (rt.step .close).1.out)) := by
  obtain ⟨hi, _, hc, hn⟩ := Router.Reachable.realmsKeysOk h p hp
  obtain ⟨h1, h2, h3, _⟩ := C06_close_tells_everyone rt p hp hi hn
  exact ⟨h1, h2, fun c hcm hs hg => ⟨(h3 c hcm hs hg).1, (h3 c hcm hs hg).2 (hc.safe.noClient c hcm)⟩⟩

theorem C06_remove_tells_everyone_reachable (rt : Router) (h : Router.Reachable rt) (A : String) (r : Realm)
    (hr : rt.realm? A = some r) :
    (rt.step (.removeRealm A)).2.realm? A = none ∧
    (rt.step (.removeRealm A)).1.panic = r.panic ∧
    (∀ c ∈ r.clients, c.stalled = false → c.key ∉ r.ghosts →
      c.key ∈ (rt.step (.removeRealm A)).1.closed ∧
      (r.queueLen c.key < c.cap → (c.key, r.queueOf c.key ++ [byeMsg]) ∈ (rt.step (.removeRealm A)).1.out)) := by
  obtain ⟨hi, _, hc, hn⟩ := Router.Reachable.realmsKeysOk h (A, r) (realm?_mem hr)
  obtain ⟨h1, h2, h3⟩ := C06_remove_tells_everyone rt A r hr hi hn
  exact ⟨h1, h2, fun c hcm hs hg => ⟨(h3 c hcm hs hg).1, (h3 c hcm hs hg).2 (hc.safe.noClient c hcm)⟩⟩

/-- … and nothing panics in `Router.Close` of a reachable router none of whose realms had panicked -/
theorem C06_close_no_panic_reachable (rt : Router) (h : Router.Reachable rt)
    (hp : ∀ q ∈ rt.realms, q.2.panic = none) : (rt.step .close).1.panic = none :=
  close_no_panic rt fun q hq => ⟨(Router.Reachable.realmsKeysOk h q hq).1, hp q hq⟩

/-- "ANSWERS LATER ATTACH ATTEMPTS WITH AN ERROR": a closed router (closed flag set, table empty —
    what `.close` establishes, `C06_close_only_own_sessions`; the two go together in every reachable
    router, `C06_closed_realms_empty`) is a fixed point up to the clock: EVERY later operation (join,
    session message / drop / stall / resume, tick, rnd, a second Close, RemoveRealm, AddRealm) leaves
    the router state unchanged — except that time goes on: `.tick ms` adds `ms` to the router's clock
    `now` (`ROp.elapsed`: `ms` for `.tick ms`, 0 otherwise) —, makes nothing observable (no output,
    no closure, no panic), and is answered `refused` exactly when it is an attach attempt — every
    `.join`, every `.addRealm`. -/
theorem C06_closed_forever (rt : Router) (hc : rt.closed = true) (hr : rt.realms = []) :
    (∀ op, (rt.step op).2 = { rt with now := rt.now + op.elapsed } ∧
      (rt.step op).2.closed = true ∧ (rt.step op).2.realms = [] ∧
      (rt.step op).1.out = [] ∧ (rt.step op).1.closed = [] ∧ (rt.step op).1.panic = none ∧
      (rt.step op).1.refused = isAttach op) ∧
    (∀ name k l d ro c, (rt.step (.join name k l d ro c)).1.refused = true) ∧
    (∀ cfg, (rt.step (.addRealm cfg)).1.refused = true) := by
  refine ⟨fun op => ?_, fun name k l d ro c => (step_closed_empty hc hr _).2.2.2.2,
    fun cfg => (step_closed_empty hc hr _).2.2.2.2⟩
  obtain ⟨h1, h2, h3, h4, h5⟩ := step_closed_empty hc hr op
  exact ⟨h1, by rw [h1]; exact hc, by rw [h1]; exact hr, h2, h3, h4, h5⟩

/-- The combined form: after `Router.Close`, whatever operations follow (`ops`, any list), the router
    is still the closed router with the empty table — its clock advanced by the ticks among `ops`
    (`elapsedAll ops`, the sum of their `ROp.elapsed`), nothing else changed —, and the next
    operation `op` produces nothing and is refused iff it is an attach attempt. -/
theorem C06_close_is_final (rt : Router) (ops : List ROp) (op : ROp) :
    let rt' := (rt.step .close).2
    runROps rt' ops = { rt' with now := rt.now + elapsedAll ops } ∧
    (runROps rt' ops).closed = true ∧ (runROps rt' ops).realms = [] ∧
    ((runROps rt' ops).step op).2 = { rt' with now := rt.now + elapsedAll ops + op.elapsed } ∧
    ((runROps rt' ops).step op).1.out = [] ∧ ((runROps rt' ops).step op).1.closed = [] ∧
    ((runROps rt' ops).step op).1.panic = none ∧ ((runROps rt' ops).step op).1.refused = isAttach op := by
  intro rt'
  have hc : rt'.closed = true := rfl
  have hr : rt'.realms = [] := rfl
  have e : runROps rt' ops = { rt' with now := rt.now + elapsedAll ops } := runROps_closed_empty hc hr ops
  rw [e]
  obtain ⟨h1, h2, h3, h4, h5⟩ :=
    step_closed_empty (rt := { rt' with now := rt.now + elapsedAll ops }) hc hr op
  exact ⟨rfl, hc, hr, h1, h2, h3, h4, h5⟩

-- non-vacuity: the initial router with one realm (the default realm "r"), closed; a join and an
-- AddRealm afterwards are refused
example : ∃ rt, Router.create [{}] = some rt ∧ (rt.step .close).2.closed = true ∧
    ((rt.step .close).2.step (.join "r" 5 false [] [] 4)).1.refused = true ∧
    ((rt.step .close).2.step (.addRealm {})).1.refused = true := by
  cases h : Router.create [{}] with
  | none => exact absurd h (by decide +kernel)
  | some rt =>
    exact ⟨rt, rfl, rfl, (C06_close_is_final rt [] _).2.2.2.2.2.2.2, (C06_close_is_final rt [] _).2.2.2.2.2.2.2⟩

/-- In every router reachable from `Router.create` the closed flag implies the empty table (only
    `.close` sets the flag, it empties the table, and nothing is added to a closed router). -/
theorem C06_closed_realms_empty (rt : Router) (h : Router.Reachable rt) : rt.closed = true → rt.realms = [] := by
  induction h with
  | init t h =>
    intro hc
    have hc' : _ = true := hc
    dsimp only at hc'
    rw [(create_created h).closed] at hc'; cases hc'
  | @step rt op _ _ ih =>
    intro h'
    rcases (step_fields rt op).closed with e | rfl
    · have hcl : rt.closed = true := e ▸ h'
      rw [(step_closed_empty hcl (ih hcl) op).1]
      exact ih hcl
    · rfl

/-- After `RemoveRealm A` (router invariant: distinct realm names, `Router.Inv`), with `rt'` the router
    left:
    * `A` is not in the table; the table is the old one without `A`; the session→realm map, the closed
      flag, the template, the realm counter and the clock are unchanged; the invariant is kept;
    * an operation of a session that had joined `A` (message, drop, stall, resume) produces nothing and
      changes nothing;
    * the clock does not touch `A`: after `.tick ms` `A` is still absent, the table is the others each
      advanced by its own `Realm.step`, and what becomes observable is the concatenation of THEIR
      observations — no call timer or yield retry of the removed realm can fire, they are gone with it;
    * WITHOUT a realm template: every join to `A` is refused and changes nothing — and this persists
      under every history `ops` that contains no `AddRealm` with the URI `A`;
    * WITH a template `t` (router open, `A ≠ ""`, `Realm.create {t with uri := A} = some r0`): the join
      re-creates `A` FRESH from the template — the realm the session joins is `r0` (no client, no
      subscription, no registration but the meta procedures; its publication-id base and its clock
      are the router's: `pubCount := created * 1000000`, `now := rt.now`, time being global), not the
      removed realm's state. -/
theorem C06_removed_realm_refuses (rt : Router) (hi : rt.Inv) (A : String) :
    let rt' := (rt.step (.removeRealm A)).2
    rt'.realm? A = none ∧ rt'.realms = rt.others A ∧ rt'.sessRealm = rt.sessRealm ∧ rt'.closed = rt.closed ∧
    rt'.template = rt.template ∧ rt'.created = rt.created ∧ rt'.now = rt.now ∧ rt'.Inv ∧
    (∀ k op, rt.realmOf k = some A → rt'.step (.sess k op) = ({}, rt')) ∧
    (∀ ms, (rt'.step (.tick ms)).2.realm? A = none ∧
      (rt'.step (.tick ms)).2.realms = (rt.others A).map (fun q => (q.1, (q.2.step (.tick ms)).2)) ∧
      (rt'.step (.tick ms)).1.out = (rt.others A).flatMap (fun p => (p.2.step (.tick ms)).1.out) ∧
      (rt'.step (.tick ms)).1.closed = (rt.others A).flatMap (fun p => (p.2.step (.tick ms)).1.closed)) ∧
    (rt.template = none →
      (∀ k l d ro c, rt'.step (.join A k l d ro c) = ({ refused := true }, rt')) ∧
      (∀ ops : List ROp, (∀ op ∈ ops, ∀ cfg, op = .addRealm cfg → cfg.uri ≠ A) →
        (runROps rt' ops).realm? A = none ∧
        ∀ k l d ro c, (runROps rt' ops).step (.join A k l d ro c) = ({ refused := true }, runROps rt' ops))) ∧
    (∀ t r0, rt.template = some t → Realm.create { t with uri := A } = some r0 → (rt.closed || A == "") = false →
      ∀ k l d ro c,
        rt'.step (.join A k l d ro c) =
          (merge {} (({ r0 with pubCount := rt.created * 1000000, now := rt.now } : Realm).step (.join k l d ro c)).1,
           { ({ rt' with realms := rt'.realms ++ [(A, { r0 with pubCount := rt.created * 1000000, now := rt.now })],
                         created := rt.created + 1 } : Router).setRealm A
               (({ r0 with pubCount := rt.created * 1000000, now := rt.now } : Realm).step (.join k l d ro c)).2 with
             sessRealm := rt.sessRealm ++ [(k, A)] })) := by
  intro rt'
  obtain ⟨f1, f2, f3, f4, f5, f6, f7⟩ := remove_fields rt A
  have hi' : rt'.Inv := hi.step (.removeRealm A) trivial
  refine ⟨f1, f2, f3, f4, f5, f6, f7, hi', ?_, ?_, ?_, ?_⟩
  · intro k op hk
    exact step_sess_gone ((realmOf_congr f3 k).trans hk) f1 op
  · intro ms
    obtain ⟨t1, t2, t3, _⟩ := C11.C11_tick rt' hi' ms
    rw [f2] at t1 t2 t3
    exact ⟨realm?_none_step f1 (.tick ms) (fun _ hc => nomatch hc), t1, t2, t3⟩
  · intro ht
    have ht' : rt'.template = none := f5.trans ht
    refine ⟨fun k l d ro c => step_join_absent f1 ht' k l d ro c, fun ops hops => ?_⟩
    obtain ⟨a1, a2⟩ := absent_runROps ops f1 ht' hops
    exact ⟨a1, fun k l d ro c => step_join_absent a1 a2 k l d ro c⟩
  · intro t r0 ht hcr hopen k l d ro c
    have he := ensureRealm_template f1 (f5.trans ht) hcr
    have hrr : (rt'.ensureRealm A).realm? A = some { r0 with pubCount := rt'.created * 1000000, now := rt'.now } := by
      rw [he]; exact realm?_append_new f1 _ _
    rw [f6, f7] at he hrr
    have hopen' : (rt'.closed || A == "") = false := by rw [f4]; exact hopen
    rw [step_join_some hopen' hrr, he]
    show (_, ({ Router.setRealm _ A _ with sessRealm := rt'.sessRealm ++ [(k, A)] } : Router)) = _
    rw [f3, f7]

-- non-vacuity: the initial router with the default realm "r"; the realm removed: a join to it is refused
example : ∃ rt, Router.create [{}] = some rt ∧ rt.Inv ∧ (rt.realm? "r").isSome = true ∧ rt.template = none ∧
    ((rt.step (.removeRealm "r")).2.step (.join "r" 5 false [] [] 4)).1.refused = true := by
  have hev : (Router.create [{}]).map (fun rt => (rt.template.isNone, (rt.realm? "r").isSome)) = some (true, true) := by
    decide +kernel
  cases h : Router.create [{}] with
  | none => rw [h] at hev; cases hev
  | some rt =>
    rw [h] at hev
    obtain ⟨ht, hs⟩ := Prod.mk.inj (Option.some.inj hev)
    have ht := Option.isNone_iff_eq_none.mp ht
    refine ⟨rt, rfl, create_inv h, hs, ht, ?_⟩
    rw [((C06_removed_realm_refuses rt (create_inv h) "r").2.2.2.2.2.2.2.2.2.2.1 ht).1]

end Nexus.C06
