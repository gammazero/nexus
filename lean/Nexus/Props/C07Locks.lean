/-
  C07 (and C04): lock discipline of session locks, over the table regenerated by gen target `locks`
  from router/*.go.

  A session's lock (`wamp.Session.Lock`) is taken by the session's own handler, by the broker
  goroutine (publish filters run under the subscriber's lock), by the realm goroutine and by the
  meta-procedure handler.  The wait graph of L3 is about channels; it is sound for mutexes only
  if a lock is never held across a hand-over to another goroutine.  That is what is checked
  here: while a session lock is held there is no send, receive, select or `go`, and only calls
  from a list of functions that hand nothing over.  (`r.authorizer.Authorize` is the embedder's
  callback: that it returns is an assumption of C10.)

  clause → theorem
    while a session lock is held: no channel operation, release on the spot, only calls of
      functions that hand nothing over ................ session_locks_are_leaf
    which functions take which session's lock ......... session_lock_sites
-/
import Nexus.Gen.Locks

namespace Nexus.C07
open Nexus.Gen.Locks

/-- functions called while a session lock is held; none of them posts to, or waits for, another goroutine -/
def leafCalls : List String :=
  ["filter.Allowed", "wamp.AsString", "fmt.Sprintf", "r.authorizer.Authorize", "delete", "r.log.Println",
   "r.cleanSessionDetails"]

/-- the critical sections of session locks (everything but the realm's `closeLock`) -/
def sessionSections : List Section := sections.filter (fun s => s.recv != "r.closeLock")

/-- every critical section of a session lock is released on the spot (next `Unlock` of the same
    block, or `defer` in a function that does nothing else), contains no channel operation and
    calls only leaf functions -/
theorem session_locks_are_leaf :
    ∀ s ∈ sessionSections, s.chanOp = false ∧ s.release ≠ "none" ∧ ∀ c ∈ s.calls, c ∈ leafCalls := by
  decide +kernel

/-- the inventory: which functions take which session's lock (a new site must be looked at) -/
theorem session_lock_sites :
    sessionSections.map (fun s => (s.fn, s.recv, s.release)) =
      [("broker.syncPubEvent", "subscriber", "unlock"), ("dealer.register", "callee", "unlock"),
       ("discloseCaller", "caller", "unlock"), ("disclosePublisher", "pub", "unlock"),
       ("realm.authzMessage", "sess", "unlock"), ("realm.killSessionsByDetail", "sess", "unlock"),
       ("realm.modifySessionDetails", "sess", "defer"), ("realm.onJoin", "sess", "unlock"),
       ("realm.sessionCount", "sess", "unlock"), ("realm.sessionGet", "sess", "unlock"),
       ("realm.sessionList", "sess", "unlock")] := by
  decide +kernel

/-- non-vacuity: there are such sections, and the table also sees the one lock that is held across
    hand-overs (the realm's close lock, whose order is the subject of C06) -/
example : sessionSections.length = 11 ∧ (sections.filter (fun s => s.recv == "r.closeLock" && s.chanOp)).length = 1 := by
  decide +kernel

end Nexus.C07
