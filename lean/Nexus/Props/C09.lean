/-
  C09 — Only authenticated clients join, under router-assigned identity.

  "A client is sent WELCOME and attached to a realm only if its first message is a HELLO naming
   an existing (or template-created) realm and at least one client role, and an authenticator
   configured on that realm for one of the offered methods accepted it - for challenge methods
   (wampcra, ticket, cryptosign) by a response valid for the challenge issued in this very
   handshake, so that a response captured from another handshake never succeeds. Otherwise it is
   sent ABORT, is never attached and nothing it sends is routed; the session id, authid, authrole,
   authmethod and authprovider recorded for a session and shown to others always come from the
   router and the authenticator, never from client-supplied HELLO details."

  The model (`Nexus.Auth.attach`, Nexus/Auth/Model.lean) mirrors AttachClient, authClient,
  getAuthenticator and the built-in authenticators decision by decision; every theorem below is
  for all router configurations, key stores, oracle answers (HMAC, base64/hex decoding, sign.Open,
  nonces, random ids), HELLO details (hostile ones included) and client scripts.  `fx : Facts` are
  the facts regenerated from the source (`Facts.gen`); theorems are stated for every `fx` with the
  hypotheses they need, and the `source_*` theorems discharge those hypotheses for the regenerated
  values, so that a change of the source breaks the build here.

  clause                                             theorem
  -------------------------------------------------  ------------------------------------------------
  source facts the model relies on                   source_shape, source_welcome_literals,
                                                     source_facts_gen
  WELCOME only if HELLO ∧ realm ∧ role ∧ auth        welcome_only_if, welcome_iff (exact condition)
   - role: HELLO `roles` is a dict with a key among  hasClientRole_iff
     publisher, subscriber, callee, caller
   - first offered method with an authenticator      welcome_only_if (FirstConfigured)
   - local bypass, explicit disjunct                 welcome_only_if (left disjunct)
  otherwise ABORT (which reason), no join            abort_otherwise, abort_reason_table
  never attached without WELCOME                     never_attached
  nothing a refused client sends is read             refused_reads_nothing_more
   - "nothing it sends is routed": the Auth model    Nexus.C11.C11_unknown_session (Nexus/Props/C11.lean):
     has no routing state; the routing half of the     a session key the router does not know (no `join`
     clause is a theorem of the L2 router model         happened: `attach … .joined = false`, never_attached)
                                                       changes nothing and nothing is observed, whatever
                                                       operation it submits (cross-reference only, the two
                                                       models are not composed)
  ticket: response = stored ticket                   ticket_response_is_stored_ticket
  ticket: NOT bound to the handshake (DEVIATION      ticket_replay_accepted, ticketAuth_env_irrelevant,
   from "a response captured from another             replay_never_succeeds_ticket_full (def),
   handshake never succeeds"; bearer secret,           replay_never_succeeds_ticket_full_fails,
   faithful to Go)                                     ticket_replay_witness
  wampcra: response = HMAC(key, THIS challenge)      wampcra_bound_to_this_challenge,
                                                     wampcra_replay_rejected
  wampcra: the challenge string determines the       craChallengeStr_sid_inj (Nexus/Auth/Challenge.lean),
   session id; replay from a handshake with            wampcra_replay_rejected' (hypotheses: other session
   another session id is refused                       id, MAC injective for this key)
  cryptosign: a signature that opens to another      cryptosign_replay_rejected (Facts.gen),
   challenge is refused (general)                      cryptosign_replay_rejected_of_checks
  a user for whom the key store has NO KEY          wampcra_empty_key_refused, wampcra_empty_key_random_key,
   ((nil, nil) or an empty slice) is refused          wampcra_empty_key_mac_refused, wampcra_empty_key_refused_gen,
   (fixed in /repo 7f39285; the guards are             wampcra_challenge_hides_random_key, craKey_guarded_cases,
   regenerated: craRefusesEmptyKey,                    wampcra_empty_key_witness; cryptosign_empty_key_refused,
   csRefusesEmptyKey): wampcra checks the response     cryptosign_empty_key_refused_gen, cryptosign_empty_key_witness;
   against a throw-away random key, cryptosign         bound_to_this_challenge_cryptosign (the key is not empty).
   aborts without CHALLENGE                            Regression lemmas for a tree without the guard:
                                                       wampcra_nil_key_public_mac_without_guard,
                                                       cryptosign_nil_key_zero_key_without_guard,
                                                       bound_to_this_challenge_cryptosign_full_fails_no_key_guard
  cryptosign: opens to THIS challenge                bound_to_this_challenge_cryptosign (the full
                                                     statement `.._full Facts.gen`),
                                                     bound_to_this_challenge_cryptosign_gen,
                                                     bound_to_this_challenge_cryptosign_partial,
                                                     bound_to_this_challenge_cryptosign_weak (every `fx`);
                                                     regression lemmas for a tree without the comparison:
                                                     bound_to_this_challenge_cryptosign_full_fails,
                                                     cryptosign_replay_witness
  bound_to_this_challenge, all methods at once       bound_to_this_challenge
  identity: every key of the recorded details        identity_formula, identity_exact
  identity: session id                               identity_session
  identity: WELCOME overrides HELLO                  identity_from_welcome
  roles / authmethods dropped                        identity_roles_dropped
  identity: built-in authenticators                  identity_builtin
  identity: local bypass                             identity_local
  identity for every authenticator (full)            identity (= identity_full Facts.gen: the HELLO loop
                                                     skips the identity keys), identity_full_of_skip,
                                                     identity_of_hello_skip, identity_partial; regression
                                                     lemmas for the old skip list:
                                                     hello_identity_survives_old_skip_list,
                                                     identity_full_fails_old_skip_list
  local bypass: authid is the client's (open)        identity_local_authid_full (def),
                                                     identity_local_authid_full_fails
  shown to others = recorded                         clean_preserves_identity
  transport.auth is not shown                        clean_hides_transport_auth,
                                                     clean_transport_auth_non_dict_shown
  the L2 model's copy of cleanSessionDetails         clean_models_agree, clean_models_agree_iff,
   (what session.get / on_join of L2 use) agrees       clean_models_agree_modulo_nil, clean_models_agree_get?,
   with the copy used here                             clean_models_disagree_witness — namespace Nexus.C09,
                                                       file Nexus/L2/Proofs/CleanAgree.lean (not imported
                                                       here: it depends on Nexus.L2.Realm)
  "… ALWAYS": after the attach (L2 realm model)      identity_stable_step, identity_stable_lookup: in a
   - the details of an attached session never         realm without `wamp.session.modify_details`
     change …                                          (`Config.metaModify = false`,
                                                       `Realm.WpD.create_no_modify`) no input changes the
                                                       details of any attached session
   - … EXCEPT through `wamp.session.modify_details`   modify_details_rewrites_authid: one CALL by an
     (DEVIATION from "always come from the router      ordinary session rewrites authid/authrole of ANOTHER
     and the authenticator"; faithful to Go,           session (full `Realm.step`, evaluated)
     realm.go `sessionModifyDetails`: only `session`   — namespace Nexus.C09, file
     is protected)                                     Nexus/L2/Proofs/IdentityStable.lean (not imported here)
-/
import Nexus.Auth.Shape
import Nexus.Auth.Challenge

namespace Nexus.C09
open Nexus Nexus.Auth

/-- The shape of the source the model mirrors.  Any edit that reorders the decisive statements of
    `AttachClient`, changes a skip list, the bypass condition, the default method, the timeouts or
    the comparison in `crsign.VerifySignature` makes this theorem fail. -/
theorem source_shape :
    Gen.Auth.attachOrder =
      ["recvHello", "helloTypeCheck", "emptyRealmCheck", "realmLookup", "normalizeDetails", "newSession",
       "rolesCheck", "transportDetails", "authClient", "authErrorCheck", "mergeHello", "mergeWelcome",
       "setSession", "assignSessDetails", "handleSession"] ∧
    Gen.Auth.welcomeSentBy = "handler" ∧
    Gen.Auth.abortReasons =
      ["ErrProtocolViolation", "ErrNoSuchRealm", "ErrSystemShutdown", "ErrNoSuchRealm", "ErrNoSuchRealm",
       "ErrSystemShutdown", "ErrNoSuchRole", "ErrAuthenticationFailed", "ErrSystemShutdown"] ∧
    Gen.Auth.clientRoles = ["publisher", "subscriber", "callee", "caller"] ∧
    Gen.Auth.helloSkip =
      ["authmethods", "roles", "session", "authid", "authrole", "authmethod", "authprovider"] ∧
    Gen.Auth.welcomeSkip = ["roles"] ∧
    Gen.Auth.cryptosignChecksChallenge = true ∧
    Gen.Auth.sessionKey = "session" ∧
    Gen.Auth.localBypassCond = "client.IsLocal() && !r.localAuth" ∧
    Gen.Auth.localWelcome =
      [("authid", "authid"), ("authrole", "\"trusted\""), ("authmethod", "\"local\""),
       ("authprovider", "\"static\""), ("roles", "wamp.Dict{...}")] ∧
    Gen.Auth.localAuthidFromHello = true ∧
    Gen.Auth.defaultMethod = "anonymous" ∧
    Gen.Auth.authClientSets = ["authmethod", "roles"] ∧
    Gen.Auth.getAuthenticatorFirstMatch = true ∧
    Gen.Auth.joinBeforeHandler = true ∧
    Gen.Auth.helloTimeoutMs = 5000 ∧
    Gen.Auth.defaultCRAuthTimeoutMs = 60000 ∧
    Gen.Auth.craChallengeArgs =
      ["nonce", "cr.keyStore.Provider()", "authid", "wamp.NowISO8601()", "authrole", "cr.AuthMethod()", "session"] ∧
    Gen.Auth.craComparesHmacOfChallenge = true ∧
    Gen.Auth.cryptosignSignedLen = 96 ∧
    Gen.Auth.metaStdItems = ["session", "authid", "authrole", "authmethod", "authprovider", "transport"] ∧
    Gen.Auth.craKeyGuard = "err != nil || len(key) == 0" ∧ Gen.Auth.craRefusesEmptyKey = true ∧
    Gen.Auth.csKeyGuard = "err != nil || len(key) == 0" ∧ Gen.Auth.csRefusesEmptyKey = true := by
  and_intros <;> rfl

/-- Every WELCOME the built-in authenticators construct carries all four identity keys. -/
theorem source_welcome_literals :
    ∀ l ∈ Gen.Auth.welcomeLiterals, ∀ k ∈ ["authid", "authrole", "authmethod", "authprovider"],
      k ∈ l.2.map Prod.fst := by
  decide

/-- The hypotheses the theorems below put on `fx` hold for the regenerated facts. -/
theorem source_facts_gen :
    Facts.gen.firstMatch = true ∧ Facts.gen.sessionKey = "session" ∧
    Facts.gen.helloSkip =
      ["authmethods", "roles", "session", "authid", "authrole", "authmethod", "authprovider"] ∧
    Facts.gen.welcomeSkip = ["roles"] ∧ Facts.gen.csChecksChallenge = true ∧
    Facts.gen.craRefusesEmptyKey = true ∧ Facts.gen.csRefusesEmptyKey = true := by
  decide

/-- HELLO.Details.roles is a dictionary (nil counts as an empty one) that names `role`. -/
def AnnouncesRole (details : Dict) (role : String) : Prop :=
  ∃ v roles, details.get? "roles" = some v ∧ v.asDict = some roles ∧ roles.any (fun kv => kv.1 == role) = true

theorem hasClientRole_iff (details : Dict) :
    hasClientRole details = true ↔ ∃ role ∈ Gen.Auth.clientRoles, AnnouncesRole details role := by
  unfold hasClientRole AnnouncesRole
  rw [List.any_eq_true]
  constructor
  · rintro ⟨role, hmem, h⟩
    refine ⟨role, hmem, ?_⟩
    unfold hasRole setRoles at h
    cases hr : details.get? "roles" with
    | none => simp [hr] at h
    | some v =>
      simp only [hr] at h
      cases hd : v.asDict with
      | none => simp [hd] at h
      | some roles =>
        simp only [hd] at h
        cases roles with
        | nil => simp at h
        | cons p ps =>
          simp only [List.any_map] at h
          exact ⟨v, p :: ps, rfl, hd, by simpa [Function.comp] using h⟩
  · rintro ⟨role, hmem, v, roles, hr, hd, hany⟩
    refine ⟨role, hmem, ?_⟩
    unfold hasRole setRoles
    simp only [hr, hd]
    cases roles with
    | nil => simp at hany
    | cons p ps =>
      simp only [List.any_map]
      simpa [Function.comp] using hany

/-- `welcome_iff`: the exact condition for WELCOME (that of `welcome_only_if`, and what is recorded). -/
theorem welcome_iff {fx : Facts} (hfm : fx.firstMatch = true) {rt : RouterCfg} {env : Env}
    {arr : List Arrival} {sid : Nat} {sess w : Dict} :
    (attach fx rt env arr).outcome = .welcome sid sess w ↔
    ∃ d realm details rest rc created,
      arr = ⟨d, .msg (.hello realm details)⟩ :: rest ∧ d < Gen.Auth.helloTimeoutMs ∧
      realm ≠ "" ∧ RealmAvailable rt realm rc created ∧ rc.closing = false ∧
      hasClientRole details = true ∧
      ((env.isLocal = true ∧ rc.requireLocalAuth = false ∧ w = localWelcome env (helloDetails env details)) ∨
       (¬ (env.isLocal = true ∧ rc.requireLocalAuth = false) ∧
         ∃ a method w0,
           FirstConfigured (realmAuths rc) (offeredMethods (helloDetails env details)) method a ∧
           (runAuth fx a env (helloDetails env details) rest).res = .ok w0 ∧
           w = (w0.set "authmethod" (.str method)).set "roles" env.routerRoles)) ∧
      sid = env.o.sid ∧ sess = sessDetails fx (helloDetails env details) w sid := by
  constructor
  · intro h
    obtain ⟨d, realm, details, rest, rc, created, harr, hd, hre, hav, hrole, hauth, hcl, hsid, hsess⟩ :=
      attach_welcome h
    refine ⟨d, realm, details, rest, rc, created, harr, hd, hre, hav, hcl, hrole, ?_, hsid, hsess⟩
    rcases authClient_ok_iff.mp hauth with hloc | ⟨hn, a, method, w0, hg, hr, hw⟩
    · exact Or.inl hloc
    · rw [hfm] at hg
      exact Or.inr ⟨hn, a, method, w0, getAuthenticator_first hg, hr, hw⟩
  · rintro ⟨d, realm, details, rest, rc, created, harr, hd, hre, hav, hcl, hrole, hauth, hsid, hsess⟩
    refine attach_of_welcomed ⟨d, realm, details, rest, rc, created, harr, hd, hre, hav, hrole, ?_, hcl, hsid, hsess⟩
    refine authClient_ok_iff.mpr ?_
    rcases hauth with hloc | ⟨hn, a, method, w0, hf, hr, hw⟩
    · exact Or.inl hloc
    · refine Or.inr ⟨hn, a, method, w0, ?_, hr, hw⟩
      rw [hfm]
      exact getAuthenticator_of_first hf

/-- `welcome_only_if`: a WELCOME is sent only if the first action is a HELLO arriving within
    helloTimeout, its realm is non-empty and exists or the template creates it, the router is
    neither closed nor shutting down, at least one of the four client roles is announced, and
    EITHER the peer is in-process and the realm does not require local authentication (the
    documented bypass) OR, among the offered methods (anonymous when none is offered), the FIRST
    that has a configured authenticator was used and that authenticator returned a WELCOME. -/
theorem welcome_only_if {fx : Facts} (hfm : fx.firstMatch = true) {rt : RouterCfg} {env : Env}
    {arr : List Arrival} {sid : Nat} {sess w : Dict}
    (h : (attach fx rt env arr).outcome = .welcome sid sess w) :
    ∃ d realm details rest rc created,
      arr = ⟨d, .msg (.hello realm details)⟩ :: rest ∧ d < Gen.Auth.helloTimeoutMs ∧
      realm ≠ "" ∧ RealmAvailable rt realm rc created ∧ rc.closing = false ∧
      (∃ role ∈ Gen.Auth.clientRoles, AnnouncesRole details role) ∧
      ((env.isLocal = true ∧ rc.requireLocalAuth = false ∧ w = localWelcome env (helloDetails env details)) ∨
       (¬ (env.isLocal = true ∧ rc.requireLocalAuth = false) ∧
         ∃ a method w0,
           FirstConfigured (realmAuths rc) (offeredMethods (helloDetails env details)) method a ∧
           (runAuth fx a env (helloDetails env details) rest).res = .ok w0 ∧
           w = (w0.set "authmethod" (.str method)).set "roles" env.routerRoles)) := by
  obtain ⟨d, realm, details, rest, rc, created, harr, hd, hre, hav, hcl, hrole, hauth, _, _⟩ :=
    (welcome_iff hfm).mp h
  exact ⟨d, realm, details, rest, rc, created, harr, hd, hre, hav, hcl, (hasClientRole_iff _).mp hrole, hauth⟩

/-- The five reasons `AttachClient` aborts with. -/
def abortURIs : List String :=
  [Gen.N.ErrProtocolViolation, Gen.N.ErrNoSuchRealm, Gen.N.ErrSystemShutdown, Gen.N.ErrNoSuchRole,
   Gen.N.ErrAuthenticationFailed]

theorem reasonOf_mem {why : Why} (h : why.isDrop = false) : reasonOf why ∈ abortURIs := by
  cases why <;> simp_all [reasonOf, abortURIs, Why.isDrop]

/-- `abort_otherwise`: every handshake ends in exactly one of three ways.
    (1) WELCOME: the condition of `welcome_iff` holds, the session joined, WELCOME is the last
        message and nothing but CHALLENGEs precede it (since the session handler sends WELCOME
        without blocking, it is dropped — the transcript then ends before it — when the client's
        queue is full; no ABORT is ever part of such a transcript).
    (2) ABORT: the condition does not hold; ABORT (with one of the five reasons, determined by the
        failing branch) is the last message, nothing but CHALLENGEs precede it, no join.
    (3) nothing was received within helloTimeout (silence or a closed connection): the peer is
        closed without any message — the one case in which no ABORT is sent — no join. -/
theorem abort_otherwise (fx : Facts) (rt : RouterCfg) (env : Env) (arr : List Arrival) :
    (∃ sid sess w, (attach fx rt env arr).outcome = .welcome sid sess w ∧
        (attach fx rt env arr).joined = true ∧
        ∃ pre, OnlyChallenges pre ∧
          ((attach fx rt env arr).sent = pre ++ [.welcome sid w] ∨ (attach fx rt env arr).sent = pre)) ∨
    (∃ reason why, (attach fx rt env arr).outcome = .abort reason why ∧
        (¬ ∃ sid sess w, Welcomed fx rt env arr sid sess w) ∧
        (attach fx rt env arr).joined = false ∧ reason = reasonOf why ∧ reason ∈ abortURIs ∧
        ∃ pre, (attach fx rt env arr).sent = pre ++ [.abort reason] ∧ OnlyChallenges pre) ∨
    (∃ why, (attach fx rt env arr).outcome = .dropped why ∧
        (¬ ∃ sid sess w, Welcomed fx rt env arr sid sess w) ∧
        (attach fx rt env arr).joined = false ∧ (attach fx rt env arr).sent = [] ∧
        (attach fx rt env arr).created = none ∧
        (why = .helloTimeout ∨ why = .helloClosed) ∧
        ¬ ∃ d m rest, arr = ⟨d, .msg m⟩ :: rest ∧ d < Gen.Auth.helloTimeoutMs) := by
  have hs := (attach_shape fx rt env arr).2
  cases ho : (attach fx rt env arr).outcome with
  | welcome sid sess w =>
    rw [ho] at hs
    exact Or.inl ⟨sid, sess, w, rfl, hs.2⟩
  | abort reason why =>
    rw [ho] at hs
    obtain ⟨hj, hr, hdrop, hsent⟩ := hs
    refine Or.inr (Or.inl ⟨reason, why, rfl, ?_, hj, hr, hr ▸ reasonOf_mem hdrop, hsent⟩)
    rintro ⟨sid, sess, w, hw⟩
    exact nomatch ho.symm.trans (attach_of_welcomed hw)
  | dropped why =>
    rw [ho] at hs
    obtain ⟨hj, hsent, hcr, hwhy, hno⟩ := hs
    refine Or.inr (Or.inr ⟨why, rfl, ?_, hj, hsent, hcr, hwhy, hno⟩)
    rintro ⟨sid, sess, w, hw⟩
    exact nomatch ho.symm.trans (attach_of_welcomed hw)

/-- `abort_reason_table`: which reason an ABORT carries. -/
theorem abort_reason_table {fx : Facts} {rt : RouterCfg} {env : Env} {arr : List Arrival}
    {reason : String} {why : Why} (h : (attach fx rt env arr).outcome = .abort reason why) :
    reason = reasonOf why ∧
    (reason = Gen.N.ErrAuthenticationFailed ↔ why.isAuth = true) := by
  have hs := (attach_shape fx rt env arr).2
  rw [h] at hs
  exact ⟨hs.2.1, hs.2.1 ▸ reasonOf_eq_auth_iff⟩

/-- `never_attached`: the session is put into the realm (client table, `on_join`) exactly when
    WELCOME is the outcome. -/
theorem never_attached (fx : Facts) (rt : RouterCfg) (env : Env) (arr : List Arrival) :
    (attach fx rt env arr).joined = true ↔ ∃ sid sess w, (attach fx rt env arr).outcome = .welcome sid sess w := by
  have hs := (attach_shape fx rt env arr).2
  cases ho : (attach fx rt env arr).outcome <;> rw [ho] at hs
  · simp [hs.2.1]
  · simp [hs.1]
  · simp [hs.1]

/-- ticket: on the challenge path the response is exactly the ticket the key store holds for the
    claimed authid (a nil or missing ticket never matches), it arrived before the timeout, and
    the CHALLENGE was sent.  (A ticket is a bearer secret: it is not bound to a challenge.) -/
theorem ticket_response_is_stored_ticket {ks : KeyStore} {t : Nat} {env : Env} {details : Dict}
    {script : List Arrival} {w : Dict}
    (h : (ticketAuth ks t env details script).res = .ok w)
    (hb : alreadyAuth ks.bypass (details.optString "authid") details = false) :
    (ticketAuth ks t env details script).sent = [.challenge "ticket" []] ∧
    ∃ sig key, AnswersInTime (crTimeout t) script sig (ticketAuth ks t env details script).rest ∧
      ks.authKey (details.optString "authid") "ticket" = .ok (some key) ∧ sig.toUTF8.toList = key := by
  obtain ⟨hsent, _, hacc⟩ := challengePath hb (ticketAuth_ok h).2.2
  exact ⟨hsent, hacc⟩

/-- wampcra: on the challenge path the base64-decoded response equals
    HMAC(key the router holds for the authid, the challenge string sent in THIS handshake), where
    that string contains this handshake's nonce, timestamp and session id. -/
theorem wampcra_bound_to_this_challenge {rk : Bool} {ks : KeyStore} {t : Nat} {env : Env} {details : Dict}
    {script : List Arrival} {w : Dict}
    (h : (craAuth rk ks t env details script).res = .ok w)
    (hb : alreadyAuth ks.bypass (details.optString "authid") details = false) :
    ∃ nonce chStr sig sb,
      env.o.chalNonce = some nonce ∧
      chStr = craChallengeStr nonce ks.provider (details.optString "authid") env.o.now
                (roleOr ks (details.optString "authid") "user") env.o.sid ∧
      (craAuth rk ks t env details script).sent =
        [.challenge "wampcra" (craExtra ks (details.optString "authid") chStr)] ∧
      (craExtra ks (details.optString "authid") chStr).get? "challenge" = some (.str chStr) ∧
      AnswersInTime (crTimeout t) script sig (craAuth rk ks t env details script).rest ∧
      env.o.b64decode sig = some sb ∧
      sb = env.o.hmac (craKey rk ks env.o (details.optString "authid")) chStr := by
  obtain ⟨chStr, hsent, _, nonce, sig, sb, hn, hch, hans, hdec, heq⟩ := challengePath hb (craAuth_ok h).2.2
  exact ⟨nonce, chStr, sig, sb, hn, hch, hsent, craExtra_challenge .., hans, hdec, heq⟩

/-- wampcra, replay: a response that was accepted for the challenge of another handshake is
    rejected in this one whenever the two challenges have different MACs under the key (fresh
    nonce ⇒ different challenge string; distinct strings having distinct HMACs is the assumption
    on the primitive, stated as the hypothesis `hmac`). -/
theorem wampcra_replay_rejected {rk : Bool} {ks : KeyStore} {t : Nat} {env : Env} {details : Dict}
    {script : List Arrival} {sig : String} {rest : List Arrival} {otherChallenge : String} {nonce : String}
    (hn : env.o.chalNonce = some nonce)
    (hans : AnswersInTime (crTimeout t) script sig rest)
    (hb : alreadyAuth ks.bypass (details.optString "authid") details = false)
    (hother : ∃ sb, env.o.b64decode sig = some sb ∧
        sb = env.o.hmac (craKey rk ks env.o (details.optString "authid")) otherChallenge)
    (hmac : env.o.hmac (craKey rk ks env.o (details.optString "authid")) otherChallenge ≠
        env.o.hmac (craKey rk ks env.o (details.optString "authid"))
          (craChallengeOf ks env (details.optString "authid") nonce)) :
    ∀ w, (craAuth rk ks t env details script).res ≠ .ok w := by
  intro w h
  obtain ⟨nonce', hn', hdec'⟩ := craAuth_ok_sig h hb hans
  cases hn.symm.trans hn'
  obtain ⟨sb, hdec, rfl⟩ := hother
  exact hmac (Option.some.inj (hdec.symm.trans hdec'))

/-- cryptosign at full strength: on the challenge path the response hex-decodes to a 96-byte
    signed message that opens under the stored public key TO THE CHALLENGE ISSUED IN THIS
    HANDSHAKE. -/
def bound_to_this_challenge_cryptosign_full (fx : Facts) : Prop :=
  ∀ (ks : KeyStore) (t : Nat) (env : Env) (details : Dict) (script : List Arrival) (w : Dict),
    (csAuth fx.csChecksChallenge fx.csRefusesEmptyKey ks t env details script).res = .ok w →
    alreadyAuth ks.bypass (details.optString "authid") details = false →
    ∃ challenge sig key sb opened,
      env.o.csChallenge = some challenge ∧
      (csAuth fx.csChecksChallenge fx.csRefusesEmptyKey ks t env details script).sent =
        [.challenge "cryptosign" [("challenge", .str (hexEncode challenge))]] ∧
      AnswersInTime (crTimeout t) script sig (csAuth fx.csChecksChallenge fx.csRefusesEmptyKey ks t env details script).rest ∧
      ks.authKey (details.optString "authid") "cryptosign" = .ok key ∧
      env.o.hexdecode sig = some sb ∧ sb.length = Gen.Auth.cryptosignSignedLen ∧
      env.o.signOpen sb (pad32 (key.getD [])) = some opened ∧
      opened = challenge ∧
      -- … and that stored public key is an actual key: a key store answer without a key (nil or
      -- empty, no error) is refused before any CHALLENGE (cryptosign.go: `err != nil || len(key) == 0`)
      (key.getD []).isEmpty = false

/-- What the code guarantees as it stands (everything but the last conjunct), for every `fx`. -/
theorem bound_to_this_challenge_cryptosign_weak (fx : Facts)
    {ks : KeyStore} {t : Nat} {env : Env} {details : Dict} {script : List Arrival} {w : Dict}
    (h : (csAuth fx.csChecksChallenge fx.csRefusesEmptyKey ks t env details script).res = .ok w)
    (hb : alreadyAuth ks.bypass (details.optString "authid") details = false) :
    ∃ challenge sig key sb opened,
      env.o.csChallenge = some challenge ∧
      (csAuth fx.csChecksChallenge fx.csRefusesEmptyKey ks t env details script).sent =
        [.challenge "cryptosign" [("challenge", .str (hexEncode challenge))]] ∧
      AnswersInTime (crTimeout t) script sig (csAuth fx.csChecksChallenge fx.csRefusesEmptyKey ks t env details script).rest ∧
      ks.authKey (details.optString "authid") "cryptosign" = .ok key ∧
      env.o.hexdecode sig = some sb ∧ sb.length = Gen.Auth.cryptosignSignedLen ∧
      env.o.signOpen sb (pad32 (key.getD [])) = some opened ∧
      (fx.csChecksChallenge = true → opened = challenge) ∧
      (fx.csRefusesEmptyKey = true → (key.getD []).isEmpty = false) := by
  obtain ⟨_, _, _, hcase⟩ := csAuth_ok h
  obtain ⟨_, challenge, hsent, _, hch, sig, key, hans, hk, hrk, sb, opened, hd, hl, ho, himp⟩ := challengePath hb hcase
  exact ⟨challenge, sig, key, sb, opened, hch, hsent, hans, hk, hd, hl, ho, himp,
    fun hr => by simpa [hr] using hrk⟩

/-- `_partial`: with the comparison in place (`checksChallenge`) and the empty-key guard in place
    (`csRefusesEmptyKey`) — both regenerated from the source — the full statement holds. -/
theorem bound_to_this_challenge_cryptosign_partial (fx : Facts) (hc : fx.csChecksChallenge = true)
    (hr : fx.csRefusesEmptyKey = true) :
    bound_to_this_challenge_cryptosign_full fx := by
  intro ks t env details script w h hb
  obtain ⟨challenge, sig, key, sb, opened, hch, hsent, hans, hk, hd, hl, ho, himp, hne⟩ :=
    bound_to_this_challenge_cryptosign_weak fx h hb
  exact ⟨challenge, sig, key, sb, opened, hch, hsent, hans, hk, hd, hl, ho, himp hc, hne hr⟩

/-! The witness of F7: a key store with one user, an oracle under which the client's response
    is a validly signed message that opens to `[2]`, while the challenge issued now is `[1]`. -/

def witnessKS : KeyStore :=
  { provider := "static", authRole := fun _ => .ok "user", authKey := fun _ _ => .ok (some [7]),
    passwordInfo := fun _ => ("", 0, 0), bypass := none }

def witnessOracle (challenge : Bytes) : Oracle :=
  { sid := 1, authidRand := 0, keyNonce := none, keyNow := "", chalNonce := none, now := "",
    csChallenge := some challenge, b64decode := fun _ => none,
    hexdecode := fun _ => some (List.replicate 96 0), hmac := fun _ _ => [],
    signOpen := fun _ _ => some [2] }

def witnessEnv (challenge : Bytes) : Env :=
  { isLocal := false, routerRoles := .null, o := witnessOracle challenge }

def witnessDetails : Dict :=
  [("roles", .dict [("caller", .dict [])]), ("authmethods", .list [.str "cryptosign"]),
   ("authid", .str "alice"), ("authrole", .str "admin")]

def witnessScript : List Arrival := [⟨0, .msg (.authenticate "captured-response" [])⟩]

/-- `_full_fails` (F7): as long as `verifySignature` does not compare the opened message with
    the challenge, the full statement is false. -/
theorem bound_to_this_challenge_cryptosign_full_fails (fx : Facts) (hc : fx.csChecksChallenge = false) :
    ¬ bound_to_this_challenge_cryptosign_full fx := by
  intro hfull
  have h := hfull witnessKS 0 (witnessEnv [1]) witnessDetails witnessScript
    (stdWelcome "alice" "user" "cryptosign" "static")
  rw [hc] at h
  obtain ⟨challenge, sig, key, sb, opened, h1, _, _, _, _, _, h7, h8, _⟩ := h (by cases fx.csRefusesEmptyKey <;> rfl) rfl
  cases Option.some.inj h1
  cases Option.some.inj h7
  exact absurd h8 (by decide)

/-- the F7 key store with the key removed: `AuthKey` answers `(nil, nil)` -/
def nilKeyKS : KeyStore := { witnessKS with authKey := fun _ _ => .ok none }

/-- `_full_fails_no_key_guard` (regression lemma for the nil-key finding): as long as `Authenticate`
    goes on with a key store answer that carries no key, the full statement is false — the response
    is verified against the all-zero public key (`pad32 []`), here by an oracle under which it opens
    to this handshake's challenge `[2]`. -/
theorem bound_to_this_challenge_cryptosign_full_fails_no_key_guard (fx : Facts)
    (hr : fx.csRefusesEmptyKey = false) : ¬ bound_to_this_challenge_cryptosign_full fx := by
  intro hfull
  have h := hfull nilKeyKS 0 (witnessEnv [2]) witnessDetails witnessScript
    (stdWelcome "alice" "user" "cryptosign" "static")
  rw [hr] at h
  obtain ⟨challenge, sig, key, sb, opened, _, _, _, h4, _, _, _, _, h9⟩ :=
    h (by cases fx.csChecksChallenge <;> rfl) rfl
  cases Except.ok.inj h4
  exact absurd h9 (by decide)

/-- `_gen`: for the facts regenerated from the source on this run, the full statement holds
    exactly when `verifySignature` compares the opened message with the challenge AND
    `Authenticate` refuses a key store answer without a key.  (True before and after the fixes;
    `Gen.Auth.cryptosignChecksChallenge` and `Gen.Auth.csRefusesEmptyKey` say which side applies.) -/
theorem bound_to_this_challenge_cryptosign_gen :
    bound_to_this_challenge_cryptosign_full Facts.gen ↔
      (Gen.Auth.cryptosignChecksChallenge = true ∧ Gen.Auth.csRefusesEmptyKey = true) :=
  ⟨fun h => ⟨(Bool.not_eq_false _).mp fun hc => bound_to_this_challenge_cryptosign_full_fails Facts.gen hc h,
      (Bool.not_eq_false _).mp fun hr =>
        bound_to_this_challenge_cryptosign_full_fails_no_key_guard Facts.gen hr h⟩,
    fun ⟨hc, hr⟩ => bound_to_this_challenge_cryptosign_partial Facts.gen hc hr⟩

/-- `bound_to_this_challenge_cryptosign`: THE full statement, for the source as it is now
    (`verifySignature` compares the opened message with the challenge: F7 is fixed; `Authenticate`
    refuses a key store answer without a key: the nil-key finding is fixed).  Reverting either fix
    flips `Gen.Auth.cryptosignChecksChallenge` / `Gen.Auth.csRefusesEmptyKey` and this theorem no
    longer checks. -/
theorem bound_to_this_challenge_cryptosign : bound_to_this_challenge_cryptosign_full Facts.gen :=
  bound_to_this_challenge_cryptosign_partial Facts.gen rfl rfl

/-- The replay, end to end, against a router with one realm whose only authenticator is
    cryptosign: the same captured response is presented in two handshakes whose challenges
    differ (the response opens to `[2]` in both).  Without the comparison both are
    welcomed; with it both are refused with `invalid signature`. -/
def witnessRouter : RouterCfg :=
  { realms := [{ uri := "r1", authenticators := [.cryptosign witnessKS 0] }], template := none }

def witnessArrivals : List Arrival := ⟨0, .msg (.hello "r1" witnessDetails)⟩ :: witnessScript

theorem cryptosign_replay_witness (fx : Facts) (hfm : fx.firstMatch = true) :
    (fx.csChecksChallenge = false →
      ∀ challenge : Bytes, ∃ sess w,
        (attach fx witnessRouter (witnessEnv challenge) witnessArrivals).outcome = .welcome 1 sess w ∧
        w.get? "authid" = some (.str "alice")) ∧
    (fx.csChecksChallenge = true →
      (attach fx witnessRouter (witnessEnv [1]) witnessArrivals).outcome =
        .abort Gen.N.ErrAuthenticationFailed .invalidSignature) := by
  obtain ⟨wnb, fm, cs, crk, csk, hs, ws, sk⟩ := fx
  simp only at hfm
  subst hfm
  constructor
  · intro hc
    simp only at hc
    subst hc
    intro challenge
    cases csk <;> exact ⟨_, _, rfl, rfl⟩
  · intro hc
    simp only at hc
    subst hc
    cases csk <;> rfl

/-- `bound_to_this_challenge`, all methods at once, at the level of `attach`: whenever WELCOME is
    the outcome and the bypass was not taken, the authenticator chosen is the first configured
    one and, unless its key store vouched for the client (`AlreadyAuth`), it accepted for the
    reason spelled out per method; the CHALLENGE it verified against is the one in the transcript
    of this handshake. -/
theorem bound_to_this_challenge {fx : Facts} (hfm : fx.firstMatch = true) {rt : RouterCfg} {env : Env}
    {arr : List Arrival} {sid : Nat} {sess w : Dict}
    (h : (attach fx rt env arr).outcome = .welcome sid sess w) :
    ∃ d realm details rest rc created,
      arr = ⟨d, .msg (.hello realm details)⟩ :: rest ∧ RealmAvailable rt realm rc created ∧
      ((env.isLocal = true ∧ rc.requireLocalAuth = false) ∨
       ∃ a method, FirstConfigured (realmAuths rc) (offeredMethods (helloDetails env details)) method a ∧
         match a with
         | .anonymous _ => (attach fx rt env arr).sent = [.welcome sid w] ∨ (attach fx rt env arr).sent = []
         | .custom _ _ => (attach fx rt env arr).sent = [.welcome sid w] ∨ (attach fx rt env arr).sent = []
         | .ticket ks t =>
           alreadyAuth ks.bypass ((helloDetails env details).optString "authid") (helloDetails env details) = true ∨
           ((attach fx rt env arr).sent = [.challenge "ticket" [], .welcome sid w] ∧
            TicketAccepts ks t env (helloDetails env details) rest (attach fx rt env arr).rest)
         | .wampcra ks t =>
           alreadyAuth ks.bypass ((helloDetails env details).optString "authid") (helloDetails env details) = true ∨
           ∃ chStr, (attach fx rt env arr).sent =
               [.challenge "wampcra" (craExtra ks ((helloDetails env details).optString "authid") chStr),
                .welcome sid w] ∧
             CraAccepts fx.craRefusesEmptyKey ks t env (helloDetails env details) rest (attach fx rt env arr).rest chStr
         | .cryptosign ks t =>
           alreadyAuth ks.bypass ((helloDetails env details).optString "authid") (helloDetails env details) = true ∨
           ∃ challenge, (attach fx rt env arr).sent =
               [.challenge "cryptosign" [("challenge", .str (hexEncode challenge))], .welcome sid w] ∧
             CsAccepts fx.csChecksChallenge fx.csRefusesEmptyKey ks t env (helloDetails env details) rest
               (attach fx rt env arr).rest challenge) := by
  obtain ⟨d, realm, details, rest, rc, created, harr, hd, hre, hav, hrole, hauth, hcl, hsid, hsess⟩ := attach_welcome h
  subst harr
  obtain ⟨-, -, -, -, -, -, -, hsent, -, hrest⟩ := attach_welcome_hello h hav
  refine ⟨d, realm, details, rest, rc, created, rfl, hav, ?_⟩
  rcases authClient_ok_iff.mp hauth with hloc | ⟨hn, a, method, w0, hg, hr, hw⟩
  · exact Or.inl ⟨hloc.1, hloc.2.1⟩
  · obtain ⟨hs2, hr2⟩ := authClient_via_sent (script := rest) hn hg
    rw [hs2] at hsent
    rw [hr2] at hrest
    rw [hfm] at hg
    refine Or.inr ⟨a, method, getAuthenticator_first hg, ?_⟩
    rw [hsent, hrest]
    -- nothing sent by the authenticator: the transcript is WELCOME, unless that was dropped
    have quiet : ∀ {S : List Sent}, S = [] →
        S ++ (if fx.welcomeNonBlocking && env.challengeBlocked then [] else [Sent.welcome sid w]) = [.welcome sid w] ∨
        S ++ (if fx.welcomeNonBlocking && env.challengeBlocked then [] else [Sent.welcome sid w]) = [] := by
      rintro _ rfl
      split
      · exact Or.inr rfl
      · exact Or.inl rfl
    -- a CHALLENGE went out (so the queue had room): the transcript is that CHALLENGE, then WELCOME
    have chal : ∀ {S : List Sent} {ch : Sent}, env.challengeBlocked = false → S = [ch] →
        S ++ (if fx.welcomeNonBlocking && env.challengeBlocked then [] else [Sent.welcome sid w]) =
          [ch, .welcome sid w] := by
      rintro _ ch hb rfl
      rw [hb, Bool.and_false]
      rfl
    cases a with
    | anonymous role => exact quiet rfl
    | custom m f => exact quiet rfl
    | ticket ks t =>
      obtain ⟨_, _, ⟨ha, _⟩ | ⟨_, hs, hacc⟩⟩ := ticketAuth_ok hr
      · exact Or.inl ha
      · exact Or.inr ⟨chal hacc.1 hs, hacc⟩
    | wampcra ks t =>
      obtain ⟨_, _, ⟨ha, _⟩ | ⟨_, chStr, hs, hacc⟩⟩ := craAuth_ok hr
      · exact Or.inl ha
      · exact Or.inr ⟨chStr, chal hacc.1 hs, hacc⟩
    | cryptosign ks t =>
      obtain ⟨_, _, _, ⟨ha, _⟩ | ⟨_, _, challenge, hs, hacc⟩⟩ := csAuth_ok hr
      · exact Or.inl ha
      · exact Or.inr ⟨challenge, chal hacc.1 hs, hacc⟩

/-- The four identity details besides the session id. -/
def identityKeys : List String := ["authid", "authrole", "authmethod", "authprovider"]

/-- What is recorded for a welcomed client, key by key: the session id; else the value in the WELCOME
    details (router + authenticator) unless the key is skipped there; else the value in the HELLO
    details unless the key is skipped there.  Every `identity_*` theorem below reads this formula at
    particular keys. -/
theorem identity_formula {fx : Facts} {rt : RouterCfg} {env : Env} {arr : List Arrival}
    {sid : Nat} {sess w : Dict} (h : (attach fx rt env arr).outcome = .welcome sid sess w) :
    ∃ d realm details rest, arr = ⟨d, .msg (.hello realm details)⟩ :: rest ∧ sid = env.o.sid ∧
      ∀ k, sess.get? k =
        if k = fx.sessionKey then some (.int sid)
        else if k ∈ fx.welcomeSkip then
          (if k ∈ fx.helloSkip then none else (helloDetails env details).get? k)
        else match w.get? k with
          | some v => some v
          | none => if k ∈ fx.helloSkip then none else (helloDetails env details).get? k := by
  obtain ⟨d, realm, details, rest, rc, created, harr, _, _, _, _, _, _, hsid, hsess⟩ := attach_welcome h
  exact ⟨d, realm, details, rest, harr, hsid, fun k => hsess ▸ get?_sessDetails _ _ _ _ k⟩

/-- `identity_session`: the recorded `session` is the id the router drew, whatever HELLO says. -/
theorem identity_session {fx : Facts} {rt : RouterCfg} {env : Env} {arr : List Arrival}
    {sid : Nat} {sess w : Dict} (h : (attach fx rt env arr).outcome = .welcome sid sess w) :
    sess.get? fx.sessionKey = some (.int sid) ∧ sid = env.o.sid := by
  obtain ⟨_, _, _, _, _, hsid, hk⟩ := identity_formula h
  exact ⟨by rw [hk, if_pos rfl], hsid⟩

/-- `identity_exact`: every key of the recorded details, exactly: the session id; else the value
    in the WELCOME details (router + authenticator) unless the key is skipped there; else the
    value in the HELLO details unless the key is skipped there. -/
theorem identity_exact {fx : Facts} {rt : RouterCfg} {env : Env} {d : Nat} {realm : String}
    {details : Dict} {rest : List Arrival} {sid : Nat} {sess w : Dict}
    (h : (attach fx rt env (⟨d, .msg (.hello realm details)⟩ :: rest)).outcome = .welcome sid sess w)
    (k : String) :
    sess.get? k =
      if k = fx.sessionKey then some (.int sid)
      else if k ∈ fx.welcomeSkip then
        (if k ∈ fx.helloSkip then none else (helloDetails env details).get? k)
      else match w.get? k with
        | some v => some v
        | none => if k ∈ fx.helloSkip then none else (helloDetails env details).get? k := by
  obtain ⟨_, _, _, _, harr, _, hk⟩ := identity_formula h
  cases harr
  exact hk k

/-- `identity_from_welcome`: WELCOME overrides HELLO.  A key the router/authenticator put into
    the WELCOME details (other than the keys skipped there, i.e. `roles`) is recorded with that
    value, for every HELLO. -/
theorem identity_from_welcome {fx : Facts} {rt : RouterCfg} {env : Env} {arr : List Arrival}
    {sid : Nat} {sess w : Dict} (h : (attach fx rt env arr).outcome = .welcome sid sess w)
    {k : String} {v : WVal} (hk : k ≠ fx.sessionKey) (hs : k ∉ fx.welcomeSkip) (hw : w.get? k = some v) :
    sess.get? k = some v := by
  obtain ⟨_, _, _, _, _, _, hf⟩ := identity_formula h
  rw [hf, if_neg hk, if_neg hs, hw]

/-- `identity_of_hello_skip`: a key that the HELLO merge loop skips is never taken from HELLO: what
    is recorded under it is the WELCOME's value, or nothing.  (Since "fix: identity keys in HELLO
    details are never copied into the session details" the loop skips the four identity keys and
    `session` besides `authmethods` and `roles`: `identity` below.) -/
theorem identity_of_hello_skip {fx : Facts} {rt : RouterCfg} {env : Env} {arr : List Arrival}
    {sid : Nat} {sess w : Dict} (h : (attach fx rt env arr).outcome = .welcome sid sess w)
    {k : String} (hk : k ≠ fx.sessionKey) (hh : k ∈ fx.helloSkip) :
    sess.get? k = if k ∈ fx.welcomeSkip then none else w.get? k := by
  obtain ⟨_, _, _, _, _, _, hf⟩ := identity_formula h
  rw [hf, if_neg hk, if_pos hh]
  split
  · rfl
  · cases w.get? k <;> rfl

/-- `identity_roles_dropped`: a key skipped in both loops (`roles`) is never recorded, and a key
    skipped in the HELLO loop (`authmethods`) is recorded only if the authenticator supplies it. -/
theorem identity_roles_dropped {fx : Facts} {rt : RouterCfg} {env : Env} {arr : List Arrival}
    {sid : Nat} {sess w : Dict} (h : (attach fx rt env arr).outcome = .welcome sid sess w)
    {k : String} (hk : k ≠ fx.sessionKey) (hh : k ∈ fx.helloSkip)
    (hw : k ∈ fx.welcomeSkip ∨ w.get? k = none) : sess.get? k = none := by
  rw [identity_of_hello_skip h hk hh]
  split
  · rfl
  · exact hw.resolve_left ‹_›

/-- Identity at full strength: whenever a client is welcomed, the recorded `session` is the id the
    router drew and each of authid, authrole, authmethod, authprovider in the recorded details is
    exactly what the WELCOME details built by the router and the authenticator say — the same value,
    or absent where they have none — whatever the HELLO details contain. -/
def identity_full (fx : Facts) : Prop :=
  ∀ (rt : RouterCfg) (env : Env) (arr : List Arrival) (sid : Nat) (sess w : Dict),
    (attach fx rt env arr).outcome = .welcome sid sess w →
    sess.get? "session" = some (.int sid) ∧ sid = env.o.sid ∧
    ∀ k ∈ identityKeys, sess.get? k = w.get? k

theorem identityKeys_ne {k : String} (hk : k ∈ identityKeys) :
    k ≠ "session" ∧ k ≠ "roles" ∧ k ≠ "transport" ∧ k ∈ Gen.Auth.metaStdItems := by
  simp only [identityKeys, List.mem_cons, List.not_mem_nil, or_false] at hk
  rcases hk with rfl | rfl | rfl | rfl <;> decide

theorem identity_from_welcome_std {fx : Facts} (hsk : fx.sessionKey = "session") (hws : fx.welcomeSkip = ["roles"])
    {rt : RouterCfg} {env : Env} {arr : List Arrival} {sid : Nat} {sess w : Dict}
    (h : (attach fx rt env arr).outcome = .welcome sid sess w)
    {k : String} {v : WVal} (hw : w.get? k = some v)
    (k1 : k ≠ "session" := by decide) (k2 : k ≠ "roles" := by decide) : sess.get? k = some v :=
  identity_from_welcome h (hsk ▸ k1) (by rw [hws]; simpa using k2) hw

/-- `identity_full_of_skip`: the full statement holds as soon as the HELLO merge loop skips the
    four identity keys (no hypothesis on the authenticator, the key store or the HELLO). -/
theorem identity_full_of_skip {fx : Facts} (hsk : fx.sessionKey = "session") (hws : fx.welcomeSkip = ["roles"])
    (hskip : ∀ k ∈ identityKeys, k ∈ fx.helloSkip) : identity_full fx := by
  intro rt env arr sid sess w h
  have hses := identity_session h
  rw [hsk] at hses
  refine ⟨hses.1, hses.2, ?_⟩
  intro k hk
  obtain ⟨k1, k2, -, -⟩ := identityKeys_ne hk
  rw [identity_of_hello_skip h (hsk ▸ k1) (hskip k hk), if_neg (by rw [hws]; simpa using k2)]

/-- `identity`: THE full identity statement for the source as it is now (the HELLO loop of
    `AttachClient` skips session, authid, authrole, authmethod, authprovider).  Removing one of
    them from that loop changes `Gen.Auth.helloSkip` and this theorem no longer checks. -/
theorem identity : identity_full Facts.gen :=
  identity_full_of_skip (by decide) (by decide) (by decide)

/-- `identity_partial`: it holds whenever the authenticator's WELCOME carries the four keys (the
    exact hypothesis; `source_welcome_literals` + `identity_builtin` show the built-in
    authenticators over plain key stores meet it, `identity_local` that the bypass does). -/
theorem identity_partial {fx : Facts} (hsk : fx.sessionKey = "session") (hws : fx.welcomeSkip = ["roles"])
    {rt : RouterCfg} {env : Env} {arr : List Arrival} {sid : Nat} {sess w : Dict}
    (h : (attach fx rt env arr).outcome = .welcome sid sess w)
    (hall : ∀ k ∈ identityKeys, (w.get? k).isSome = true) :
    ∀ k ∈ identityKeys, ∃ v, w.get? k = some v ∧ sess.get? k = some v := by
  intro k hk
  have hsome := hall k hk
  cases hv : w.get? k with
  | none => rw [hv] at hsome; simp at hsome
  | some v =>
    obtain ⟨k1, k2, -, -⟩ := identityKeys_ne hk
    exact ⟨v, rfl, identity_from_welcome_std hsk hws h hv k1 k2⟩

/-! Regression lemmas: with the skip list the source had before the fix (`[authmethods, roles]`)
    the full statement is false.  Witness: an authenticator that sets only `authid` (any custom
    `auth.Authenticator` may), and a HELLO that carries `authrole: "admin"`. -/

def partialRouter : RouterCfg :=
  { realms := [{ uri := "r1",
                 authenticators := [.custom "partial" (fun _ _ => .ok [("authid", .str "partial-user")])] }],
    template := none }

def smuggleDetails : Dict :=
  [("roles", .dict [("caller", .dict [])]), ("authmethods", .list [.str "partial"]),
   ("authid", .str "root"), ("authrole", .str "admin"), ("authprovider", .str "evil"),
   ("authmethod", .str "local"), ("session", .int 1234)]

def smuggleArrivals : List Arrival := [⟨0, .msg (.hello "r1" smuggleDetails)⟩]

/-- What was recorded for that handshake: the client's own `authrole` and `authprovider`. -/
theorem hello_identity_survives_old_skip_list (fx : Facts) (hfm : fx.firstMatch = true) (hsk : fx.sessionKey = "session")
    (hhs : fx.helloSkip = ["authmethods", "roles"]) (hws : fx.welcomeSkip = ["roles"]) :
    ∃ sess w, (attach fx partialRouter (witnessEnv []) smuggleArrivals).outcome = .welcome 1 sess w ∧
      w.get? "authrole" = none ∧
      sess.get? "authrole" = some (.str "admin") ∧ sess.get? "authprovider" = some (.str "evil") ∧
      sess.get? "authid" = some (.str "partial-user") ∧ sess.get? "authmethod" = some (.str "partial") ∧
      sess.get? "session" = some (.int 1) := by
  obtain ⟨wnb, fm, cs, crk, csk, hs, ws, sk⟩ := fx
  subst hfm hsk hhs hws
  refine ⟨_, _, rfl, rfl, ?_⟩
  -- what was recorded is read key by key off the formula; evaluating the merge loops is several times dearer
  simp only [get?_sessDetails]
  exact ⟨rfl, rfl, rfl, rfl, rfl⟩

/-- with the old skip list a HELLO detail survived whenever the authenticator left the key unset -/
theorem identity_full_fails_old_skip_list (fx : Facts) (hfm : fx.firstMatch = true) (hsk : fx.sessionKey = "session")
    (hhs : fx.helloSkip = ["authmethods", "roles"]) (hws : fx.welcomeSkip = ["roles"]) :
    ¬ identity_full fx := by
  intro hfull
  obtain ⟨sess, w, hout, hnone, hadmin, _⟩ := hello_identity_survives_old_skip_list fx hfm hsk hhs hws
  have hv := (hfull _ _ _ _ _ _ hout).2.2 "authrole" (by simp [identityKeys])
  rw [hnone, hadmin] at hv
  cases hv

/-- What the built-in authenticators (over key stores that are not `BypassKeyStore`s) assign:
    `(authid, authrole, authprovider)`.  It depends on HELLO only through the claimed `authid`,
    which ticket / wampcra / cryptosign verify. -/
def builtinIdentity (a : Authr) (o : Oracle) (details : Dict) : Option (String × String × String) :=
  match a with
  | .anonymous role => some (fmtHex o.authidRand, role, "static")
  | .ticket ks _ =>
    if ks.bypass.isNone then some (details.optString "authid", roleOr ks (details.optString "authid") "", ks.provider)
    else none
  | .wampcra ks _ =>
    if ks.bypass.isNone then some (details.optString "authid", roleOr ks (details.optString "authid") "user", ks.provider)
    else none
  | .cryptosign ks _ =>
    if ks.bypass.isNone then some (details.optString "authid", roleOr ks (details.optString "authid") "", ks.provider)
    else none
  | .custom _ _ => none

theorem runAuth_builtin {fx : Facts} {a : Authr} {env : Env} {details : Dict} {script : List Arrival}
    {w0 : Dict} {aid role prov : String}
    (hb : builtinIdentity a env.o details = some (aid, role, prov))
    (hr : (runAuth fx a env details script).res = .ok w0) :
    w0.get? "authid" = some (.str aid) ∧ w0.get? "authrole" = some (.str role) ∧
    w0.get? "authprovider" = some (.str prov) := by
  cases a with
  | anonymous r =>
    cases hb
    cases hr
    exact ⟨rfl, rfl, rfl⟩
  | custom m f => cases hb
  | ticket ks t =>
    simp only [builtinIdentity] at hb
    split at hb
    · cases hb
      cases finishWelcome_of_no_bypass ‹_› (ticketAuth_ok hr).2.1
      exact stdWelcome_identity _ _ _ _
    · cases hb
  | wampcra ks t =>
    simp only [builtinIdentity] at hb
    split at hb
    · cases hb
      cases finishWelcome_of_no_bypass ‹_› (craAuth_ok hr).2.1
      exact stdWelcome_identity _ _ _ _
    · cases hb
  | cryptosign ks t =>
    simp only [builtinIdentity] at hb
    split at hb
    · cases hb
      obtain ⟨_, authrole, hrole, hcase⟩ := csAuth_ok hr
      have hro : roleOr ks (details.optString "authid") "" = authrole := by simp only [roleOr, hrole]
      rw [hro]
      rcases hcase with ⟨_, _, hfin⟩ | ⟨_, hw, _⟩
      · cases finishWelcome_of_no_bypass ‹_› hfin
        exact stdWelcome_identity _ _ _ _
      · cases hw
        exact stdWelcome_identity _ _ _ _
    · cases hb

/-- `identity_builtin`: for the built-in authenticators the recorded authid / authrole /
    authprovider / authmethod / session are the authenticator's and the router's values, for every
    HELLO details dict (smuggled `session`, `authrole`, `authmethod`, `authprovider` are overridden). -/
theorem identity_builtin {fx : Facts} (hfm : fx.firstMatch = true) (hsk : fx.sessionKey = "session")
    (hws : fx.welcomeSkip = ["roles"])
    {rt : RouterCfg} {env : Env} {d : Nat} {realm : String} {details : Dict} {rest : List Arrival}
    {rc : RealmCfg} {created : Option RealmCfg} {sid : Nat} {sess w : Dict}
    (h : (attach fx rt env (⟨d, .msg (.hello realm details)⟩ :: rest)).outcome = .welcome sid sess w)
    (hav : RealmAvailable rt realm rc created)
    (hnb : ¬ (env.isLocal = true ∧ rc.requireLocalAuth = false))
    {a : Authr} {method aid role prov : String}
    (hfc : FirstConfigured (realmAuths rc) (offeredMethods (helloDetails env details)) method a)
    (hbi : builtinIdentity a env.o (helloDetails env details) = some (aid, role, prov)) :
    sess.get? "session" = some (.int sid) ∧ sid = env.o.sid ∧
    sess.get? "authid" = some (.str aid) ∧ sess.get? "authrole" = some (.str role) ∧
    sess.get? "authprovider" = some (.str prov) ∧ sess.get? "authmethod" = some (.str method) := by
  have hses := identity_session h
  rw [hsk] at hses
  obtain ⟨-, -, -, hauth, -⟩ := attach_welcome_hello h hav
  rcases authClient_ok_iff.mp hauth with hloc | ⟨_, a', method', w0, hg, hr, hw⟩
  · exact absurd ⟨hloc.1, hloc.2.1⟩ hnb
  · rw [hfm, getAuthenticator_of_first hfc] at hg
    cases hg
    obtain ⟨g1, g2, g3⟩ := runAuth_builtin hbi hr
    -- `authClient` overwrites `authmethod` and `roles` only
    have hwget : ∀ {k : String} {v : WVal}, w0.get? k = some v → k ≠ "authmethod" → k ≠ "roles" →
        w.get? k = some v := fun hv k1 k2 => by rw [hw, Dict.get?_set_ne _ _ k2.symm, Dict.get?_set_ne _ _ k1.symm, hv]
    have hm : w.get? "authmethod" = some (.str method) := by
      rw [hw, Dict.get?_set_ne _ _ (by decide), Dict.get?_set_self]
    exact ⟨hses.1, hses.2, identity_from_welcome_std hsk hws h (hwget g1 (by decide) (by decide)),
      identity_from_welcome_std hsk hws h (hwget g2 (by decide) (by decide)),
      identity_from_welcome_std hsk hws h (hwget g3 (by decide) (by decide)),
      identity_from_welcome_std hsk hws h hm⟩

/-- `identity_local`: the bypass records authrole `trusted`, authmethod `local`, authprovider
    `static` whatever HELLO says — and as authid the one the client wrote into HELLO, when it is a
    non-empty string (else a random one). -/
theorem identity_local {fx : Facts} (hsk : fx.sessionKey = "session") (hws : fx.welcomeSkip = ["roles"])
    {rt : RouterCfg} {env : Env} {d : Nat} {realm : String} {details : Dict} {rest : List Arrival}
    {rc : RealmCfg} {created : Option RealmCfg} {sid : Nat} {sess w : Dict}
    (h : (attach fx rt env (⟨d, .msg (.hello realm details)⟩ :: rest)).outcome = .welcome sid sess w)
    (hav : RealmAvailable rt realm rc created)
    (hl : env.isLocal = true) (hr : rc.requireLocalAuth = false) :
    sess.get? "session" = some (.int sid) ∧
    sess.get? "authrole" = some (.str "trusted") ∧ sess.get? "authmethod" = some (.str "local") ∧
    sess.get? "authprovider" = some (.str "static") ∧
    sess.get? "authid" = some (.str (if (helloDetails env details).optString "authid" = ""
      then fmtHex env.o.authidRand else (helloDetails env details).optString "authid")) := by
  obtain ⟨-, -, -, hauth, -⟩ := attach_welcome_hello h hav
  rcases authClient_ok_iff.mp hauth with ⟨_, _, rfl⟩ | ⟨hn, _⟩
  · refine ⟨hsk ▸ (identity_session h).1, identity_from_welcome_std hsk hws h rfl,
      identity_from_welcome_std hsk hws h rfl, identity_from_welcome_std hsk hws h rfl,
      identity_from_welcome_std hsk hws h ?_⟩
    simp only [localWelcome, Dict.get?_cons, if_true, beq_iff_eq]
  · exact absurd ⟨hl, hr⟩ hn

/-- The literal reading of the property for the bypass: the recorded authid is router-made. -/
def identity_local_authid_full (fx : Facts) : Prop :=
  ∀ (rt : RouterCfg) (env : Env) (d : Nat) (realm : String) (details : Dict) (rest : List Arrival)
    (rc : RealmCfg) (created : Option RealmCfg) (sid : Nat) (sess w : Dict),
    (attach fx rt env (⟨d, .msg (.hello realm details)⟩ :: rest)).outcome = .welcome sid sess w →
    RealmAvailable rt realm rc created → env.isLocal = true → rc.requireLocalAuth = false →
    sess.get? "authid" = some (.str (fmtHex env.o.authidRand))

/-- `identity_local_authid_full_fails`: false — an in-process client names itself (`authid` is
    read from HELLO by the bypass; `Gen.Auth.localAuthidFromHello`). -/
theorem identity_local_authid_full_fails (fx : Facts) (hsk : fx.sessionKey = "session")
    (hws : fx.welcomeSkip = ["roles"]) : ¬ identity_local_authid_full fx := by
  intro hfull
  have hav : RealmAvailable ⟨[{ uri := "r1" }], none, false, false⟩ "r1" { uri := "r1" } none :=
    ⟨rfl, rfl, Or.inl ⟨rfl, rfl⟩⟩
  have hout : (attach fx ⟨[{ uri := "r1" }], none, false, false⟩ { witnessEnv [] with isLocal := true } [⟨0, .msg (.hello "r1" smuggleDetails)⟩]).outcome =
      .welcome 1 _ _ := rfl
  have h2 : _ = some (WVal.str "root") := (identity_local hsk hws hout hav rfl rfl).2.2.2.2
  rw [hfull _ _ _ _ _ _ _ _ _ _ _ hout hav rfl rfl] at h2
  have h3 : fmtHex (witnessEnv []).o.authidRand = "root" := by simpa using h2
  exact absurd h3 (by decide)

/-- `clean_preserves_identity`: what `wamp.session.get` and `wamp.session.on_join` show for the
    session id and the four identity keys is what is recorded (MetaStrict or not). -/
theorem clean_preserves_identity (metaStrict : Bool) (inc : List String) (details : Dict)
    {k : String} (hk : k ∈ "session" :: identityKeys) :
    (cleanSessionDetails metaStrict inc details).get? k = details.get? k := by
  have ⟨hnt, hstd⟩ : k ≠ "transport" ∧ k ∈ Gen.Auth.metaStdItems := by
    rcases List.mem_cons.mp hk with rfl | hk
    · decide
    · exact (identityKeys_ne hk).2.2
  exact (get?_cleanSessionDetails _ _ _ hnt).trans (get?_picked _ _ _ (List.mem_append_left _ hstd))

/-- `clean_hides_transport_auth`: when `transport.auth` is a dictionary (what the websocket
    server supplies), nobody is shown it. -/
theorem clean_hides_transport_auth (metaStrict : Bool) (inc : List String) (details : Dict) {t a : Dict}
    (ht : details.get? "transport" = some (.dict t)) (ha : t.get? "auth" = some (.dict a)) :
    ∀ t' : Dict, (cleanSessionDetails metaStrict inc details).get? "transport" = some (.dict t') →
      t'.get? "auth" = none := by
  intro t' h
  rw [cleanSessionDetails_eq, ht] at h
  simp only [ha, Dict.get?_set_self] at h
  split at h
  · simp at h
  · simp at h
    subst h
    exact Dict.get?_erase_self t "auth"

/-- ... but a `transport.auth` that is not a dictionary is shown as it is (`DictChild` treats it as
    absent).  Only a client can produce that, by writing `transport` into its own HELLO on a
    transport that supplies no details (rawsocket, in-process): the value shown is its own. -/
theorem clean_transport_auth_non_dict_shown :
    (cleanSessionDetails false [] [("transport", .dict [("auth", .str "secret")])]).get? "transport" =
      some (.dict [("auth", .str "secret")]) := rfl

/-- `refused_reads_nothing_more`: the router takes the client's actions in order; what it has not
    read when the handshake ends (`rest`) is a suffix of the script, and when the outcome is not
    WELCOME no session handler exists that could read it later (`joined = false`, `never_attached`),
    the peer having been closed right after the ABORT. -/
theorem refused_reads_nothing_more (fx : Facts) (rt : RouterCfg) (env : Env) (arr : List Arrival) :
    (∃ consumed, arr = consumed ++ (attach fx rt env arr).rest) ∧
    ((¬ ∃ sid sess w, (attach fx rt env arr).outcome = .welcome sid sess w) →
      (attach fx rt env arr).joined = false) := by
  refine ⟨?_, ?_⟩
  · obtain ⟨pre, h⟩ := attach_suffix fx rt env arr
    exact ⟨pre, h.symm⟩
  · intro h
    cases hj : (attach fx rt env arr).joined with
    | false => rfl
    | true => exact absurd ((never_attached fx rt env arr).mp hj) h

/-! ## Non-vacuity: concrete handshakes that meet the hypotheses above -/

def exKS : KeyStore :=
  { provider := "static",
    authRole := fun a => if a = "alice" ∨ a = "bob" then .ok "user" else .error "no such user",
    authKey := fun a m =>
      if a = "alice" then .ok (some (if m = "ticket" then "t1".toUTF8.toList else [1, 2, 3]))
      else if a = "bob" then .ok none        -- a nil ticket
      else .error "no key",
    passwordInfo := fun _ => ("", 0, 0), bypass := none }

/-- base64 of the client's answer decodes to `[9]`, which is the HMAC of every message (a toy MAC) -/
def exOracle : Oracle :=
  { sid := 42, authidRand := 255, keyNonce := some "k", keyNow := "", chalNonce := some "N", now := "T",
    csChallenge := some [1], b64decode := fun s => if s = "good" then some [9] else none,
    hexdecode := fun _ => none, hmac := fun _ _ => [9], signOpen := fun _ _ => none }

def exEnv : Env := { isLocal := false, routerRoles := .null, o := exOracle }

def exRouter : RouterCfg :=
  { realms := [{ uri := "r1", authenticators := [.ticket exKS 0, .wampcra exKS 0], anonymousAuth := true }],
    template := none }

def exHello (methods : List WVal) (authid : String) : ClientMsg :=
  .hello "r1" [("roles", .dict [("callee", .null)]), ("authmethods", .list methods), ("authid", .str authid),
               ("authrole", .str "admin")]

/-- ticket: the right ticket, 1 ms before the timeout, is accepted under the key store's role -/
example : (ticketAuth exKS 0 exEnv [("authid", .str "alice"), ("authrole", .str "admin")]
      [⟨59999, .msg (.authenticate "t1" [])⟩]).res = .ok (stdWelcome "alice" "user" "ticket" "static") := by
  simp [ticketAuth, exchange, recvTimeout, crTimeout, Gen.Auth.defaultCRAuthTimeoutMs, andThen, ticketMatches,
    storedTicket, exKS, exEnv, alreadyAuth, finishWelcome, roleOr, Dict.optString, Dict.get?]

/-- the first offered method that has an authenticator is the one used (here: the CHALLENGE is
    for ticket although wampcra is configured too and `3`, `nope` come first) -/
example :
    (attach Facts.gen exRouter exEnv [⟨0, .msg (exHello [.int 3, .str "nope", .str "ticket", .str "wampcra"] "alice")⟩]).sent
      = [.challenge "ticket" [], .abort Gen.N.ErrAuthenticationFailed] := rfl

/-- a user whose stored ticket is nil is refused whatever is presented -/
example :
    (attach Facts.gen exRouter exEnv [⟨0, .msg (exHello [.str "ticket"] "bob")⟩,
      ⟨0, .msg (.authenticate "" [])⟩]).outcome = .abort Gen.N.ErrAuthenticationFailed .invalidTicket := rfl

/-- too late by one millisecond -/
example :
    (attach Facts.gen exRouter exEnv [⟨0, .msg (exHello [.str "ticket"] "alice")⟩,
      ⟨60000, .msg (.authenticate "t1" [])⟩]).outcome = .abort Gen.N.ErrAuthenticationFailed .recvTimeout := rfl

/-- wampcra: accepted; a response that does not decode is refused -/
example : ∃ sess w,
    (attach Facts.gen exRouter exEnv [⟨0, .msg (exHello [.str "wampcra"] "alice")⟩,
      ⟨0, .msg (.authenticate "good" [])⟩]).outcome = .welcome 42 sess w := ⟨_, _, rfl⟩
example :
    (attach Facts.gen exRouter exEnv [⟨0, .msg (exHello [.str "wampcra"] "alice")⟩,
      ⟨0, .msg (.authenticate "bad" [])⟩]).outcome = .abort Gen.N.ErrAuthenticationFailed .invalidSignature := rfl

set_option maxRecDepth 20000 in
/-- the wampcra challenge of this handshake: nonce, timestamp and session id of THIS handshake -/
example : craChallengeStr "N" "static" "alice" "T" "user" 42 =
    "{ \"nonce\":\"N\", \"authprovider\":\"static\", \"authid\":\"alice\", \"timestamp\":\"T\", \"authrole\":\"user\", \"authmethod\":\"wampcra\", \"session\":42 }" := by
  apply String.toList_inj.1
  rw [WpD.craChallengeStr_toList]
  unfold WpD.craPrefix
  repeat rw [String.toList_ofList]
  rfl

/-- anonymous when no method is offered; `authmethods` of the wrong type counts as none; a role
    announced with a non-dict value counts -/
example : ∃ sess w,
    (attach Facts.gen exRouter exEnv
      [⟨4999, .msg (.hello "r1" [("roles", .dict [("caller", .int 7)]), ("authmethods", .str "ticket")])⟩]).outcome
      = .welcome 42 sess w ∧ sess.get? "authid" = some (.str "ff") ∧ sess.get? "authmethod" = some (.str "anonymous") := by
  refine ⟨_, _, rfl, ?_, ?_⟩ <;> rw [get?_sessDetails] <;> rfl

/-- no client role; silence; no such realm; a non-HELLO first message -/
example : (attach Facts.gen exRouter exEnv [⟨0, .msg (.hello "r1" [("roles", .dict [("broker", .dict [])])])⟩]).outcome
    = .abort Gen.N.ErrNoSuchRole .noRoles := rfl
example : (attach Facts.gen exRouter exEnv [⟨5000, .msg (exHello [] "alice")⟩]).outcome = .dropped .helloTimeout := rfl
example : (attach Facts.gen exRouter exEnv [⟨0, .msg (.hello "nx" [("roles", .dict [("caller", .dict [])])])⟩]).outcome
    = .abort Gen.N.ErrNoSuchRealm .noSuchRealm := rfl
example : (attach Facts.gen exRouter exEnv [⟨0, .msg (.other 16)⟩]).outcome
    = .abort Gen.N.ErrProtocolViolation (.notHello 16) := rfl

/-- `TicketAuthenticator.Authenticate` reads nothing of the handshake it runs in — not the session
    id, not a nonce, not the clock, no cryptographic oracle — except whether the CHALLENGE can be
    queued: its whole result (transcript, verdict, unread client actions) is the same in any two
    handshakes.  (ticket.go: the CHALLENGE carries no extra, `authRsp.Signature` is compared with
    `string(ticket)`, ticket.go:103.) -/
theorem ticketAuth_env_irrelevant (ks : KeyStore) (t : Nat) (env₁ env₂ : Env) (details : Dict)
    (script : List Arrival) (hb : env₁.challengeBlocked = env₂.challengeBlocked) :
    ticketAuth ks t env₁ details script = ticketAuth ks t env₂ details script := by
  unfold ticketAuth
  rw [hb]

/-- `ticket_replay_accepted` — DEVIATION, recorded.  The property text says that for
    the challenge methods "(wampcra, ticket, cryptosign) … a response captured from another handshake
    never succeeds".  For ticket the opposite holds: whatever the client sent in a handshake (`env₁`)
    in which the ticket authenticator accepted it, the same client actions are accepted, with the
    same WELCOME details, in EVERY other handshake (`env₂`: any session id, nonces, clock, oracle)
    whose CHALLENGE can be queued.  Faithful to Go and to the WAMP specification: a ticket is a
    bearer secret, the ticket CHALLENGE is empty and there is nothing for the response to be bound
    to.  The clause of the property holds for wampcra (`wampcra_replay_rejected'`) and cryptosign
    (`cryptosign_replay_rejected`) only; `replay_never_succeeds_ticket_full_fails` is its refutation
    for ticket. -/
theorem ticket_replay_accepted {ks : KeyStore} {t : Nat} {env₁ env₂ : Env} {details : Dict}
    {script : List Arrival} {w : Dict}
    (h : (ticketAuth ks t env₁ details script).res = .ok w)
    (hsend : env₂.challengeBlocked = false) :
    (ticketAuth ks t env₂ details script).res = .ok w := by
  obtain ⟨ha, hfin, hcase⟩ := ticketAuth_ok h
  rcases hcase with ⟨hal, _⟩ | ⟨_, _, hb1, _⟩
  · simp only [ticketAuth, beq_iff_eq, ha, hal, if_true, if_false]
    exact hfin
  · rw [← ticketAuth_env_irrelevant ks t env₁ env₂ details script (hb1.trans hsend.symm)]
    exact h

/-- The clause of the property, read literally for ticket: a response that the ticket authenticator
    accepted (on the challenge path) in one handshake is refused in a handshake with another
    session id. -/
def replay_never_succeeds_ticket_full : Prop :=
  ∀ (ks : KeyStore) (t : Nat) (env₁ env₂ : Env) (details : Dict) (script : List Arrival) (w : Dict),
    (ticketAuth ks t env₁ details script).res = .ok w →
    alreadyAuth ks.bypass (details.optString "authid") details = false →
    env₂.o.sid ≠ env₁.o.sid →
    ∀ w', (ticketAuth ks t env₂ details script).res ≠ .ok w'

def exEnv' : Env :=
  { exEnv with o := { exOracle with sid := 43, chalNonce := some "N'", now := "T'", authidRand := 7 } }

/-- alice's ticket `t1` is accepted in the handshake with session id 42 -/
theorem exTicket_accepted :
    (ticketAuth exKS 0 exEnv [("authid", .str "alice")] [⟨0, .msg (.authenticate "t1" [])⟩]).res =
      .ok (stdWelcome "alice" "user" "ticket" "static") := by
  simp [ticketAuth, exchange, recvTimeout, crTimeout, Gen.Auth.defaultCRAuthTimeoutMs, andThen, ticketMatches,
    storedTicket, exKS, exEnv, alreadyAuth, finishWelcome, roleOr, Dict.optString, Dict.get?]

/-- `replay_never_succeeds_ticket_full_fails`: that literal reading is FALSE (of the model and of the
    Go code alike; not a defect — see `ticket_replay_accepted`).  Witness: alice's ticket `t1`,
    presented in the handshake with session id 42 and again in the one with session id 43. -/
theorem replay_never_succeeds_ticket_full_fails : ¬ replay_never_succeeds_ticket_full := fun hfull =>
  hfull exKS 0 exEnv exEnv' _ _ _ exTicket_accepted rfl (by decide) _ (ticket_replay_accepted exTicket_accepted rfl)

/-- the hypotheses of `ticket_replay_accepted` are met by that pair of handshakes -/
example : (ticketAuth exKS 0 exEnv' [("authid", .str "alice")] [⟨0, .msg (.authenticate "t1" [])⟩]).res =
    .ok (stdWelcome "alice" "user" "ticket" "static") :=
  ticket_replay_accepted (env₁ := exEnv) exTicket_accepted rfl

def ticketReplayArrivals : List Arrival :=
  [⟨0, .msg (exHello [.str "ticket"] "alice")⟩, ⟨0, .msg (.authenticate "t1" [])⟩]

/-- `ticket_replay_witness`: the same, end to end through `attach`: against the router `exRouter`
    the SAME two client messages are welcomed as alice in every handshake of a remote peer —
    whatever session id the router draws, whatever its nonces, clock and crypto answer. -/
theorem ticket_replay_witness (env : Env) (hl : env.isLocal = false) (ht : env.transport = [])
    (hb : env.challengeBlocked = false) :
    ∃ sess, (attach Facts.gen exRouter env ticketReplayArrivals).outcome =
        .welcome env.o.sid sess
          (((stdWelcome "alice" "user" "ticket" "static").set "authmethod" (.str "ticket")).set "roles"
            env.routerRoles) ∧
      sess.get? "authid" = some (.str "alice") := by
  have h : ∃ sess, (attach Facts.gen exRouter env ticketReplayArrivals).outcome =
        .welcome env.o.sid sess
          (((stdWelcome "alice" "user" "ticket" "static").set "authmethod" (.str "ticket")).set "roles"
            env.routerRoles) := by
    refine ⟨_, attach_of_welcomed ⟨0, "r1", _, _, _, none, rfl, by decide, by decide,
      ⟨rfl, rfl, Or.inl ⟨rfl, rfl⟩⟩, rfl, ?_, rfl, rfl, rfl⟩⟩
    refine authClient_ok_iff.mpr (Or.inr ⟨by simp [hl], .ticket exKS 0, "ticket", _, ?_, ?_, rfl⟩)
    · simp only [helloDetails, ht]; rfl
    · simp [runAuth, helloDetails, ht, ticketAuth, exchange, recvTimeout, crTimeout,
        Gen.Auth.defaultCRAuthTimeoutMs, andThen, ticketMatches, storedTicket, exKS, hb, alreadyAuth,
        finishWelcome, roleOr, Dict.optString, Dict.get?]
  obtain ⟨sess, h⟩ := h
  exact ⟨sess, h, identity_from_welcome h (by decide) (by decide) rfl⟩

example : ∃ sess w, (attach Facts.gen exRouter exEnv ticketReplayArrivals).outcome = .welcome 42 sess w ∧
    sess.get? "authid" = some (.str "alice") :=
  let ⟨sess, h, ha⟩ := ticket_replay_witness exEnv rfl rfl rfl; ⟨sess, _, h, ha⟩
example : ∃ sess w, (attach Facts.gen exRouter exEnv' ticketReplayArrivals).outcome = .welcome 43 sess w ∧
    sess.get? "authid" = some (.str "alice") :=
  let ⟨sess, h, ha⟩ := ticket_replay_witness exEnv' rfl rfl rfl; ⟨sess, _, h, ha⟩

/-- `craChallengeStr_sid_inj`: the challenge string `makeChallengeStr` renders
    determines the session id it was rendered for — two challenge strings that are equal were made
    for the same session id, whatever nonce, provider, authid, timestamp and authrole went into them
    (hostile ones included: they all come before the last `:` of the string, and the regenerated
    format `Gen.Auth.craChallengeFormat` ends in `"session":%d }`).  Since the router draws a fresh
    session id per handshake (`wamp.GlobalID`, C19), challenge strings of different handshakes
    differ.  Proof: Nexus/Auth/Challenge.lean. -/
theorem craChallengeStr_sid_inj {n p a t r n' p' a' t' r' : String} {s₁ s₂ : Nat}
    (h : craChallengeStr n p a t r s₁ = craChallengeStr n' p' a' t' r' s₂) : s₁ = s₂ :=
  Auth.WpD.craChallengeStr_sid_inj h

/-- `wampcra_replay_rejected'`.  A response that is the MAC (under the key the router
    holds for the claimed authid) of the challenge string of a handshake with ANOTHER SESSION ID — any
    nonce, provider, authid, timestamp, authrole — is refused in this handshake, provided only that
    (ii) the MAC is injective for this key (`hinj`: distinct messages have distinct MACs — the
    collision-resistance assumption, out of scope as in the trusted base) and (i) the session ids
    differ (`hsid`).  The other hypotheses merely say what a replay is: the response arrives in time
    (`hans`), the key store did not vouch for the client without a challenge (`hb`, the `AlreadyAuth`
    exception), and the response was valid for that other challenge (`hother`).
    The code's part is `craChallengeStr_sid_inj`: the challenge string `makeChallengeStr`
    renders determines the session id it was rendered for, whatever the other five arguments are
    (they all come before the last `:`; the regenerated format ends in `"session":%d }`), and the
    router draws a fresh session id per handshake (`wamp.GlobalID`, C19). -/
theorem wampcra_replay_rejected' {rk : Bool} {ks : KeyStore} {t : Nat} {env : Env} {details : Dict}
    {script : List Arrival} {sig : String} {rest : List Arrival}
    {otherNonce otherProvider otherAuthid otherTs otherRole : String} {otherSid : Nat}
    (hans : AnswersInTime (crTimeout t) script sig rest)
    (hb : alreadyAuth ks.bypass (details.optString "authid") details = false)
    (hother : ∃ sb, env.o.b64decode sig = some sb ∧
        sb = env.o.hmac (craKey rk ks env.o (details.optString "authid"))
          (craChallengeStr otherNonce otherProvider otherAuthid otherTs otherRole otherSid))
    (hsid : otherSid ≠ env.o.sid)
    (hinj : ∀ a b, env.o.hmac (craKey rk ks env.o (details.optString "authid")) a =
        env.o.hmac (craKey rk ks env.o (details.optString "authid")) b → a = b) :
    ∀ w, (craAuth rk ks t env details script).res ≠ .ok w := by
  intro w h
  obtain ⟨nonce, _, hdec'⟩ := craAuth_ok_sig h hb hans
  obtain ⟨sb, hdec, rfl⟩ := hother
  exact hsid (craChallengeStr_sid_inj (hinj _ _ (Option.some.inj (hdec.symm.trans hdec'))))

/-- a toy MAC that is injective in the message (the UTF-8 bytes of the message; the key is ignored)
    and a toy base64 (the UTF-8 bytes of the text) -/
def injOracle (sid : Nat) (nonce : String) : Oracle :=
  { exOracle with sid := sid, chalNonce := some nonce,
                  b64decode := fun s => some s.toUTF8.data.toList,
                  hmac := fun _ m => m.toUTF8.data.toList }

/-- that toy MAC is injective in the message, for every key (hypothesis `hinj` below is satisfiable) -/
theorem injOracle_hmac_inj (sid : Nat) (nonce : String) (k : Bytes) (a b : String)
    (h : (injOracle sid nonce).hmac k a = (injOracle sid nonce).hmac k b) : a = b :=
  string_eq_of_utf8_eq (by rw [byteArray_toList_eq, byteArray_toList_eq]; exact h)

theorem injOracle_answer (sid : Nat) (nonce : String) (k : Bytes) (m : String) :
    (injOracle sid nonce).b64decode m = some ((injOracle sid nonce).hmac k m) := rfl

/-- the hypotheses of `wampcra_replay_rejected'` are satisfiable: under the injective toy MAC, the
    response that was valid in ANY handshake with session id 41 (whatever its nonce, timestamp, …)
    is refused in the handshake with session id 42 -/
example (n1 p a ts r : String) : ∀ w,
    (craAuth Facts.gen.craRefusesEmptyKey exKS 0 { exEnv with o := injOracle 42 "N2" } [("authid", .str "alice")]
      [⟨0, .msg (.authenticate (craChallengeStr n1 p a ts r 41) [])⟩]).res ≠ .ok w :=
  wampcra_replay_rejected' (otherNonce := n1) (otherProvider := p) (otherAuthid := a)
    (otherTs := ts) (otherRole := r) (otherSid := 41)
    ⟨0, [], rfl, by decide⟩ rfl ⟨_, injOracle_answer 42 "N2" _ _, rfl⟩ (by decide) (injOracle_hmac_inj 42 "N2" _)

/-- `cryptosign_replay_rejected_of_checks`: for every `fx` whose `verifySignature` compares the opened
    message with the challenge. -/
theorem cryptosign_replay_rejected_of_checks {fx : Facts} (hcc : fx.csChecksChallenge = true)
    {ks : KeyStore} {t : Nat} {env : Env} {details : Dict} {script : List Arrival}
    {sig : String} {rest : List Arrival} {key : Option Bytes} {sb other : Bytes}
    (hans : AnswersInTime (crTimeout t) script sig rest)
    (hb : alreadyAuth ks.bypass (details.optString "authid") details = false)
    (hk : ks.authKey (details.optString "authid") "cryptosign" = .ok key)
    (hd : env.o.hexdecode sig = some sb)
    (ho : env.o.signOpen sb (pad32 (key.getD [])) = some other)
    (hne : env.o.csChallenge ≠ some other) :
    ∀ w, (csAuth fx.csChecksChallenge fx.csRefusesEmptyKey ks t env details script).res ≠ .ok w := by
  intro w h
  obtain ⟨challenge, sig', key', sb', opened, hc, _, hans', hk', hd', _, ho', heq, _⟩ :=
    bound_to_this_challenge_cryptosign_weak fx h hb
  cases (hans.unique hans').1
  cases hk.symm.trans hk'
  cases hd.symm.trans hd'
  cases ho.symm.trans ho'
  exact hne (heq hcc ▸ hc)

/-- `cryptosign_replay_rejected`, general, for the source as it is now: a response
    whose signature is VALID under the stored public key but opens to a message other than the
    challenge issued in this handshake (`hne`) — e.g. a response captured from another handshake, or
    any other message the key's owner ever signed — is refused, for every key store, oracle, HELLO
    and script.  (`cryptosign_replay_witness` is one instance, end to end.) -/
theorem cryptosign_replay_rejected
    {ks : KeyStore} {t : Nat} {env : Env} {details : Dict} {script : List Arrival}
    {sig : String} {rest : List Arrival} {key : Option Bytes} {sb other : Bytes}
    (hans : AnswersInTime (crTimeout t) script sig rest)
    (hb : alreadyAuth ks.bypass (details.optString "authid") details = false)
    (hk : ks.authKey (details.optString "authid") "cryptosign" = .ok key)
    (hd : env.o.hexdecode sig = some sb)
    (ho : env.o.signOpen sb (pad32 (key.getD [])) = some other)
    (hne : env.o.csChallenge ≠ some other) :
    ∀ w, (csAuth Facts.gen.csChecksChallenge Facts.gen.csRefusesEmptyKey ks t env details script).res ≠ .ok w :=
  cryptosign_replay_rejected_of_checks rfl hans hb hk hd ho hne

/-- its hypotheses are satisfiable: the captured response of the F7 witness opens to `[2]`, the
    challenge of this handshake is `[1]` -/
example : ∀ w,
    (csAuth Facts.gen.csChecksChallenge Facts.gen.csRefusesEmptyKey witnessKS 0 (witnessEnv [1]) witnessDetails witnessScript).res ≠ .ok w :=
  cryptosign_replay_rejected (other := [2]) ⟨0, [], rfl, by decide⟩ rfl rfl rfl rfl (by decide)

/-! ## Users without a key are refused (finding fixed in /repo 7f39285)

  `KeyStore.AuthKey` returns `([]byte, error)`.  It may answer `(nil, nil)` for a user — "known, no
  key for this method"; the key store of the repository's own tests does so for every method but
  wampcra and ticket (test/auth_test.go:183-199).  The ticket authenticator always refused that
  (`ticket == nil ||`, ticket.go:103).  wampcra and cryptosign used to go on with the nil slice — the
  expected wampcra response was the HMAC under the empty key of the challenge string the client had
  just been sent (computable by anyone), and cryptosign verified against the all-zero public key.
  Since 7f39285 both test `err != nil || len(key) == 0` right after `AuthKey`
  (`Gen.Auth.craKeyGuard`, `Gen.Auth.csKeyGuard`, held by `source_shape`):
    * crauth.go: no key is treated like a key store error — the response is checked against a
      throw-away random key (`craThrowAway`: `nonce()`, or the clock when that is empty), which is
      never sent to anyone (`wampcra_challenge_hides_random_key`);
    * cryptosign.go: `Authenticate` returns an error before any CHALLENGE: ABORT.
  The model follows through the regenerated facts `craRefusesEmptyKey` / `csRefusesEmptyKey`
  (`Facts.gen`); the `…_without_guard` theorems keep the old behaviour as regression lemmas for a
  tree without the guard; the `_gen` theorems and the two `_witness` theorems stop checking if a
  guard is reverted. -/

/-- with the guard the key is in every case a stored non-empty key or the throw-away key (`craKey_of_no_key`:
    the latter when the key store answers without a key) -/
theorem craKey_guarded_cases (ks : KeyStore) (o : Oracle) (authid : String) :
    craKey true ks o authid = craThrowAway o ∨
    ∃ k, ks.authKey authid "wampcra" = .ok (some k) ∧ k ≠ [] ∧ craKey true ks o authid = k := by
  unfold craKey
  cases h : ks.authKey authid "wampcra" with
  | error e => exact Or.inl rfl
  | ok k =>
    cases k with
    | none => exact Or.inl (by simp)
    | some k =>
      by_cases he : k = []
      · exact Or.inl (by simp [he])
      · refine Or.inr ⟨k, rfl, he, ?_⟩
        have : k.isEmpty = false := by cases k with | nil => exact absurd rfl he | cons _ _ => rfl
        simp [this]

/-- `wampcra_empty_key_random_key`: with the guard, if the key store has no key for the claimed
    authid, whatever response is accepted on the challenge path decodes to the MAC of THIS
    handshake's challenge string under the THROW-AWAY RANDOM KEY of this handshake — not under the
    empty key, nor any key the client could know. -/
theorem wampcra_empty_key_random_key {ks : KeyStore} {t : Nat} {env : Env} {details : Dict}
    {script : List Arrival} {w : Dict} {k : Option Bytes}
    (hk : ks.authKey (details.optString "authid") "wampcra" = .ok k) (he : (k.getD []).isEmpty = true)
    (h : (craAuth true ks t env details script).res = .ok w)
    (hb : alreadyAuth ks.bypass (details.optString "authid") details = false) :
    ∃ nonce sig sb, env.o.chalNonce = some nonce ∧
      AnswersInTime (crTimeout t) script sig (craAuth true ks t env details script).rest ∧
      env.o.b64decode sig = some sb ∧
      sb = env.o.hmac (craThrowAway env.o) (craChallengeOf ks env (details.optString "authid") nonce) := by
  obtain ⟨nonce, chStr, sig, sb, hn, hch, _, _, hans, hdec, heq⟩ := wampcra_bound_to_this_challenge h hb
  rw [craKey_of_no_key hk he, hch] at heq
  exact ⟨nonce, sig, sb, hn, hans, hdec, heq⟩

/-- `wampcra_empty_key_refused`: with the guard, when the key
    store answers no key for the claimed authid (nil or empty, no error), every response that does
    not decode to the MAC of the challenge string under the throw-away random key is refused — in
    particular every response the client can compute from what it was sent, because the random key
    is not in it (`wampcra_challenge_hides_random_key`); that a client cannot guess the MAC under an
    unknown random key is the assumption on the primitive, stated as `hsig`. -/
theorem wampcra_empty_key_refused {ks : KeyStore} {t : Nat} {env : Env} {details : Dict}
    {script : List Arrival} {sig : String} {rest : List Arrival} {nonce : String} {k : Option Bytes}
    (hk : ks.authKey (details.optString "authid") "wampcra" = .ok k) (he : (k.getD []).isEmpty = true)
    (hb : alreadyAuth ks.bypass (details.optString "authid") details = false)
    (hn : env.o.chalNonce = some nonce)
    (hans : AnswersInTime (crTimeout t) script sig rest)
    (hsig : env.o.b64decode sig ≠
      some (env.o.hmac (craThrowAway env.o) (craChallengeOf ks env (details.optString "authid") nonce))) :
    ∀ w, (craAuth true ks t env details script).res ≠ .ok w := by
  intro w h
  obtain ⟨nonce', hn', hdec⟩ := craAuth_ok_sig h hb hans
  cases hn.symm.trans hn'
  rw [craKey_of_no_key hk he] at hdec
  exact hsig hdec

/-- The exploit of a tree without the guard, refused: the MAC of the (public) challenge string under the EMPTY key is
    not accepted, as soon as it differs from the MAC under the throw-away key. -/
theorem wampcra_empty_key_mac_refused {ks : KeyStore} {t : Nat} {env : Env} {details : Dict}
    {script : List Arrival} {sig : String} {rest : List Arrival} {nonce : String} {k : Option Bytes}
    (hk : ks.authKey (details.optString "authid") "wampcra" = .ok k) (he : (k.getD []).isEmpty = true)
    (hb : alreadyAuth ks.bypass (details.optString "authid") details = false)
    (hn : env.o.chalNonce = some nonce)
    (hans : AnswersInTime (crTimeout t) script sig rest)
    (hsig : env.o.b64decode sig =
      some (env.o.hmac [] (craChallengeOf ks env (details.optString "authid") nonce)))
    (hmac : env.o.hmac [] (craChallengeOf ks env (details.optString "authid") nonce) ≠
      env.o.hmac (craThrowAway env.o) (craChallengeOf ks env (details.optString "authid") nonce)) :
    ∀ w, (craAuth true ks t env details script).res ≠ .ok w :=
  wampcra_empty_key_refused hk he hb hn hans (by rw [hsig]; intro e; exact hmac (Option.some.inj e))

/-- … for the source as it is now: `Gen.Auth.craRefusesEmptyKey` is `true` (the guard is
    `err != nil || len(key) == 0`).  Reverting the Go fix flips the constant and this stops checking. -/
theorem wampcra_empty_key_refused_gen {ks : KeyStore} {t : Nat} {env : Env} {details : Dict}
    {script : List Arrival} {sig : String} {rest : List Arrival} {nonce : String} {k : Option Bytes}
    (hk : ks.authKey (details.optString "authid") "wampcra" = .ok k) (he : (k.getD []).isEmpty = true)
    (hb : alreadyAuth ks.bypass (details.optString "authid") details = false)
    (hn : env.o.chalNonce = some nonce)
    (hans : AnswersInTime (crTimeout t) script sig rest)
    (hsig : env.o.b64decode sig ≠
      some (env.o.hmac (craThrowAway env.o) (craChallengeOf ks env (details.optString "authid") nonce))) :
    ∀ w, (runAuth Facts.gen (.wampcra ks t) env details script).res ≠ .ok w :=
  wampcra_empty_key_refused hk he hb hn hans hsig

/-- What the client is sent does not depend on the throw-away key: the CHALLENGE (and everything
    else wampcra sends) is the same whatever `nonce()` / the clock answer for that key. -/
theorem wampcra_challenge_hides_random_key (rk : Bool) (ks : KeyStore) (t : Nat) (env : Env) (details : Dict)
    (script : List Arrival) (kn : Option String) (know : String) :
    (craAuth rk ks t { env with o := { env.o with keyNonce := kn, keyNow := know } } details script).sent =
      (craAuth rk ks t env details script).sent := by
  unfold craAuth
  dsimp only
  split
  · rfl
  · split
    · rfl
    · split <;> rfl

/-- `wampcra_nil_key_public_mac_without_guard` (regression lemma): in a tree WITHOUT the guard (`refuseEmpty = false`), if the key store
    answers `(nil, nil)`, whoever answers the CHALLENGE with the MAC under the EMPTY key of the
    challenge string — which it was just sent — is welcomed. -/
theorem wampcra_nil_key_public_mac_without_guard {ks : KeyStore} {t : Nat} {env : Env} {details : Dict}
    {script : List Arrival} {sig : String} {rest : List Arrival} {nonce : String}
    (hid : details.optString "authid" ≠ "")
    (hk : ks.authKey (details.optString "authid") "wampcra" = .ok none)
    (hbp : ks.bypass = none)
    (hn : env.o.chalNonce = some nonce)
    (hsend : env.challengeBlocked = false)
    (hans : AnswersInTime (crTimeout t) script sig rest)
    (hsig : env.o.b64decode sig =
      some (env.o.hmac [] (craChallengeOf ks env (details.optString "authid") nonce))) :
    (craAuth false ks t env details script).sent =
      [.challenge "wampcra" (craExtra ks (details.optString "authid")
        (craChallengeOf ks env (details.optString "authid") nonce))] ∧
    (craExtra ks (details.optString "authid")
        (craChallengeOf ks env (details.optString "authid") nonce)).get? "challenge" =
      some (.str (craChallengeOf ks env (details.optString "authid") nonce)) ∧
    (craAuth false ks t env details script).res =
      .ok (stdWelcome (details.optString "authid") (roleOr ks (details.optString "authid") "user")
        "wampcra" ks.provider) := by
  have hkey : craKey false ks env.o (details.optString "authid") = [] := by simp [craKey, hk]
  have hv : craVerify env.o sig (craChallengeOf ks env (details.optString "authid") nonce)
      (craKey false ks env.o (details.optString "authid")) = true := by
    rw [hkey]; exact craVerify_iff.mpr ⟨_, hsig, rfl⟩
  have hal : alreadyAuth ks.bypass (details.optString "authid") details = false := by
    rw [hbp]; rfl
  refine ⟨?_, ?_, ?_⟩
  · simp only [craAuth, beq_iff_eq, hid, hal, hn, hsend, if_false, exchange_of_answer hans]
    simp
  · exact craExtra_challenge ..
  · simp only [craAuth, beq_iff_eq, hid, hal, hn, hsend, if_false, exchange_of_answer hans, andThen, hv,
      if_true]
    rw [hbp]
    rfl

/-- `cryptosign_empty_key_refused`: with the guard, when the
    key store answers no key for the claimed authid (nil or empty, no error) the cryptosign
    authenticator fails at once: NOTHING is sent (no CHALLENGE), nothing of the client's script is
    read, the result is the key error — `attach` turns it into ABORT `authentication_failed`
    (`cryptosign_empty_key_witness`). -/
theorem cryptosign_empty_key_refused {checks : Bool} {ks : KeyStore} {t : Nat} {env : Env} {details : Dict}
    {script : List Arrival} {authrole : String} {k : Option Bytes}
    (hid : details.optString "authid" ≠ "")
    (hr : ks.authRole (details.optString "authid") = .ok authrole)
    (hb : alreadyAuth ks.bypass (details.optString "authid") details = false)
    (hk : ks.authKey (details.optString "authid") "cryptosign" = .ok k) (he : (k.getD []).isEmpty = true) :
    csAuth checks true ks t env details script = { sent := [], res := .error .keyError, rest := script } := by
  simp only [csAuth, beq_iff_eq, hid, hr, hb, hk, he, if_false, Bool.false_eq_true, Bool.and_self, if_true]

/-- … for the source as it is now (`Gen.Auth.csRefusesEmptyKey = true`); reverting the Go fix flips
    the constant and this stops checking. -/
theorem cryptosign_empty_key_refused_gen {ks : KeyStore} {t : Nat} {env : Env} {details : Dict}
    {script : List Arrival} {authrole : String} {k : Option Bytes}
    (hid : details.optString "authid" ≠ "")
    (hr : ks.authRole (details.optString "authid") = .ok authrole)
    (hb : alreadyAuth ks.bypass (details.optString "authid") details = false)
    (hk : ks.authKey (details.optString "authid") "cryptosign" = .ok k) (he : (k.getD []).isEmpty = true) :
    runAuth Facts.gen (.cryptosign ks t) env details script =
      { sent := [], res := .error .keyError, rest := script } :=
  cryptosign_empty_key_refused hid hr hb hk he

/-- `cryptosign_nil_key_zero_key_without_guard` (regression lemma): in a tree WITHOUT the guard, a `(nil, nil)` answer makes cryptosign
    verify the response against the ALL-ZERO 32-byte public key. -/
theorem cryptosign_nil_key_zero_key_without_guard {checks : Bool} {ks : KeyStore} {t : Nat} {env : Env}
    {details : Dict} {script : List Arrival} {sig : String} {rest : List Arrival} {authrole : String}
    {challenge sb : Bytes}
    (hid : details.optString "authid" ≠ "")
    (hr : ks.authRole (details.optString "authid") = .ok authrole)
    (hk : ks.authKey (details.optString "authid") "cryptosign" = .ok none)
    (hbp : ks.bypass = none)
    (hc : env.o.csChallenge = some challenge)
    (hsend : env.challengeBlocked = false)
    (hans : AnswersInTime (crTimeout t) script sig rest)
    (hd : env.o.hexdecode sig = some sb) (hl : sb.length = Gen.Auth.cryptosignSignedLen)
    (ho : env.o.signOpen sb (List.replicate 32 0) = some challenge) :
    (csAuth checks false ks t env details script).res =
      .ok (stdWelcome (details.optString "authid") authrole "cryptosign" ks.provider) := by
  have hal : alreadyAuth ks.bypass (details.optString "authid") details = false := by
    rw [hbp]; rfl
  have hpad : pad32 ((none : Option Bytes).getD []) = List.replicate 32 0 := by decide
  have hv : csVerify checks env.o sig ((none : Option Bytes).getD []) challenge = .ok true :=
    csVerify_true_iff.mpr ⟨sb, challenge, hd, hl, by rw [hpad]; exact ho, fun _ => rfl⟩
  simp only [csAuth, beq_iff_eq, hid, hr, hal, hk, hc, hsend, if_false, exchange_of_answer hans, andThen,
    csDecide, hv, Bool.false_and, Bool.false_eq_true]

/-! The witnesses, end to end.  `exKS` knows `bob` (role `user`) and answers `(nil, nil)` for his key,
    whatever the method.  Toy primitives that do depend on the key: the MAC of any message is the key
    followed by the byte 9 (so the MAC under the empty key is `[9]`, under alice's key `[1,2,3,9]`,
    under the throw-away key "k" `[107, 9]`); one text base64-decodes to `[9]`; `sign.Open` verifies
    under the all-zero key only. -/

def keyedOracle : Oracle :=
  { exOracle with
      b64decode := fun s => if s = "mac-under-the-empty-key" then some [9] else none,
      hmac := fun k _ => k ++ [9],
      hexdecode := fun s => if s = "signed-with-the-zero-key" then some (List.replicate 96 7) else none,
      signOpen := fun _ pk => if pk = List.replicate 32 0 then some [1] else none }

def keyedEnv : Env := { isLocal := false, routerRoles := .null, o := keyedOracle }

def nilKeyRouter : RouterCfg :=
  { realms := [{ uri := "r1", authenticators := [.wampcra exKS 0, .cryptosign exKS 0] }], template := none }

def bobChallenge : String := craChallengeStr "N" "static" "bob" "T" "user" 42

/-- `wampcra_empty_key_witness`: a remote client says it is bob
    — for whom the key store has no key — and answers the CHALLENGE with the MAC under the EMPTY key
    (`[9]`): the source as it is now (`Facts.gen`) refuses, because the expected MAC is the one
    under the throw-away key (`[107, 9]`); a tree without the guard welcomed that client as bob. -/
theorem wampcra_empty_key_witness :
    exKS.authKey "bob" "wampcra" = .ok none ∧
    (∀ w, (runAuth Facts.gen (.wampcra exKS 0) keyedEnv [("authid", .str "bob")]
        [⟨0, .msg (.authenticate "mac-under-the-empty-key" [])⟩]).res ≠ .ok w) ∧
    (∃ sess w,
      (attach { Facts.gen with craRefusesEmptyKey := false } nilKeyRouter keyedEnv
        [⟨0, .msg (exHello [.str "wampcra"] "bob")⟩,
         ⟨0, .msg (.authenticate "mac-under-the-empty-key" [])⟩]).outcome = .welcome 42 sess w ∧
      sess.get? "authid" = some (.str "bob")) := by
  refine ⟨rfl, ?_, ⟨_, _, rfl, ?_⟩⟩
  · refine wampcra_empty_key_refused (k := none) (nonce := "N") (rest := []) rfl rfl rfl rfl
      ⟨0, [], rfl, by decide⟩ ?_
    show keyedOracle.b64decode "mac-under-the-empty-key" ≠
      some (keyedOracle.hmac (craThrowAway keyedOracle) _)
    rw [show craThrowAway keyedOracle = ("k".toUTF8).toList from rfl, byteArray_toList_eq]
    decide
  · rw [get?_sessDetails]; rfl

/-- `cryptosign_empty_key_witness`: the same client with
    cryptosign: the source as it is now sends ABORT `authentication_failed` and NO CHALLENGE; a tree
    without the guard verified under the all-zero key and welcomed the client as bob. -/
theorem cryptosign_empty_key_witness :
    exKS.authKey "bob" "cryptosign" = .ok none ∧
    (attach Facts.gen nilKeyRouter keyedEnv
      [⟨0, .msg (exHello [.str "cryptosign"] "bob")⟩,
       ⟨0, .msg (.authenticate "signed-with-the-zero-key" [])⟩]).outcome =
        .abort Gen.N.ErrAuthenticationFailed .keyError ∧
    (attach Facts.gen nilKeyRouter keyedEnv
      [⟨0, .msg (exHello [.str "cryptosign"] "bob")⟩,
       ⟨0, .msg (.authenticate "signed-with-the-zero-key" [])⟩]).joined = false ∧
    (∃ sess w,
      (attach { Facts.gen with csRefusesEmptyKey := false } nilKeyRouter keyedEnv
        [⟨0, .msg (exHello [.str "cryptosign"] "bob")⟩,
         ⟨0, .msg (.authenticate "signed-with-the-zero-key" [])⟩]).outcome = .welcome 42 sess w ∧
      sess.get? "authid" = some (.str "bob")) := by
  refine ⟨rfl, rfl, rfl, _, _, rfl, ?_⟩
  rw [get?_sessDetails]; rfl

/-- the hypotheses of the general theorems are met by those handshakes -/
example : csAuth true true exKS 0 keyedEnv [("authid", .str "bob")]
      [⟨0, .msg (.authenticate "signed-with-the-zero-key" [])⟩] =
    { sent := [], res := .error .keyError, rest := [⟨0, .msg (.authenticate "signed-with-the-zero-key" [])⟩] } :=
  cryptosign_empty_key_refused_gen (ks := exKS) (t := 0) (env := keyedEnv) (details := [("authid", .str "bob")])
    (k := none) (authrole := "user") (by decide) rfl rfl rfl rfl
example : (craAuth false exKS 0 keyedEnv [("authid", .str "bob")]
      [⟨0, .msg (.authenticate "mac-under-the-empty-key" [])⟩]).res =
    .ok (stdWelcome "bob" "user" "wampcra" "static") :=
  (wampcra_nil_key_public_mac_without_guard (nonce := "N") (by decide) rfl rfl rfl rfl ⟨0, [], rfl, by decide⟩ rfl).2.2
example : (csAuth true false exKS 0 keyedEnv [("authid", .str "bob")]
      [⟨0, .msg (.authenticate "signed-with-the-zero-key" [])⟩]).res =
    .ok (stdWelcome "bob" "user" "cryptosign" "static") :=
  cryptosign_nil_key_zero_key_without_guard (challenge := [1]) (by decide) rfl rfl rfl rfl rfl ⟨0, [], rfl, by decide⟩ rfl
    (by decide) rfl

end Nexus.C09
