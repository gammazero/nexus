/-
  C14 — Serializers round-trip every message and agree with each other.

  "For every WAMP message of every type whose payload consists of WAMP data-model values
  (integers up to 2^53, floats, strings, booleans, null, nested lists and dicts, binary where
  the format supports it), deserialising the serialised form yields an equal message for JSON,
  MessagePack and CBOR alike, and the three formats decode each other's meaning identically;
  trailing empty arguments are omitted while a keyword-arguments dict without positional
  arguments keeps its position. Deserialising arbitrary bytes never panics and yields an error,
  not a message, for anything that is not a list starting with a known message code and
  compatible field types."

  Layer a = the repo's own code (`msgToList`/`listToMsg`/head checks), modelled in
  `Nexus/Codec/Msg.lean` generically over the schema regenerated from wamp/message.go.
  Layer b = the wire formats (third-party codec): format models in `Nexus/Codec/{MsgPack,CBOR,
  Json}.lean`, tied to the real codec by the `codec` family.

  clause                                         theorem
  ---------------------------------------------  ------------------------------------------
  wire layout of the 24 message types            C14_layout, C14_newMessage_complete,
                                                 C14_inits
  list round trip, every type, every payload     C14_list_roundtrip (+ C14_norm_fields,
                                                 C14_norm_id: what `norm` changes)
  trailing empty arguments are omitted           C14_trailing_omitted, C14_both_empty_omitted
  kwargs without args keeps its position         C14_kwargs_keeps_position, C14_args_shape
                                                 (both clauses are cases of emitted_of_split: what is
                                                 emitted, read off a split of the fields)
  never panics                                   C14_msgToList_no_panic, C14_listToMsg_no_panic,
                                                 C14_fromList_no_panic, C14_deserialize_no_panic,
                                                 C14_unmarshalBD_no_panic (BinaryData.UnmarshalJSON, any
                                                 input); regression witness:
                                                 C14_unmarshalBD_prefix_regression (the code before the
                                                 fix of C14-F3 panics exactly on the inputs that decode
                                                 to the empty string)
  error unless known code + compatible fields    C14_rejects (exact accept/reject condition, as coded),
                                                 C14_string_fields_strict (string/URI fields take
                                                 only strings: holds since the fix of C14-F1);
                                                 full statements that are still false, with
                                                 witnesses replayed on the implementation:
                                                 C14_rejects_strict / C14_rejects_strict_fails,
                                                 C14_negative_id_accepted (C14-F1b: float or
                                                 negative number for an id), C14_bin_for_list_accepted
                                                 (C14-F1d), C14_rejects_short /
                                                 C14_rejects_short_fails (C14-F1c: short list)
  error for anything that is not a list          C14_rejects_nonlist (proved at full strength since
                                                 the fix of C14-F2), C14_decodeList_everywhere,
                                                 C14_toplevel_map_rejected
  value round trip per format, any depth         C14_msgpack_roundtrip, C14_cbor_roundtrip,
                                                 C14_json_roundtrip (fragment without floats
                                                 and binaries)
  the formats agree with each other              C14_cross_format, C14_cross_format_json
  message round trip through each format         C14_wire_roundtrip
  JSON strings must be valid UTF-8               Json.okB demands it; C14_json_roundtrip_real,
                                                 C14_wire_roundtrip_json_real
                                                 (the codec's real bytes, `Json.encReal`),
                                                 C14_json_roundtrip_anystring /
                                                 C14_json_roundtrip_nonutf8_fails ("a\x80b" comes
                                                 back as "a\uFFFDb"), C14_json_string_roundtrip_iff
                                                 (what comes back in general; exactly the valid
                                                 UTF-8 strings survive), C14_nonutf8_formats_disagree,
                                                 C14_wire_nonutf8_witness
  JSON floats, under hypotheses on Go's decimal  C14_json_roundtrip_floats (the fragment of
    printing and parsing (`orc.Faithful`)        C14_json_roundtrip plus the floats that are finite
                                                 and not integers with 2^52 ≤ |f| < 2^64: its values
                                                 without binaries come back as themselves),
                                                 C14_json_float_roundtrip_iff (exactly those floats
                                                 survive), C14_json_float_nonfinite_null (NaN and ±Inf
                                                 are written `null` and come back as nil, any oracle),
                                                 C14_json_float_integral_lossy (an integral float in
                                                 that range comes back as an integer or is refused);
                                                 every float survives: C14_json_roundtrip_anyfloat
                                                 (false: C14_json_roundtrip_floats_full_fails, NaN;
                                                 C14_json_roundtrip_floats_full_fails_integral, 2^53)
  JSON binaries                                  C14_json_bin_view (a []byte comes back as the string
                                                 of its base64; same hypotheses), C14_base64_roundtrip,
                                                 C14_binaryData_roundtrip (BinaryData is written as
                                                 "\u0000" ++ base64 and UnmarshalJSON gives it back)
  same bytes as the plain JSON encoder on the    C14_json_encO_extends
    fragment without floats and binaries
  compatible field types, closed form            C14_compatible_cases, C14_compatible_table,
                                                 C14_rejects_closed
  when Deserialize answers at all                C14_deserialize_ok_iff, C14_deserialize_msg_iff,
                                                 C14_deserialize_error_iff
  the head is literally a known code             C14_accept_known_code
  further leniencies                             C14_rejects_long / C14_rejects_long_fails,
                                                 C14_extra_items_ignored, C14_extra_items_ignored_msg
                                                 (what follows the sixth item after the code never
                                                 changes the outcome), C14_nil_for_id_accepted

  The round trips above hold up to the codec's depth cap: its decoder refuses values nested 1024 or more
  containers deep, which its encoder writes (`C14_wire_roundtrip_capped`, `C14_wire_roundtrip_anydepth_fails`,
  Nexus/Codec/Depth.lean).

  Further `C14_*` theorems stand with the decoders they are about (all in namespace `Nexus.C14`):
    Nexus/Codec/Depth.lean             `Deserialize` with the depth cap: C14_deserialize_capped_eq, _capped_deep,
                                       _capped_no_panic, C14_wire_roundtrip_capped, C14_deep_value_not_deserialized,
                                       C14_wire_roundtrip_anydepth_fails
    Nexus/Codec/DeserializeTotal.lean  every byte string, every format: a message, a clean error, the codec's error,
                                       or the model declines (`unsupported`): C14_deserialize_total,
                                       C14_deserialize_total_located_bin
    Nexus/Codec/DecoderTotal.lean      MessagePack and CBOR: `unsupported` points at a cause in the bytes:
                                       C14_decode_unsupported_cause_bin, C14_deserialize_total_bin,
                                       C14_deserialize_total_bin_listChecked
    Nexus/Codec/DecoderValid.lean      what a binary decoder hands on is a value of the round-trip theorems, with
                                       every integer an int64 or uint64: C14_decoded_valid_bin,
                                       C14_decoded_ints_in_range_bin
    Nexus/Codec/MsgPackSigned.lean     the MessagePack round trip for Go's signed integers: C14_msgpack_signed_roundtrip

  Not proved, sampled by the family: that ugorji/go/codec implements these formats (encoder
  bytes, decoder verdicts), float <-> decimal text in JSON, Go's reflect conversions.
-/
import Nexus.Codec.MsgLemmas
import Nexus.Codec.WireLemmas
import Nexus.Codec.DecoderValid
import Nexus.Codec.JsonFloatProofs

namespace Nexus.C14

open Nexus.Gen Nexus.Codec

/-- one element of a message after the code: Go field name, Go field type, and whether the element may be left
    out when it and everything after it is empty -/
structure LField where
  name : String
  goType : String
  optional : Bool
  deriving DecidableEq, Repr

structure LRow where
  code : Nat
  struct : String
  fields : List LField
  deriving DecidableEq, Repr

private def lf (n t : String) (o : Bool) : LField := ⟨n, t, o⟩

/-- The WAMP wire layout (basic + advanced profile message definitions), written by hand:
    code, Go struct, then the elements after the code (`LField`).
    WAMP names: HELLO [1, Realm|uri, Details|dict]; WELCOME [2, Session|id, Details|dict];
    ABORT [3, Details|dict, Reason|uri]; CHALLENGE [4, AuthMethod|string, Extra|dict];
    AUTHENTICATE [5, Signature|string, Extra|dict]; GOODBYE [6, Details|dict, Reason|uri];
    ERROR [8, REQUEST.Type|int, REQUEST.Request|id, Details|dict, Error|uri, Arguments|list, ArgumentsKw|dict];
    PUBLISH [16, Request|id, Options|dict, Topic|uri, Arguments|list, ArgumentsKw|dict]; ... -/
def wireLayout : List LRow := [
  ⟨1, "Hello", [lf "Realm" "URI" false, lf "Details" "Dict" false]⟩,
  ⟨2, "Welcome", [lf "ID" "ID" false, lf "Details" "Dict" false]⟩,
  ⟨3, "Abort", [lf "Details" "Dict" false, lf "Reason" "URI" false]⟩,
  ⟨4, "Challenge", [lf "AuthMethod" "string" false, lf "Extra" "Dict" false]⟩,
  ⟨5, "Authenticate", [lf "Signature" "string" false, lf "Extra" "Dict" false]⟩,
  ⟨6, "Goodbye", [lf "Details" "Dict" false, lf "Reason" "URI" false]⟩,
  ⟨8, "Error", [lf "Type" "MessageType" false, lf "Request" "ID" false, lf "Details" "Dict" false,
                        lf "Error" "URI" false, lf "Arguments" "List" true, lf "ArgumentsKw" "Dict" true]⟩,
  ⟨16, "Publish", [lf "Request" "ID" false, lf "Options" "Dict" false, lf "Topic" "URI" false,
                        lf "Arguments" "List" true, lf "ArgumentsKw" "Dict" true]⟩,
  ⟨17, "Published", [lf "Request" "ID" false, lf "Publication" "ID" false]⟩,
  ⟨32, "Subscribe", [lf "Request" "ID" false, lf "Options" "Dict" false, lf "Topic" "URI" false]⟩,
  ⟨33, "Subscribed", [lf "Request" "ID" false, lf "Subscription" "ID" false]⟩,
  ⟨34, "Unsubscribe", [lf "Request" "ID" false, lf "Subscription" "ID" false]⟩,
  ⟨35, "Unsubscribed", [lf "Request" "ID" false]⟩,
  ⟨36, "Event", [lf "Subscription" "ID" false, lf "Publication" "ID" false, lf "Details" "Dict" false,
                        lf "Arguments" "List" true, lf "ArgumentsKw" "Dict" true]⟩,
  ⟨48, "Call", [lf "Request" "ID" false, lf "Options" "Dict" false, lf "Procedure" "URI" false,
                        lf "Arguments" "List" true, lf "ArgumentsKw" "Dict" true]⟩,
  ⟨49, "Cancel", [lf "Request" "ID" false, lf "Options" "Dict" false]⟩,
  ⟨50, "Result", [lf "Request" "ID" false, lf "Details" "Dict" false,
                        lf "Arguments" "List" true, lf "ArgumentsKw" "Dict" true]⟩,
  ⟨64, "Register", [lf "Request" "ID" false, lf "Options" "Dict" false, lf "Procedure" "URI" false]⟩,
  ⟨65, "Registered", [lf "Request" "ID" false, lf "Registration" "ID" false]⟩,
  ⟨66, "Unregister", [lf "Request" "ID" false, lf "Registration" "ID" false]⟩,
  ⟨67, "Unregistered", [lf "Request" "ID" false]⟩,
  ⟨68, "Invocation", [lf "Request" "ID" false, lf "Registration" "ID" false, lf "Details" "Dict" false,
                        lf "Arguments" "List" true, lf "ArgumentsKw" "Dict" true]⟩,
  ⟨69, "Interrupt", [lf "Request" "ID" false, lf "Options" "Dict" false]⟩,
  ⟨70, "Yield", [lf "Request" "ID" false, lf "Options" "Dict" false,
                        lf "Arguments" "List" true, lf "ArgumentsKw" "Dict" true]⟩
]

/-- Underlying Go kinds the model relies on (`type ID uint64`, `type URI string`, ...). -/
def expectedKinds : List (String × GoKind) := [
  ("Dict", .mapStringAny), ("ID", .uint64), ("List", .sliceAny), ("MessageType", .int),
  ("URI", .string), ("string", .string)]

def viewOf (s : MsgSchema) : LRow :=
  ⟨s.code, s.name, s.fields.map fun f => ⟨f.name, f.goType, f.omitempty⟩⟩

/-- The field order, field types and omitempty tags extracted from wamp/message.go are the WAMP
    wire layout: each layout row is the (unique) generated struct with that code, there are no
    other structs, and the named types have the kinds the model assumes.  Removing an
    `omitempty` tag, reordering fields or changing a constant in message.go breaks this. -/
theorem C14_layout :
    (∀ e ∈ wireLayout, (Gen.structs.filter fun s => s.code == e.code).map viewOf = [e])
    ∧ Gen.structs.length = wireLayout.length
    ∧ Gen.namedKinds = expectedKinds
    ∧ (∀ s ∈ Gen.structs, ∀ f ∈ s.fields, Gen.namedKinds.lookup f.goType = some f.kind) := by
  decide +kernel

/-- `NewMessage` has exactly one case per message struct and it allocates that struct:
    `NewMessage(s.MessageType())` is a fresh `s`; no other code is handled. -/
theorem C14_newMessage_complete :
    (∀ s ∈ Gen.structs, (newCase? s.code).bind structOf? = some s)
    ∧ Gen.newMessage.map (·.code) = wireLayout.map (·.code) := by
  decide +kernel

/-- The only non-zero initial values are `Error{Type: t, Details: Dict{}}`. -/
theorem C14_inits :
    ∀ c ∈ Gen.newMessage, c.inits = [] ∨
      (c.struct = "Error" ∧ c.inits = [("Type", .code), ("Details", .emptyDict)]) := by
  decide +kernel

/-- A message value as Go's type system admits it: a struct of wamp/message.go whose field
    values have the fields' static types (ID: 0 ≤ i < 2^64; MessageType: int64 range; URI/string:
    any byte string; Dict: nil or a map; List: nil or a slice; contents arbitrary). -/
def WellTyped (m : Msg) : Prop :=
  m.schema ∈ Gen.structs ∧ TypedFields m.schema.fields m.fields

def omitKindsOkB (fs : List FieldSchema) : Bool :=
  fs.all fun f => !f.omitempty || f.kind == .mapStringAny || f.kind == .sliceAny || f.kind == .string

private theorem structs_facts : ∀ s ∈ Gen.structs,
    s.fields ≠ [] ∧ omitKindsOkB s.fields = true ∧ s.code < 256 ∧ s.fields.length ≤ 6 ∧ viewOf s ∈ wireLayout := by
  decide +kernel

private theorem omitKindsOk_of {fs : List FieldSchema} (h : omitKindsOkB fs = true) : OmitKindsOk fs := by
  intro f hf ho
  have := List.all_eq_true.mp h f hf
  cases hk : f.kind <;> simp [ho, hk] at this ⊢

private theorem newMessage_of_mem {s : MsgSchema} (hs : s ∈ Gen.structs) :
    newMessage s.code = some { schema := s, fields := initFields s } := by
  have h := C14_newMessage_complete.1 s hs
  rw [newMessage_eq]
  unfold initFields
  cases hc : newCase? (s.code : Int) with
  | none => simp [hc] at h
  | some c =>
    simp [hc] at h
    simp [h]

/-- Fields beyond `lastIdx` are exactly the trailing empty `omitempty` ones, and the loop stopped
    for a reason: field `lastIdx` is field 0, or not `omitempty`, or not empty. -/
theorem C14_trailing_omitted (m : Msg) (h : WellTyped m) :
    msgToList m = .ok (.int m.schema.code :: m.fields.take (lastIdx m + 1))
    ∧ (∀ i f v, lastIdx m < i → m.schema.fields[i]? = some f → m.fields[i]? = some v →
        f.omitempty = true ∧ emptyVal v = true)
    ∧ (lastIdx m = 0 ∨ ∃ f v, m.schema.fields[lastIdx m]? = some f ∧ m.fields[lastIdx m]? = some v ∧
        (f.omitempty = false ∨ emptyVal v = false)) := by
  obtain ⟨hs, ht⟩ := h
  obtain ⟨hne, hok, _⟩ := structs_facts _ hs
  have hlen : m.schema.fields.length - 1 < m.schema.fields.length := by
    cases hf : m.schema.fields with
    | nil => exact absurd hf hne
    | cons _ _ => simp
  obtain ⟨last, hfl, _, h3, h4⟩ := findLast_spec _ _ ht (omitKindsOk_of hok) _ hlen
  have hlast : lastIdx m = last := by simp [lastIdx, hfl]
  refine ⟨?_, ?_, ?_⟩
  · unfold msgToList
    cases hf : m.schema.fields.length with
    | zero => have := List.length_eq_zero_iff.mp hf; exact absurd this hne
    | succ n => simp [hf] at hfl; simp [hfl, hlast]
  · intro i f v hi hf hv
    rw [hlast] at hi
    have hile : i ≤ m.schema.fields.length - 1 := by
      have := (List.getElem?_eq_some_iff.mp hf).1; omega
    exact h3 i f v hi hile hf hv
  · rw [hlast]; exact h4

/-- **List round trip.** For every well-typed message of every type, `msgToList` yields a list
    and `listToMsg` — directly, and behind each serializer's head check — maps that list to
    `norm m`.  `norm` is characterised by `C14_norm_fields` / `C14_norm_id`. -/
theorem C14_list_roundtrip (m : Msg) (h : WellTyped m) :
    ∃ l, msgToList m = .ok l
      ∧ listToMsg m.schema.code l = .ok (norm m)
      ∧ ∀ fmt, fromList fmt l = .ok (norm m) := by
  obtain ⟨hm2l, _, _⟩ := C14_trailing_omitted m h
  obtain ⟨hs, ht⟩ := h
  have hl2m : listToMsg m.schema.code (.int m.schema.code :: m.fields.take (lastIdx m + 1)) = .ok (norm m) := by
    unfold listToMsg
    rw [newMessage_of_mem hs]
    simp only [List.tail_cons]
    rw [fill_take _ _ _ _ _ ht (initFields_length _)]
    simp [Res.map, norm]
  refine ⟨_, hm2l, hl2m, fun fmt => ?_⟩
  simp [fromList, headType_code fmt (structs_facts _ hs).2.2.1, hl2m]

/-- What `norm` does, field by field: position `i` keeps its value when it was emitted
    (`i ≤ lastIdx m`) and is not nil; otherwise it holds the initial value of `NewMessage`
    (nil/zero, except `Error.Details = Dict{}` and `Error.Type = ERROR`, see `C14_inits`). -/
theorem C14_norm_fields (m : Msg) (hl : m.fields.length = m.schema.fields.length) (i : Nat) (v z : CVal)
    (hv : m.fields[i]? = some v) (hz : (initFields m.schema)[i]? = some z) :
    (norm m).fields[i]? = some (if i ≤ lastIdx m ∧ v.isNull = false then v else z) := by
  simpa [norm, Nat.lt_succ_iff] using normAux_getElem? (lastIdx m + 1) _ _ i v z hv hz

/-- **What is emitted, read off a split of the fields**: when the fields are `keep ++ drop`, every
    field of `drop` is `omitempty` and empty, and the last field of `keep` is not, `msgToList` emits
    the code and `keep`.  (`C14_kwargs_keeps_position`: nothing dropped; `C14_both_empty_omitted`:
    Arguments and ArgumentsKw dropped.) -/
theorem emitted_of_split (m : Msg) (h : WellTyped m) {fk fd : List FieldSchema} {keep drop : List CVal}
    (hs : m.schema.fields = fk ++ fd) (hm : m.fields = keep ++ drop) (hl : fk.length = keep.length)
    (hne : keep ≠ [])
    (hdrop : ∀ p ∈ fd.zip drop, p.1.omitempty = true ∧ emptyVal p.2 = true)
    (hkeep : ∀ f v, fk.getLast? = some f → keep.getLast? = some v → f.omitempty = false ∨ emptyVal v = false) :
    msgToList m = .ok (.int m.schema.code :: keep) := by
  have hpos := List.length_pos_iff.mpr hne
  have hlt : keep.length - 1 < keep.length := by omega
  obtain ⟨f, hf⟩ : ∃ f, fk[keep.length - 1]? = some f := ⟨_, List.getElem?_eq_getElem (hl ▸ hlt)⟩
  obtain ⟨v, hv⟩ : ∃ v, keep[keep.length - 1]? = some v := ⟨_, List.getElem?_eq_getElem hlt⟩
  have hk := hkeep f v (by rw [List.getLast?_eq_getElem?, hl]; exact hf) (by rw [List.getLast?_eq_getElem?]; exact hv)
  obtain ⟨h1, h2, h3⟩ := C14_trailing_omitted m h
  have clash : ∀ {f : FieldSchema} {v : CVal}, f.omitempty = true ∧ emptyVal v = true →
      f.omitempty = false ∨ emptyVal v = false → False :=
    fun ⟨ho, he⟩ hk => hk.elim (fun hk => Bool.noConfusion (ho.symm.trans hk))
      (fun hk => Bool.noConfusion (he.symm.trans hk))
  -- `lastIdx m` is the index of the last of `keep`: were it smaller, that field would be omitted;
  -- were it larger, a field of `drop` would be kept
  have hlast : lastIdx m = keep.length - 1 := by
    rcases Nat.lt_trichotomy (lastIdx m) (keep.length - 1) with hi | hi | hi
    · refine (clash (h2 _ f v hi ?_ ?_) hk).elim
      · rw [hs, List.getElem?_append_left (hl ▸ hlt)]; exact hf
      · rw [hm, List.getElem?_append_left hlt]; exact hv
    · exact hi
    · rcases h3 with h0 | ⟨f', v', hf', hv', hk'⟩
      · omega
      · rw [hs, List.getElem?_append_right (by omega)] at hf'
        rw [hm, List.getElem?_append_right (by omega), ← hl] at hv'
        exact (clash (hdrop (f', v') (List.mem_of_getElem? (List.getElem?_zip_eq_some.mpr ⟨hf', hv'⟩))) hk').elim
  rw [h1, hlast, hm, Nat.sub_add_cancel hpos, List.take_left']
  rfl

/-- `norm m = m` unless `m` has an emitted nil field with a non-nil initial value (only
    `Error.Details`) or a trailing empty `omitempty` field that is not already in its initial
    state (an empty non-nil `List{}`/`Dict{}`, which comes back as nil). -/
theorem C14_norm_id (m : Msg) (hl : m.fields.length = m.schema.fields.length)
    (hkeep : ∀ i v z, i ≤ lastIdx m → m.fields[i]? = some v → (initFields m.schema)[i]? = some z →
      v.isNull = true → v = z)
    (hdrop : ∀ i v z, lastIdx m < i → m.fields[i]? = some v → (initFields m.schema)[i]? = some z → v = z) :
    (norm m).fields = m.fields := by
  apply List.ext_getElem?
  intro i
  by_cases hi : i < m.fields.length
  · have hv : m.fields[i]? = some m.fields[i] := List.getElem?_eq_getElem hi
    have hi' : i < (initFields m.schema).length := by rw [initFields_length, ← hl]; exact hi
    have hz : (initFields m.schema)[i]? = some (initFields m.schema)[i] := List.getElem?_eq_getElem hi'
    rw [C14_norm_fields m hl i _ _ hv hz, hv]
    by_cases hle : i ≤ lastIdx m
    · cases hn : (m.fields[i]).isNull with
      | false => simp [hle]
      | true => simp; exact (hkeep i _ _ hle hv hz hn).symm
    · have : lastIdx m < i := by omega
      simp [hle]; exact (hdrop i _ _ this hv hz).symm
  · have hn : (norm m).fields.length = m.fields.length := by
      simp only [norm, normAux_length, initFields_length, hl]
    rw [List.getElem?_eq_none (by omega), List.getElem?_eq_none (by omega)]

/-- Every struct with an `ArgumentsKw` field ends in `Arguments List omitempty,
    ArgumentsKw Dict omitempty`, preceded only by non-omitempty fields (at least one). -/
def argsShape (s : MsgSchema) : Bool :=
  match s.fields.reverse with
  | kw :: ar :: pre =>
    kw.name == "ArgumentsKw" && kw.kind == .mapStringAny && kw.omitempty &&
    ar.name == "Arguments" && ar.kind == .sliceAny && ar.omitempty &&
    !pre.isEmpty && pre.all (fun f => !f.omitempty)
  | _ => false

theorem C14_args_shape :
    (∀ s ∈ Gen.structs, (s.fields.any fun f => f.name == "ArgumentsKw" || f.name == "Arguments" || f.omitempty)
        → argsShape s = true)
    ∧ (Gen.structs.filter argsShape).map (·.code) = [8, 16, 36, 48, 68, 70, 50] := by
  decide +kernel

private theorem argsShape_split {s : MsgSchema} (h : argsShape s = true) :
    ∃ pre ar kw, s.fields = pre ++ [ar, kw] ∧ pre ≠ [] ∧ (∀ f ∈ pre, f.omitempty = false) ∧
      ar.omitempty = true ∧ kw.omitempty = true ∧ ar.kind = .sliceAny ∧ kw.kind = .mapStringAny := by
  unfold argsShape at h
  split at h
  · rename_i kw ar pre hrev
    simp at h
    obtain ⟨⟨⟨⟨⟨⟨⟨_, hkk⟩, hko⟩, _⟩, hak⟩, hao⟩, hpne⟩, hall⟩ := h
    refine ⟨pre.reverse, ar, kw, ?_, ?_, ?_, hao, hko, hak, hkk⟩
    · have := congrArg List.reverse hrev; simpa using this
    · intro hp; simp at hp; exact hpne hp
    · intro f hf; simp at hf; exact hall f hf
  · simp at h

/-- **Kwargs keeps its position.** A well-typed message of a type with Arguments/ArgumentsKw whose
    ArgumentsKw is non-empty is emitted in full: every field including Arguments, whatever it is
    (nil — encoded as null —, empty or not). -/
theorem C14_kwargs_keeps_position (m : Msg) (h : WellTyped m)
    (pre : List CVal) (args : CVal) (kw : CDict) (hm : m.fields = pre ++ [args, .dict kw]) (hkw : kw ≠ []) :
    msgToList m = .ok (.int m.schema.code :: (pre ++ [args, .dict kw])) := by
  refine emitted_of_split m h (List.append_nil _).symm (hm.trans (List.append_nil _).symm)
    (hm ▸ h.2.length_eq) (by simp) (by simp) fun f v _ hv => .inr ?_
  obtain rfl : CVal.dict kw = v := by simpa using hv
  cases kw with
  | nil => exact absurd rfl hkw
  | cons _ _ => rfl

/-- **Both empty: both omitted.** With Arguments and ArgumentsKw empty (nil or empty non-nil) the
    emitted list stops at the field before Arguments. -/
theorem C14_both_empty_omitted (m : Msg) (h : WellTyped m) (hs : argsShape m.schema = true)
    (pre : List CVal) (args kw : CVal) (hm : m.fields = pre ++ [args, kw])
    (ha : emptyVal args = true) (hk : emptyVal kw = true) :
    msgToList m = .ok (.int m.schema.code :: pre) := by
  obtain ⟨spre, ar, skw, hsf, hne, hpre, hao, hko, _, _⟩ := argsShape_split hs
  have hpl : spre.length = pre.length := by
    have hlen := h.2.length_eq
    rw [hsf, hm] at hlen; simpa using hlen
  refine emitted_of_split m h hsf hm hpl (fun hp => hne (List.length_eq_zero_iff.mp (hpl.trans (congrArg _ hp)))) ?_
    fun f _ hf _ => .inl (hpre f (List.mem_of_getLast? hf))
  simp [hao, ha, hko, hk]

theorem C14_listToMsg_no_panic (t : Int) (vlist : List CVal) : (listToMsg t vlist).isPanic = false :=
  listToMsg_no_panic t vlist

theorem C14_fromList_no_panic (fmt : Format) (v : List CVal) : (fromList fmt v).isPanic = false :=
  fromList_no_panic fmt v

/-- `msgToList` never panics on a value Go's type system admits (`reflect.Value.Len` is only
    called on Dict/List fields because only those carry `omitempty`). -/
theorem C14_msgToList_no_panic (m : Msg) (h : WellTyped m) : (msgToList m).isPanic = false := by
  rw [(C14_trailing_omitted m h).1]; rfl

/-- What the code treats as a compatible item for a field: nil (skipped), anything Go can assign or
    is allowed to convert (`convertTo`: an integer or a float for an id or an int; a string — and,
    since the conversion is guarded, only a string — for a string/URI), and []byte for a List
    (copied element-wise by `assignSlice`). -/
def Compatible (k : GoKind) (v : CVal) : Bool :=
  v.isNull || (convertTo k v).isSome || (k == .sliceAny && match v with | .bin _ => true | _ => false)

def CompatibleAll : List FieldSchema → List CVal → Bool
  | f :: fs, it :: its => Compatible f.kind it && CompatibleAll fs its
  | _, _ => true     -- items beyond the last field are ignored; missing items leave fields untouched

private theorem assignField_ok_iff (i : Nat) (k : GoKind) (v : CVal) (hn : v.isNull = false) :
    (assignField i k v).isOk = Compatible k v := by
  cases k <;> cases v <;> simp [CVal.isNull] at hn <;>
    simp [assignField, convertTo, sameKind, Compatible, Res.isOk, CVal.isNull] <;>
    cases Gen.convertGuard <;> simp

private theorem fill_ok_iff : ∀ (fs : List FieldSchema) (zs its : List CVal) (i : Nat),
    zs.length = fs.length → (fill i fs zs its).isOk = CompatibleAll fs its
  | [], _, its, _, _ => by cases its <;> simp [fill, CompatibleAll, Res.isOk]
  | _ :: _, [], _, _, h => by simp at h
  | _ :: _, _ :: _, [], _, _ => by simp [fill, CompatibleAll, Res.isOk]
  | f :: fs, z :: zs, it :: its, i, h => by
      have ih := fill_ok_iff fs zs its (i + 1) (by simpa using h)
      unfold fill
      cases hn : it.isNull with
      | true =>
        simp [CompatibleAll, Compatible, hn, ← ih]
        cases fill (i + 1) fs zs its <;> simp [Res.map, Res.isOk]
      | false =>
        have ha := assignField_ok_iff i f.kind it hn
        simp only [CompatibleAll, ← ha, ← ih]
        cases hq : assignField i f.kind it with
        | ok v => cases fill (i + 1) fs zs its <;> simp [Res.map, Res.isOk]
        | error e => simp [Res.isOk]
        | panic s => simp [Res.isOk]

/-- **Rejects.** `Deserialize` (after the codec) yields a message exactly when the decoded list is
    non-empty, its head passes the format's integer check, the resulting code is handled by
    `NewMessage`, and every item facing a field is `Compatible` with it; in every other case it
    yields an error — never a panic (`C14_fromList_no_panic`), never a message. -/
theorem C14_rejects (fmt : Format) (v : List CVal) :
    (fromList fmt v).isOk =
      (match v with
       | [] => false
       | v0 :: items =>
         match headType fmt v0 with
         | .ok t => match newMessage t with
           | some m0 => CompatibleAll m0.schema.fields items
           | none => false
         | _ => false) := by
  cases v with
  | nil => simp [fromList, Res.isOk]
  | cons v0 items =>
    simp only [fromList]
    cases hh : headType fmt v0 with
    | error e => simp [Res.isOk]
    | panic s => simp [Res.isOk]
    | ok t =>
      simp only [listToMsg]
      cases hn : newMessage t with
      | none => simp [Res.isOk]
      | some m =>
        have := fill_ok_iff m.schema.fields m.fields items 1 (newMessage_length hn)
        simp only [List.tail_cons]
        rw [← this]
        cases fill 1 m.schema.fields m.fields items <;> simp [Res.map, Res.isOk]

/-- The WAMP reading of "compatible field types": id ← non-negative integer, uri/string ← string,
    dict ← dict, list ← list, int ← integer; nil tolerated for dict/list. -/
def StrictCompatible : GoKind → CVal → Bool
  | .uint64, .int i => 0 ≤ i
  | .int, .int _ => true
  | .string, .str _ => true
  | .mapStringAny, .dict _ => true
  | .mapStringAny, .null => true
  | .sliceAny, .list _ => true
  | .sliceAny, .null => true
  | _, _ => false

def StrictAll : List FieldSchema → List CVal → Bool
  | f :: fs, it :: its => StrictCompatible f.kind it && StrictAll fs its
  | _, _ => true

/-- An item facing a string/URI field is a string (or nil, which leaves the field empty). -/
def StringStrict : GoKind → CVal → Bool
  | .string, .str _ => true
  | .string, .null => true
  | .string, _ => false
  | _, _ => true

def StringStrictAll : List FieldSchema → List CVal → Bool
  | f :: fs, it :: its => StringStrict f.kind it && StringStrictAll fs its
  | _, _ => true

private theorem compatible_stringStrict (hg : Gen.convertGuard = .stringFromStringOnly) :
    ∀ (fs : List FieldSchema) (its : List CVal), CompatibleAll fs its = true → StringStrictAll fs its = true
  | [], _, _ => by simp [StringStrictAll]
  | _ :: _, [], _ => by simp [StringStrictAll]
  | f :: fs, it :: its, h => by
      simp [CompatibleAll] at h
      have ih := compatible_stringStrict hg fs its h.2
      have h1 : StringStrict f.kind it = true := by
        have hc := h.1
        cases hk : f.kind <;> cases it <;>
          simp_all [Compatible, StringStrict, convertTo, CVal.isNull]
      simp [StringStrictAll, h1, ih]

/-- **String and URI fields accept only strings** (what the fix of C14-F1 established): whenever a
    list is accepted as a message, every item facing a `string`/`URI` field is a string (or nil).
    Depends on the regenerated fact `Gen.convertGuard = .stringFromStringOnly`: with the guard
    removed from listToMsg this fails to check. -/
theorem C14_string_fields_strict (fmt : Format) (v0 : CVal) (items : List CVal) (m : Msg)
    (h : fromList fmt (v0 :: items) = .ok m) : StringStrictAll m.schema.fields items = true := by
  obtain ⟨t, m0, fs, hh, hn, _, rfl⟩ := fromList_ok h
  have hr := C14_rejects fmt (v0 :: items)
  simp only [h, hh, hn, Res.isOk] at hr
  exact compatible_stringStrict (by decide) _ _ hr.symm

private theorem msg_of_eval {x : Res Msg} {p : Msg → Bool}
    (h : (match x with | .ok m => p m | _ => false) = true) : ∃ m, x = .ok m ∧ p m = true := by
  cases x with
  | ok m => exact ⟨m, rfl, h⟩
  | error _ => cases h
  | panic _ => cases h

/-- Full-strength statement: a message comes out only if every item is WAMP-compatible with its
    field. -/
def C14_rejects_strict : Prop :=
  ∀ (fmt : Format) (v0 : CVal) (items : List CVal) (m : Msg),
    fromList fmt (v0 :: items) = .ok m → StrictAll m.schema.fields items = true

/-- It is still false of the code as written (finding C14-F1b): `[33, 1.5, 2]` is accepted as
    SUBSCRIBED with request id 1 — Go converts the float 1.5 to the uint64 1 —, and `[33, -1, 2]`
    with request id 2^64-1.  Replayed on the implementation by the `codec` family. -/
theorem C14_rejects_strict_fails : ¬ C14_rejects_strict := by
  intro h
  obtain ⟨m, hr, hp⟩ := msg_of_eval (x := fromList .json [.int 33, .float 0x3FF8000000000000, .int 2])
    (p := fun m => m.schema.name == "Subscribed" &&
      StrictAll m.schema.fields [.float 0x3FF8000000000000, .int 2] == false) (by decide +kernel)
  simp [h _ _ _ m hr] at hp

/-- The same with a negative integer in an id position. -/
theorem C14_negative_id_accepted :
    (match fromList .json [.int 33, .int (-1), .int 2] with
      | .ok m => m.schema.name == "Subscribed" && StrictAll m.schema.fields [.int (-1), .int 2] == false
      | _ => false) = true := by decide +kernel

/-- Finding C14-F1d: a `[]byte` is accepted for a List field (`assignSlice` copies it into a list of
    uint8): MessagePack `95 24 01 02 80 c4 03 01 02 03` is an EVENT with Arguments [1, 2, 3]. -/
theorem C14_bin_for_list_accepted :
    (match fromList .msgpack [.int 36, .int 1, .int 2, .dict [], .bin [1, 2, 3]] with
      | .ok m => m.schema.name == "Event"
      | _ => false) = true := by decide +kernel

/-- Full-strength statement about length: a message comes out only if the list has an item for
    every field that is not `omitempty`. -/
def C14_rejects_short : Prop :=
  ∀ (fmt : Format) (v0 : CVal) (items : List CVal) (m : Msg),
    fromList fmt (v0 :: items) = .ok m → (m.schema.fields.filter (fun f => !f.omitempty)).length ≤ items.length

/-- False of the code as written (finding C14-F1c): `[1]` is accepted as a HELLO with an empty
    realm and nil details; missing items leave the fields at their zero value. -/
theorem C14_rejects_short_fails : ¬ C14_rejects_short := by
  intro h
  obtain ⟨m, hr, hp⟩ := msg_of_eval (x := fromList .json [.int 1])
    (p := fun m => m.schema.name == "Hello" && (m.schema.fields.filter (fun f => !f.omitempty)).length == 2)
    (by decide +kernel)
  have := h _ _ _ m hr
  simp at hp
  simp [hp.2] at this

/-- The (field kind × decoded value) pairs `listToMsg` lets through, read off
    /repo/transport/serialize/serializer.go without going through the model's `convertTo`:
    * nil item: `continue`, whatever the field (serializer.go:69-71);
    * `wamp.ID` (uint64) and `wamp.MessageType` (int): `uint64`/`int64` and `float64` are
      `ConvertibleTo` them, nothing else is (serializer.go:85-88; bool, string, []byte, []any and
      maps are neither convertible to an integer type nor of the same Kind, :91-94);
    * `string` / `wamp.URI`: a Go `string` only — integers and `[]byte` are `ConvertibleTo` string
      but the guard `f.Kind() != reflect.String || arg.Kind() == reflect.String` (:85-86) refuses
      them and their Kind differs (:91-94);
    * `wamp.Dict`: `map[string]any` is `AssignableTo` it (:78-81), every other value has another
      Kind (:91-94);
    * `wamp.List`: `[]any` is `AssignableTo` it (:78-81); `[]byte` is neither assignable nor
      convertible but has Kind Slice, and `assignSlice` copies it element-wise (:103-107, :163-174,
      `uint8` is assignable to `any`); everything else has another Kind. -/
def CompatibleTable : GoKind → CVal → Bool
  | _, .null => true
  | .uint64, .int _ => true
  | .uint64, .float _ => true
  | .int, .int _ => true
  | .int, .float _ => true
  | .string, .str _ => true
  | .mapStringAny, .dict _ => true
  | .sliceAny, .list _ => true
  | .sliceAny, .bin _ => true
  | _, _ => false

/-- `Compatible` — defined through the model's conversion function — is that table.  (Depends on
    the regenerated fact `Gen.convertGuard = .stringFromStringOnly`.) -/
theorem C14_compatible_table (k : GoKind) (v : CVal) : Compatible k v = CompatibleTable k v := by
  cases k <;> cases v <;> rfl

/-- **Closed form of "compatible field types", as coded** (`C14_rejects` speaks of
    `Compatible`, which is defined through `convertTo`; this says what it is).  An item is let
    through for a field exactly when it is nil; or the field is an id (`wamp.ID`) or an int
    (`wamp.MessageType`) and the item an integer or a float; or the field is a string/URI and the
    item a string; or the field is a Dict and the item a dict; or the field is a List and the item a
    list or a binary.  Rows checked against serializer.go:67-113, see `CompatibleTable`. -/
theorem C14_compatible_cases (k : GoKind) (v : CVal) :
    Compatible k v = true ↔
      v = .null
      ∨ ((k = .uint64 ∨ k = .int) ∧ ((∃ i, v = .int i) ∨ ∃ b, v = .float b))
      ∨ (k = .string ∧ ∃ s, v = .str s)
      ∨ (k = .mapStringAny ∧ ∃ d, v = .dict d)
      ∨ (k = .sliceAny ∧ ((∃ l, v = .list l) ∨ ∃ b, v = .bin b)) := by
  rw [C14_compatible_table]
  cases k <;> cases v <;> simp [CompatibleTable]

def CompatibleTableAll : List FieldSchema → List CVal → Bool
  | f :: fs, it :: its => CompatibleTable f.kind it && CompatibleTableAll fs its
  | _, _ => true     -- items beyond the last field are ignored; missing items leave fields untouched

private theorem compatibleAll_table : ∀ (fs : List FieldSchema) (its : List CVal),
    CompatibleAll fs its = CompatibleTableAll fs its
  | [], _ => by simp [CompatibleAll, CompatibleTableAll]
  | _ :: _, [] => by simp [CompatibleAll, CompatibleTableAll]
  | f :: fs, it :: its => by
      simp [CompatibleAll, CompatibleTableAll, C14_compatible_table, compatibleAll_table fs its]

/-- **Rejects, in closed form**: `C14_rejects` with the table in place of the model's conversion.
    `Deserialize` (after the codec) yields a message exactly when the list is non-empty, the head
    passes the format's integer check, `NewMessage` handles the code and every item facing a field
    is in `CompatibleTable` for that field's kind. -/
theorem C14_rejects_closed (fmt : Format) (v : List CVal) :
    (fromList fmt v).isOk =
      (match v with
       | [] => false
       | v0 :: items =>
         match headType fmt v0 with
         | .ok t => match newMessage t with
           | some m0 => CompatibleTableAll m0.schema.fields items
           | none => false
         | _ => false) := by
  rw [C14_rejects]
  cases v with
  | nil => rfl
  | cons v0 items =>
    simp only []
    cases headType fmt v0 with
    | ok t =>
      simp only []
      cases newMessage t with
      | none => rfl
      | some m0 => exact compatibleAll_table _ _
    | error e => rfl
    | panic s => rfl

/-- Full-strength statement about length, upper side: a message comes out only of a list that has
    no more items than the message has fields. -/
def C14_rejects_long : Prop :=
  ∀ (fmt : Format) (v0 : CVal) (items : List CVal) (m : Msg),
    fromList fmt (v0 :: items) = .ok m → items.length ≤ m.schema.fields.length

/-- False of the code as written: the loop of `listToMsg` stops at `val.NumField()`
    (serializer.go:67), so `[33, 1, 2, "x", {}]` is a SUBSCRIBED; the two extra items are never
    looked at.  Replayed on the implementation (`[33,1,2,"extra",{"x":1}]` → Subscribed{1, 2}). -/
theorem C14_rejects_long_fails : ¬ C14_rejects_long := by
  intro h
  obtain ⟨m, hr, hp⟩ := msg_of_eval (x := fromList .json [.int 33, .int 1, .int 2, .str [0x78], .dict []])
    (p := fun m => m.schema.name == "Subscribed" && m.schema.fields.length == 2) (by decide +kernel)
  have := h _ _ _ m hr
  simp at hp
  simp [hp.2] at this

/-- In general: items beyond the last field never matter. -/
theorem C14_extra_items_ignored (fs : List FieldSchema) (its extra : List CVal) (h : fs.length ≤ its.length) :
    CompatibleAll fs (its ++ extra) = CompatibleAll fs its := by
  induction fs generalizing its with
  | nil => cases its <;> cases extra <;> simp [CompatibleAll]
  | cons f fs ih =>
    cases its with
    | nil => simp at h
    | cons it its => simp [CompatibleAll, ih its (by simpa using h)]

/-- The same for the whole of `Deserialize` after the codec: no message has more than six fields,
    so whatever follows the sixth item after the code is never looked at — the outcome (message,
    error) is the same with and without it. -/
theorem C14_extra_items_ignored_msg (fmt : Format) (v0 : CVal) (its extra : List CVal) (h : 6 ≤ its.length) :
    fromList fmt (v0 :: (its ++ extra)) = fromList fmt (v0 :: its) := by
  simp only [fromList]
  cases hh : headType fmt v0 with
  | error e => rfl
  | panic s => rfl
  | ok t =>
    simp only [listToMsg]
    cases hn : newMessage t with
    | none => rfl
    | some m0 =>
      simp only [List.tail_cons]
      rw [fill_extra _ _ _ _ _ (Nat.le_trans (structs_facts _ (newMessage_known hn).1).2.2.2.1 h)]

/-- `C14_extra_items_ignored_msg` applies to an EVENT list with all six items present plus two
    more. -/
example : fromList .json (.int 36 :: ([.int 1, .int 2, .dict [], .list [], .dict [], .null] ++ [.int 9, .int 9]))
    = fromList .json (.int 36 :: [.int 1, .int 2, .dict [], .list [], .dict [], .null]) :=
  C14_extra_items_ignored_msg .json (.int 36) [.int 1, .int 2, .dict [], .list [], .dict [], .null]
    [.int 9, .int 9] (by decide)

/-- nil is accepted for an id field (`continue` at serializer.go:69-71 precedes every type check):
    `[33, null, 2]` is a SUBSCRIBED with request id 0, although `StrictCompatible` (the WAMP
    reading) refuses nil for an id.  Replayed on the implementation.  The same holds for URI fields
    (`[32, 1, {}, null]` is a SUBSCRIBE with the empty topic). -/
theorem C14_nil_for_id_accepted :
    (match fromList .json [.int 33, .null, .int 2] with
      | .ok m => m.schema.name == "Subscribed" && StrictAll m.schema.fields [.null, .int 2] == false &&
          (match m.fields with | [.int 0, .int 2] => true | _ => false)
      | _ => false) = true
    ∧ (match fromList .json [.int 32, .int 1, .dict [], .null] with
      | .ok m => m.schema.name == "Subscribe" && StrictAll m.schema.fields [.int 1, .dict [], .null] == false &&
          (match m.fields with | [.int 1, .dict [], .str []] => true | _ => false)
      | _ => false) = true := by
  constructor <;> decide +kernel

/-- **MessagePack round trip** for every value of the data model (integers in int64 ∪ uint64,
    float64 bit patterns, byte strings, binaries, lists and dicts of any nesting depth with fewer
    than 2^32 elements/bytes each): decoding the encoding, followed by any bytes, gives back the
    value and those bytes.  Dicts are encoded in list order and come back in that order. -/
theorem C14_msgpack_roundtrip (v : CVal) (rest : Bytes) (hv : validB MsgPack.maxLen v = true) :
    MsgPack.dec (MsgPack.enc v ++ rest) = .ok (v, rest) :=
  MsgPack.dec_enc v rest hv

/-- **CBOR round trip**, lengths below 2^64. -/
theorem C14_cbor_roundtrip (v : CVal) (rest : Bytes) (hv : validB CBOR.maxLen v = true) :
    CBOR.dec (CBOR.enc v ++ rest) = .ok (v, rest) :=
  CBOR.dec_enc v rest hv

/-- **The binary formats decode each other's meaning identically**: whatever MessagePack can
    carry, both formats decode back to the same value. -/
theorem C14_cross_format (v : CVal) (hv : validB MsgPack.maxLen v = true) :
    MsgPack.dec (MsgPack.enc v) = CBOR.dec (CBOR.enc v)
    ∧ MsgPack.dec (MsgPack.enc v) = .ok (v, []) := by
  have h1 : MsgPack.dec (MsgPack.enc v) = .ok (v, []) := Wire.decode_encode (fmt := .msgpack) (if_pos hv)
  exact ⟨h1.trans (Wire.decode_encode (fmt := .cbor) (if_pos (validB_mono maxLen_le v hv))).symm, h1⟩

/-- **JSON round trip** for the fragment null / bool / integer (int64 ∪ uint64) / string (any
    valid UTF-8 byte string — `Json.utf8OkB`, Go's `utf8.Valid`; the codec's escapes) / list / dict
    (keys valid UTF-8) of any nesting depth.  `rest` must not continue a
    number token (it is empty, or starts with anything but a digit + - . e E).  Floats and
    binaries are outside the fragment (see the header of Nexus/Codec/Json.lean); so are strings
    that are not valid UTF-8: the codec replaces each offending byte by U+FFFD
    (`C14_json_roundtrip_nonutf8_fails`). -/
theorem C14_json_roundtrip (v : CVal) (rest : Bytes) (hv : Json.okB v = true) (hr : Json.NumSafe rest) :
    Json.dec (Json.enc v ++ rest) = .ok (v, rest) :=
  Json.dec_enc v rest hv hr

/-- **The three formats decode each other's meaning identically** on the common fragment. -/
theorem C14_cross_format_json (v : CVal) (hj : Json.okB v = true) (hv : validB MsgPack.maxLen v = true) :
    Json.dec (Json.enc v) = .ok (v, [])
    ∧ MsgPack.dec (MsgPack.enc v) = .ok (v, [])
    ∧ CBOR.dec (CBOR.enc v) = .ok (v, []) :=
  ⟨Wire.decode_encode (fmt := .json) (if_pos hj), Wire.decode_encode (fmt := .msgpack) (if_pos hv),
    Wire.decode_encode (fmt := .cbor) (if_pos (validB_mono maxLen_le v hv))⟩

/-- **`Deserialize (Serialize m) = norm m`, whatever the serializer**: for every well-typed message of every
    type and each of the three formats, the bytes the format writes for the emitted list (when it carries the
    list at all) deserialise to `norm m`. -/
theorem C14_serialize_deserialize (fmt : Format) {m : Msg} (h : WellTyped m) {l : List CVal} {b : Bytes}
    (hl : msgToList m = .ok l) (hb : Wire.encode fmt (.list l) = some b) :
    Wire.deserialize fmt b = .ok (.ok (norm m)) := by
  obtain ⟨l', h1, _, h3⟩ := C14_list_roundtrip m h
  cases h1.symm.trans hl
  rw [Wire.deserialize_encode hb, h3]

/-- **Message round trip on the wire**: `Deserialize(Serialize(m)) = norm m` for the MessagePack,
    CBOR and JSON models, for every well-typed message of every type whose emitted list is encodable
    (JSON: payload within the fragment). -/
theorem C14_wire_roundtrip (m : Msg) (h : WellTyped m) :
    ∃ l, msgToList m = .ok l
      ∧ (validB MsgPack.maxLen (.list l) = true →
          Wire.deserialize .msgpack (MsgPack.enc (.list l)) = .ok (.ok (norm m)))
      ∧ (validB CBOR.maxLen (.list l) = true →
          Wire.deserialize .cbor (CBOR.enc (.list l)) = .ok (.ok (norm m)))
      ∧ (Json.okB (.list l) = true →
          Wire.deserialize .json (Json.enc (.list l)) = .ok (.ok (norm m))) := by
  obtain ⟨l, h1, _⟩ := C14_list_roundtrip m h
  exact ⟨l, h1, fun hv => C14_serialize_deserialize .msgpack h h1 (if_pos hv),
    fun hv => C14_serialize_deserialize .cbor h h1 (if_pos hv),
    fun hv => C14_serialize_deserialize .json h h1 (if_pos hv)⟩

/-- Every `Deserialize` goes through `decodeList` (regenerated from the three serializer files). -/
theorem C14_decodeList_everywhere (fmt : Format) : Wire.topDecodeOf fmt = .listChecked := by
  cases fmt <;> decide

/-- A top-level map with string keys is "not a list" in every format (the non-string-key maps of the
    witnesses of C14-F2 are outside the value model; the family replays those on the implementation). -/
theorem C14_toplevel_map_rejected :
    let notList (r : DRes (Res Msg)) : Bool := match r with
      | .ok (.error .notAList) => true
      | _ => false
    notList (Wire.deserialize .msgpack [0x81, 0xa1, 0x61, 0x01]) = true
    ∧ notList (Wire.deserialize .cbor [0xa1, 0x61, 0x61, 0x01]) = true
    ∧ notList (Wire.deserialize .json [0x7b, 0x22, 0x61, 0x22, 0x3a, 0x31, 0x7d]) = true := by
  decide +kernel

/-- **JSON round trip of the bytes the codec really writes.**  `Json.encReal` is `Json.enc` with
    the string writer of ugorji/go/codec v1.3.1 (`quoteStr`, json.go:399-470: `\uFFFD` for every
    byte that `utf8.DecodeRuneInString` rejects).  On the fragment `Json.okB` — which demands valid
    UTF-8 of every string and key — it equals `Json.enc` (`Json.encReal_eq_enc_of_okB`), hence
    round-trips.  Clause "deserialising the serialised form yields an equal message for JSON". -/
theorem C14_json_roundtrip_real (v : CVal) (rest : Bytes) (hv : Json.okB v = true) (hr : Json.NumSafe rest) :
    Json.encReal v = Json.enc v ∧ Json.dec (Json.encReal v ++ rest) = .ok (v, rest) :=
  ⟨Json.encReal_eq_enc_of_okB v hv, Json.dec_encReal v rest hv hr⟩

/-- The hypotheses of `C14_json_roundtrip_real` hold of a nested value with a two-byte, a
    three-byte and a four-byte character ("é", "€", U+1F600) and a non-ASCII key. -/
example : Json.okB (.list [.str [0xC3, 0xA9], .dict [([0xE2, 0x82, 0xAC], .str [0xF0, 0x9F, 0x98, 0x80])], .int (-5)]) = true
    ∧ Json.NumSafe [0x5d] := by
  refine ⟨by decide, ?_⟩
  intro b r h; cases h; decide

/-- **Message round trip through the codec's real JSON bytes**: the JSON branch of
    `C14_wire_roundtrip` with `Json.encReal` (what `JSONSerializer.Serialize` emits) in place of
    the model encoder. -/
theorem C14_wire_roundtrip_json_real (m : Msg) (h : WellTyped m) :
    ∃ l, msgToList m = .ok l
      ∧ (Json.okB (.list l) = true →
          Wire.deserialize .json (Json.encReal (.list l)) = .ok (.ok (norm m))) := by
  obtain ⟨l, h1, _, _, h4⟩ := C14_wire_roundtrip m h
  exact ⟨l, h1, fun hv => by rw [Json.encReal_eq_enc_of_okB _ hv]; exact h4 hv⟩

/-- The hypotheses are met by a PUBLISH to the topic "café" (63 61 66 C3 A9) with one argument. -/
example :
    let pub : Msg := { schema := (Gen.structs.filter (·.code == 16)).head!,
                       fields := [.int 1, .dict [], .str [0x63, 0x61, 0x66, 0xC3, 0xA9], .list [.int 7], .null] }
    WellTyped pub ∧ msgToList pub = .ok [.int 16, .int 1, .dict [], .str [0x63, 0x61, 0x66, 0xC3, 0xA9], .list [.int 7]]
      ∧ Json.okB (.list [.int 16, .int 1, .dict [], .str [0x63, 0x61, 0x66, 0xC3, 0xA9], .list [.int 7]]) = true := by
  exact ⟨⟨by decide, ⟨by decide, by decide⟩, trivial, trivial, trivial, trivial, trivial⟩, by rfl, by decide⟩

/-- Full-strength statement the property text suggests ("strings"): every Go string survives the
    codec's JSON. -/
def C14_json_roundtrip_anystring : Prop :=
  ∀ (s : Bytes), Json.dec (Json.encReal (.str s)) = .ok (.str s, [])

/-- It is false, of the model of the real codec and of the implementation alike (replayed:
    `JSONSerializer.SerializeDataItem("a\x80b")` = `"a\uFFFDb"`, which deserialises to
    "a\xef\xbf\xbdb"): the byte 0x80 is not valid UTF-8 and comes back as U+FFFD. -/
theorem C14_json_roundtrip_nonutf8_fails : ¬ C14_json_roundtrip_anystring := by
  intro h
  have h1 := h [0x61, 0x80, 0x62]
  rw [Json.dec_encReal_a80b] at h1
  injection h1 with h1
  injection h1 with h1 _
  injection h1 with h1
  exact absurd h1 (by decide)

/-- **What JSON hands back for an arbitrary Go string, and exactly which strings survive**: the
    real writer followed by the decoder yields `Json.sanitize s` — every byte that does not start
    a valid UTF-8 encoding replaced by U+FFFD, i.e. Go's `string([]rune(s))` —, and that is `s`
    itself iff `s` is valid UTF-8.  So the condition `Json.utf8OkB` in the fragment is necessary as
    well as sufficient (for strings). -/
theorem C14_json_string_roundtrip_iff (s rest : Bytes) :
    Json.dec (Json.encReal (.str s) ++ rest) = .ok (.str (Json.sanitize s), rest)
    ∧ (Json.dec (Json.encReal (.str s)) = .ok (.str s, []) ↔ Json.utf8OkB s = true) :=
  ⟨Json.dec_encReal_str s rest, Json.dec_encReal_str_iff s⟩

/-- **The formats do not "decode each other's meaning identically" on such a string**: MessagePack
    and CBOR hand the Go string "a\x80b" back unchanged (the codec does not validate their
    strings), JSON hands back "a\uFFFDb".  A router relaying a msgpack client's PUBLISH to a JSON
    subscriber alters the string. -/
theorem C14_nonutf8_formats_disagree :
    MsgPack.dec (MsgPack.enc (.str [0x61, 0x80, 0x62])) = .ok (.str [0x61, 0x80, 0x62], [])
    ∧ CBOR.dec (CBOR.enc (.str [0x61, 0x80, 0x62])) = .ok (.str [0x61, 0x80, 0x62], [])
    ∧ Json.dec (Json.encReal (.str [0x61, 0x80, 0x62])) = .ok (.str [0x61, 0xEF, 0xBF, 0xBD, 0x62], []) := by
  refine ⟨?_, ?_, Json.dec_encReal_a80b⟩
  · simpa using MsgPack.dec_enc (.str [0x61, 0x80, 0x62]) [] (by decide)
  · simpa using CBOR.dec_enc (.str [0x61, 0x80, 0x62]) [] (by decide)

/-- The same at message level: PUBLISH [16, 1, {}, "a\x80b"] serialised by the real JSON writer
    deserialises to a PUBLISH whose Topic is "a\uFFFDb" (61 EF BF BD 62) — replayed on the
    implementation (`Serialize` gives `[16,1,{},"a\uFFFDb"]`). -/
theorem C14_wire_nonutf8_witness :
    (match Wire.deserialize .json (Json.encReal (.list [.int 16, .int 1, .dict [], .str [0x61, 0x80, 0x62]])) with
      | .ok (.ok m) => m.schema.name == "Publish" &&
          (match m.fields with
           | [.int 1, .dict [], .str s, .null, .null] => s == [0x61, 0xEF, 0xBF, 0xBD, 0x62]
           | _ => false)
      | _ => false) = true := by decide +kernel

/-- **Exactly when `Deserialize` gets past the codec, and what it then answers**: the model of
    `Deserialize` returns `r` (a message or one of the repo's errors) iff either the bytes decode to
    a list `l` (followed by anything) and `r` is what `fromList` makes of `l`, or they decode to a
    value that is not a list and `r` is the error "invalid message: not a list".
    (`C14_rejects_nonlist` alone does not say `r = fromList fmt l`.) -/
theorem C14_deserialize_ok_iff (fmt : Format) (b : Bytes) (r : Res Msg) :
    Wire.deserialize fmt b = .ok r ↔
      (∃ l rest, Wire.decode fmt b = .ok (.list l, rest) ∧ r = fromList fmt l)
      ∨ (∃ v rest, Wire.decode fmt b = .ok (v, rest) ∧ (∀ l, v ≠ .list l) ∧ r = .error .notAList) := by
  unfold Wire.deserialize
  rw [C14_decodeList_everywhere]
  cases hd : Wire.decode fmt b with
  | error e => simp
  | ok p =>
    obtain ⟨v, rest⟩ := p
    cases v <;> simp [eq_comm]

/-- The codec's verdict is passed on unchanged: `Deserialize` fails with the codec's error exactly
    when decoding the first value fails. -/
theorem C14_deserialize_error_iff (fmt : Format) (b : Bytes) (e : DErr) :
    Wire.deserialize fmt b = .error e ↔ Wire.decode fmt b = .error e := by
  unfold Wire.deserialize
  rw [C14_decodeList_everywhere]
  cases hd : Wire.decode fmt b with
  | error e' => simp
  | ok p =>
    obtain ⟨v, rest⟩ := p
    cases v <;> simp

/-- **A message comes out exactly when** the bytes decode to a list that `fromList` accepts, and it
    is that message. -/
theorem C14_deserialize_msg_iff (fmt : Format) (b : Bytes) (m : Msg) :
    Wire.deserialize fmt b = .ok (.ok m) ↔
      ∃ l rest, Wire.decode fmt b = .ok (.list l, rest) ∧ fromList fmt l = .ok m := by
  rw [C14_deserialize_ok_iff]
  constructor
  · rintro (⟨l, rest, hd, hr⟩ | ⟨_, _, _, _, hr⟩)
    · exact ⟨l, rest, hd, hr.symm⟩
    · cases hr
  · rintro ⟨l, rest, hd, hr⟩
    exact Or.inl ⟨l, rest, hd, hr.symm⟩

/-- **Deserialising arbitrary bytes never panics**: whatever the codec hands over, the repo's code
    answers with a message or an error. -/
theorem C14_deserialize_no_panic (fmt : Format) (b : Bytes) (r : Res Msg)
    (h : Wire.deserialize fmt b = .ok r) : r.isPanic = false := by
  rcases (C14_deserialize_ok_iff fmt b r).mp h with ⟨l, _, _, rfl⟩ | ⟨_, _, _, _, rfl⟩
  · exact C14_fromList_no_panic fmt l
  · rfl

/-- **An error for anything that is not a list** (what the fix of C14-F2 established): a message
    comes out only if the bytes decode to a list — a top-level map, scalar or nil is answered with
    "invalid message: not a list".  Depends on the regenerated fact that every `Deserialize` decodes
    through `decodeList`. -/
theorem C14_rejects_nonlist (fmt : Format) (b : Bytes) (m : Msg)
    (h : Wire.deserialize fmt b = .ok (.ok m)) : ∃ l rest, Wire.decode fmt b = .ok (.list l, rest) :=
  let ⟨l, rest, hd, _⟩ := (C14_deserialize_msg_iff fmt b m).mp h
  ⟨l, rest, hd⟩

/-- The three statements are about something: `[33,1,2]` in JSON is a SUBSCRIBED, `{"a":1}` is
    "not a list", `[` is a codec error. -/
example :
    (∃ m, Wire.deserialize .json [0x5b, 0x33, 0x33, 0x2c, 0x31, 0x2c, 0x32, 0x5d] = .ok (.ok m))
    ∧ Wire.deserialize .json [0x7b, 0x22, 0x61, 0x22, 0x3a, 0x31, 0x7d] = .ok (.error .notAList)
    ∧ Wire.deserialize .json [0x5b] = .error .malformed := by
  refine ⟨?_, by rfl, by rfl⟩
  have : (match Wire.deserialize .json [0x5b, 0x33, 0x33, 0x2c, 0x31, 0x2c, 0x32, 0x5d] with
    | .ok (.ok _) => true | _ => false) = true := by decide +kernel
  generalize Wire.deserialize .json [0x5b, 0x33, 0x33, 0x2c, 0x31, 0x2c, 0x32, 0x5d] = x at this ⊢
  cases x with
  | error _ => cases this
  | ok r =>
    cases r with
    | ok m => exact ⟨m, rfl⟩
    | error _ => cases this
    | panic _ => cases this

/-- **Only a list starting with a known message code becomes a message — literally.**  Whenever
    `Deserialize` yields a message, the bytes decode to a list whose first item is the integer
    `e.code` itself for one of the 24 rows `e` of the WAMP wire layout, and the message is of that
    row's type (struct name, field names, types, omitempty flags: `viewOf m.schema = e`).
    `headType` converts the head with `wrapI64`, so at `CVal` level the integer 2^64+1
    would pass for HELLO; the decoders never produce such an integer
    (`Json.dec_list_head_range`, `CBOR.dec_list_head_range`: an integer head is within
    int64 ∪ uint64; MessagePack's check does not wrap), hence no wrap-around can occur. -/
theorem C14_accept_known_code (fmt : Format) (b : Bytes) (m : Msg)
    (h : Wire.deserialize fmt b = .ok (.ok m)) :
    ∃ e ∈ wireLayout, viewOf m.schema = e ∧
      ∃ items rest, Wire.decode fmt b = .ok (.list (.int e.code :: items), rest) := by
  obtain ⟨l, rest, hd, hf⟩ := (C14_deserialize_msg_iff fmt b m).mp h
  cases l with
  | nil => simp [fromList] at hf
  | cons v0 items =>
    obtain ⟨t, m0, fs, hh, hn, _, rfl⟩ := fromList_ok hf
    obtain ⟨hmem, ht⟩ := newMessage_known hn
    obtain ⟨_, _, _, _, hview⟩ := structs_facts _ hmem
    have hv0 : v0 = .int (m0.schema.code : Int) := by
      apply headType_ok_int (by rw [← ht]; exact hh)
      intro hfmt i hi
      subst hi
      cases fmt with
      | msgpack => exact absurd rfl hfmt
      | json => exact (Json.dec_list_head_range (l := items) (rest := rest) hd).2
      | cbor => exact (CBOR.dec_list_head_range (l := items) (rest := rest) hd).2
    exact ⟨viewOf m0.schema, hview, rfl, items, rest, by rw [hd, hv0]; rfl⟩

/-- The hypothesis of `C14_accept_known_code` is met by the MessagePack bytes `93 21 01 02`
    (SUBSCRIBED [33, 1, 2]). -/
example : (match Wire.deserialize .msgpack [0x93, 0x21, 0x01, 0x02] with
    | .ok (.ok m) => m.schema.name == "Subscribed" | _ => false) = true := by decide +kernel

/-! `Json.encO` / `Json.decO` (Nexus/Codec/JsonFloat.lean) extend the JSON fragment by floats, through
an oracle `orc : Json.FloatOrc` for Go's decimal printing and parsing, and by `[]byte` (base64,
Nexus/Codec/Base64.lean).  `orc.Faithful` is what the real `strconv` / ugorji functions are
assumed to satisfy; the codec family evaluates it on every float it generates (driver request
`jorc`) and compares the real serializer with the model under the sampled oracle (`jenc`, `jdec`).
`Json.toyOrc_faithful` shows the hypothesis is consistent. -/

/-- **JSON round trip of values containing floats** (no binaries), under the oracle hypotheses:
    every value of `okFB` — the fragment `okB` plus every FINITE float that is not an integer with
    2^52 ≤ |f| < 2^64 — comes back as itself. -/
theorem C14_json_roundtrip_floats (orc : Json.FloatOrc) (hF : orc.Faithful) (v : CVal) (rest : Bytes)
    (hv : Json.okFB v = true) (hn : Json.noBinB v = true) (hr : Json.NumSafe rest) :
    Json.decO orc (Json.encO orc v ++ rest) = .ok (v, rest) := by
  rw [Json.decO_encO orc hF v rest hv hr, Json.binView_noBin v hn]

/-- The hypotheses of `C14_json_roundtrip_floats` are satisfiable by a non-trivial value:
    PUBLISH-like list with 0.5, -0.0, 1e300-ish bit patterns and 2^64 (an integer token again, but
    parsed as a float). -/
example : Json.toyOrc.Faithful ∧
    Json.okFB (.list [.int 16, .float 0x3FE0000000000000, .float 0x8000000000000000,
      .dict [([0x6b], .float 0x7E37E43C8800759C)], .float 0x43F0000000000000]) = true
    ∧ Json.noBinB (.list [.int 16, .float 0x3FE0000000000000, .float 0x8000000000000000,
      .dict [([0x6b], .float 0x7E37E43C8800759C)], .float 0x43F0000000000000]) = true
    ∧ Json.NumSafe [] :=
  ⟨Json.toyOrc_faithful, by decide, by decide, Json.numSafe_nil⟩

/-- Full-strength statement the property text suggests ("floats"): every float survives JSON. -/
def C14_json_roundtrip_anyfloat : Prop :=
  ∀ (orc : Json.FloatOrc), orc.Faithful → ∀ (b : UInt64),
    Json.decO orc (Json.encO orc (.float b)) = .ok (.float b, [])

/-- NaN and ±Inf are written `null` (ugorji json.go:203-207) and come back as nil — for any
    oracle.  Replayed: `SerializeDataItem(math.NaN())` = `null`. -/
theorem C14_json_float_nonfinite_null (orc : Json.FloatOrc) (b : UInt64) (hb : Json.isFinite b = false)
    (rest : Bytes) :
    Json.encO orc (.float b) = [0x6e, 0x75, 0x6c, 0x6c]
    ∧ Json.decO orc (Json.encO orc (.float b) ++ rest) = .ok (.null, rest) :=
  Json.decO_encO_nonFinite orc b hb rest

/-- An integral float with 2^52 ≤ |f| < 2^64 is printed without a decimal point and comes back
    as an INTEGER, or — negative beyond -2^63 — is refused by the decoder (replayed:
    2^53 → `9007199254740992` → uint64; -1e19 → `-10000000000000000000` → "strconv.ParseInt:
    invalid syntax"; known finding "JSON float in (-2^64,-2^63) does not round-trip"). -/
theorem C14_json_float_integral_lossy (orc : Json.FloatOrc) (hF : orc.Faithful) (b : UInt64)
    (hb : Json.isFinite b = true) (hl : Json.lossyIntegral b = true) (rest : Bytes) (hr : Json.NumSafe rest) :
    (∃ i, Json.decO orc (Json.encO orc (.float b) ++ rest) = .ok (.int i, rest))
      ∨ (∃ e, Json.decO orc (Json.encO orc (.float b) ++ rest) = .error e) :=
  Json.decO_encO_lossyIntegral orc hF b hb hl rest hr

/-- **Exactly which floats survive JSON** (under the oracle hypotheses): the finite ones that
    are not integers of magnitude in [2^52, 2^64). -/
theorem C14_json_float_roundtrip_iff (orc : Json.FloatOrc) (hF : orc.Faithful) (b : UInt64) :
    Json.decO orc (Json.encO orc (.float b)) = .ok (.float b, [])
      ↔ (Json.isFinite b = true ∧ Json.lossyIntegral b = false) := by
  constructor
  · intro h
    by_cases hb : Json.isFinite b = true
    · refine ⟨hb, ?_⟩
      by_cases hl : Json.lossyIntegral b = true
      · exfalso
        have := Json.decO_encO_lossyIntegral orc hF b hb hl [] Json.numSafe_nil
        simp only [List.append_nil] at this
        rcases this with ⟨i, hi⟩ | ⟨e, he⟩
        · rw [hi] at h; cases h
        · rw [he] at h; cases h
      · simpa using hl
    · exfalso
      have := (Json.decO_encO_nonFinite orc b (by simpa using hb) []).2
      simp only [List.append_nil] at this
      rw [this] at h; cases h
  · intro ⟨hb, hl⟩
    have := Json.decO_encO orc hF (.float b) [] (by simp [Json.okFB, hb, hl]) Json.numSafe_nil
    simpa [Json.binView] using this

/-- The full statement is false: NaN (0x7FF8000000000000) comes back as nil, 2^53
    (0x4340000000000000) as an integer.  Both replayed on the implementation. -/
theorem C14_json_roundtrip_floats_full_fails : ¬ C14_json_roundtrip_anyfloat := by
  intro h
  have h1 := (C14_json_float_roundtrip_iff Json.toyOrc Json.toyOrc_faithful 0x7FF8000000000000).mp
    (h _ Json.toyOrc_faithful _)
  exact absurd h1.1 (by decide)

/-- The second witness: an integral float at 2^53. -/
theorem C14_json_roundtrip_floats_full_fails_integral :
    ¬ (Json.decO Json.toyOrc (Json.encO Json.toyOrc (.float 0x4340000000000000)) = .ok (.float 0x4340000000000000, [])) := by
  intro h
  have h1 := (C14_json_float_roundtrip_iff Json.toyOrc Json.toyOrc_faithful 0x4340000000000000).mp h
  exact absurd h1.2 (by decide)

/-- **What a value containing binaries looks like after a JSON round trip**: `.bin b ↦ .str
    (base64 b)` (`Json.binView`), everything else unchanged.  A `[]byte` does not survive JSON as a
    `[]byte`; MessagePack and CBOR keep it (`C14_msgpack_roundtrip`, `C14_cbor_roundtrip`). -/
theorem C14_json_bin_view (orc : Json.FloatOrc) (hF : orc.Faithful) (v : CVal) (rest : Bytes)
    (hv : Json.okFB v = true) (hr : Json.NumSafe rest) :
    Json.decO orc (Json.encO orc v ++ rest) = .ok (Json.binView v, rest) :=
  Json.decO_encO orc hF v rest hv hr

example : Json.okFB (.list [.bin [1, 2, 3], .dict [([0x6b], .bin [])], .bin [0xfb, 0xff]]) = true
    ∧ Json.binView (.list [.bin [1, 2, 3], .dict [([0x6b], .bin [])], .bin [0xfb, 0xff]])
      = .list [.str [0x41, 0x51, 0x49, 0x44], .dict [([0x6b], .str [])], .str [0x2b, 0x2f, 0x38, 0x3d]] :=
  ⟨by decide, by rfl⟩

/-- Base64 itself round-trips (`encoding/base64.StdEncoding`, padding, non-strict decoder). -/
theorem C14_base64_roundtrip (b : Bytes) : B64.dec (B64.enc b) = some b := B64.dec_enc b

/-- `encO` is `enc` on the fragment `okB`: the oracle-free theorems above are about the same bytes. -/
theorem C14_json_encO_extends (orc : Json.FloatOrc) (v : CVal) (hv : Json.okB v = true) :
    Json.encO orc v = Json.enc v := Json.encO_eq_enc_of_okB orc v hv

/-- **`BinaryData` round trip**: `UnmarshalJSON(MarshalJSON(b)) = b` for every byte string, and
    the wire form is `"\u0000` ++ base64 ++ `"` (the WAMP convention for binaries in JSON). -/
theorem C14_binaryData_roundtrip (b rest : Bytes) :
    Json.unmarshalBD (Json.marshalBD b ++ rest) = .ok b
    ∧ Json.marshalBD b = [0x22, 0x5c, 0x75, 0x30, 0x30, 0x30, 0x30] ++ B64.enc b ++ [0x22] :=
  ⟨Json.unmarshalBD_marshalBD b rest, Json.marshalBD_bytes b⟩

/-- **`BinaryData.UnmarshalJSON` never panics**, on any input (the code after the fix of finding
    C14-F3, which was a panic here). -/
theorem C14_unmarshalBD_no_panic (s : Bytes) : (Json.unmarshalBD s).isPanic = false := by
  -- every branch of `unmarshalBD` ends in a constructor other than `panic`
  unfold Json.unmarshalBD
  repeat' split
  all_goals rfl

/-- Regression for C14-F3 (fixed in 80d0460): the pre-fix condition `s[0] != 0` panics exactly
    on the inputs that decode to the empty string, e.g. `""`; the present code answers an error
    there and agrees with the old one everywhere else. -/
theorem C14_unmarshalBD_prefix_regression :
    (∀ v, (Json.unmarshalBDPre v).isPanic = true ↔ Json.decStringTyped v = .ok [])
    ∧ (Json.unmarshalBDPre [0x22, 0x22]).isPanic = true ∧ Json.unmarshalBD [0x22, 0x22] = .error
    ∧ (∀ v, (Json.unmarshalBDPre v).isPanic = false → Json.unmarshalBD v = Json.unmarshalBDPre v) :=
  ⟨Json.unmarshalBDPre_panics_iff, Json.unmarshalBDPre_witness.1, Json.unmarshalBDPre_witness.2.2.2.1,
    Json.unmarshalBD_eq_pre⟩

/-- `msgToList` of an EVENT with nil Arguments and a non-empty ArgumentsKw succeeds and keeps all six
    positions. -/
example :
    let ev : Msg := { schema := (Gen.structs.filter (·.code == 36)).head!,
                      fields := [.int 1, .int 2, .dict [], .null, .dict [([97], .int 1)]] }
    msgToList ev = .ok [.int 36, .int 1, .int 2, .dict [], .null, .dict [([97], .int 1)]] := by
  rfl

example :
    let ev : Msg := { schema := (Gen.structs.filter (·.code == 36)).head!,
                      fields := [.int 1, .int 2, .null, .list [], .dict []] }
    msgToList ev = .ok [.int 36, .int 1, .int 2, .null] := by
  rfl

end Nexus.C14
