/-
  C15 — Transports frame messages faithfully and are interchangeable.

  "Over rawsocket and websocket, every message handed to a peer either arrives at the
   other side intact and in order or is dropped as a whole (too large for the limit the
   receiver announced, or unserialisable) without corrupting the following messages; the
   rawsocket handshake agrees on serializer and length limits or fails cleanly, frames
   above the announced limit or of reserved type end that connection only, and PING is
   answered by PONG with the same payload.  The router's observable behaviour for a
   scenario is the same whether a session is attached in-process, via rawsocket or via
   websocket and whichever serializer it uses, up to numeric representation."

  This file covers the framing / handshake sentences for the rawsocket transport (the
  websocket peer has no framing logic of its own: message boundaries are gorilla's; the
  family `frames` checks it behaviourally).  The last sentence (transport transparency of
  the router) is the transport-replay family over `harness/tpeers`.

  All statements are over the generated definitions `Nexus.Gen.*` (constants, the four pure
  functions, every condition / case table of sendHandler, recvHandler, serverHandshake,
  clientHandshake) through the model `Nexus.Frame.*`.  No size bounds anywhere.

  clause of the property                       theorem(s)
  -------------------------------------------  ------------------------------------------------
  length field encodes/decodes                 len_codec, len_codec_sharp (2^24 wraps to 0),
                                               length_in_range (any 3 bytes decode into [0, 2^24))
  length codes                                 byteToLength_pow, fitRecvLimit_least,
                                               announced_limit_covers
  handshake agrees ... or fails cleanly        handshake_agree (server, all 4-byte requests),
                                               client_handshake (client, all replies),
                                               handshake_compose, handshake_compose_any,
                                               handshake_refusal_clean, handshake_truncated,
                                               handshake_closes_iff_no_peer
  dropped as a whole (too large/unserialisable) sender_drops_iff, frame_shape
  different payloads give different frames     frame_injective
  intact, in order, later ones unaffected      stream, stream_payloads, stream_then
  reader is a function of the concatenation    chunking, decode_append
  deserialisation is a parameter               deserializer_is_parameter (`Nexus.Frame.run_map`)
  above the limit / reserved type ends it      oversize_or_reserved, closed_is_final
  never a nil message                          never_nil, delivered_are_deserialised
  PING -> PONG, same payload                   ping, ping_one_write, ping_truncated, pong_ignored
  frames of the two writers never interleave   write_calls_ordered_per_goroutine,
                                               sender_alone_never_interleaves, locked_writers_ok,
                                               no_interleaving, no_interleaving_full_holds
  ... because each frame is one Write call      frame_shape, ping_one_write; the two-call shape the
                                               code had before does corrupt: split_writes_corrupt
  queued before Close => written before exit   drain_writes_all, drain_delivers
                                               (without draining: no_drain_can_lose)

  the two directions of a connected pair       connected_limits, connected_streams,
                                               connected_streams_norm
  round trip only up to `norm`                 stream_norm_on, stream_norm; instantiated with the
                                               serializer models of C14 in
                                               `Nexus/Frame/StreamCodec.lean`
                                               (Nexus.C15.stream_codec, connected_streams_codec)
  truncated frames                             frame_truncated, msg_truncated, header_truncated,
                                               sender_frame_cut
  end of stream as an input                    runIn_bytes, eof_after_any_prefix, eof_reason,
                                               eof_clean, eof_clean_stream, msg_truncated_eof,
                                               ping_truncated_eof, pong_truncated_eof,
                                               header_truncated_eof, eof_is_final,
                                               eof_action_by_read, eof_in_header_sender_drains,
                                               eof_in_body_nothing_guaranteed
  any inbound mix of MSG/PING/PONG             mixed_frames, bad_header_after_units,
                                               mixed_frames_observed (the messages handed over,
                                               the reader's PONG writes)
  PONGs and the two receive limits             ping_answer_wellFormed, pong_over_peer_limit_closes,
                                               ping_answer_closes_asker,
                                               asymmetric_ping_pong_closes,
                                               locked_writers_ok_two_limits,
                                               no_interleaving_two_limits, no_interleaving_min,
                                               duplex_no_interleaving,
                                               no_interleaving_answerer_limit (false:
                                               no_interleaving_answerer_limit_fails)

  About the PONG hypothesis of `locked_writers_ok` / `no_interleaving`.  Their
  hypothesis `∀ q ∈ pongs, q.wellFormed rl` speaks about `rl`, the receive limit of the side that
  reads the PONGs (call it A).  It is not discharged by `ping_one_write`: that theorem (and
  `ping_answer_wellFormed`, which says it in terms of `Pong.wellFormed`) is about the side that
  answers the PING (B), and its `hle : p.length ≤ rl` is B's receive limit.  The answering code
  caps a PING by B's recvLimit only (rawsocketpeer.go:288-293) and does not compare the PONG
  with B's sendLimit (= A's recvLimit; rawsocketpeer.go:311-327, unlike `sendHandler` :238).
  So what is guaranteed is `q.wellFormed rlB`; `q.wellFormed rlA` holds in addition exactly
  when the peer A sent no PING longer than the limit A itself announced — an assumption about
  the peer, made explicit in `no_interleaving_two_limits` / `duplex_no_interleaving`.  Without it
  the statement is false (`no_interleaving_answerer_limit_fails`,
  `asymmetric_ping_pong_closes`): A closes on the PONG and loses what B sent behind it.
  nexus itself never sends a PING, so A is then not a nexus peer.

  Further theorems the property rests on stand outside this file: Nexus/Frame/StreamCodec.lean (namespace
  `Nexus.C15`: `wireSer_some_iff`, `wire_codec_norm`, `stream_codec`, `connected_streams_codec` — the stream
  theorems with the serializers of C14 put in), Nexus/Frame/StreamLemmas.lean (`Frame.run_map`) and
  Nexus/Frame/WritersLemmas.lean (`Frame.afterCancel_drains`: the sender after cancellation, when it drains,
  performs every queued message's write calls in order).
-/
import Nexus.Frame.HandshakeLemmas
import Nexus.Frame.StreamLemmas
import Nexus.Frame.WritersLemmas
import Nexus.Frame.InboundStream

namespace Nexus.C15
open Nexus Nexus.Frame

/-- `bytesToInt (intToBytes n) = n` for every n below 2^24 (the generated functions). -/
theorem len_codec (n : Nat) (h : n < 2 ^ 24) :
    Gen.bytesToInt (Gen.intToBytes (Int.ofNat n)) = Int.ofNat n :=
  bytesToInt_intToBytes n h

example : (16777215 : Nat) < 2 ^ 24 := by decide

/-- The bound is sharp: a length of exactly 2^24 is written as 0 (this is why the sender has
    to drop such a message, `sender_drops_iff`). -/
theorem len_codec_sharp : Gen.bytesToInt (Gen.intToBytes (Int.ofNat (2 ^ 24))) = 0 :=
  bytesToInt_intToBytes_beNat (2 ^ 24)

/-- Whatever three bytes arrive, the decoded length is in [0, 2^24). -/
theorem length_in_range (a b c : UInt8) :
    0 ≤ Gen.bytesToInt [a, b, c] ∧ Gen.bytesToInt [a, b, c] < 2 ^ 24 := by
  have ha := a.toNat_lt; have hb := b.toNat_lt; have hc := c.toNat_lt
  rw [bytesToInt_beNat]
  simp only [Int.ofNat_eq_natCast, Codec.beNat, List.foldl]
  omega

/-- A length code b in 0..15 stands for 2^(b+9). -/
theorem byteToLength_pow (b : UInt8) (h : b.toNat ≤ 15) :
    Gen.byteToLength b = ((2 ^ (b.toNat + 9) : Nat) : Int) :=
  byteToLength_small b h

example : Gen.byteToLength 0 = 512 ∧ Gen.byteToLength 15 = 16777216 := by
  constructor <;> rw [byteToLength_pow _ (by decide)] <;> rfl

/-- For every int r: `fitRecvLimit r` is 15 when r ≤ 0; otherwise it is the least code b in
    0..14 with 2^(b+9) ≥ r, and 15 when there is none. -/
theorem fitRecvLimit_least (r : Int) :
    (r ≤ 0 → Gen.fitRecvLimit r = 15) ∧
    (0 < r → (Gen.fitRecvLimit r).toNat ≤ 15 ∧
      ((Gen.fitRecvLimit r).toNat < 15 → r ≤ ((2 ^ ((Gen.fitRecvLimit r).toNat + 9) : Nat) : Int)) ∧
      ∀ j, j < (Gen.fitRecvLimit r).toNat → ((2 ^ (j + 9) : Nat) : Int) < r) :=
  fit_spec r

example : (513 : Int) > 0 := by decide

/-- The limit a side announces covers the limit it was configured with, as far as the
    protocol can say it (2^24). -/
theorem announced_limit_covers (r : Int) (h0 : 0 < r) (h : r ≤ 2 ^ 24) :
    r ≤ Gen.byteToLength (Gen.fitRecvLimit r) := by
  obtain ⟨hle, hlt, _⟩ := (fit_spec r).2 h0
  rw [byteToLength_small _ hle]
  by_cases h15 : (Gen.fitRecvLimit r).toNat < 15
  · exact hlt h15
  · have : (Gen.fitRecvLimit r).toNat = 15 := by omega
    rw [this]
    have : ((2 ^ (15 + 9) : Nat) : Int) = 2 ^ 24 := by decide
    omega

example : (0 : Int) < 1000 ∧ (1000 : Int) ≤ 2 ^ 24 := by decide

/-- Server side, for all four request bytes and every configured limit. Exactly one of:
    * bad magic: nothing is written, error;
    * a reserved byte is set: reply 7f 30 00 00 (error code 3), error;
    * serializer nibble 0: nothing is written, error;
    * serializer nibble 4..15: reply 7f 10 00 00 (error code 1), error;
    * serializer nibble 1..3: reply 7f (limit code << 4 | serializer) 00 00 and a peer with that
      serializer, sendLimit = 2^(9 + the client's code), recvLimit = 2^(9 + its own code). -/
theorem handshake_agree (b0 b1 b2 b3 : UInt8) (r : Int) :
    (b0 ≠ 0x7f → serverHandshake b0 b1 b2 b3 r = ⟨none, .error "not a rawsocket handshake"⟩) ∧
    (b0 = 0x7f → (b2 ≠ 0 ∨ b3 ≠ 0) → serverHandshake b0 b1 b2 b3 r =
        ⟨some [0x7f, 0x30, 0, 0], .error "use of reserved bits (unsupported feature)"⟩) ∧
    (b0 = 0x7f → b2 = 0 → b3 = 0 → b1.toNat % 16 = 0 → serverHandshake b0 b1 b2 b3 r =
        ⟨none, .error "illegal serializer value"⟩) ∧
    (b0 = 0x7f → b2 = 0 → b3 = 0 → 4 ≤ b1.toNat % 16 → serverHandshake b0 b1 b2 b3 r =
        ⟨some [0x7f, 0x10, 0, 0], .error "serializer unsupported"⟩) ∧
    (b0 = 0x7f → b2 = 0 → b3 = 0 → 1 ≤ b1.toNat % 16 → b1.toNat % 16 ≤ 3 →
      ∃ y : UInt8, y.toNat = (Gen.fitRecvLimit r).toNat * 16 + b1.toNat % 16 ∧
        serverHandshake b0 b1 b2 b3 r =
          ⟨some [0x7f, y, 0, 0],
           .ok ⟨some (serName (b1.toNat % 16)), ((2 ^ (b1.toNat / 16 + 9) : Nat) : Int),
                ((2 ^ ((Gen.fitRecvLimit r).toNat + 9) : Nat) : Int)⟩⟩) := by
  rw [serverHandshake_eq]
  have hx := and15_toNat b1
  have hf := fit_le_15 r
  refine ⟨fun h => if_pos h, fun h0 h => ?_, fun h0 h2 h3 hs => ?_, fun h0 h2 h3 hs => ?_,
    fun h0 h2 h3 h1 h3' => ⟨Go.shlU8 (Gen.fitRecvLimit r) 4 ||| (b1 &&& 15), ?_, ?_⟩⟩
  · rw [if_neg (· h0), if_pos h]
  · rw [if_neg (· h0), if_neg (·.elim (· h2) (· h3)), if_pos hs]
  · rw [if_neg (· h0), if_neg (·.elim (· h2) (· h3)), if_neg (by omega), if_pos hs]
  · rw [shlU8_4_or_toNat _ _ (by omega) (by omega), hx]
  · rw [if_neg (· h0), if_neg (·.elim (· h2) (· h3)), if_neg (by omega), if_neg (by omega)]

example : serverHandshake 0x7f 0x52 0 0 1000 =
    ⟨some [0x7f, 0x12, 0, 0], .ok ⟨some "MessagePackSerializer", 16384, 1024⟩⟩ := by decide
example : serverHandshake 0x7f 0x52 0 1 1000 =
    ⟨some [0x7f, 0x30, 0, 0], .error "use of reserved bits (unsupported feature)"⟩ := by decide

/-- Client side, for all reply bytes (bytes 2 and 3 of the reply are not looked at). -/
theorem client_handshake (p : UInt8) (rc : Int) (r0 r1 r2 r3 : UInt8) :
    (r0 ≠ 0x7f → clientHandshake p rc r0 r1 r2 r3 = .error "not a rawsocket handshake") ∧
    (r0 = 0x7f → r1.toNat % 16 = 0 → ∃ e, clientHandshake p rc r0 r1 r2 r3 = .error e) ∧
    (r0 = 0x7f → r1 = 0x10 → clientHandshake p rc r0 r1 r2 r3 = .error "serializer unsupported") ∧
    (r0 = 0x7f → r1 = 0x30 → clientHandshake p rc r0 r1 r2 r3 =
        .error "use of reserved bits (unsupported feature)") ∧
    (r0 = 0x7f → r1.toNat % 16 ≠ 0 → r1.toNat % 16 ≠ p.toNat →
        clientHandshake p rc r0 r1 r2 r3 = .error "serializer mismatch") ∧
    (r0 = 0x7f → r1.toNat % 16 ≠ 0 → r1.toNat % 16 = p.toNat →
        clientHandshake p rc r0 r1 r2 r3 =
          .ok ⟨Gen.cliSerializer p, ((2 ^ (r1.toNat / 16 + 9) : Nat) : Int),
               ((2 ^ ((Gen.fitRecvLimit rc).toNat + 9) : Nat) : Int)⟩) := by
  rw [clientHandshake_eq]
  refine ⟨fun h => if_pos h, fun h0 hs => ⟨_, by rw [if_neg (· h0), if_pos hs]⟩, fun h0 h1 => ?_,
    fun h0 h1 => ?_, fun h0 hs hp => ?_, fun h0 hs hp => ?_⟩
  · subst h1; rw [if_neg (· h0), if_pos (by decide)]; rfl
  · subst h1; rw [if_neg (· h0), if_pos (by decide)]; rfl
  · rw [if_neg (· h0), if_neg hs, if_pos hp]
  · rw [if_neg (· h0), if_neg hs, if_neg (· hp)]

example : clientHandshake 3 0 0x7f 0x23 0 0 = .ok ⟨some "CBORSerializer", 2048, 16777216⟩ := by decide

/-- A client speaking protocol 1..3 dials a server: both succeed, with the same serializer, and
    each side's send limit is exactly the receive limit the other side announced — for every
    pair of limit configurations. -/
theorem handshake_compose (p : UInt8) (h1 : 1 ≤ p.toNat) (h3 : p.toNat ≤ 3) (rc rs : Int) :
    ∃ y : UInt8, y.toNat = (Gen.fitRecvLimit rs).toNat * 16 + p.toNat ∧
      connect p rc rs =
        (.ok ⟨some (serName p.toNat), ((2 ^ ((Gen.fitRecvLimit rs).toNat + 9) : Nat) : Int),
              ((2 ^ ((Gen.fitRecvLimit rc).toNat + 9) : Nat) : Int)⟩,
         ⟨some [0x7f, y, 0, 0],
          .ok ⟨some (serName p.toNat), ((2 ^ ((Gen.fitRecvLimit rc).toNat + 9) : Nat) : Int),
               ((2 ^ ((Gen.fitRecvLimit rs).toNat + 9) : Nat) : Int)⟩⟩) := by
  have hfc := fit_le_15 rc
  have hfs := fit_le_15 rs
  have hb1 := requestByte_toNat p rc (by omega)
  rw [connect_eq]
  generalize Go.shlU8 (Gen.fitRecvLimit rc &&& 15) 4 ||| p = b1 at hb1
  obtain ⟨y, hy, hsrv⟩ := (handshake_agree 0x7f b1 0 0 rs).2.2.2.2 rfl rfl rfl (by omega) (by omega)
  refine ⟨y, by omega, ?_⟩
  rw [hsrv]
  show (clientHandshake p rc 0x7f y 0 0, _) = _
  rw [(client_handshake p rc 0x7f y 0 0).2.2.2.2.2 rfl (by omega) (by omega), cliSerializer_name p h1 h3,
    show b1.toNat % 16 = p.toNat by omega, show b1.toNat / 16 = (Gen.fitRecvLimit rc).toNat by omega,
    show y.toNat / 16 = (Gen.fitRecvLimit rs).toNat by omega]

example : connect 1 600 0 =
    (.ok ⟨some "JSONSerializer", 16777216, 1024⟩,
     ⟨some [0x7f, 0xf1, 0, 0], .ok ⟨some "JSONSerializer", 1024, 16777216⟩⟩) := by decide

/-- Any protocol byte 0..15: client and server succeed together (agreeing) or both fail. -/
theorem handshake_compose_any (p : UInt8) (hp : p.toNat ≤ 15) (rc rs : Int) :
    (∃ c s rep, connect p rc rs = (.ok c, ⟨some rep, .ok s⟩) ∧ c.serializer = s.serializer ∧
        c.sendLimit = s.recvLimit ∧ s.sendLimit = c.recvLimit) ∨
    (∃ e e' rep, connect p rc rs = (.error e, ⟨rep, .error e'⟩)) := by
  by_cases h13 : 1 ≤ p.toNat ∧ p.toNat ≤ 3
  · obtain ⟨y, _, h⟩ := handshake_compose p h13.1 h13.2 rc rs
    exact .inl ⟨_, _, _, h, rfl, rfl, rfl⟩
  · have hb1 := requestByte_toNat p rc hp
    refine .inr ?_
    rw [connect_eq]
    generalize Go.shlU8 (Gen.fitRecvLimit rc &&& 15) 4 ||| p = b1 at hb1
    obtain ⟨_, _, c3, c4, _⟩ := handshake_agree 0x7f b1 0 0 rs
    by_cases h0 : p.toNat = 0
    · rw [c3 rfl rfl rfl (by omega)]
      exact ⟨_, _, _, rfl⟩
    · rw [c4 rfl rfl rfl (by omega)]
      exact ⟨_, _, _, Prod.ext ((client_handshake p rc 0x7f 0x10 0 0).2.2.1 rfl rfl) rfl⟩

example : connect 7 0 0 =
    (.error "serializer unsupported", ⟨some [0x7f, 0x10, 0, 0], .error "serializer unsupported"⟩) := by
  decide

/-- Whatever request the server refuses, a client that reads what the server wrote before it
    closed the connection ends with an error (never with a peer). -/
theorem handshake_refusal_clean (b0 b1 b2 b3 : UInt8) (rs : Int) (p : UInt8) (rc : Int) (e : String)
    (h : (serverHandshake b0 b1 b2 b3 rs).result = .error e) :
    ∃ e', clientHandshakeReply p rc ((serverHandshake b0 b1 b2 b3 rs).reply.getD []) = .error e' := by
  have herr : ∀ r1 : UInt8, r1.toNat % 16 = 0 → ∃ e', clientHandshake p rc 0x7f r1 0 0 = .error e' :=
    fun r1 => (client_handshake p rc 0x7f r1 0 0).2.1 rfl
  revert h
  rw [serverHandshake_eq]
  repeat' split
  · exact fun _ => ⟨_, rfl⟩
  · exact fun _ => herr 0x30 (by decide)
  · exact fun _ => ⟨_, rfl⟩
  · exact fun _ => herr 0x10 (by decide)
  · exact fun h => nomatch h

example : (serverHandshake 0x00 0x11 0 0 0).result = .error "not a rawsocket handshake" := by decide

/-- From a successful `connect` alone (any protocol byte 0..255, any pair of configured
    limits): the two peers that come out have the same serializer, and each one's send limit is
    the receive limit of the other.  (`handshake_compose_any` needs `p ≤ 15`; a client with a
    larger protocol byte never succeeds, because the reply's serializer nibble cannot equal it.) -/
theorem connected_limits (p : UInt8) (rc rs : Int) (c s : PeerCfg) (rep : List UInt8)
    (h : connect p rc rs = (.ok c, ⟨some rep, .ok s⟩)) :
    c.serializer = s.serializer ∧ c.sendLimit = s.recvLimit ∧ s.sendLimit = c.recvLimit := by
  have hp : p.toNat ≤ 15 :=
    clientHandshakeReply_ok_proto p rc _ c (congrArg Prod.fst ((connect_eq p rc rs).symm.trans h))
  rcases handshake_compose_any p hp rc rs with ⟨c', s', rep', h', hs, h1, h2⟩ | ⟨e, e', rep', h'⟩
  · cases h.symm.trans h'
    exact ⟨hs, h1, h2⟩
  · cases h.symm.trans h'

/-- non-vacuity: asymmetric limits (client 600 -> announces 1024; server 0 -> announces 2^24) -/
example : connect 2 600 0 =
    (.ok ⟨some "MessagePackSerializer", 16777216, 1024⟩,
     ⟨some [0x7f, 0xf2, 0, 0], .ok ⟨some "MessagePackSerializer", 1024, 16777216⟩⟩) := by decide

/-- End of stream during the handshake.  A client that sends fewer than four
    bytes and stops (server side), or a server that answers with fewer than four bytes and stops
    (client side): no byte is written in reply, no peer is created (so no reader / sender
    goroutine is started), the error is `io.ReadFull`'s — "EOF" when nothing came, "unexpected
    EOF" after 1..3 bytes —, and the connection is closed by `AcceptRawSocket` /
    `ConnectRawSocketPeer`. -/
theorem handshake_truncated (rs : Int) (p : UInt8) (rc : Int) (bs : List UInt8) (h : bs.length < 4) :
    acceptRawSocket rs bs = ⟨none, .error (if bs = [] then "EOF" else "unexpected EOF"), true⟩ ∧
      connectRawSocketPeer p rc bs = (.error (if bs = [] then "EOF" else "unexpected EOF"), true) := by
  match bs, h with
  | [], _ | [_], _ | [_, _], _ | [_, _, _], _ => exact ⟨rfl, rfl⟩
  | _ :: _ :: _ :: _ :: _, h => simp at h; omega

example : acceptRawSocket 512 [0x7f, 0xf1] = ⟨none, .error "unexpected EOF", true⟩ := rfl

/-- ... and in general "fails cleanly" includes the connection: on either side it is closed exactly
    when no peer is returned, whatever bytes came and however many. -/
theorem handshake_closes_iff_no_peer (rs : Int) (p : UInt8) (rc : Int) (bs : List UInt8) :
    ((acceptRawSocket rs bs).connClosed = true ↔ ∀ c, (acceptRawSocket rs bs).result ≠ .ok c) ∧
      ((connectRawSocketPeer p rc bs).2 = true ↔ ∀ c, (connectRawSocketPeer p rc bs).1 ≠ .ok c) := by
  have key : ∀ r : HsResult, ((!r.isOk) = true ↔ ∀ c, r ≠ .ok c) := by
    intro r
    cases r <;> simp [HsResult.isOk]
  refine ⟨?_, key _⟩
  match bs with
  | _ :: _ :: _ :: _ :: _ => exact key _
  | [] | [_] | [_, _] | [_, _, _] => simp [acceptRawSocket]

/-- The sender writes a message iff its serialisation is no longer than the limit the peer
    announced and fits the 24-bit length field; otherwise it writes nothing at all. -/
theorem sender_drops_iff (sl : Int) (p : List UInt8) :
    (frame sl p).isSome = true ↔ ((p.length : Int) ≤ sl ∧ p.length ≤ 2 ^ 24 - 1) := by
  rw [← fits_iff]
  cases h : fits sl p
  · rw [frame_none sl p h]; simp
  · obtain ⟨a, b, c, e, _⟩ := frame_some sl p h
    rw [e]; simp

/-- What is written: type byte 0, the length in three big-endian bytes, the payload untouched;
    as one write call. -/
theorem frame_shape (sl : Int) (p : List UInt8) (h : (p.length : Int) ≤ sl) (h24 : p.length ≤ 2 ^ 24 - 1) :
    ∃ a b c : UInt8, frame sl p = some (0 :: a :: b :: c :: p) ∧
      frameWrites sl p = some [0 :: a :: b :: c :: p] ∧
      Gen.bytesToInt [a, b, c] = Int.ofNat p.length := by
  obtain ⟨a, b, c, hw, hlen⟩ := frameWrites_some sl p ((fits_iff sl p).mpr ⟨h, h24⟩)
  exact ⟨a, b, c, by rw [frame, hw]; simp, hw, hlen⟩

example : frame 512 [1, 2, 3] = some [0, 0, 0, 3, 1, 2, 3] := by decide
example : frame 2 [1, 2, 3] = none := by decide

/-- Framing loses nothing: two payloads that are written as the same frame are the same payload
    (so a receiver can never confuse two different serialised messages). -/
theorem frame_injective (sl : Int) (p q w : List UInt8)
    (hp : frame sl p = some w) (hq : frame sl q = some w) : p = q := by
  obtain ⟨_, a, b, c, rfl, _⟩ := frame_eq_some hp
  obtain ⟨_, a', b', c', h, _⟩ := frame_eq_some hq
  simp only [List.cons.injEq] at h
  exact h.2.2.2.2

example : frame 512 [1, 2] = some [0, 0, 0, 2, 1, 2] ∧ frame 512 [1, 3] ≠ some [0, 0, 0, 2, 1, 2] := by decide

/-- `stream` under the codec hypothesis that C14 actually provides: the round trip
    holds only up to a normalisation `norm` (`de (ser m) = some (norm m)`), and only for the
    messages that are sent (`m ∈ msgs`, so side conditions on messages can be carried by the
    list).  The reader then hands over `norm m` for exactly the messages that serialise and fit,
    in order, and ends idle between frames. -/
theorem stream_norm_on {M : Type} (ser : M → Option (List UInt8)) (de : List UInt8 → Option M)
    (norm : M → M) (sl rl : Int) (hsl : sl ≤ rl) (msgs : List M)
    (hrt : ∀ m, m ∈ msgs → ∀ p, ser m = some p → de p = some (norm m)) :
    decodeStream de rl (sendAll ser sl msgs) =
      ((msgs.filter (arrives ser sl)).map (fun m => Ev.deliver (norm m)), .hdr0) := by
  have h := run_frames de rl sl hsl (msgs.filterMap ser)
  rw [List.filterMap_filterMap] at h
  refine h.trans ?_
  clear h
  congr 1
  induction msgs with
  | nil => rfl
  | cons m ms ih =>
    have ih := ih fun x hx => hrt x (List.mem_cons_of_mem _ hx)
    cases hs : ser m with
    | none => simpa [hs, arrives] using ih
    | some p =>
      cases hf : fits sl p with
      | false => simpa [hs, hf, arrives] using ih
      | true => simp [hs, hf, arrives, ih, payloadEvents, hrt m List.mem_cons_self p hs]

/-- The stream theorem.  For every queue of messages, every serializer pair with
    `de (ser m) = some m`, and all limits with sendLimit ≤ recvLimit (as negotiated:
    `handshake_compose`), the reader hands over exactly the messages that serialise and fit, in
    order, and ends idle between frames.  Nothing about the dropped ones reaches it. -/
theorem stream {M : Type} (ser : M → Option (List UInt8)) (de : List UInt8 → Option M)
    (hrt : ∀ m p, ser m = some p → de p = some m)
    (sl rl : Int) (hsl : sl ≤ rl) (msgs : List M) :
    decodeStream de rl (sendAll ser sl msgs) =
      ((msgs.filter (arrives ser sl)).map Ev.deliver, .hdr0) :=
  stream_norm_on ser de id sl rl hsl msgs (fun m _ p h => hrt m p h)

example : decodeStream (M := Nat) (fun p => some p.length) 512
    (sendAll (fun n => if n = 7 then none else some (List.replicate n 0x61)) 4 [3, 9, 7, 2]) =
    ([.deliver 3, .deliver 2], .hdr0) := by
  decide

/-- `stream_norm_on` with the round-trip hypothesis for all messages. `stream` is the case
    `norm = id`. -/
theorem stream_norm {M : Type} (ser : M → Option (List UInt8)) (de : List UInt8 → Option M)
    (norm : M → M) (hrt : ∀ m p, ser m = some p → de p = some (norm m))
    (sl rl : Int) (hsl : sl ≤ rl) (msgs : List M) :
    decodeStream de rl (sendAll ser sl msgs) =
      ((msgs.filter (arrives ser sl)).map (Ev.deliver ∘ norm), .hdr0) :=
  stream_norm_on ser de norm sl rl hsl msgs (fun m _ p h => hrt m p h)

/-- non-vacuity: a serializer/deserializer pair that round-trips only up to `norm` (here: the
    deserializer reports the length rounded down to an even number); 3 fits, 9 is too long for
    the send limit 4, 7 does not serialise, 2 fits. -/
example : ∀ (m : Nat) (p : List UInt8),
    (fun n => if n = 7 then none else some (List.replicate n 0x61)) m = some p →
      (fun q : List UInt8 => some (q.length / 2 * 2)) p = some ((fun n => n / 2 * 2) m) := by
  intro m p h
  by_cases h7 : m = 7
  · simp [h7] at h
  · simp only [if_neg h7, Option.some.injEq] at h
    subst h
    simp
example : decodeStream (M := Nat) (fun q => some (q.length / 2 * 2)) 512
    (sendAll (fun n => if n = 7 then none else some (List.replicate n 0x61)) 4 [3, 9, 7, 2]) =
    ([.deliver 2, .deliver 2], .hdr0) := by
  decide

/-- The two directions of one connection.  Whatever a client (any protocol byte, any
    configured limit) and a server (any configured limit) negotiate: if both end with a peer, then
    in both directions the reader hands over exactly the messages that serialise and fit the
    sender's limit, in order — the premise `sendLimit ≤ recvLimit` of `stream` is not assumed
    but follows from the handshake (`connected_limits`). -/
theorem connected_streams {M : Type} (ser : M → Option (List UInt8)) (de : List UInt8 → Option M)
    (hrt : ∀ m p, ser m = some p → de p = some m)
    (p : UInt8) (rc rs : Int) (c s : PeerCfg) (rep : List UInt8)
    (h : connect p rc rs = (.ok c, ⟨some rep, .ok s⟩)) (up down : List M) :
    decodeStream de s.recvLimit (sendAll ser c.sendLimit up) =
        ((up.filter (arrives ser c.sendLimit)).map Ev.deliver, .hdr0) ∧
      decodeStream de c.recvLimit (sendAll ser s.sendLimit down) =
        ((down.filter (arrives ser s.sendLimit)).map Ev.deliver, .hdr0) := by
  obtain ⟨_, h1, h2⟩ := connected_limits p rc rs c s rep h
  exact ⟨stream ser de hrt _ _ (by omega) up, stream ser de hrt _ _ (by omega) down⟩

/-- The same with a codec that round-trips up to `norm` (what C14 gives). -/
theorem connected_streams_norm {M : Type} (ser : M → Option (List UInt8)) (de : List UInt8 → Option M)
    (norm : M → M) (p : UInt8) (rc rs : Int) (c s : PeerCfg) (rep : List UInt8)
    (h : connect p rc rs = (.ok c, ⟨some rep, .ok s⟩)) (up down : List M)
    (hup : ∀ m, m ∈ up → ∀ q, ser m = some q → de q = some (norm m))
    (hdown : ∀ m, m ∈ down → ∀ q, ser m = some q → de q = some (norm m)) :
    decodeStream de s.recvLimit (sendAll ser c.sendLimit up) =
        ((up.filter (arrives ser c.sendLimit)).map (fun m => Ev.deliver (norm m)), .hdr0) ∧
      decodeStream de c.recvLimit (sendAll ser s.sendLimit down) =
        ((down.filter (arrives ser s.sendLimit)).map (fun m => Ev.deliver (norm m)), .hdr0) := by
  obtain ⟨_, h1, h2⟩ := connected_limits p rc rs c s rep h
  exact ⟨stream_norm_on ser de norm _ _ (by omega) up hup,
    stream_norm_on ser de norm _ _ (by omega) down hdown⟩

/-- non-vacuity of `connected_streams`: client limit 512, server limit 1024, messages = payload
    lengths; 600 bytes pass client -> server (limit 1024) but not server -> client (limit 512). -/
example : connect 1 512 1024 =
    (.ok ⟨some "JSONSerializer", 1024, 512⟩,
     ⟨some [0x7f, 0x11, 0, 0], .ok ⟨some "JSONSerializer", 512, 1024⟩⟩) := by decide
example : arrives (M := Nat) (fun n => some (List.replicate n 0x61)) 1024 600 = true ∧
    arrives (M := Nat) (fun n => some (List.replicate n 0x61)) 512 600 = false := by
  simp only [arrives, fits, List.length_replicate]
  decide

/-- The same for raw payloads, including ones that do not deserialise: those are skipped and the
    stream continues; whatever comes after the frames (`rest`) is read as if the frames had never
    been there. -/
theorem stream_then {M : Type} (de : List UInt8 → Option M) (sl rl : Int) (hsl : sl ≤ rl)
    (payloads : List (List UInt8)) (rest : List UInt8) :
    decodeStream de rl ((payloads.filterMap (frame sl)).flatten ++ rest) =
      (((payloads.filter (fits sl)).flatMap (payloadEvents de)) ++ (decodeStream de rl rest).1,
       (decodeStream de rl rest).2) :=
  run_then de rl (run_frames de rl sl hsl payloads) rest

theorem stream_payloads {M : Type} (de : List UInt8 → Option M) (sl rl : Int) (hsl : sl ≤ rl)
    (payloads : List (List UInt8)) :
    delivered (decodeStream de rl ((payloads.filterMap (frame sl)).flatten)).1 =
        (payloads.filter (fits sl)).filterMap de ∧
      written (decodeStream de rl ((payloads.filterMap (frame sl)).flatten)).1 = [] ∧
      (decodeStream de rl ((payloads.filterMap (frame sl)).flatten)).2 = .hdr0 := by
  rw [decodeStream, run_frames de rl sl hsl payloads]
  exact ⟨delivered_payloadEvents de _, written_payloadEvents de _, rfl⟩

/-- non-vacuity: a payload that does not deserialise (odd length here) between two that do -/
example : delivered (decodeStream (M := Nat) (fun p => if p.length % 2 = 0 then some p.length else none) 512
    (([[1, 2], [3], [4, 5, 6, 7], [8, 9, 10]].filterMap (frame 3)).flatten)).1 = [2] := by decide

/-- The reader is a function of the concatenation of what it reads: however the stream is cut
    into chunks, events and final state are the same. -/
theorem chunking {M : Type} (de : List UInt8 → Option M) (rl : Int) (s : RState)
    (chunks : List (List UInt8)) :
    runChunks de rl s chunks = run de rl s chunks.flatten := by
  induction chunks generalizing s with
  | nil => rfl
  | cons c cs ih =>
    rw [List.flatten_cons, run_append, runChunks, ih]

example : runChunks (M := List UInt8) some 512 .hdr0 [[0], [0, 0], [], [2, 0x41], [0x42, 1, 0]] =
    ([.deliver [0x41, 0x42]], .hdr2 1 0) := by decide

theorem decode_append {M : Type} (de : List UInt8 → Option M) (rl : Int) (s : RState)
    (a b : List UInt8) :
    run de rl s (a ++ b) =
      ((run de rl s a).1 ++ (run de rl (run de rl s a).2 b).1, (run de rl (run de rl s a).2 b).2) :=
  run_append de rl s a b

/-- Deserialisation is a parameter: the reader with deserializer `de` is the reader with the
    identity deserializer followed by `de` on each payload (this is how the family `frames`
    compares the Lean model with the real codecs). -/
theorem deserializer_is_parameter {M : Type} (de : List UInt8 → Option M) (rl : Int)
    (bytes : List UInt8) :
    delivered (decodeStream de rl bytes).1 =
        (delivered (decodeStream (M := List UInt8) some rl bytes).1).filterMap de ∧
      written (decodeStream de rl bytes).1 = written (decodeStream (M := List UInt8) some rl bytes).1 ∧
      (decodeStream de rl bytes).2 = (decodeStream (M := List UInt8) some rl bytes).2 := by
  unfold decodeStream
  rw [run_map de rl .hdr0 bytes]
  exact ⟨delivered_flatMap_mapEv de _, written_flatMap_mapEv de _, rfl⟩

/-- After any number of good frames, a header that announces more than the receive limit
    (whatever its type) or whose type bits are 3..7 closes the connection: the events are those
    of the good frames, and nothing that follows is delivered or answered, whatever it is. -/
theorem oversize_or_reserved {M : Type} (de : List UInt8 → Option M) (sl rl : Int) (hsl : sl ≤ rl)
    (payloads : List (List UInt8)) (h0 l0 l1 l2 : UInt8) (rest : List UInt8)
    (hbad : Gen.bytesToInt [l0, l1, l2] > rl ∨ 3 ≤ h0.toNat % 8) :
    ∃ why, decodeStream de rl
        ((payloads.filterMap (frame sl)).flatten ++ h0 :: l0 :: l1 :: l2 :: rest) =
      ((payloads.filter (fits sl)).flatMap (payloadEvents de), .closed why) := by
  refine ⟨if Gen.bytesToInt [l0, l1, l2] > rl then .oversize else .reservedType, ?_⟩
  rw [decodeStream, run_trans de rl (run_frames de rl sl hsl payloads)
    (run_bad_header de rl h0 l0 l1 l2 rest hbad), List.append_nil]

example : decodeStream (M := List UInt8) some 512 [0, 0, 0, 1, 0x41, 0x03, 0, 0, 0, 0, 0, 0, 1, 0x42] =
    ([.deliver [0x41]], .closed .reservedType) := by decide
example : decodeStream (M := List UInt8) some 512 [0, 0, 2, 1, 0, 0, 0, 1, 0x42] =
    ([], .closed .oversize) := by decide

/-- Once closed, always closed; nothing more happens. -/
theorem closed_is_final {M : Type} (de : List UInt8 → Option M) (rl : Int) (why : CloseReason)
    (bytes : List UInt8) : run de rl (.closed why) bytes = ([], .closed why) :=
  run_closed de rl why bytes

/-- The reader never hands a nil message to the router, from any state, on any input. -/
theorem never_nil {M : Type} (de : List UInt8 → Option M) (rl : Int) (s : RState)
    (bytes : List UInt8) : nilCount (run de rl s bytes).1 = 0 := by
  induction bytes generalizing s with
  | nil => rfl
  | cons b bs ih => rw [run_cons, nilCount_append, (step_no_nil_no_eof de rl s b).1, ih]

/-- Every message handed over is the deserialisation of some payload. -/
theorem delivered_are_deserialised {M : Type} (de : List UInt8 → Option M) (rl : Int)
    (bytes : List UInt8) (m : M) (hm : m ∈ delivered (decodeStream de rl bytes).1) :
    ∃ p, de p = some m := by
  rw [decodeStream, run_map de rl .hdr0 bytes, delivered_flatMap_mapEv] at hm
  obtain ⟨p, _, hp⟩ := List.mem_filterMap.mp hm
  exact ⟨p, hp⟩

/-- A PING frame (type bits 001) within the limit: exactly the header with type 2 and the same
    three length bytes is written back, then the same payload; nothing is delivered; the rest
    of the stream is read as usual. -/
theorem ping {M : Type} (de : List UInt8 → Option M) (rl : Int) (h0 l0 l1 l2 : UInt8)
    (p rest : List UInt8) (ht : h0.toNat % 8 = 1)
    (hn : Gen.bytesToInt [l0, l1, l2] = Int.ofNat p.length) (hle : (p.length : Int) ≤ rl) :
    written (decodeStream de rl (h0 :: l0 :: l1 :: l2 :: (p ++ rest))).1 =
        2 :: l0 :: l1 :: l2 :: p ++ written (decodeStream de rl rest).1 ∧
      delivered (decodeStream de rl (h0 :: l0 :: l1 :: l2 :: (p ++ rest))).1 =
        delivered (decodeStream de rl rest).1 ∧
      (decodeStream de rl (h0 :: l0 :: l1 :: l2 :: (p ++ rest))).2 = (decodeStream de rl rest).2 := by
  have h : decodeStream de rl (h0 :: l0 :: l1 :: l2 :: (p ++ rest)) = _ :=
    run_then de rl (run_frame de rl h0 l0 l1 l2 p (by omega) hn hle) rest
  rw [h, if_neg (by omega), if_pos ht]
  exact ⟨rfl, rfl, rfl⟩

example : written (decodeStream (M := List UInt8) some 512 [0x01, 0, 0, 2, 0xAA, 0xBB]).1 =
    [0x02, 0, 0, 2, 0xAA, 0xBB] := by decide

/-- A PING frame (type bits 001) within the limit is answered by the PONG frame — type 2, the
    same three length bytes, the same payload — as one write call, made after the whole payload
    is there; nothing is delivered. -/
theorem ping_one_write {M : Type} (de : List UInt8 → Option M) (rl : Int) (h0 l0 l1 l2 : UInt8)
    (p rest : List UInt8) (ht : h0.toNat % 8 = 1)
    (hn : Gen.bytesToInt [l0, l1, l2] = Int.ofNat p.length) (hle : (p.length : Int) ≤ rl) :
    (decodeStream de rl (h0 :: l0 :: l1 :: l2 :: (p ++ rest))).1 =
      Ev.wrote (2 :: l0 :: l1 :: l2 :: p) :: (decodeStream de rl rest).1 := by
  have h : decodeStream de rl (h0 :: l0 :: l1 :: l2 :: (p ++ rest)) = _ :=
    run_then de rl (run_frame de rl h0 l0 l1 l2 p (by omega) hn hle) rest
  rw [h, if_neg (by omega), if_pos ht]
  rfl

example : (decodeStream (M := List UInt8) some 512 [0x01, 0, 0, 2, 0xAA, 0xBB, 0x01, 0, 0, 0]).1 =
    [.wrote [0x02, 0, 0, 2, 0xAA, 0xBB], .wrote [0x02, 0, 0, 0]] := by decide

/-- A PING whose payload has not arrived completely: nothing has been written (no PONG header
    ahead of the payload); the reader waits with what it has. -/
theorem ping_truncated {M : Type} (de : List UInt8 → Option M) (rl : Int) (h0 l0 l1 l2 : UInt8)
    (n : Nat) (p : List UInt8) (ht : h0.toNat % 8 = 1)
    (hn : Gen.bytesToInt [l0, l1, l2] = Int.ofNat n) (hle : (n : Int) ≤ rl) (hp : p.length < n) :
    decodeStream de rl (h0 :: l0 :: l1 :: l2 :: p) =
      ([], .pbody l0 l1 l2 (n - 1 - p.length) p.reverse) :=
  (run_frame_truncated de rl h0 l0 l1 l2 n p (by omega) hn hle hp).trans
    (by rw [if_neg (by omega), if_pos ht])

example : decodeStream (M := List UInt8) some 512 [0x09, 0, 0, 5, 0xAA, 0xBB] =
    ([], .pbody 0 0 5 2 [0xBB, 0xAA]) := by decide

/-- A PONG frame is read and dropped. -/
theorem pong_ignored {M : Type} (de : List UInt8 → Option M) (rl : Int) (h0 l0 l1 l2 : UInt8)
    (p rest : List UInt8) (ht : h0.toNat % 8 = 2)
    (hn : Gen.bytesToInt [l0, l1, l2] = Int.ofNat p.length) (hle : (p.length : Int) ≤ rl) :
    decodeStream de rl (h0 :: l0 :: l1 :: l2 :: (p ++ rest)) = decodeStream de rl rest :=
  (run_then de rl (run_frame de rl h0 l0 l1 l2 p (by omega) hn hle) rest).trans
    (by rw [if_neg (by omega), if_neg (by omega)]; rfl)

example : decodeStream (M := List UInt8) some 512 [0x02, 0, 0, 2, 0xAA, 0xBB, 0, 0, 0, 1, 0x41] =
    ([.deliver [0x41]], .hdr0) := by decide

/-- Any sequence of inbound frames whose type bits are 0, 1 or 2 (upper bits of byte 0
    arbitrary), whose length field is right and within the reader's limit — in any order and
    number, e.g. PINGs between messages —, followed by anything: every frame has exactly its own
    effect, in order (MSG: the deserialised payload is handed over, or skipped if it does not
    deserialise; PING: one write of the PONG frame; PONG: nothing), and the reader is then where
    it would be on `rest` alone.  (`stream_then` is the case "only MSG frames of our sender",
    `ping_one_write`/`pong_ignored` the case of one frame.) -/
theorem mixed_frames {M : Type} (de : List UInt8 → Option M) (rl : Int) (fs : List WpD.InFrame)
    (hf : ∀ f, f ∈ fs → f.wellFormed rl) (rest : List UInt8) :
    decodeStream de rl (fs.flatMap WpD.InFrame.bytes ++ rest) =
      (fs.flatMap (WpD.InFrame.events de) ++ (decodeStream de rl rest).1,
       (decodeStream de rl rest).2) :=
  run_then de rl (WpD.run_inframes de rl fs hf) rest

/-- ... so the messages handed over are the deserialisable payloads of the MSG frames, in order,
    and the reader goroutine's write calls are one whole PONG frame per PING, in order. -/
theorem mixed_frames_observed {M : Type} (de : List UInt8 → Option M) (rl : Int)
    (fs : List WpD.InFrame) (hf : ∀ f, f ∈ fs → f.wellFormed rl) :
    delivered (decodeStream de rl (fs.flatMap WpD.InFrame.bytes)).1 =
        fs.flatMap (fun f => if f.h0.toNat % 8 = 0 then (de f.payload).toList else []) ∧
      WpD.writeCalls (decodeStream de rl (fs.flatMap WpD.InFrame.bytes)).1 =
        readerCalls (WpD.pongsOf fs) ∧
      (decodeStream de rl (fs.flatMap WpD.InFrame.bytes)).2 = .hdr0 := by
  refine ⟨?_, WpD.writeCalls_inframes de rl fs hf, by rw [decodeStream, WpD.run_inframes de rl fs hf]⟩
  rw [decodeStream, WpD.run_inframes de rl fs hf]
  clear hf
  induction fs with
    | nil => rfl
    | cons f fs ih =>
      rw [List.flatMap_cons, List.flatMap_cons, delivered_append, ih]
      congr 1
      unfold WpD.InFrame.events
      by_cases h0 : f.h0.toNat % 8 = 0
      · rw [if_pos h0, if_pos h0]
        unfold payloadEvents
        cases de f.payload <;> rfl
      · rw [if_neg h0, if_neg h0]
        by_cases h1 : f.h0.toNat % 8 = 1
        · rw [if_pos h1]; rfl
        · rw [if_neg h1]; rfl

/-- the frames used in the examples: MSG 41, PING aa bb (byte 0 = 0x09: upper bits set), PONG 50 50,
    MSG 42 -/
def mixedExample : List WpD.InFrame :=
  [⟨0, 0, 0, 1, [0x41]⟩, ⟨0x09, 0, 0, 2, [0xAA, 0xBB]⟩, ⟨2, 0, 0, 2, [0x50, 0x50]⟩, ⟨0, 0, 0, 1, [0x42]⟩]

/-- non-vacuity of `mixed_frames` -/
example : ∀ f, f ∈ mixedExample → f.wellFormed 512 := by
  intro f hf
  simp only [mixedExample, List.mem_cons, List.not_mem_nil, or_false] at hf
  rcases hf with rfl | rfl | rfl | rfl <;>
    exact ⟨by decide, by decide, by decide⟩
example : decodeStream (M := List UInt8) some 512 (mixedExample.flatMap WpD.InFrame.bytes) =
    ([.deliver [0x41], .wrote [2, 0, 0, 2, 0xAA, 0xBB], .deliver [0x42]], .hdr0) := by decide

/-- General form of `oversize_or_reserved`.  After any well-formed inbound traffic
    (MSG, PING and PONG frames in any order), a header that announces more than the receive limit
    (whatever its type) or whose type bits are 3..7 closes the connection: the events are those of
    the frames before it, nothing that follows is delivered or answered, and the reason is
    `oversize` when the length is over the limit (checked first), `reservedType` otherwise. -/
theorem bad_header_after_units {M : Type} (de : List UInt8 → Option M) (rl : Int)
    (fs : List WpD.InFrame) (hf : ∀ f, f ∈ fs → f.wellFormed rl) (h0 l0 l1 l2 : UInt8)
    (rest : List UInt8) (hbad : Gen.bytesToInt [l0, l1, l2] > rl ∨ 3 ≤ h0.toNat % 8) :
    decodeStream de rl (fs.flatMap WpD.InFrame.bytes ++ h0 :: l0 :: l1 :: l2 :: rest) =
      (fs.flatMap (WpD.InFrame.events de),
       .closed (if Gen.bytesToInt [l0, l1, l2] > rl then .oversize else .reservedType)) := by
  rw [decodeStream, run_trans de rl (WpD.run_inframes de rl fs hf)
    (run_bad_header de rl h0 l0 l1 l2 rest hbad), List.append_nil]

/-- non-vacuity: a reserved-type header (type bits 5), then an oversize PONG header (length 513) -/
example : decodeStream (M := List UInt8) some 512
    (mixedExample.flatMap WpD.InFrame.bytes ++ [0x05, 0, 0, 0, 0, 0, 0, 1, 0x43]) =
    ([.deliver [0x41], .wrote [2, 0, 0, 2, 0xAA, 0xBB], .deliver [0x42]], .closed .reservedType) := by
  decide
example : decodeStream (M := List UInt8) some 512
    (mixedExample.flatMap WpD.InFrame.bytes ++ [0x02, 0, 2, 1, 0, 0, 0, 1, 0x43]) =
    ([.deliver [0x41], .wrote [2, 0, 0, 2, 0xAA, 0xBB], .deliver [0x42]], .closed .oversize) := by
  decide

/-- A frame of type MSG, PING or PONG that is cut short (the header announces `n ≤ recvLimit`
    bytes, only `p.length < n` have arrived), after any well-formed traffic: the events are exactly
    those of the frames before it, and the reader is blocked in the read of that payload. -/
theorem frame_truncated {M : Type} (de : List UInt8 → Option M) (rl : Int)
    (fs : List WpD.InFrame) (hf : ∀ f, f ∈ fs → f.wellFormed rl) (h0 l0 l1 l2 : UInt8)
    (n : Nat) (p : List UInt8) (ht : h0.toNat % 8 ≤ 2)
    (hn : Gen.bytesToInt [l0, l1, l2] = Int.ofNat n) (hle : (n : Int) ≤ rl) (hp : p.length < n) :
    decodeStream de rl (fs.flatMap WpD.InFrame.bytes ++ h0 :: l0 :: l1 :: l2 :: p) =
      (fs.flatMap (WpD.InFrame.events de),
       if h0.toNat % 8 = 0 then .body (n - 1 - p.length) p.reverse
       else if h0.toNat % 8 = 1 then .pbody l0 l1 l2 (n - 1 - p.length) p.reverse
       else .discard (n - 1 - p.length)) := by
  rw [decodeStream, run_trans de rl (WpD.run_inframes de rl fs hf)
    (run_frame_truncated de rl h0 l0 l1 l2 n p ht hn hle hp), List.append_nil]

/-- A MSG frame whose body is cut short (the header announces `n ≤ recvLimit` bytes,
    only `p.length < n` have arrived), after any well-formed traffic: nothing is handed over for
    that frame — the events are exactly those of the frames before it — and the reader is blocked
    in `io.ReadFull(buf)` holding the `p.length` bytes it has, `n - p.length` still to come. -/
theorem msg_truncated {M : Type} (de : List UInt8 → Option M) (rl : Int)
    (fs : List WpD.InFrame) (hf : ∀ f, f ∈ fs → f.wellFormed rl) (h0 l0 l1 l2 : UInt8)
    (n : Nat) (p : List UInt8) (ht : h0.toNat % 8 = 0)
    (hn : Gen.bytesToInt [l0, l1, l2] = Int.ofNat n) (hle : (n : Int) ≤ rl) (hp : p.length < n) :
    decodeStream de rl (fs.flatMap WpD.InFrame.bytes ++ h0 :: l0 :: l1 :: l2 :: p) =
      (fs.flatMap (WpD.InFrame.events de), .body (n - 1 - p.length) p.reverse) := by
  rw [frame_truncated de rl fs hf h0 l0 l1 l2 n p (by omega) hn hle hp, if_pos ht]

example : decodeStream (M := List UInt8) some 512
    (mixedExample.flatMap WpD.InFrame.bytes ++ [0x00, 0, 0, 5, 0x43, 0x44]) =
    ([.deliver [0x41], .wrote [2, 0, 0, 2, 0xAA, 0xBB], .deliver [0x42]], .body 2 [0x44, 0x43]) := by
  decide

/-- The same from the sender's point of view: the frame our sender writes for a message, cut
    anywhere inside its body (`4 ≤ k < length`), after any queue of earlier messages: the earlier
    ones that fit are handed over, of the cut one nothing. -/
theorem sender_frame_cut {M : Type} (de : List UInt8 → Option M) (sl rl : Int) (hsl : sl ≤ rl)
    (payloads : List (List UInt8)) (q f : List UInt8) (hfr : frame sl q = some f)
    (j : Nat) (hj : j + 4 < f.length) :
    decodeStream de rl ((payloads.filterMap (frame sl)).flatten ++ f.take (j + 4)) =
      ((payloads.filter (fits sl)).flatMap (payloadEvents de),
       .body (q.length - 1 - j) (q.take j).reverse) := by
  obtain ⟨hfit, a, b, c, rfl, hlen⟩ := frame_eq_some hfr
  have hjq : j < q.length := by simpa using hj
  have hcut := run_frame_truncated de rl 0 a b c q.length (q.take j) (by decide) hlen
    (Int.le_trans ((fits_iff sl q).mp hfit).1 hsl) (by rw [List.length_take]; omega)
  rw [List.length_take, Nat.min_eq_left (Nat.le_of_lt hjq)] at hcut
  exact (run_trans de rl (run_frames de rl sl hsl payloads) hcut).trans (by rw [List.append_nil]; rfl)

example : frame 512 [0x41, 0x42, 0x43] = some [0, 0, 0, 3, 0x41, 0x42, 0x43] := by decide
example : decodeStream (M := List UInt8) some 512
    (([[0x40]].filterMap (frame 512)).flatten ++ [0, 0, 0, 3, 0x41, 0x42, 0x43].take (1 + 4)) =
    ([.deliver [0x40]], .body 1 [0x41]) := by decide

/-- Fewer than four bytes of a header: no event, the reader waits in `io.ReadFull(header)`. -/
theorem header_truncated {M : Type} (de : List UInt8 → Option M) (rl : Int)
    (fs : List WpD.InFrame) (hf : ∀ f, f ∈ fs → f.wellFormed rl) (bs : List UInt8)
    (h : bs.length < 4) :
    (decodeStream de rl (fs.flatMap WpD.InFrame.bytes ++ bs)).1 =
        fs.flatMap (WpD.InFrame.events de) ∧
      (decodeStream de rl (fs.flatMap WpD.InFrame.bytes ++ bs)).2.isClosed = false := by
  rw [decodeStream, run_trans de rl (WpD.run_inframes de rl fs hf) (run_header_short de rl bs h)]
  constructor
  · simp
  · match bs, h with
    | [], _ | [_], _ | [_, _], _ | [_, _, _], _ => rfl
    | _ :: _ :: _ :: _ :: _, h => simp at h; omega

example : decodeStream (M := List UInt8) some 512 [0, 0, 0, 1, 0x41, 0x00, 0x00] =
    ([.deliver [0x41]], .hdr2 0 0) := by decide

/-! End of stream as an input.
  `Nexus.Frame.In` = one more byte | end of stream; `stepIn` / `runIn` / `decodeStreamEOF`
  extend `step` / `run` / `decodeStream` (`Nexus/Frame/Stream.lean`, with the reading of
  rawsocketpeer.go:269-286, :299-304, :317-321, :329-334 it rests on). -/

/-- The extension is conservative: on inputs that are all bytes, `runIn` is `run`; every
    theorem about `run` / `decodeStream` is a theorem about the extended machine. -/
theorem runIn_bytes {M : Type} (de : List UInt8 → Option M) (rl : Int) (s : RState)
    (bytes : List UInt8) : runIn de rl s (bytes.map In.byte) = run de rl s bytes :=
  Frame.runIn_bytes de rl s bytes

/-- For every byte string: the end of the stream adds no event — what the reader handed over and
    wrote back is exactly what it had handed over and written when the last byte had been
    processed —, and the reader goroutine has returned (`closed`), whatever state it was in. -/
theorem eof_after_any_prefix {M : Type} (de : List UInt8 → Option M) (rl : Int)
    (bytes : List UInt8) :
    (decodeStreamEOF de rl bytes).1 = (decodeStream de rl bytes).1 ∧
      (decodeStreamEOF de rl bytes).2 = atEOF (decodeStream de rl bytes).2 ∧
      (decodeStreamEOF de rl bytes).2.isClosed = true := by
  rw [decodeStreamEOF_eq]
  exact ⟨rfl, rfl, atEOF_isClosed _⟩

example : decodeStreamEOF (M := List UInt8) some 512 [0, 0, 0, 1, 0x41, 0x01, 0, 0, 2, 0xAA] =
    ([.deliver [0x41]], .closed (.eof true)) := by decide

/-- ... and the reason says exactly where the stream ended: `eof false` iff the reader was idle
    between frames, `eof true` iff it was inside a header or a body, and the reader's own reason
    (oversize, reserved type) iff it had closed the connection itself before. -/
theorem eof_reason {M : Type} (de : List UInt8 → Option M) (rl : Int) (bytes : List UInt8) :
    ((decodeStreamEOF de rl bytes).2 = .closed (.eof false) ↔ (decodeStream de rl bytes).2 = .hdr0) ∧
      ((decodeStreamEOF de rl bytes).2 = .closed (.eof true) ↔
        (decodeStream de rl bytes).2.inFrame = true) ∧
      (∀ why, (∀ b, why ≠ .eof b) →
        ((decodeStreamEOF de rl bytes).2 = .closed why ↔ (decodeStream de rl bytes).2 = .closed why)) := by
  rw [decodeStreamEOF_eq]
  have hs : (decodeStream de rl bytes).2.sawEOF = false := run_sawEOF de rl .hdr0 bytes
  generalize (decodeStream de rl bytes).2 = s at hs
  -- a closed reader keeps its reason, which is not `eof` (`hs`: bytes alone never produce it);
  -- any other state `s` becomes `closed (eof s.inFrame)`
  cases s with
  | closed why => cases why <;> simp_all [atEOF, RState.sawEOF, RState.inFrame]
  | _ =>
    simp [atEOF, RState.inFrame]
    all_goals exact fun why h1 h2 h => by subst h; first | exact h1 rfl | exact h2 rfl

/-- EOF between frames.  After any well-formed inbound traffic (MSG, PING, PONG frames in any
    order) the stream ends: everything before has had its effect — every MSG handed over, every
    PING answered —, nothing else happens, and the reader has returned with `eof false`.  On its
    way out it logs nothing, cancels the sender goroutine and waits for it, then closes the
    connection (rawsocketpeer.go:269-286). -/
theorem eof_clean {M : Type} (de : List UInt8 → Option M) (rl : Int) (fs : List WpD.InFrame)
    (hf : ∀ f, f ∈ fs → f.wellFormed rl) :
    decodeStreamEOF de rl (fs.flatMap WpD.InFrame.bytes) =
        (fs.flatMap (WpD.InFrame.events de), .closed (.eof false)) ∧
      readErrAction (decodeStream de rl (fs.flatMap WpD.InFrame.bytes)).2 =
        some ⟨none, true, true⟩ := by
  rw [decodeStreamEOF_eq, decodeStream, WpD.run_inframes de rl fs hf]
  exact ⟨rfl, rfl⟩

example : decodeStreamEOF (M := List UInt8) some 512 (mixedExample.flatMap WpD.InFrame.bytes) =
    ([.deliver [0x41], .wrote [2, 0, 0, 2, 0xAA, 0xBB], .deliver [0x42]], .closed (.eof false)) := by
  decide

/-- The same for what our sender writes (`stream` + end of stream): every message that serialises
    and fits is handed over, in order, and the reader returns with `eof false`. -/
theorem eof_clean_stream {M : Type} (ser : M → Option (List UInt8)) (de : List UInt8 → Option M)
    (hrt : ∀ m p, ser m = some p → de p = some m)
    (sl rl : Int) (hsl : sl ≤ rl) (msgs : List M) :
    decodeStreamEOF de rl (sendAll ser sl msgs) =
      ((msgs.filter (arrives ser sl)).map Ev.deliver, .closed (.eof false)) := by
  rw [decodeStreamEOF_eq, stream ser de hrt sl rl hsl msgs]
  rfl

example : decodeStreamEOF (M := Nat) (fun p => some p.length) 512
    (sendAll (fun n => if n = 7 then none else some (List.replicate n 0x61)) 4 [3, 9, 7, 2]) =
    ([.deliver 3, .deliver 2], .closed (.eof false)) := by
  decide

/-- EOF inside a MSG body.  A MSG frame whose body is cut short (the header announces
    `n ≤ recvLimit` bytes, only `p.length < n` have arrived) and then the stream ends, after any
    well-formed traffic: nothing is handed over or written for that frame — the events are
    exactly those of the frames before it —, the reader returns with `eof true`; on its way out
    it logs "Error reading message:", closes the connection at once and does not cancel the
    sender goroutine (rawsocketpeer.go:299-304). -/
theorem msg_truncated_eof {M : Type} (de : List UInt8 → Option M) (rl : Int)
    (fs : List WpD.InFrame) (hf : ∀ f, f ∈ fs → f.wellFormed rl) (h0 l0 l1 l2 : UInt8)
    (n : Nat) (p : List UInt8) (ht : h0.toNat % 8 = 0)
    (hn : Gen.bytesToInt [l0, l1, l2] = Int.ofNat n) (hle : (n : Int) ≤ rl) (hp : p.length < n) :
    decodeStreamEOF de rl (fs.flatMap WpD.InFrame.bytes ++ h0 :: l0 :: l1 :: l2 :: p) =
        (fs.flatMap (WpD.InFrame.events de), .closed (.eof true)) ∧
      delivered (decodeStreamEOF de rl (fs.flatMap WpD.InFrame.bytes ++ h0 :: l0 :: l1 :: l2 :: p)).1 =
        delivered (decodeStream de rl (fs.flatMap WpD.InFrame.bytes)).1 ∧
      readErrAction (decodeStream de rl (fs.flatMap WpD.InFrame.bytes ++ h0 :: l0 :: l1 :: l2 :: p)).2 =
        some ⟨some "Error reading message:", false, true⟩ := by
  rw [decodeStreamEOF_eq, frame_truncated de rl fs hf h0 l0 l1 l2 n p (by omega) hn hle hp,
    if_pos ht, decodeStream, WpD.run_inframes de rl fs hf]
  exact ⟨rfl, rfl, rfl⟩

example : decodeStreamEOF (M := List UInt8) some 512
    (mixedExample.flatMap WpD.InFrame.bytes ++ [0x00, 0, 0, 5, 0x43, 0x44]) =
    ([.deliver [0x41], .wrote [2, 0, 0, 2, 0xAA, 0xBB], .deliver [0x42]], .closed (.eof true)) := by
  decide

/-- EOF inside a PING payload: nothing is written for that PING (no PONG header, no partial
    echo), `eof true`; log "Error reading PING:", connection closed at once, sender not
    cancelled (rawsocketpeer.go:317-321). -/
theorem ping_truncated_eof {M : Type} (de : List UInt8 → Option M) (rl : Int)
    (fs : List WpD.InFrame) (hf : ∀ f, f ∈ fs → f.wellFormed rl) (h0 l0 l1 l2 : UInt8)
    (n : Nat) (p : List UInt8) (ht : h0.toNat % 8 = 1)
    (hn : Gen.bytesToInt [l0, l1, l2] = Int.ofNat n) (hle : (n : Int) ≤ rl) (hp : p.length < n) :
    decodeStreamEOF de rl (fs.flatMap WpD.InFrame.bytes ++ h0 :: l0 :: l1 :: l2 :: p) =
        (fs.flatMap (WpD.InFrame.events de), .closed (.eof true)) ∧
      readErrAction (decodeStream de rl (fs.flatMap WpD.InFrame.bytes ++ h0 :: l0 :: l1 :: l2 :: p)).2 =
        some ⟨some "Error reading PING:", false, true⟩ := by
  rw [decodeStreamEOF_eq, frame_truncated de rl fs hf h0 l0 l1 l2 n p (by omega) hn hle hp,
    if_neg (by omega), if_pos ht]
  exact ⟨rfl, rfl⟩

example : decodeStreamEOF (M := List UInt8) some 512 [0, 0, 0, 1, 0x41, 0x09, 0, 0, 5, 0xAA, 0xBB] =
    ([.deliver [0x41]], .closed (.eof true)) := by decide

/-- EOF inside a PONG payload: `eof true`; log "Error reading PONG:", connection closed at once,
    sender not cancelled (rawsocketpeer.go:329-334). -/
theorem pong_truncated_eof {M : Type} (de : List UInt8 → Option M) (rl : Int)
    (fs : List WpD.InFrame) (hf : ∀ f, f ∈ fs → f.wellFormed rl) (h0 l0 l1 l2 : UInt8)
    (n : Nat) (p : List UInt8) (ht : h0.toNat % 8 = 2)
    (hn : Gen.bytesToInt [l0, l1, l2] = Int.ofNat n) (hle : (n : Int) ≤ rl) (hp : p.length < n) :
    decodeStreamEOF de rl (fs.flatMap WpD.InFrame.bytes ++ h0 :: l0 :: l1 :: l2 :: p) =
        (fs.flatMap (WpD.InFrame.events de), .closed (.eof true)) ∧
      readErrAction (decodeStream de rl (fs.flatMap WpD.InFrame.bytes ++ h0 :: l0 :: l1 :: l2 :: p)).2 =
        some ⟨some "Error reading PONG:", false, true⟩ := by
  rw [decodeStreamEOF_eq, frame_truncated de rl fs hf h0 l0 l1 l2 n p (by omega) hn hle hp,
    if_neg (by omega), if_neg (by omega)]
  exact ⟨rfl, rfl⟩

example : decodeStreamEOF (M := List UInt8) some 512 [0, 0, 0, 1, 0x41, 0x02, 0, 0, 5, 0xAA, 0xBB] =
    ([.deliver [0x41]], .closed (.eof true)) := by decide

/-- EOF inside a header (1..3 bytes of it have come): `eof true` — but the code does not tell
    this from a clean end: the same branch as between frames (nothing logged, sender cancelled and
    awaited, then the connection closed; rawsocketpeer.go:269-286 does not look at the error). -/
theorem header_truncated_eof {M : Type} (de : List UInt8 → Option M) (rl : Int)
    (fs : List WpD.InFrame) (hf : ∀ f, f ∈ fs → f.wellFormed rl) (bs : List UInt8)
    (h1 : 1 ≤ bs.length) (h : bs.length < 4) :
    decodeStreamEOF de rl (fs.flatMap WpD.InFrame.bytes ++ bs) =
        (fs.flatMap (WpD.InFrame.events de), .closed (.eof true)) ∧
      readErrAction (decodeStream de rl (fs.flatMap WpD.InFrame.bytes ++ bs)).2 =
        some ⟨none, true, true⟩ := by
  rw [decodeStreamEOF_eq, decodeStream,
    run_trans de rl (WpD.run_inframes de rl fs hf) (run_header_short de rl bs h)]
  match bs, h1, h with
  | [_], _, _ | [_, _], _, _ | [_, _, _], _, _ => exact ⟨by simp [atEOF], rfl⟩
  | [], h1, _ => simp at h1
  | _ :: _ :: _ :: _ :: _, _, h => simp at h; omega

example : decodeStreamEOF (M := List UInt8) some 512 [0, 0, 0, 1, 0x41, 0x00, 0x00] =
    ([.deliver [0x41]], .closed (.eof true)) := by decide

/-- EOF is final: nothing after the end of the stream is read — whatever is appended to the input
    after `eof` (bytes, further `eof`s), the result is that of the input up to and including the
    first `eof` —, and the reader is closed. -/
theorem eof_is_final {M : Type} (de : List UInt8 → Option M) (rl : Int) (s : RState)
    (pre post : List In) :
    runIn de rl s (pre ++ In.eof :: post) = runIn de rl s (pre ++ [In.eof]) ∧
      (runIn de rl s (pre ++ In.eof :: post)).2.isClosed = true := by
  rw [runIn_append, runIn_append, runIn_eof_cons, runIn_eof_cons]
  exact ⟨rfl, atEOF_isClosed _⟩

example : runIn (M := List UInt8) some 512 .hdr0
    ([In.byte 0, In.byte 0, In.eof] ++ [0, 1, 0x41, 0, 0, 0, 1, 0x42].map In.byte) =
    ([], .closed (.eof true)) := by decide

/-- What else `recvHandler` does when a read fails depends only on whether it was the header read
    or a body read — not on whether the stream ended between frames or inside one: the sender is
    cancelled (and awaited) exactly in the header case, a line is logged exactly in the other,
    the connection is closed in both. -/
theorem eof_action_by_read (s : RState) (a : ReadErrAction) (h : readErrAction s = some a) :
    (a.cancelsSender = true ↔ s.inHeader = true) ∧ (a.logs = none ↔ s.inHeader = true) ∧
      a.closesConn = true := by
  cases s <;> simp [readErrAction] at h <;> subst h <;> simp [RState.inHeader]

example : readErrAction (.hdr2 0 0) = some ⟨none, true, true⟩ := rfl

/-- Sender-side consequence (with `afterCancel_drains`).  When the stream ends between frames or
    inside a header, the reader cancels the sender goroutine and waits for it before it closes
    the connection, so every message queued at that moment gets its write call, in order, on the
    still open connection — the GOODBYE answering a peer that half-closed, for instance. -/
theorem eof_in_header_sender_drains {M : Type} (ser : M → Option (List UInt8)) (sl : Int)
    (s : RState) (hs : s.inHeader = true) (oracle : List Bool) (queue : List M) :
    senderCallsAfterEOF ser sl s oracle queue = queue.flatMap (messageCalls ser sl) := by
  have ha : readErrAction s = some ⟨none, true, true⟩ := by
    cases s <;> first | rfl | cases hs
  unfold senderCallsAfterEOF
  rw [ha]
  exact afterCancel_drains (messageCalls ser sl) oracle queue

example : wire (senderCallsAfterEOF (M := Nat) (fun n => some (List.replicate n 0x61)) 512
    (.hdr1 0) [false] [1, 2]) = [0, 0, 0, 1, 0x61, 0, 0, 0, 2, 0x61, 0x61] := by decide

/-- ... whereas when it ends inside a MSG / PING / PONG body the connection is closed under the
    running sender: no write of a queued message is guaranteed any more. -/
theorem eof_in_body_nothing_guaranteed {M : Type} (ser : M → Option (List UInt8)) (sl : Int)
    (s : RState) (hs : s.inHeader = false) (oracle : List Bool) (queue : List M) :
    senderCallsAfterEOF ser sl s oracle queue = [] := by
  unfold senderCallsAfterEOF
  cases s <;> first | rfl | cases hs

example : senderCallsAfterEOF (M := Nat) (fun n => some (List.replicate n 0x61)) 512
    (.body 2 [0x41]) [true] [1, 2] = [] := rfl

/-- What `net.Conn` gives: the log is a merge of the two goroutines' call sequences, so each
    goroutine's calls appear whole and in the order it made them. -/
theorem write_calls_ordered_per_goroutine (sl : Int) (payloads : List (List UInt8)) (pongs : List Pong)
    (log : List WriteCall) (h : Merge (senderCalls sl payloads) (readerCalls pongs) log) :
    log.filter (fun c => c.role == .sender) = senderCalls sl payloads ∧
      log.filter (fun c => !(c.role == .sender)) = readerCalls pongs := by
  apply Merge.filter (fun c => c.role == .sender) h
  · rw [senderCalls_units]
    exact List.forall_mem_map.mpr (List.forall_mem_map.mpr fun _ _ => rfl)
  · rw [readerCalls_units sl]
    exact List.forall_mem_map.mpr (List.forall_mem_map.mpr fun _ _ => rfl)

/-- As long as the reader goroutine writes nothing (no PING arrives), the sender's frames
    reach the other side whole, and `stream_then`/`stream` applies to them. -/
theorem sender_alone_never_interleaves {M : Type} (de : List UInt8 → Option M) (sl rl : Int)
    (hsl : sl ≤ rl) (payloads : List (List UInt8)) (log : List WriteCall)
    (h : Merge (senderCalls sl payloads) [] log) :
    wire log = (payloads.filterMap (frame sl)).flatten ∧
      delivered (decodeStream de rl (wire log)).1 = (payloads.filter (fits sl)).filterMap de := by
  have hl := Merge.nil_right h
  subst hl
  rw [wire_senderCalls]
  refine ⟨rfl, ?_⟩
  rw [decodeStream, run_frames de rl sl hsl payloads]
  exact delivered_payloadEvents de _

/-- the PONG used in the examples: header 02 00 00 02, payload 50 50 -/
def f18PongUnit : Pong := ⟨0, 0, 2, [0x50, 0x50]⟩

/-- When whole frames are the atomic unit, every interleaving is harmless: the other side gets
    exactly the messages that fit, in order, and skips the PONGs.
    Note on `hw`: `rl` is the limit of the side that reads these PONGs.  The code that
    writes them guarantees well-formedness w.r.t. its own receive limit only (`ping_one_write`,
    `WpD.pongsOf_wellFormed`); `hw` holds in addition iff the reading side sent no PING longer
    than the limit it announced — see `locked_writers_ok_two_limits` for the version whose
    hypotheses say exactly that, and `no_interleaving_answerer_limit_fails` for why it is needed. -/
theorem locked_writers_ok {M : Type} (de : List UInt8 → Option M) (sl rl : Int) (hsl : sl ≤ rl)
    (payloads : List (List UInt8)) (pongs : List Pong) (hw : ∀ q, q ∈ pongs → q.wellFormed rl)
    (units : List WUnit)
    (h : Merge ((payloads.filter (fits sl)).map WUnit.msg) (pongs.map WUnit.pong) units) :
    decodeStream de rl (units.flatMap (WUnit.bytes sl)) =
      ((payloads.filter (fits sl)).flatMap (payloadEvents de), .hdr0) := by
  have hok : ∀ u, u ∈ units → u.ok rl sl :=
    h.forall (List.forall_mem_map.mpr fun p hp => (List.mem_filter.mp hp).2)
      (List.forall_mem_map.mpr hw)
  rw [decodeStream, run_units de rl sl hsl units hok]
  congr 1
  rw [Merge.flatMap_left (WUnit.events de) h]
  · rw [List.flatMap_map]; rfl
  · exact List.forall_mem_map.mpr fun _ _ => rfl

/-- non-vacuity: message, PONG, message as whole units -/
example : Merge (([[0x41], [0x42]].filter (fits 512)).map WUnit.msg) ([f18PongUnit].map WUnit.pong)
    [.msg [0x41], .pong f18PongUnit, .msg [0x42]] :=
  .left (.right (.left .nil))
example : decodeStream (M := List UInt8) some 512
    ([WUnit.msg [0x41], .pong f18PongUnit, .msg [0x42]].flatMap (WUnit.bytes 512)) =
    ([.deliver [0x41], .deliver [0x42]], .hdr0) := by decide

/-- Frames of the two writers never interleave.  Whatever the scheduling of the two
    goroutines' write calls (any `Merge`), for every queue of messages, every sequence of answered
    PINGs and every deserializer, the other side receives exactly the sender's messages that fit,
    intact and in order — because, with the write calls the source makes today
    (`Gen.senderWriteParts`, `Gen.pongWriteParts`), every frame is one atomic `Write`.
    Note on `hw`: it is an assumption about the peer, not something `ping_one_write`
    discharges — `rl` here is the limit of the reader of the PONGs, `ping_one_write`'s `rl` is the
    limit of their writer.  `no_interleaving_two_limits` / `duplex_no_interleaving` state it with
    both limits. -/
theorem no_interleaving {M : Type} (de : List UInt8 → Option M) (sl rl : Int) (hsl : sl ≤ rl)
    (payloads : List (List UInt8)) (pongs : List Pong) (hw : ∀ q, q ∈ pongs → q.wellFormed rl)
    (log : List WriteCall) (h : Merge (senderCalls sl payloads) (readerCalls pongs) log) :
    decodeStream de rl (wire log) = ((payloads.filter (fits sl)).flatMap (payloadEvents de), .hdr0) := by
  rw [senderCalls_units, readerCalls_units sl] at h
  obtain ⟨units, rfl, hm⟩ := Merge.of_map (WUnit.call sl) h
  rw [wire_map_call]
  exact locked_writers_ok de sl rl hsl payloads pongs hw units hm

/-- The full statement (false with the two-call shape the code had before:
    `split_writes_corrupt`). -/
def no_interleaving_full : Prop :=
  ∀ (sl rl : Int) (payloads : List (List UInt8)) (pongs : List Pong) (log : List WriteCall),
    sl ≤ rl → (∀ q, q ∈ pongs → q.wellFormed rl) →
    Merge (senderCalls sl payloads) (readerCalls pongs) log →
    delivered (decodeStream (M := List UInt8) some rl (wire log)).1 = payloads.filter (fits sl)

theorem no_interleaving_full_holds : no_interleaving_full := by
  intro sl rl payloads pongs log hsl hw h
  rw [no_interleaving some sl rl hsl payloads pongs hw log h, delivered_payloadEvents,
    List.filterMap_some]

/-- The message of the examples. -/
def f18Payload : List UInt8 := [0x41, 0x41, 0x41, 0x41, 0x41, 0x41, 0x41, 0x41]

/-- non-vacuity of `no_interleaving`: a PONG scheduled between two messages -/
example : Merge (senderCalls 512 [f18Payload, [0x42]]) (readerCalls [f18PongUnit])
    [⟨.sender, 0 :: 0 :: 0 :: 8 :: f18Payload⟩, ⟨.reader, [2, 0, 0, 2, 0x50, 0x50]⟩,
     ⟨.sender, [0, 0, 0, 1, 0x42]⟩] :=
  .left (.right (.left .nil))
example : f18PongUnit.wellFormed 512 := ⟨by decide, by decide⟩

/-- non-vacuity of `sender_alone_never_interleaves`: the sender's calls alone are a log -/
example : Merge (senderCalls 512 [f18Payload]) [] (senderCalls 512 [f18Payload]) :=
  .left .nil

/-! ### PONGs and the two receive limits

  Two sides: B answers PINGs (its reader goroutine writes the PONGs, its sender goroutine writes
  messages, limit `sl` = what A announced); A reads what B writes, with receive limit `rlA`;
  B's own receive limit is `rlB`.  After the handshake `sl = rlA` (`connected_limits`), and `rlA`,
  `rlB` are unrelated. -/

/-- What the answering reader guarantees about a PONG it writes: it is one write call carrying
    the whole frame `pongFrame ⟨l0, l1, l2, p⟩`, and that PONG is well formed w.r.t. the limit
    `rl` of the reader that answers (hypothesis `hle`, checked at rawsocketpeer.go:288-293).
    Nothing here says anything about the limit of the side that will read the PONG. -/
theorem ping_answer_wellFormed {M : Type} (de : List UInt8 → Option M) (rl : Int)
    (h0 l0 l1 l2 : UInt8) (p rest : List UInt8) (ht : h0.toNat % 8 = 1)
    (hn : Gen.bytesToInt [l0, l1, l2] = Int.ofNat p.length) (hle : (p.length : Int) ≤ rl) :
    (decodeStream de rl (h0 :: l0 :: l1 :: l2 :: (p ++ rest))).1 =
        Ev.wrote (pongFrame ⟨l0, l1, l2, p⟩) :: (decodeStream de rl rest).1 ∧
      (⟨l0, l1, l2, p⟩ : Pong).wellFormed rl :=
  ⟨ping_one_write de rl h0 l0 l1 l2 p rest ht hn hle, hn, hle⟩

example : (decodeStream (M := List UInt8) some 512 [0x01, 0, 0, 2, 0xAA, 0xBB]).1 =
    [.wrote (pongFrame ⟨0, 0, 2, [0xAA, 0xBB]⟩)] := by decide

/-- A PONG whose payload is longer than the reader's receive limit makes the reader
    close with `oversize` (the length check comes before the type switch,
    rawsocketpeer.go:288-293), and nothing that follows it on the connection is read. -/
theorem pong_over_peer_limit_closes {M : Type} (de : List UInt8 → Option M) (rlA : Int)
    (q : Pong) (rest : List UInt8)
    (hn : Gen.bytesToInt [q.l0, q.l1, q.l2] = Int.ofNat q.payload.length)
    (h : (q.payload.length : Int) > rlA) :
    decodeStream de rlA (pongFrame q ++ rest) = ([], .closed .oversize) :=
  have ho : Gen.bytesToInt [q.l0, q.l1, q.l2] > rlA := hn ▸ h
  (bad_header_after_units de rlA [] nofun Gen.pongType q.l0 q.l1 q.l2 _ (.inl ho)).trans
    (by rw [if_pos ho]; rfl)

/-- non-vacuity: a 3-byte PONG for a reader with limit 2, a message behind it -/
example : Gen.bytesToInt [0, 0, 3] = Int.ofNat ([0x50, 0x50, 0x50] : List UInt8).length ∧
    ((([0x50, 0x50, 0x50] : List UInt8).length : Int) > 2) := by decide
example : decodeStream (M := List UInt8) some 2 (pongFrame ⟨0, 0, 3, [0x50, 0x50, 0x50]⟩ ++ [0, 0, 0, 1, 0x41]) =
    ([], .closed .oversize) := by decide

/-- Both halves together, for all limits and payloads: a PING whose length lies in
    `(rlA, rlB]` is accepted and answered by B (one write, B keeps reading), the PONG is well
    formed for B's limit but not for A's, and A, reading it — whatever B sent behind it —,
    closes the connection. -/
theorem ping_answer_closes_asker {M N : Type} (deB : List UInt8 → Option M)
    (deA : List UInt8 → Option N) (rlA rlB : Int) (h0 l0 l1 l2 : UInt8) (p restB restA : List UInt8)
    (ht : h0.toNat % 8 = 1) (hn : Gen.bytesToInt [l0, l1, l2] = Int.ofNat p.length)
    (hB : (p.length : Int) ≤ rlB) (hA : rlA < (p.length : Int)) :
    (decodeStream deB rlB (h0 :: l0 :: l1 :: l2 :: (p ++ restB))).1 =
        Ev.wrote (pongFrame ⟨l0, l1, l2, p⟩) :: (decodeStream deB rlB restB).1 ∧
      (decodeStream deB rlB (h0 :: l0 :: l1 :: l2 :: (p ++ restB))).2 = (decodeStream deB rlB restB).2 ∧
      (⟨l0, l1, l2, p⟩ : Pong).wellFormed rlB ∧ ¬ (⟨l0, l1, l2, p⟩ : Pong).wellFormed rlA ∧
      decodeStream deA rlA (pongFrame ⟨l0, l1, l2, p⟩ ++ restA) = ([], .closed .oversize) :=
  have ⟨hw, hwf⟩ := ping_answer_wellFormed deB rlB h0 l0 l1 l2 p restB ht hn hB
  ⟨hw, (ping deB rlB h0 l0 l1 l2 p restB ht hn hB).2.2, hwf, fun hwa => Int.not_le.mpr hA hwa.2,
    pong_over_peer_limit_closes deA rlA ⟨l0, l1, l2, p⟩ restA hn hA⟩

/-- The 600-byte PING payload of the witness. -/
def asymPayload : List UInt8 := List.replicate 600 0x50

/-- The PONG that answers it (length bytes 00 02 58 = 600). -/
def asymPong : Pong := ⟨0, 2, 88, asymPayload⟩

theorem asymPayload_length : asymPayload.length = 600 := by
  unfold asymPayload
  exact List.length_replicate

theorem asymPong_len : Gen.bytesToInt [0, 2, 88] = Int.ofNat asymPayload.length := by
  rw [bytesToInt_beNat, asymPayload_length]
  rfl

/-- The witness with negotiated asymmetric limits.  Client A is configured with
    receive limit 512, server B with 1024; the handshake succeeds and gives A (send 1024,
    recv 512), B (send 512, recv 1024).  A sends a PING of 600 bytes — more than A itself
    announced, but within what B announced, so B may not refuse it.  B's reader accepts it and
    answers with one write of the 604-byte PONG frame and goes on reading (rawsocketpeer.go:289:
    `length > rs.recvLimit` is 600 > 1024, false; :311-327: no comparison with `rs.sendLimit`,
    which is 512).  A's reader sees a header announcing 600 > 512 and closes
    (rawsocketpeer.go:289-293).  The message `[0x41]` that B's sender wrote right behind the
    PONG — it fits B's send limit — is never delivered.  So with asymmetric limits the
    hypothesis `hw` of `no_interleaving` is not implied by anything the answering side does. -/
theorem asymmetric_ping_pong_closes :
    connect 1 512 1024 =
        (.ok ⟨some "JSONSerializer", 1024, 512⟩,
         ⟨some [0x7f, 0x11, 0, 0], .ok ⟨some "JSONSerializer", 512, 1024⟩⟩) ∧
      decodeStream (M := List UInt8) some 1024 (0x01 :: 0 :: 2 :: 88 :: asymPayload) =
        ([.wrote (pongFrame asymPong)], .hdr0) ∧
      asymPong.wellFormed 1024 ∧ ¬ asymPong.wellFormed 512 ∧
      frame 512 [0x41] = some [0, 0, 0, 1, 0x41] ∧
      decodeStream (M := List UInt8) some 512 (pongFrame asymPong ++ [0, 0, 0, 1, 0x41]) =
        ([], .closed .oversize) := by
  have hB : (asymPayload.length : Int) ≤ 1024 := by rw [asymPayload_length]; decide
  have ho : Gen.bytesToInt [0, 2, 88] > 512 := by rw [asymPong_len, asymPayload_length]; decide
  refine ⟨by decide, ?_, ⟨asymPong_len, hB⟩, fun h => ?_, by decide, ?_⟩
  · exact run_frame some 1024 0x01 0 2 88 asymPayload (by decide) asymPong_len hB
  · have h2 : (asymPayload.length : Int) ≤ 512 := h.2
    rw [asymPayload_length] at h2
    exact absurd h2 (by decide)
  · exact (run_bad_header some 512 Gen.pongType 0 2 88 _ (.inl ho)).trans (by rw [if_pos ho])

/-- `locked_writers_ok` with the two limits kept apart.  `hans` is what B's reader guarantees
    for every PONG it writes (`ping_one_write`, `WpD.pongsOf_wellFormed`); `hpeer` is the
    assumption about the peer A that is really needed: A sent no PING longer than the receive
    limit A itself announced. -/
theorem locked_writers_ok_two_limits {M : Type} (de : List UInt8 → Option M) (sl rlA rlB : Int)
    (hsl : sl ≤ rlA) (payloads : List (List UInt8)) (pongs : List Pong)
    (hans : ∀ q, q ∈ pongs → q.wellFormed rlB)
    (hpeer : ∀ q, q ∈ pongs → (q.payload.length : Int) ≤ rlA)
    (units : List WUnit)
    (h : Merge ((payloads.filter (fits sl)).map WUnit.msg) (pongs.map WUnit.pong) units) :
    decodeStream de rlA (units.flatMap (WUnit.bytes sl)) =
      ((payloads.filter (fits sl)).flatMap (payloadEvents de), .hdr0) :=
  locked_writers_ok de sl rlA hsl payloads pongs (fun q hq => ⟨(hans q hq).1, hpeer q hq⟩) units h

/-- `no_interleaving` with the two limits kept apart (hypotheses as in
    `locked_writers_ok_two_limits`): whatever the scheduling of B's two goroutines, A receives
    exactly B's messages that fit, intact and in order, provided A sent no PING longer than its
    own announced limit. -/
theorem no_interleaving_two_limits {M : Type} (de : List UInt8 → Option M) (sl rlA rlB : Int)
    (hsl : sl ≤ rlA) (payloads : List (List UInt8)) (pongs : List Pong)
    (hans : ∀ q, q ∈ pongs → q.wellFormed rlB)
    (hpeer : ∀ q, q ∈ pongs → (q.payload.length : Int) ≤ rlA)
    (log : List WriteCall) (h : Merge (senderCalls sl payloads) (readerCalls pongs) log) :
    decodeStream de rlA (wire log) = ((payloads.filter (fits sl)).flatMap (payloadEvents de), .hdr0) :=
  no_interleaving de sl rlA hsl payloads pongs (fun q hq => ⟨(hans q hq).1, hpeer q hq⟩) log h

/-- The same with the hypothesis in one piece: every answered PING was no longer than the
    smaller of the two receive limits. -/
theorem no_interleaving_min {M : Type} (de : List UInt8 → Option M) (sl rlA rlB : Int)
    (hsl : sl ≤ rlA) (payloads : List (List UInt8)) (pongs : List Pong)
    (hw : ∀ q, q ∈ pongs → q.wellFormed (min rlA rlB))
    (log : List WriteCall) (h : Merge (senderCalls sl payloads) (readerCalls pongs) log) :
    decodeStream de rlA (wire log) = ((payloads.filter (fits sl)).flatMap (payloadEvents de), .hdr0) :=
  no_interleaving de sl rlA hsl payloads pongs
    (fun q hq => ((WpD.wellFormed_min q rlA rlB).mp (hw q hq)).1) log h

/-- non-vacuity (limits 512 and 1024, the 2-byte PONG of the earlier examples) -/
example : f18PongUnit.wellFormed (min 512 1024) := ⟨by decide, by decide⟩

/-- Both directions together, with the PONGs taken from B's reader rather than assumed.
    A sends B any well-formed traffic `fs` (MSG, PING, PONG frames, within B's limit `rlB`);
    B's reader goroutine makes the write calls it makes for that traffic
    (`WpD.writeCalls` of its events — one PONG per PING, `mixed_frames_observed`); B's sender
    goroutine writes `payloads`; the calls of the two goroutines are scheduled in any way.  If
    none of A's PINGs is longer than the limit A announced (`hpeer`), A receives exactly B's
    messages that fit, intact and in order.  No hypothesis mentions `Pong.wellFormed`. -/
theorem duplex_no_interleaving {M N : Type} (deA : List UInt8 → Option M)
    (deB : List UInt8 → Option N) (sl rlA rlB : Int) (hsl : sl ≤ rlA)
    (fs : List WpD.InFrame) (hfs : ∀ f, f ∈ fs → f.wellFormed rlB)
    (hpeer : ∀ f, f ∈ fs → f.h0.toNat % 8 = 1 → (f.payload.length : Int) ≤ rlA)
    (payloads : List (List UInt8)) (log : List WriteCall)
    (h : Merge (senderCalls sl payloads)
      (WpD.writeCalls (decodeStream deB rlB (fs.flatMap WpD.InFrame.bytes)).1) log) :
    decodeStream deA rlA (wire log) =
      ((payloads.filter (fits sl)).flatMap (payloadEvents deA), .hdr0) := by
  unfold decodeStream at h
  rw [WpD.writeCalls_inframes deB rlB fs hfs] at h
  exact no_interleaving deA sl rlA hsl payloads (WpD.pongsOf fs)
    (WpD.pongsOf_wellFormed_other rlB rlA fs hfs hpeer) log h

/-- non-vacuity of `duplex_no_interleaving`: A sent `mixedExample` (one 2-byte PING); B's PONG is
    scheduled between B's two messages -/
example : ∀ f, f ∈ mixedExample → f.h0.toNat % 8 = 1 → (f.payload.length : Int) ≤ 512 := by
  intro f hf _
  simp only [mixedExample, List.mem_cons, List.not_mem_nil, or_false] at hf
  rcases hf with rfl | rfl | rfl | rfl <;> decide
example : Merge (senderCalls 512 [[0x41], [0x42]])
    (WpD.writeCalls (decodeStream (M := List UInt8) some 1024 (mixedExample.flatMap WpD.InFrame.bytes)).1)
    [⟨.sender, [0, 0, 0, 1, 0x41]⟩, ⟨.reader, [2, 0, 0, 2, 0xAA, 0xBB]⟩, ⟨.sender, [0, 0, 0, 1, 0x42]⟩] :=
  .left (.right (.left .nil))

/-- The statement one would get by feeding `no_interleaving` with what the answering side
    guarantees (PONGs well formed w.r.t. the answerer's limit `rlB`) and nothing else. -/
def no_interleaving_answerer_limit : Prop :=
  ∀ (sl rlA rlB : Int) (payloads : List (List UInt8)) (pongs : List Pong) (log : List WriteCall),
    sl ≤ rlA → (∀ q, q ∈ pongs → q.wellFormed rlB) →
    Merge (senderCalls sl payloads) (readerCalls pongs) log →
    delivered (decodeStream (M := List UInt8) some rlA (wire log)).1 = payloads.filter (fits sl)

/-- It is false: limits sl = rlA = 512, rlB = 1024 (as negotiated in
    `asymmetric_ping_pong_closes`), the 600-byte PONG written before the message `[0x41]`: A closes
    on the PONG and the message is lost.  The same happens in the Go code
    (rawsocketpeer.go:289-293 on A's side, :311-327 on B's side) when A is a peer that sends
    such a PING; nexus never sends PINGs, so A is not a nexus peer. -/
theorem no_interleaving_answerer_limit_fails : ¬ no_interleaving_answerer_limit := by
  intro hall
  obtain ⟨_, _, hwf, _, _, hclose⟩ := asymmetric_ping_pong_closes
  have h := hall 512 512 1024 [[0x41]] [asymPong] _ (Int.le_refl _)
    (fun q hq => by rw [List.mem_singleton.mp hq]; exact hwf)
    (WpD.merge_right_first (senderCalls 512 [[0x41]]) (readerCalls [asymPong]))
  rw [wire_append, WpD.readerCalls_cons,
    show wire (⟨.reader, pongFrame asymPong⟩ :: readerCalls []) = pongFrame asymPong by
      simp [wire, readerCalls],
    show wire (senderCalls 512 [[0x41]]) = [0, 0, 0, 1, 0x41] by decide, hclose] at h
  exact absurd h (by decide)

/-- sender header | reader PONG header | reader PONG payload | sender payload -/
def f18Log : List WriteCall :=
  [⟨.sender, [0, 0, 0, 8]⟩, ⟨.reader, [2, 0, 0, 2]⟩, ⟨.reader, [0x50, 0x50]⟩, ⟨.sender, f18Payload⟩]

/-- Had the sender written header and payload as two calls and the reader answered with two
    calls (as the code did), this schedule would be legal, and the other side would read one
    corrupted message (the PONG spliced into it), take the tail of the real payload for a header
    and close the connection. -/
theorem split_writes_corrupt :
    Merge (senderCallsSplit 512 [f18Payload]) (pongCallsSplit f18PongUnit) f18Log ∧
      decodeStream (M := List UInt8) some 512 (wire f18Log) =
        ([.deliver [2, 0, 0, 2, 0x50, 0x50, 0x41, 0x41]], .closed .oversize) :=
  ⟨.left (.right (.right (.left .nil))), by decide⟩

/-- Once the sender goroutine's context is cancelled (`Close`, or EOF seen by the reader), with
    `queue` sitting in `rs.wr`: whatever the scheduler picks in the `select`s, the goroutine
    makes the write calls of every queued message, in order, before it exits (writes taken to
    succeed). `Gen.senderDrainsOnDone` is the fact extracted from `sendHandler`. -/
theorem drain_writes_all {M : Type} (ser : M → Option (List UInt8)) (sl : Int)
    (oracle : List Bool) (queue : List M) :
    afterCancel Gen.senderDrainsOnDone (messageCalls ser sl) oracle queue =
      queue.flatMap (messageCalls ser sl) :=
  afterCancel_drains (messageCalls ser sl) oracle queue

/-- ... so the other side receives every queued message that serialises and fits, in order. -/
theorem drain_delivers {M : Type} (ser : M → Option (List UInt8)) (de : List UInt8 → Option M)
    (hrt : ∀ m p, ser m = some p → de p = some m) (sl rl : Int) (hsl : sl ≤ rl)
    (oracle : List Bool) (queue : List M) :
    decodeStream de rl (wire (afterCancel Gen.senderDrainsOnDone (messageCalls ser sl) oracle queue)) =
      ((queue.filter (arrives ser sl)).map Ev.deliver, .hdr0) := by
  rw [drain_writes_all, wire_messageCalls]
  exact stream ser de hrt sl rl hsl queue

example : wire (afterCancel (M := Nat) Gen.senderDrainsOnDone
    (messageCalls (fun n => some (List.replicate n 0x61)) 512) [true, false] [1, 2, 3]) =
    [0, 0, 0, 1, 0x61, 0, 0, 0, 2, 0x61, 0x61, 0, 0, 0, 3, 0x61, 0x61, 0x61] := by decide

/-- Without the drain (the code before the fix: `case <-senderDone: return`) a queued message
    could be lost: the scheduler picks `<-senderDone` first. -/
theorem no_drain_can_lose {M : Type} (w : M → List WriteCall) (m : M) (q : List M) :
    afterCancel false w [false] (m :: q) = [] := rfl

end Nexus.C15
