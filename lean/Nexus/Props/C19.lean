/-
  C19 — URI validation/matching and id generation follow the WAMP rules.

  Property text.  "A URI is accepted for a purpose exactly when its dot-separated components
  satisfy the rule for that purpose (loose: no whitespace, '.' or '#' inside a component;
  strict: only [0-9a-z_]; all components non-empty for exact use, last may be empty for prefix,
  any may be empty for wildcard); a topic or procedure matches a prefix pattern iff it starts
  with it, and a wildcard pattern iff it has the same number of components and equals it in
  every non-empty one.  Request ids issued within a session start at 1, increase by 1 and wrap
  from 2^53 to 1, router-wide random ids lie in [1, 2^53], ids read from messages are accepted
  only within that range, and a received request id counts as new exactly when it is larger
  than the last one or lies within the allowed wrap-around window."

  All theorems are for ALL byte strings / ALL 64-bit values, and are stated over the definitions
  REGENERATED from the Go source by `gen uri` / `gen ids` (namespace `Nexus.Gen`):
  the six regex ASTs, the `ValidURI` dispatch, `MatchPrefix`/`MatchWildcard`, `MaxID`, `deltaID`,
  `idGenNext`, `isNewRecvID`, `updateLastRecvID`, `asIDInRange`/`asIDOfInt64`, `globalID`.

  clause                                                   theorem
  -------------------------------------------------------  ------------------------------------------
  loose / exact       `^([^\s\.#]+\.)*([^\s\.#]+)$`        looseURINonEmpty_iff_rule
  loose / prefix      `^([^\s\.#]+\.)*([^\s\.#]*)$`        looseURILastEmpty_iff_rule
  loose / wildcard    `^(([^\s\.#]+\.)|\.)*([^\s\.#]+)?$`  looseURIEmpty_iff_rule
  strict / exact      `^([0-9a-z_]+\.)*([0-9a-z_]+)$`      strictURINonEmpty_iff_rule
  strict / prefix     `^([0-9a-z_]+\.)*([0-9a-z_]*)$`      strictURILastEmpty_iff_rule
  strict / wildcard   `^(([0-9a-z_]+\.)|\.)*([0-9a-z_]+)?$` strictURIEmpty_iff_rule
  (all six are entries of the table `regexFor`)            regexFor_iff_rule
  ValidURI picks the right pattern for (strict, match)     dispatch, dispatch_prefix, dispatch_wildcard,
                                                           dispatch_other_is_exact
  "accepted exactly when the components satisfy the rule"  validURI_iff_rule           (headline)
  the executable matcher decides regex membership          matcher_correct
  the executable rule (driver request `rule`) decides it   ruleB_iff_rule
  edge cases of the rule (empty URI, lone dot)             rule_empty_uri, validURI_empty_uri, rule_lone_dot
  "whitespace" is RE2's ASCII \s (VT, NBSP are accepted)   whitespace_is_ascii_class
  prefix pattern: "iff it starts with it"                  prefixMatch_iff
  wildcard pattern: same #components ∧ equal at non-empty  wildcardMatch_iff
  request ids start at 1                                   idgen_first
  … increase by 1 and wrap from 2^53 to 1                  idgen_succ, idgen_next_step, idgen_wrap
  … always within [1, 2^53]                                idgen_range, idgen_closed_form
  … any 2^53 consecutive ids are distinct; the id issued   idgen_no_repeat, idgen_period, idgen_eq_iff
    2^53 calls later is the same one (period exactly 2^53)
  random ids lie in [1, 2^53] for every draw               globalid_range, globalid_bound_is_maxID
  ids read from messages accepted only within the range    asid_int64_iff, asid_uint64_iff, asid_uint64_wrap_rejected,
                                                           asid_iff_value, asid_accepts_iff (all 9 Go representations),
                                                           asInt64_switch_modelled (the 9 cases are the source's)
  received id is new ⇔ valid ∧ (first ∨ larger ∨ window)   isnew_reachable (full strength: after ANY history),
                                                           isnew_iff, isnew_in_words (for every last ≤ 2^53),
                                                           recv_last_invariant, update_spec, wrapDistance_is_next_steps,
                                                           isnew_arbitrary_last_full_fails (last > 2^53 is
                                                           unreachable and the formula does not extend to it)
  the constants                                            consts

  Step counts, generator/receiver compatibility, platforms
  closed form of k `Next` calls; nextIter = the generator  nextIter_closed, nextIter_fresh, idgen_is_nextIter,
                                                           nextIter_closed_full_fails (s = 0, k = 0 boundary)
  which step counts lead from last to id; the least one    nextIter_eq_iff, stepsTo_is_least, wrapDistance_is_least_steps
  window = "issued within < 500 further `Next` calls"      isnew_iff_steps, isnew_iff_least_steps,
                                                           isnew_reachable_steps (after ANY history)
  generator/receiver compatibility                         next_ids_are_new, recv_accepts_generated, recv_accepts_idgen,
                                                           next_ids_are_new_500_full_fails (the bound is tight)
  replay of the id just presented                          isnew_self, same_id_not_new_twice, accepted_not_new_again,
                                                           older_id_new_iff, accepted_id_stays_old_full_fails (observation)
  float→int64 implementation-defined cases, any platform   asid_float_oor_rejected, asid_float_oor_rejected_on,
                                                           asid_known_platforms_benign, asid_iff_value_on,
                                                           asid_every_platform_full_fails (hypothetical platform)
  dynamic types outside the nine                           asid_other_rejected, asid_any_iff
  String-level L2 functions = these byte-level functions   matchKind_policy, validUri_eq, validUri_iff_rule, prefixMatch_eq,
    (in Nexus/L2/Proofs/UriBridge.lean, namespace            wildcardMatch_eq, prefixMatch_string_iff, wildcardMatch_string_iff
     Nexus.C19; that file imports this one)

  EDGE CASES of the URI rule (they are what the regexes do; the iff is exact):
  * the components are `strings.Split(uri, ".")`: the EMPTY URI is ONE EMPTY component.  Hence ""
    is rejected for exact use, but ACCEPTED for prefix use (its only component is the last one) and
    for wildcard use, in loose and strict mode alike (`rule_empty_uri`, `validURI_empty_uri`);
  * "." is two empty components: rejected for exact and prefix, accepted for wildcard (`rule_lone_dot`);
  * any `match` value other than the exact byte strings "prefix" / "wildcard" (e.g. "exact", "",
    "Prefix", garbage) means exact use (`dispatch_other_is_exact`);
  * "whitespace" is the class `\s` of Go's RE2 = {TAB, LF, FF, CR, SPACE}; VT (0x0B) and the
    Unicode spaces (U+0085, U+00A0, U+2028 …) are NOT whitespace for the loose rule and are accepted
    inside components (`whitespace_is_ascii_class`).  This is the recorded interpretation.

  TRUSTED BASE specific to this file
  * Go's `regexp` implements regular-language membership for the six anchored patterns (`^…$`
    without flags is begin/end of text), and `\s` is the ASCII class above.
  * Byte-level modelling is exact for Go's rune-level engine here: every character the six patterns
    mention is ASCII; `gen uri` refuses non-ASCII patterns.  A multi-byte UTF-8 rune consists of
    bytes ≥ 0x80 only, an invalid byte decodes to U+FFFD (width 1); such a rune is accepted by the
    negated loose class and rejected by the strict class, and so is each of its bytes in the byte
    model; the classes occur only under `+`/`*`, so rune boundaries do not matter.
  * `strings.Split(s, ".")` = `splitDot`, `strings.HasPrefix` = `List.isPrefixOf` (gen checks that
    PrefixMatch is exactly that call); the hand-written `wildcardMatch` mirrors the Go loop and is
    tied by the `uriid` correspondence family and a source hash.
  * `secureInt63n(n)` returns a value in `[0, n)` (its documentation; crypto/rand.Int).
  * Go's float→int64 conversion truncates toward zero when the result fits; out of range it is
    implementation-defined (the model takes amd64's 0x8000000000000000).  "Every platform's choice
    is rejected" is the theorem `asid_iff_value_on` under the explicit side condition
    `FloatConv.Benign` (the platform's answers lie outside [1, 2^53]); amd64, arm64 and every
    platform answering 0 / MinInt64 / MaxInt64 satisfy it (`asid_known_platforms_benign`); without the
    side condition the sentence is false (`asid_every_platform_full_fails`).
-/
import Nexus.Uri.Lemmas
import Nexus.Ids.Lemmas
import Nexus.Ids.AsID

namespace Nexus.C19
open Nexus.Uri Nexus.Uri.Regex Nexus.Ids Nexus.Gen

/-- The executable matcher used by the model driver decides regex membership. -/
theorem matcher_correct (r : Regex) (s : List UInt8) : matchB r s = true ↔ Matches r s :=
  matchB_iff

/-- Each entry of the table `regexFor` recognises exactly the rule of its (strict, policy). -/
theorem regexFor_iff_rule (strict : Bool) (p : Policy) (s : List UInt8) :
    Matches (regexFor strict p) s ↔ rule strict p s := by
  change _ ↔ ruleC (okByte strict) p s
  cases strict
  · rw [show regexFor false p = shape looseC p by cases p <;> rfl, matches_shape (by decide), looseC_mem_eq]
  · rw [show regexFor true p = shape strictC p by cases p <;> rfl, matches_shape (by decide), strictC_mem_eq]

theorem looseURINonEmpty_iff_rule (s : List UInt8) :
    Matches looseURINonEmpty s ↔ rule false .nonEmpty s :=
  regexFor_iff_rule false .nonEmpty s

theorem looseURILastEmpty_iff_rule (s : List UInt8) :
    Matches looseURILastEmpty s ↔ rule false .lastEmpty s :=
  regexFor_iff_rule false .lastEmpty s

theorem looseURIEmpty_iff_rule (s : List UInt8) :
    Matches looseURIEmpty s ↔ rule false .anyEmpty s :=
  regexFor_iff_rule false .anyEmpty s

theorem strictURINonEmpty_iff_rule (s : List UInt8) :
    Matches strictURINonEmpty s ↔ rule true .nonEmpty s :=
  regexFor_iff_rule true .nonEmpty s

theorem strictURILastEmpty_iff_rule (s : List UInt8) :
    Matches strictURILastEmpty s ↔ rule true .lastEmpty s :=
  regexFor_iff_rule true .lastEmpty s

theorem strictURIEmpty_iff_rule (s : List UInt8) :
    Matches strictURIEmpty s ↔ rule true .anyEmpty s :=
  regexFor_iff_rule true .anyEmpty s

/-- The generated `ValidURI` dispatch picks, for every `strict` and every `match` byte string,
    the pattern of the policy that `match` denotes. -/
theorem dispatch (strict : Bool) (mtch : List UInt8) :
    validURIRegex strict mtch = regexFor strict (policyOf mtch) := by
  have hne : prefixName ≠ wildcardName := by decide
  simp only [validURIRegex, policyOf, matchPrefix_eq, matchWildcard_eq]
  cases strict <;> by_cases hw : mtch = wildcardName <;> by_cases hp : mtch = prefixName <;>
    simp [hw, hp, hne, regexFor]

theorem dispatch_prefix (strict : Bool) :
    validURIRegex strict prefixName = if strict then strictURILastEmpty else looseURILastEmpty := by
  rw [dispatch]; cases strict <;> rfl

theorem dispatch_wildcard (strict : Bool) :
    validURIRegex strict wildcardName = if strict then strictURIEmpty else looseURIEmpty := by
  rw [dispatch]; cases strict <;> rfl

/-- Any match string other than "prefix" / "wildcard" means exact use. -/
theorem dispatch_other_is_exact (strict : Bool) (mtch : List UInt8)
    (hp : mtch ≠ prefixName) (hw : mtch ≠ wildcardName) :
    validURIRegex strict mtch = if strict then strictURINonEmpty else looseURINonEmpty := by
  rw [dispatch]
  simp only [policyOf, hp, hw, if_false]
  cases strict <;> rfl

-- non-vacuity: "exact", "" and "Prefix" are such match strings
example : asciiBytes ['e', 'x', 'a', 'c', 't'] ≠ prefixName ∧ asciiBytes ['e', 'x', 'a', 'c', 't'] ≠ wildcardName := by decide
example : ([] : List UInt8) ≠ prefixName ∧ ([] : List UInt8) ≠ wildcardName := by decide
example : asciiBytes ['P', 'r', 'e', 'f', 'i', 'x'] ≠ prefixName ∧ asciiBytes ['P', 'r', 'e', 'f', 'i', 'x'] ≠ wildcardName := by decide
-- the names are the ASCII strings "prefix" / "wildcard", and the Go constants are these bytes
example : "prefix".toList = ['p', 'r', 'e', 'f', 'i', 'x'] ∧ "wildcard".toList = ['w', 'i', 'l', 'd', 'c', 'a', 'r', 'd'] := by decide
example : MatchPrefix = prefixName ∧ MatchWildcard = wildcardName := by decide

/-- HEADLINE.  `URI(u).ValidURI(strict, match)` is true exactly when the dot-separated components
    of `u` satisfy the rule for the purpose `match` denotes — for every byte string `u`, every
    byte string `match`, both modes. -/
theorem validURI_iff_rule (strict : Bool) (mtch u : List UInt8) :
    validURI strict mtch u = true ↔ rule strict (policyOf mtch) u := by
  rw [validURI, matchB_iff, dispatch, regexFor_iff_rule]

/-- The rule is decidable: `ruleB` (what the driver's `rule` request runs against the real
    `ValidURI` in the correspondence family) decides it. -/
theorem ruleB_iff_rule (strict : Bool) (p : Policy) (s : List UInt8) :
    ruleB strict p s = true ↔ rule strict p s := by
  cases p <;> simp [ruleB, rule, emptiness, List.all_eq_true]

/-- The empty URI is one empty component: rejected for exact use, accepted for prefix and wildcard. -/
theorem rule_empty_uri (strict : Bool) :
    ¬ rule strict .nonEmpty [] ∧ rule strict .lastEmpty [] ∧ rule strict .anyEmpty [] := by
  refine ⟨?_, ?_, ?_⟩
  · intro h; exact h.2 [] (by simp [splitDot, splitAux]) rfl
  · constructor <;> simp [splitDot, splitAux, emptiness]
  · constructor <;> simp [splitDot, splitAux, emptiness]

theorem validURI_empty_uri (strict : Bool) (mtch : List UInt8) :
    validURI strict mtch [] = true ↔ (mtch = prefixName ∨ mtch = wildcardName) := by
  rw [validURI_iff_rule]
  have h := rule_empty_uri strict
  have hne : prefixName ≠ wildcardName := by decide
  unfold policyOf
  by_cases hw : mtch = wildcardName
  · simp [hw, h.2.2]
  · by_cases hp : mtch = prefixName
    · subst hp; simp [hne, h.2.1]
    · simp [hp, hw, h.1]

/-- "." is two empty components: only the wildcard policy accepts it. -/
theorem rule_lone_dot (strict : Bool) :
    ¬ rule strict .nonEmpty [dot] ∧ ¬ rule strict .lastEmpty [dot] ∧ rule strict .anyEmpty [dot] := by
  have hs : splitDot [dot] = [[], []] := by decide
  refine ⟨?_, ?_, ?_⟩
  · intro h; exact h.2 [] (by simp [hs]) rfl
  · intro h; exact h.2 [] (by simp [hs]) rfl
  · constructor
    · simp [hs]
    · trivial

/-- The recorded interpretation of "whitespace": RE2's ASCII class.  TAB, LF, FF, CR and SPACE are
    rejected inside a loose component; VT (0x0B), the raw byte 0xA0 and UTF-8 encoded U+00A0 /
    U+2028 are accepted. -/
theorem whitespace_is_ascii_class :
    (∀ b : UInt8, b ∈ [0x09, 0x0a, 0x0c, 0x0d, 0x20] → validURI false [] [0x61, b, 0x62] = false) ∧
    validURI false [] [0x61, 0x0b, 0x62] = true ∧
    validURI false [] [0x61, 0xa0, 0x62] = true ∧
    validURI false [] [0x61, 0xc2, 0xa0, 0x62] = true ∧
    validURI false [] [0x61, 0xe2, 0x80, 0xa8, 0x62] = true := by
  refine ⟨?_, by decide, by decide, by decide, by decide⟩
  intro b hb
  simp only [List.mem_cons, List.not_mem_nil, or_false] at hb
  rcases hb with rfl | rfl | rfl | rfl | rfl <;> decide

-- concrete instances of the headline theorem, both directions
example : rule false .nonEmpty (asciiBytes ['a', '.', 'B', '-', '1']) :=
  (validURI_iff_rule false [] _).mp (by decide)
example : ¬ rule true .nonEmpty (asciiBytes ['a', '.', 'B']) :=
  fun h => absurd ((validURI_iff_rule true [] _).mpr h) (by decide)
example : rule true .lastEmpty (asciiBytes ['a', 'b', '.']) ∧ ¬ rule true .nonEmpty (asciiBytes ['a', 'b', '.']) :=
  ⟨(validURI_iff_rule true prefixName _).mp (by decide),
   fun h => absurd ((validURI_iff_rule true [] _).mpr h) (by decide)⟩
example : rule true .anyEmpty (asciiBytes ['a', '.', '.', 'b']) ∧ ¬ rule true .lastEmpty (asciiBytes ['a', '.', '.', 'b']) :=
  ⟨(validURI_iff_rule true wildcardName _).mp (by decide),
   fun h => absurd ((validURI_iff_rule true prefixName _).mpr h) (by decide)⟩

/-- A URI matches a prefix pattern iff it starts with it. -/
theorem prefixMatch_iff (u p : List UInt8) : prefixMatch u p = true ↔ ∃ t, u = p ++ t := by
  rw [prefixMatch, List.isPrefixOf_iff_prefix]
  constructor
  · rintro ⟨t, rfl⟩; exact ⟨t, rfl⟩
  · rintro ⟨t, rfl⟩; exact ⟨t, rfl⟩

/-- A URI matches a wildcard pattern iff both have the same number of components and the
    pattern equals the URI in each of its non-empty components. -/
theorem wildcardMatch_iff (u w : List UInt8) :
    wildcardMatch u w = true ↔
      (splitDot u).length = (splitDot w).length ∧
      ∀ i (hw : i < (splitDot w).length) (hu : i < (splitDot u).length),
        (splitDot w)[i] = [] ∨ (splitDot w)[i] = (splitDot u)[i] := by
  simp only [wildcardMatch]
  by_cases hlen : (splitDot u).length = (splitDot w).length
  · rw [if_neg (fun h => h hlen), wildLoop_iff]
    exact ⟨fun h => ⟨hlen, h⟩, fun h => h.2⟩
  · rw [if_pos hlen]; simp [hlen]

example : wildcardMatch (asciiBytes ['a', '.', 'b', '.', 'c']) (asciiBytes ['a', '.', '.', 'c']) = true := by decide
example : wildcardMatch (asciiBytes ['a', '.', 'b', '.', 'c']) (asciiBytes ['a', '.', '.']) = true := by decide
example : wildcardMatch (asciiBytes ['a', '.', 'b', '.', 'c']) (asciiBytes ['a', '.', 'c']) = false := by decide
example : wildcardMatch [] [] = true ∧ wildcardMatch [dot] [] = false := by decide

theorem consts : MaxID = 2 ^ 53 ∧ deltaID = 500 ∧ MaxID_u64.toNat = 2 ^ 53 ∧ MaxID_i64.toInt = 2 ^ 53 ∧
    deltaID_u64.toNat = 500 := by decide

/-! ## Request ids issued within a session (`IDGen.Next`, regenerated as `idGenNext`) -/

/-- The first id a fresh generator issues is 1. -/
theorem idgen_first : idGenSeq 0 = 1 := by decide

/-- One step of `Next` from any reachable counter value `s ≤ 2^53`: `s + 1`, except that after
    `2^53` comes `1`; the stored counter equals the id returned. -/
theorem idgen_next_step (s : UInt64) (hs : s.toNat ≤ 2 ^ 53) :
    (idGenNext s).2.toNat = (if s.toNat = 2 ^ 53 then 1 else s.toNat + 1) ∧
    (idGenNext s).1 = (idGenNext s).2 :=
  ⟨WpD.next_fst_toNat s hs, rfl⟩

-- non-vacuity: the counter values 0 (fresh), 41 and 2^53 satisfy the hypothesis
example : (0 : UInt64).toNat ≤ 2 ^ 53 ∧ (41 : UInt64).toNat ≤ 2 ^ 53 ∧ MaxID_u64.toNat ≤ 2 ^ 53 := by decide
example : idGenNext 41 = (42, 42) := by decide

/-- Wrap: after `2^53` the next id is `1`. -/
theorem idgen_wrap : idGenNext MaxID_u64 = (1, 1) ∧ idGenNext (MaxID_u64 - 1) = (MaxID_u64, MaxID_u64) := by
  decide

/-- The n-th id (0-based) of a fresh generator is `n mod 2^53 + 1`. -/
theorem idgen_closed_form (n : Nat) : (idGenSeq n).toNat = n % 2 ^ 53 + 1 := by
  rw [WpD.idGenSeq_eq_nextIter, WpD.nextIter_fresh]

/-- Every id issued lies in `[1, 2^53]`. -/
theorem idgen_range (n : Nat) : 1 ≤ (idGenSeq n).toNat ∧ (idGenSeq n).toNat ≤ 2 ^ 53 := by
  rw [idgen_closed_form]; omega

/-- Ids increase by 1 and wrap from `2^53` to `1`. -/
theorem idgen_succ (n : Nat) :
    (idGenSeq (n + 1)).toNat = if (idGenSeq n).toNat = 2 ^ 53 then 1 else (idGenSeq n).toNat + 1 := by
  rw [idgen_closed_form, idgen_closed_form]
  split <;> omega

/-- Two issued ids are equal exactly when their positions agree modulo `2^53`. -/
theorem idgen_eq_iff (i j : Nat) : idGenSeq i = idGenSeq j ↔ i % 2 ^ 53 = j % 2 ^ 53 := by
  constructor
  · intro h
    have h' := congrArg UInt64.toNat h
    rw [idgen_closed_form, idgen_closed_form] at h'
    omega
  · intro h
    apply UInt64.toNat_inj.mp
    rw [idgen_closed_form, idgen_closed_form, h]

/-- Request ids of one session do not repeat within a full cycle: two of any `2^53` consecutive
    ids issued by a generator are different (so a reply can be matched to its request by id as
    long as fewer than `2^53` requests are outstanding). -/
theorem idgen_no_repeat (i j : Nat) (hij : i < j) (hj : j < i + 2 ^ 53) : idGenSeq i ≠ idGenSeq j :=
  fun h => by have := (idgen_eq_iff i j).mp h; omega

/-- ... and the cycle is exact: the id issued `2^53` calls later is the same one again. -/
theorem idgen_period (n : Nat) : idGenSeq (n + 2 ^ 53) = idGenSeq n :=
  (idgen_eq_iff _ _).mpr (by omega)

example : idGenSeq 0 ≠ idGenSeq 1 := idgen_no_repeat 0 1 (by decide) (by decide)

/-! ## Router-wide random ids (`GlobalID`, regenerated as `globalID` over the drawn value) -/

theorem globalid_bound_is_maxID : globalIDRandBound = MaxID ∧ MaxID = 2 ^ 53 := by decide

/-- For every value `r ∈ [0, MaxID)` the random source can return, `GlobalID` is `r + 1 ∈ [1, 2^53]`. -/
theorem globalid_range (r : Int64) (h0 : 0 ≤ r.toInt) (h1 : r.toInt < globalIDRandBound) :
    ((globalID r).toNat : Int) = r.toInt + 1 ∧ 1 ≤ (globalID r).toNat ∧ (globalID r).toNat ≤ 2 ^ 53 := by
  have hb : (globalIDRandBound : Int) = 2 ^ 53 := by decide
  rw [hb] at h1
  have hc := toNat_toUInt64 r
  rw [if_pos h0] at hc
  have h1' : (1 : UInt64).toNat = 1 := rfl
  have : (globalID r).toNat = r.toUInt64.toNat + 1 := by
    simp only [globalID, UInt64.toNat_add, h1']
    exact Nat.mod_eq_of_lt (by omega)
  omega

-- non-vacuity: the extreme draws 0 and MaxID-1
example : (0 : Int64).toInt = 0 ∧ globalID 0 = 1 := by decide
example : (9007199254740991 : Int64).toInt < globalIDRandBound ∧ globalID 9007199254740991 = MaxID_u64 := by decide

/-! ## Ids read from messages (`AsID`: regenerated range test after the `AsInt64` type switch) -/

/-- The hand-written `Nexus.Ids.asInt64` (one constructor of `GoNum` per case, each converted by
    Go's `int64(v)`) covers exactly the cases of the type switch of `AsInt64` as it is in the source:
    this pins the regenerated table; a new, removed or altered case breaks the proof. -/
theorem asInt64_switch_modelled :
    asInt64Cases =
      [("int64", "v"), ("ID", "int64(v)"), ("uint64", "int64(v)"), ("int", "int64(v)"),
       ("int32", "int64(v)"), ("uint", "int64(v)"), ("uint32", "int64(v)"),
       ("float64", "int64(v)"), ("float32", "int64(v)")] := by decide

/-- For every int64 value: accepted iff `1 ≤ v ≤ 2^53`, and the id is `v`. -/
theorem asid_int64_iff (v : Int64) (id : UInt64) :
    asID (.int64 v) = some id ↔ (1 ≤ v.toInt ∧ v.toInt ≤ 2 ^ 53) ∧ (id.toNat : Int) = v.toInt :=
  asIDOfInt64_iff v id

/-- For every uint64 value (wamp.ID, uint64, uint): accepted iff `1 ≤ u ≤ 2^53`, id `= u`. -/
theorem asid_uint64_iff (u id : UInt64) :
    asID (.uint64 u) = some id ↔ (1 ≤ u.toNat ∧ u.toNat ≤ 2 ^ 53) ∧ id = u := by
  rw [asID, asInt64, asIDOfInt64_iff, toInt_toInt64, ← UInt64.toNat_inj]
  have := UInt64.toNat_lt u
  split <;> omega

/-- The uint64 → int64 conversion wraps: values ≥ 2^63 become negative and are rejected. -/
theorem asid_uint64_wrap_rejected (u : UInt64) (h : 2 ^ 63 ≤ u.toNat) :
    (u.toInt64).toInt < 0 ∧ asID (.uint64 u) = none ∧ asID (.id u) = none ∧ asID (.uint u) = none := by
  have hneg : (u.toInt64).toInt < 0 := by
    rw [toInt_toInt64]; have := UInt64.toNat_lt u; split <;> omega
  have hnone : asIDOfInt64 u.toInt64 = none := (asIDOfInt64_none_iff _).mpr (by omega)
  exact ⟨hneg, hnone, hnone, hnone⟩

-- non-vacuity: 2^63 and 2^64-1
example : 2 ^ 63 ≤ (9223372036854775808 : UInt64).toNat ∧ 2 ^ 63 ≤ (18446744073709551615 : UInt64).toNat := by decide

/-- ALL representations `AsInt64` knows (int64, ID, uint64, int, int32, uint, uint32, float64,
    float32 — every bit pattern): accepted iff the mathematical value the Go value denotes
    (floats: truncated toward zero; NaN/±Inf: none) lies in `[1, 2^53]`, and the id is that value. -/
theorem asid_iff_value (n : GoNum) (id : UInt64) :
    asID n = some id ↔ ∃ v, n.value = some v ∧ 1 ≤ v ∧ v ≤ 2 ^ 53 ∧ (id.toNat : Int) = v := by
  have hu : ∀ u : UInt64, asIDOfInt64 u.toInt64 = some id ↔
      ∃ v, some (u.toNat : Int) = some v ∧ 1 ≤ v ∧ v ≤ 2 ^ 53 ∧ (id.toNat : Int) = v := by
    intro u
    rw [show asIDOfInt64 u.toInt64 = asID (.uint64 u) from rfl, asid_uint64_iff, ← UInt64.toNat_inj]
    constructor
    · rintro ⟨h, e⟩; exact ⟨_, rfl, by omega⟩
    · rintro ⟨v, hv, h⟩; cases hv; omega
  have hf : ∀ t : Option Int, asIDOfInt64 (truncToInt64 t) = some id ↔
      ∃ v, t = some v ∧ 1 ≤ v ∧ v ≤ 2 ^ 53 ∧ (id.toNat : Int) = v := by
    intro t
    rw [asIDOfInt64_iff, truncToInt64_toInt]
    cases t with
    | none => simp
    | some t =>
      simp only [Option.some.injEq, exists_eq_left']
      split <;> omega
  cases n with
  | int64 v =>
    simp only [asID, asInt64, GoNum.value, asIDOfInt64_iff, Option.some.injEq, exists_eq_left']
    omega
  | id u => exact hu u
  | uint64 u => exact hu u
  | int v =>
    simp only [asID, asInt64, GoNum.value, asIDOfInt64_iff, Option.some.injEq, exists_eq_left']
    omega
  | int32 v =>
    simp only [asID, asInt64, GoNum.value, asIDOfInt64_iff, Int32.toInt_toInt64, Option.some.injEq,
      exists_eq_left']
    omega
  | uint u => exact hu u
  | uint32 u =>
    have := hu u.toUInt64
    rw [UInt32.toNat_toUInt64] at this
    exact this
  | float64 b => exact hf (f64Trunc b)
  | float32 b => exact hf (f32Trunc b)

/-- Acceptance alone, for all representations. -/
theorem asid_accepts_iff (n : GoNum) :
    (asID n).isSome = true ↔ ∃ v, n.value = some v ∧ 1 ≤ v ∧ v ≤ 2 ^ 53 := by
  constructor
  · intro h
    obtain ⟨id, hid⟩ := Option.isSome_iff_exists.mp h
    obtain ⟨v, hv, h1, h2, _⟩ := (asid_iff_value n id).mp hid
    exact ⟨v, hv, h1, h2⟩
  · rintro ⟨v, hv, h1, h2⟩
    have hlt : v.toNat < 2 ^ 64 := by omega
    have : asID n = some (UInt64.ofNat v.toNat) :=
      (asid_iff_value n _).mpr ⟨v, hv, h1, h2, by
        rw [UInt64.toNat_ofNat', Nat.mod_eq_of_lt hlt]; omega⟩
    rw [this]; rfl

-- concrete: 2^53 accepted, 2^53+1 and 0 and -1 rejected, float64 2^53 accepted, 1.5 ↦ 1, NaN rejected
example : asID (.int64 9007199254740992) = some 9007199254740992 ∧ asID (.int64 9007199254740993) = none ∧
    asID (.int64 0) = none ∧ asID (.int64 (-1)) = none ∧ asID (.uint64 18446744073709551615) = none := by decide
example : asID (.float64 0x4340000000000000) = some 9007199254740992 ∧ asID (.float64 0x3ff8000000000000) = some 1 ∧
    asID (.float64 0x7ff8000000000000) = none ∧ asID (.float64 0x4340000000000001) = none := by decide

/-! ## Received request ids (`Session.IsNewRecvID` / `UpdateLastRecvIDLocked`, regenerated) -/

/-- `UpdateLastRecvID`: answers `IsNewRecvID`, and stores the id iff it is new. -/
theorem update_spec (last id : UInt64) :
    updateLastRecvID last id = (if isNewRecvID last id then id else last, isNewRecvID last id) :=
  updateLastRecvID_eq last id

/-- new ⇔ valid ∧ (no previous id ∨ greater ∨ (smaller ∧ MaxID − (last − id) < deltaID)),
    for every `id` and every stored `last ≤ 2^53` (which is every reachable one: `recv_last_invariant`). -/
theorem isnew_iff (last id : UInt64) (hlast : last.toNat ≤ MaxID) :
    isNewRecvID last id = true ↔
      (1 ≤ id.toNat ∧ id.toNat ≤ MaxID) ∧
      (last.toNat = 0 ∨ id.toNat > last.toNat ∨
        (id.toNat < last.toNat ∧ MaxID - (last.toNat - id.toNat) < deltaID)) := by
  rw [maxID_eq] at hlast ⊢
  rw [deltaID_eq]
  exact isNewRecvID_iff last id hlast

-- non-vacuity: last = 2^53 satisfies the hypothesis, and the window case is inhabited
example : MaxID_u64.toNat ≤ MaxID ∧ isNewRecvID MaxID_u64 3 = true ∧ isNewRecvID MaxID_u64 500 = false := by decide

/-- Number of `Next` steps from `last` forward to `id` when `id < last`, going over the wrap
    `2^53 → 1`: `(2^53 − last) + id`. -/
def wrapDistance (last id : Nat) : Nat := (2 ^ 53 - last) + id

/-- The same in the property's words: a received id is new exactly when it is a valid id and
    (nothing was received before, or) it is larger than the last one, or it lies within the
    allowed wrap-around window, i.e. fewer than `deltaID = 500` steps ahead of the last one
    across the wrap. -/
theorem isnew_in_words (last id : UInt64) (hlast : last.toNat ≤ 2 ^ 53) :
    isNewRecvID last id = true ↔
      (1 ≤ id.toNat ∧ id.toNat ≤ 2 ^ 53) ∧
      (last.toNat = 0 ∨ id.toNat > last.toNat ∨
        (id.toNat < last.toNat ∧ wrapDistance last.toNat id.toNat < 500)) := by
  rw [isNewRecvID_iff last id hlast]
  refine and_congr_right' (or_congr_right (or_congr_right (and_congr_right fun hlt => ?_)))
  unfold wrapDistance
  omega

/-- Below `last` the wrap-around distance is the least step count `WpD.stepsTo`; what holds of the one
    holds of the other. -/
theorem wrapDistance_eq_stepsTo {last id : Nat} (hlt : id < last) (hl : last ≤ 2 ^ 53) :
    wrapDistance last id = WpD.stepsTo last id := by
  unfold wrapDistance WpD.stepsTo
  omega

/-- `wrapDistance` really is the wrap-around distance: issuing `wrapDistance last id` further ids
    after `last` (with the generator's own wrap `2^53 → 1`) arrives exactly at `id`. -/
theorem wrapDistance_is_next_steps (last id : UInt64)
    (hid : 1 ≤ id.toNat) (hlt : id.toNat < last.toNat) (hlast : last.toNat ≤ 2 ^ 53) :
    nextIter (wrapDistance last.toNat id.toNat) last = id := by
  rw [wrapDistance_eq_stepsTo hlt hlast]
  exact (WpD.nextIter_eq_iff _ last id (by omega) hlast hid (by omega)).mpr (Nat.mod_mod _ _)

-- non-vacuity: last = 2^53 - 2, id = 3: 5 steps (2^53-1, 2^53, 1, 2, 3)
example : wrapDistance 9007199254740990 3 = 5 ∧ nextIter 5 9007199254740990 = 3 := by decide

example : (9007199254740900 : UInt64).toNat ≤ 2 ^ 53 ∧ wrapDistance 9007199254740900 7 = 99 ∧
    isNewRecvID 9007199254740900 7 = true := by decide

/-- Invariant: whatever ids are received, the stored `lastRecvID` stays `≤ 2^53`
    (it is 0 or an accepted, hence valid, id). -/
theorem recv_last_invariant (ids : List UInt64) (last : UInt64) (hlast : last.toNat ≤ 2 ^ 53) :
    (recvRun last ids).2.toNat ≤ 2 ^ 53 := by
  induction ids generalizing last with
  | nil => exact hlast
  | cons id ids ih =>
    simp only [recvRun]
    apply ih
    rw [updateLastRecvID_eq]
    by_cases h : isNewRecvID last id = true
    · simp only [h, if_true]
      exact ((isNewRecvID_iff last id hlast).mp h).1.2
    · simp only [h]; exact hlast

example : ((0 : UInt64).toNat ≤ 2 ^ 53) := by decide

/-- FULL STRENGTH over reachable states: after ANY history of received ids on a fresh session,
    the next id is new ⇔ valid ∧ (no previous ∨ larger ∨ within the wrap-around window). -/
theorem isnew_reachable (history : List UInt64) (id : UInt64) :
    let last := (recvRun 0 history).2
    isNewRecvID last id = true ↔
      (1 ≤ id.toNat ∧ id.toNat ≤ 2 ^ 53) ∧
      (last.toNat = 0 ∨ id.toNat > last.toNat ∨
        (id.toNat < last.toNat ∧ wrapDistance last.toNat id.toNat < 500)) :=
  isnew_in_words _ id (recv_last_invariant history 0 (by decide))

/-- The formula of `isnew_iff` claimed for ALL 64-bit values of the stored `lastRecvID`, reachable
    or not.  (Stronger than the property, which speaks about sessions; it documents exactly
    how far the arithmetic goes.) -/
def isnew_arbitrary_last_full : Prop :=
  ∀ last id : UInt64,
    isNewRecvID last id = true ↔
      (1 ≤ id.toNat ∧ id.toNat ≤ MaxID) ∧
      (last.toNat = 0 ∨ id.toNat > last.toNat ∨
        (id.toNat < last.toNat ∧ MaxID - (last.toNat - id.toNat) < deltaID))

/-- … is FALSE: for the unreachable stored value `2^64 − 1` the uint64 subtraction
    `MaxID − (last − id)` wraps around and the code answers "not new" where the formula over the
    natural numbers says "new".  No session can get there (`recv_last_invariant`), so this is not a
    defect of the implementation; `isnew_iff` is the part that holds (hypothesis `last ≤ MaxID`) and
    `isnew_reachable` is the property at full strength. -/
theorem isnew_arbitrary_last_full_fails : ¬ isnew_arbitrary_last_full := by
  intro h
  have h1 := (h 18446744073709551615 1).mpr (by decide)
  have h2 : isNewRecvID 18446744073709551615 1 = false := by decide
  rw [h2] at h1
  cases h1

/-- Closed form of `k` calls of `IDGen.Next` starting from any issued id `s ∈ [1, 2^53]`: the
    counter is `(s − 1 + k) mod 2^53 + 1` — for every `k` and every such `s`. -/
theorem nextIter_closed (k : Nat) (s : UInt64) (h1 : 1 ≤ s.toNat) (h2 : s.toNat ≤ 2 ^ 53) :
    (nextIter k s).toNat = (s.toNat - 1 + k) % 2 ^ 53 + 1 :=
  WpD.nextIter_closed k s h1 h2

-- non-vacuity: s = 1, s = 2^53 satisfy the hypotheses; 2^53 + 3 steps from 2^53 − 1 end at 2
example : 1 ≤ (1 : UInt64).toNat ∧ (1 : UInt64).toNat ≤ 2 ^ 53 ∧ 1 ≤ MaxID_u64.toNat ∧ MaxID_u64.toNat ≤ 2 ^ 53 := by decide
example : (nextIter (2 ^ 53 + 3) 9007199254740991).toNat = 2 := by
  rw [nextIter_closed _ _ (by decide) (by decide)]; decide

/-- The same from the FRESH generator (counter 0, not an id): after `k + 1` calls the counter is
    `k mod 2^53 + 1`. -/
theorem nextIter_fresh (k : Nat) : (nextIter (k + 1) 0).toNat = k % 2 ^ 53 + 1 :=
  WpD.nextIter_fresh k

/-- The closed form claimed for EVERY counter `s ≤ 2^53`, i.e. including the fresh counter 0. -/
def nextIter_closed_full : Prop :=
  ∀ (k : Nat) (s : UInt64), s.toNat ≤ 2 ^ 53 → (nextIter k s).toNat = (s.toNat - 1 + k) % 2 ^ 53 + 1

/-- … is FALSE at the boundary `s = 0`, `k = 0` (zero calls leave the counter at 0, which is not an
    id; the formula says 1).  `nextIter_closed` (hypothesis `1 ≤ s`) and `nextIter_fresh` (`s = 0`,
    at least one call) together cover every reachable counter. -/
theorem nextIter_closed_full_fails : ¬ nextIter_closed_full := by
  intro h
  have := h 0 0 (by decide)
  revert this; decide

/-- `nextIter` is the generator of the property: the state of a fresh `IDGen` after `n` calls is
    `nextIter n 0`, and the n-th id issued (0-based) is `nextIter (n + 1) 0`.  So every statement
    below about `nextIter k last` is about the ids `IDGen.Next` issues. -/
theorem idgen_is_nextIter (n : Nat) : idGenState n = nextIter n 0 ∧ idGenSeq n = nextIter (n + 1) 0 :=
  ⟨WpD.idGenState_eq_nextIter n, WpD.idGenSeq_eq_nextIter n⟩

/-- EXACTLY which numbers of `Next` calls lead from an issued id `last` to an issued id `id`:
    those congruent to `stepsTo last id = (id − last) mod 2^53` modulo the cycle length. -/
theorem nextIter_eq_iff (k : Nat) (last id : UInt64)
    (h1 : 1 ≤ last.toNat) (hl : last.toNat ≤ 2 ^ 53) (hi1 : 1 ≤ id.toNat) (hi2 : id.toNat ≤ 2 ^ 53) :
    nextIter k last = id ↔ k % 2 ^ 53 = WpD.stepsTo last.toNat id.toNat :=
  WpD.nextIter_eq_iff k last id h1 hl hi1 hi2

/-- `stepsTo last id` is the LEAST number of `Next` calls from `last` to `id`: that many calls
    arrive at `id`, and every `k` that arrives at `id` is at least that large. -/
theorem stepsTo_is_least (last id : UInt64)
    (h1 : 1 ≤ last.toNat) (hl : last.toNat ≤ 2 ^ 53) (hi1 : 1 ≤ id.toNat) (hi2 : id.toNat ≤ 2 ^ 53) :
    nextIter (WpD.stepsTo last.toNat id.toNat) last = id ∧
    ∀ k, nextIter k last = id → WpD.stepsTo last.toNat id.toNat ≤ k :=
  ⟨(WpD.nextIter_eq_iff _ last id h1 hl hi1 hi2).mpr (Nat.mod_mod _ _),
   fun k h => (WpD.nextIter_eq_iff k last id h1 hl hi1 hi2).mp h ▸ Nat.mod_le _ _⟩

-- non-vacuity: from 2^53 − 2 to 3 the least count is 5; from 7 to 7 it is 0; from 3 to 2^53 − 2 it is 2^53 − 5
example : WpD.stepsTo 9007199254740990 3 = 5 ∧ WpD.stepsTo 7 7 = 0 ∧
    WpD.stepsTo 3 9007199254740990 = 9007199254740987 := by decide

/-- `wrapDistance last id` (used in `isnew_in_words` / `isnew_reachable`) is not merely
    SOME number of `Next` steps from `last` to a smaller `id` (`wrapDistance_is_next_steps`) but the
    LEAST one, and every other step count that arrives at `id` differs from it by a multiple of the
    cycle length `2^53`. -/
theorem wrapDistance_is_least_steps (last id : UInt64)
    (hid : 1 ≤ id.toNat) (hlt : id.toNat < last.toNat) (hlast : last.toNat ≤ 2 ^ 53)
    (k : Nat) (hk : nextIter k last = id) :
    wrapDistance last.toNat id.toNat ≤ k ∧ k % 2 ^ 53 = wrapDistance last.toNat id.toNat := by
  rw [wrapDistance_eq_stepsTo hlt hlast]
  have h := (WpD.nextIter_eq_iff k last id (by omega) hlast hid (by omega)).mp hk
  exact ⟨h ▸ Nat.mod_le _ _, h⟩

-- non-vacuity: 5 and 2^53 + 5 steps both lead from 2^53 − 2 to 3
example : nextIter 5 9007199254740990 = 3 ∧ (2 ^ 53 + 5) % 2 ^ 53 = wrapDistance 9007199254740990 3 := by decide

/-- The wrap-around window read as a number of `Next` steps (independent of the
    arithmetic rearrangement `wrapDistance`): with a previous id `last ∈ [1, 2^53]`, a received id is
    new exactly when it is a valid id and it is larger than `last` or the generator, continuing from
    `last`, issues it within fewer than `deltaID = 500` further calls of `Next` (wrap included).
    Boundaries: `k = 499` is in, `k = 500` is out: `next_ids_are_new_500_full_fails`; `k = 0`, the
    same id, is out: `isnew_self`. -/
theorem isnew_iff_steps (last id : UInt64) (h1 : 1 ≤ last.toNat) (hl : last.toNat ≤ 2 ^ 53) :
    isNewRecvID last id = true ↔
      (1 ≤ id.toNat ∧ id.toNat ≤ 2 ^ 53) ∧
      (id.toNat > last.toNat ∨ ∃ k, 1 ≤ k ∧ k < 500 ∧ nextIter k last = id) := by
  rw [isNewRecvID_iff last id hl]
  constructor
  · rintro ⟨hv, h⟩
    refine ⟨hv, ?_⟩
    rcases h with h0 | hgt | ⟨hlt, hw⟩
    · omega
    · exact Or.inl hgt
    · refine Or.inr ⟨wrapDistance last.toNat id.toNat, ?_, ?_,
        wrapDistance_is_next_steps last id hv.1 hlt hl⟩ <;> unfold wrapDistance <;> omega
  · rintro ⟨hv, h⟩
    refine ⟨hv, ?_⟩
    rcases h with hgt | ⟨k, hk1, hk2, hk⟩
    · exact Or.inr (Or.inl hgt)
    · have hc := WpD.nextIter_closed k last h1 hl
      rw [hk] at hc
      omega

-- non-vacuity: last = 2^53 − 2; id 3 is 5 steps ahead (new), id 600 is not within 499 steps (not new)
example : 1 ≤ (9007199254740990 : UInt64).toNat ∧ (9007199254740990 : UInt64).toNat ≤ 2 ^ 53 ∧
    nextIter 5 9007199254740990 = 3 ∧ isNewRecvID 9007199254740990 3 = true ∧
    isNewRecvID 9007199254740990 600 = false := by decide

/-- The same with the LEAST step count made explicit: new ⇔ valid ∧ (larger ∨ the least number of
    `Next` calls from `last` to `id` (`stepsTo_is_least`) lies in `[1, 500)`). -/
theorem isnew_iff_least_steps (last id : UInt64) (h1 : 1 ≤ last.toNat) (hl : last.toNat ≤ 2 ^ 53) :
    isNewRecvID last id = true ↔
      (1 ≤ id.toNat ∧ id.toNat ≤ 2 ^ 53) ∧
      (id.toNat > last.toNat ∨
        (1 ≤ WpD.stepsTo last.toNat id.toNat ∧ WpD.stepsTo last.toNat id.toNat < 500)) := by
  rw [isNewRecvID_iff last id hl]
  refine and_congr_right fun hv => ?_
  unfold WpD.stepsTo
  omega

example : WpD.stepsTo 9007199254740990 3 = 5 ∧ WpD.stepsTo 9007199254740990 600 = 602 := by decide

/-- FULL STRENGTH over reachable states, in steps: after ANY history of received ids on a fresh
    session, the next id is new ⇔ valid ∧ (nothing accepted yet ∨ larger than the last accepted ∨
    issued by the generator within fewer than 500 `Next` calls after the last accepted id). -/
theorem isnew_reachable_steps (history : List UInt64) (id : UInt64) :
    let last := (recvRun 0 history).2
    isNewRecvID last id = true ↔
      (1 ≤ id.toNat ∧ id.toNat ≤ 2 ^ 53) ∧
      (last.toNat = 0 ∨ id.toNat > last.toNat ∨ ∃ k, 1 ≤ k ∧ k < 500 ∧ nextIter k last = id) := by
  intro last
  have hl : last.toNat ≤ 2 ^ 53 := recv_last_invariant history 0 (by decide)
  by_cases h0 : last.toNat = 0
  · rw [isNewRecvID_iff last id hl]
    constructor <;> rintro ⟨hv, _⟩ <;> exact ⟨hv, Or.inl h0⟩
  · rw [isnew_iff_steps last id (by omega) hl]
    constructor <;> rintro ⟨hv, h⟩ <;> refine ⟨hv, ?_⟩
    · exact Or.inr h
    · rcases h with h | h
      · exact absurd h h0
      · exact h

/-- GENERATOR/RECEIVER COMPATIBILITY.  If the receiver's stored id is the sender's
    generator counter `last ≤ 2^53` (0 = both fresh), every id the generator issues within the
    next `k ∈ [1, 500)` calls of `Next` — i.e. the sender may skip up to 498 ids, over the wrap
    too — is accepted as new.  (`last = 0` is included.) -/
theorem next_ids_are_new (last : UInt64) (hl : last.toNat ≤ 2 ^ 53) (k : Nat) (hk : 1 ≤ k ∧ k < 500) :
    isNewRecvID last (nextIter k last) = true := by
  have hr := WpD.nextIter_range k last hl (Or.inl hk.1)
  by_cases h1 : 1 ≤ last.toNat
  · exact (isnew_iff_steps last _ h1 hl).mpr ⟨hr, Or.inr ⟨k, hk.1, hk.2, rfl⟩⟩
  · exact (isNewRecvID_iff last _ hl).mpr ⟨hr, Or.inl (by omega)⟩

-- non-vacuity: fresh/fresh, mid-range, and across the wrap with the largest allowed skip
example : isNewRecvID 0 (nextIter 1 0) = true ∧ isNewRecvID 41 (nextIter 1 41) = true ∧
    nextIter 3 MaxID_u64 = 3 ∧ isNewRecvID MaxID_u64 (nextIter 3 MaxID_u64) = true := by decide
example : isNewRecvID MaxID_u64 (nextIter 499 MaxID_u64) = true :=
  next_ids_are_new MaxID_u64 (by decide) 499 (by omega)

/-- The bound 500 of `next_ids_are_new` claimed to be 501 (i.e. `k = 500` allowed). -/
def next_ids_are_new_500_full : Prop :=
  ∀ last : UInt64, 1 ≤ last.toNat → last.toNat ≤ 2 ^ 53 → isNewRecvID last (nextIter 500 last) = true

/-- … is FALSE: from `last = 2^53` the 500th next id is 500, and `2^53 − (2^53 − 500) = 500` is not
    `< deltaID`.  So `k < 500` is exactly the window (this is the Go code's behaviour, and the
    property's "allowed wrap-around window"; not a defect). -/
theorem next_ids_are_new_500_full_fails : ¬ next_ids_are_new_500_full := by
  intro h
  have h500 : nextIter 500 MaxID_u64 = 500 := by
    apply UInt64.toNat_inj.mp
    rw [WpD.nextIter_closed 500 MaxID_u64 (by decide) (by decide), maxID_u64_toNat]
    decide
  have h1 := h MaxID_u64 (by decide) (by decide)
  rw [h500] at h1
  revert h1; decide

/-- Ids a sender issues from counter `s` when it calls `Next` `k₁` times, sends the result, calls
    `Next` `k₂` more times, sends, … (`kᵢ = 1`: consecutive ids; `kᵢ > 1`: ids skipped). -/
def skipRun : UInt64 → List Nat → List UInt64
  | _, [] => []
  | s, k :: ks => nextIter k s :: skipRun (nextIter k s) ks

/-- Compatibility over whole sequences: a receiver whose stored id equals the sender's counter
    accepts EVERY id of such a sequence, however long (any number of wraps), as long as fewer than
    499 ids are skipped between two consecutive messages; and afterwards its stored id is the
    sender's counter again. -/
theorem recv_accepts_generated (s : UInt64) (hs : s.toNat ≤ 2 ^ 53) (ks : List Nat)
    (hks : ∀ k ∈ ks, 1 ≤ k ∧ k < 500) :
    recvRun s (skipRun s ks) = (ks.map (fun _ => true), nextIter ks.sum s) := by
  induction ks generalizing s with
  | nil => rfl
  | cons k ks ih =>
    have hk := hks k (List.mem_cons_self ..)
    have hnew := next_ids_are_new s hs k hk
    have hr := WpD.nextIter_range k s hs (Or.inl hk.1)
    have hu : updateLastRecvID s (nextIter k s) = (nextIter k s, true) := by
      rw [updateLastRecvID_eq, hnew]; rfl
    simp only [skipRun, recvRun, hu, List.map_cons, List.sum_cons]
    rw [ih (nextIter k s) hr.2 (fun k' hk' => hks k' (List.mem_cons_of_mem _ hk')), WpD.nextIter_add]

-- non-vacuity: from the fresh pair, skips 1, 3, 2 (and 499) satisfy the hypothesis
example : (∀ k ∈ [1, 3, 2, 499], 1 ≤ k ∧ k < 500) ∧ skipRun 0 [1, 3, 2] = [1, 4, 6] ∧
    recvRun 0 (skipRun 0 [1, 3, 2]) = ([true, true, true], 6) := by decide

/-- The property's two halves meet: a fresh session receiving, in order, the first `n` ids a fresh
    `IDGen` issues (`idGenSeq 0 … idGenSeq (n−1)`, the sequence of `idgen_closed_form`, through any
    number of wraps) answers "new" to every one of them and ends with `lastRecvID` = the generator's
    counter. -/
theorem recv_accepts_idgen (n : Nat) :
    recvRun 0 ((List.range n).map idGenSeq) = (List.replicate n true, idGenState n) := by
  induction n with
  | zero => rfl
  | succ n ih =>
    have hs : (idGenState n).toNat ≤ 2 ^ 53 := by
      rw [WpD.idGenState_eq_nextIter]
      cases n with
      | zero => decide
      | succ m => exact (WpD.nextIter_range (m + 1) 0 (by decide) (Or.inl (by omega))).2
    have hnew : isNewRecvID (idGenState n) (idGenState (n + 1)) = true :=
      next_ids_are_new (idGenState n) hs 1 (by omega)
    rw [List.range_succ, List.map_append, recvRun_append, ih]
    simp only [List.map_cons, List.map_nil, recvRun, idGenSeq_eq_idGenState, updateLastRecvID_eq, hnew, if_true]
    rw [List.replicate_succ']

example : recvRun 0 ((List.range 3).map idGenSeq) = ([true, true, true], 3) := by decide

/-- The id stored as last received is never new — for EVERY 64-bit value (0 and values
    above 2^53 are invalid, any other value equals the stored one). -/
theorem isnew_self (id : UInt64) : isNewRecvID id id = false := by
  unfold isNewRecvID
  by_cases h0 : id = 0
  · simp [h0]
  · by_cases hm : id > MaxID_u64
    · simp [hm]
    · simp [h0, hm, UInt64.lt_irrefl]

/-- REPLAY of the id just presented: after `UpdateLastRecvID(id)` — whether it answered
    "new" or not — the same id presented again is not new.  Holds for all 64-bit values, no
    hypothesis. -/
theorem same_id_not_new_twice (last id : UInt64) :
    isNewRecvID (updateLastRecvID last id).1 id = false := by
  rw [updateLastRecvID_eq]
  cases h : isNewRecvID last id with
  | true => exact isnew_self id
  | false => exact h

/-- The same under the hypothesis that the id was accepted. -/
theorem accepted_not_new_again (last id : UInt64) (_h : isNewRecvID last id = true) :
    isNewRecvID (updateLastRecvID last id).1 id = false :=
  same_id_not_new_twice last id

-- non-vacuity, and the run form: the second presentation is answered `false`
example : isNewRecvID 41 42 = true ∧ (recvRun 41 [42, 42]).1 = [true, false] := by decide

/-- How far replay protection goes: an id `id` smaller than the stored `last` (both valid) is new
    again exactly when `last − id > 2^53 − 500`. -/
theorem older_id_new_iff (last id : UInt64) (hid : 1 ≤ id.toNat) (hlt : id.toNat < last.toNat)
    (hl : last.toNat ≤ 2 ^ 53) :
    isNewRecvID last id = true ↔ last.toNat - id.toNat > 2 ^ 53 - 500 := by
  rw [isNewRecvID_iff last id hl]
  omega

example : 1 ≤ (5 : UInt64).toNat ∧ (5 : UInt64).toNat < MaxID_u64.toNat ∧ MaxID_u64.toNat ≤ 2 ^ 53 := by decide

/-- "An id that was accepted is not accepted again once a later id has been accepted" — a
    replay-protection reading STRONGER than the property text (which only says when an id counts
    as new relative to the last one). -/
def accepted_id_stays_old_full : Prop :=
  ∀ last id id' : UInt64, isNewRecvID last id = true → isNewRecvID id id' = true →
    isNewRecvID id' id = false

/-- … is FALSE, of the model and of the Go code alike (by design of the wrap-around window, see the
    comment on `IsNewRecvID` in wamp/session.go): on a fresh session the ids 5, 2^53, 5 are ALL
    answered "new" — after a jump to within 500 of 2^53 the ids `1 … 499 − (2^53 − last)` are open
    again although they may have been used (`older_id_new_iff` is the exact extent).  Recorded as an
    observation, not as a violation of C19's text. -/
theorem accepted_id_stays_old_full_fails : ¬ accepted_id_stays_old_full := by
  intro h
  have := h 0 5 MaxID_u64 (by decide) (by decide)
  revert this; decide

example : (recvRun 0 [5, MaxID_u64, 5]).1 = [true, true, true] := by decide

/-- WHATEVER int64 value `oor` a platform's conversion produces for a float operand whose
    truncation `t` does not fit into int64 (or is NaN/±Inf: `t = none`), `AsID` rejects it —
    provided that value is outside `[1, 2^53]`. -/
theorem asid_float_oor_rejected (oor : Int64) (h : ¬ (1 ≤ oor.toInt ∧ oor.toInt ≤ 2 ^ 53))
    (t : Option Int) (ht : WpD.fitsInt64 t = false) :
    asIDOfInt64 (WpD.truncToInt64P oor t) = none := by
  rw [WpD.truncToInt64P_oor oor t ht]
  exact (asIDOfInt64_none_iff oor).mpr h

-- non-vacuity: MinInt64 (amd64), 0 and MaxInt64 (saturating platforms) are such values; NaN, +Inf
-- and 1e19 (≥ 2^63) are such operands
example : ¬ (1 ≤ Int64.minValue.toInt ∧ Int64.minValue.toInt ≤ 2 ^ 53) ∧
    ¬ (1 ≤ (0 : Int64).toInt ∧ (0 : Int64).toInt ≤ 2 ^ 53) ∧
    ¬ (1 ≤ Int64.maxValue.toInt ∧ Int64.maxValue.toInt ≤ 2 ^ 53) :=
  ⟨WpD.known_values_outside _ (Or.inr (Or.inl rfl)), WpD.known_values_outside _ (Or.inl rfl),
   WpD.known_values_outside _ (Or.inr (Or.inr rfl))⟩
example : WpD.fitsInt64 (f64Trunc 0x7ff8000000000000) = false ∧ WpD.fitsInt64 (f64Trunc 0x7ff0000000000000) = false ∧
    WpD.fitsInt64 (f64Trunc 0x43E158E460913D00) = false ∧ WpD.fitsInt64 (f32Trunc 0x7fc00000) = false ∧
    WpD.fitsInt64 (f64Trunc 0x4340000000000000) = true := by decide

/-- The same for `AsID` itself on a platform `P` given as a function of the operand's bits (so
    operand-dependent answers like arm64's NaN ↦ 0 / saturation are covered): a float64 / float32
    value in an implementation-defined case is rejected whenever the platform's answer for it is
    outside `[1, 2^53]`. -/
theorem asid_float_oor_rejected_on (P : WpD.FloatConv) :
    (∀ b : UInt64, WpD.fitsInt64 (f64Trunc b) = false →
      ¬ (1 ≤ (P.oor64 b).toInt ∧ (P.oor64 b).toInt ≤ 2 ^ 53) → WpD.asIDP P (.float64 b) = none) ∧
    (∀ b : UInt32, WpD.fitsInt64 (f32Trunc b) = false →
      ¬ (1 ≤ (P.oor32 b).toInt ∧ (P.oor32 b).toInt ≤ 2 ^ 53) → WpD.asIDP P (.float32 b) = none) :=
  ⟨fun _ hb h => asid_float_oor_rejected _ h _ hb, fun _ hb h => asid_float_oor_rejected _ h _ hb⟩

/-- amd64 (the platform of the model `asID`: `asIDP amd64 = asID`) and arm64 are benign, and so is every platform
    whose conversion only ever yields 0, MinInt64 or MaxInt64 in the implementation-defined cases
    (all Go ports known to us). -/
theorem asid_known_platforms_benign :
    (∀ n, WpD.asIDP WpD.amd64 n = asID n) ∧ WpD.amd64.Benign ∧ WpD.arm64.Benign ∧
    ∀ P : WpD.FloatConv,
      (∀ b, P.oor64 b = 0 ∨ P.oor64 b = Int64.minValue ∨ P.oor64 b = Int64.maxValue) →
      (∀ b, P.oor32 b = 0 ∨ P.oor32 b = Int64.minValue ∨ P.oor32 b = Int64.maxValue) → P.Benign :=
  ⟨WpD.asIDP_amd64, WpD.amd64_benign, WpD.arm64_benign,
   fun _ h64 h32 => ⟨fun b _ => WpD.known_values_outside _ (h64 b), fun b _ => WpD.known_values_outside _ (h32 b)⟩⟩

/-- PLATFORM INDEPENDENCE of `asid_iff_value`: on every benign platform (`FloatConv.Benign`: its
    answers in the implementation-defined cases are outside `[1, 2^53]`), for all nine
    representations and every bit pattern, `AsID` accepts iff the mathematical value lies in
    `[1, 2^53]`, and the id is that value.  This is "every platform's choice is
    rejected" of the trusted base with the exact side condition. -/
theorem asid_iff_value_on (P : WpD.FloatConv) (hP : P.Benign) (n : GoNum) (id : UInt64) :
    WpD.asIDP P n = some id ↔ ∃ v, n.value = some v ∧ 1 ≤ v ∧ v ≤ 2 ^ 53 ∧ (id.toNat : Int) = v := by
  rw [WpD.asIDP_eq_asID P hP n, asid_iff_value]

example : WpD.asIDP WpD.arm64 (.float64 0x7ff8000000000000) = none ∧
    WpD.asIDP WpD.arm64 (.float64 0x43E158E460913D00) = none ∧
    WpD.asIDP WpD.arm64 (.float64 0x4340000000000000) = some 9007199254740992 := by decide

/-- "`AsID` behaves the same on EVERY platform", without the side condition — the literal reading of
    the trusted-base sentence "every platform's choice is rejected by AsID". -/
def asid_every_platform_full : Prop := ∀ (P : WpD.FloatConv) (n : GoNum), WpD.asIDP P n = asID n

/-- … is FALSE as a statement about the Go language (a counter-witness):
    the spec allows a conversion that yields, say, 7 for NaN; on such a HYPOTHETICAL platform
    `AsID(math.NaN())` would be `(7, true)` although NaN denotes no integer.  No existing Go port
    behaves so (`asid_known_platforms_benign`); the side condition `Benign` is what has to be
    trusted per platform. -/
theorem asid_every_platform_full_fails : ¬ asid_every_platform_full := by
  intro h
  have := h WpD.hypothetical7 (.float64 0x7ff8000000000000)
  revert this; decide

example : WpD.asIDP WpD.hypothetical7 (.float64 0x7ff8000000000000) = some 7 ∧
    (GoNum.float64 0x7ff8000000000000).value = none := by decide

/-- A value whose dynamic type is none of the nine cases of `AsInt64`'s switch
    (int8/int16/uint8/uint16, string, nil, json.Number, …) is rejected by `AsID`.  (`GoVal`,
    `asInt64Any`, `asIDAny` in Nexus/Ids/AsID.lean model the fall-through
    `return 0, false` of the switch and `AsID`'s `if …; ok` ; they are hand-written and tied only by
    reading; `gen ids` shape-checks that the switch has no other case and no default.) -/
theorem asid_other_rejected : WpD.asIDAny .other = none := rfl

/-- "ids read from messages are accepted ONLY within that range", over every dynamic type:
    accepted iff the value is one of the nine numeric representations AND its mathematical value
    lies in `[1, 2^53]`; the id is that value. -/
theorem asid_any_iff (v : WpD.GoVal) (id : UInt64) :
    WpD.asIDAny v = some id ↔
      ∃ n, v = .num n ∧ ∃ x, n.value = some x ∧ 1 ≤ x ∧ x ≤ 2 ^ 53 ∧ (id.toNat : Int) = x := by
  cases v with
  | other =>
    constructor
    · intro h; cases h
    · rintro ⟨n, hn, _⟩; cases hn
  | num n =>
    have e : WpD.asIDAny (.num n) = asID n := rfl
    rw [e, asid_iff_value]
    constructor
    · intro h; exact ⟨n, rfl, h⟩
    · rintro ⟨n', hn, h⟩; cases hn; exact h

example : WpD.asIDAny (.num (.int64 7)) = some 7 ∧ WpD.asIDAny (.num (.int64 0)) = none ∧
    WpD.asInt64Any .other = (0, false) := by decide

end Nexus.C19
