/-
  C02 (history level) — the REPLY STREAM of a call over whole realm histories.

  Property text (the clauses proved here).  "For every CALL […] the caller receives at most one final
  reply (a RESULT without the progress flag or an ERROR of type CALL) bearing that call's request id,
  preceded only by progressive RESULTs of that same call and followed by nothing more for that request;
  it never receives a reply for a request id it did not issue."

  Nexus/Props/C02.lean proves this for runs of the DEALER (`C02_episode`) and, at realm level, only for
  single handlers.  Here it is proved for every history of `Realm.step` — every interleaving of inputs
  of all sessions, internal tasks, call timers, turns of the yield retry loop, departures — for a realm
  WITHOUT an Authorizer (`cfg.authz = none`).  With an Authorizer the statement is FALSE of the model and
  of the router (finding F47, `C02_realm_one_final_full_fails`): `C02_hist_episode_full_fails` restates the
  counterexample in the vocabulary of this file.

  Vocabulary: the ghost trace `traceHist r ops`, `x.script` (`dsteps`: the dealer steps of the action,
  `offers`: what it hands to `trySend`), `x.enqueued` (the offers appended to a queue) — see
  Nexus/Props/C08Hist.lean, whose `C08_hist_trace` states that the queues change in no other way.
  `repliesFor c l`: the replies to the call `c = (caller, request)` in `l`: RESULTs and ERRORs of type
  CALL addressed to `c.sess` with request id `c.req`.  `x.call? = some c`: the action `x` is the handler
  of session `c.sess` reading a CALL message with request id `c.req` (read off the action itself).
  `offersOf tr`, `enqueuedOf tr`, `replyStream c (dstepsOf tr)`: all offers / all enqueued offers / all replies
  for `c` sent by dealer steps, along a trace, in order.

  clause                                                                theorem
  --------------------------------------------------------------------  -----------------------------------
  the dealer steps of the ghost trace form a run of the dealer from the
    dealer state at the start to the one at the end                      C02_hist_dealer_run
  ONLY THE DEALER REPLIES (no Authorizer): in every action the replies
    among the offers are exactly those its dealer steps send — or none
    (a departure at router shutdown discards them); the handlers' own
    ERRORs (invalid URI, bad cancel mode, unknown policy, disclose_me)
    are of type PUBLISH/SUBSCRIBE/REGISTER/CANCEL, never CALL: `handleCall`
    has no error path of its own; what is enqueued is a sub-list          C02_hist_only_dealer_replies
  bridge to the dealer-level theorems: enqueued ⊑ offered ⊑ the reply
    stream of that dealer run; `C02_episode` applied through it            C02_hist_replies_sublist,
                                                                          C02_hist_episode_dealer
  every action obeys the reply discipline towards every call: at most one
    reply, only for a pending call or the CALL being handled, a final one
    only with the removal of the call                                     C02_hist_action_discipline
  THE EPISODE: over a history in which no NEW call re-uses the id `c` (every
    handler reading a CALL `c` finds it pending: later chunks), the replies
    ENQUEUED for `c` are progressive RESULTs followed by at most one final
    reply, after which `c` is not pending                                 C02_hist_episode
  … the same for a history that STARTS with the CALL input opening `c`    C02_hist_episode_from_call
  NO FOREIGN REPLY: from a fresh realm, a session that has never sent a
    CALL with request id `q` is never offered — let alone reads — a RESULT
    or ERROR(CALL) bearing `q`                                            C02_hist_no_foreign_reply,
                                                                          C02_hist_no_foreign_reply_read
  with an Authorizer: the episode statement at full strength is false     C02_hist_episode_full (def),
                                                                          C02_hist_episode_full_fails
-/
import Nexus.L2.Proofs.TraceReplies
import Nexus.L2.Proofs.ReachableRealm
import Nexus.Props.C02
import Nexus.L2.Proofs.RealmCreate

namespace Nexus.C02
open Nexus.L2 Nexus.L2.Realm Nexus.L2.WpE Gen.N

/-- the dealer steps of the ghost trace of a history are a run of the dealer -/
theorem C02_hist_dealer_run (r : Realm) (ops : List Op) :
    Run r.ds (dstepsOf (traceHist r ops)) (runOps r ops).ds := (hist_tables r ops).2.2

/-- EVERY ACTION OBEYS THE REPLY DISCIPLINE towards every call `c`: its dealer steps send at most one reply for `c`;
    only if `c` is pending when the action starts or the action is the handler reading the CALL `c`; a final reply
    only if `c` is not pending when the action ends; and `c` is pending at the end only if it was at the start or
    the action is that CALL. -/
theorem C02_hist_action_discipline {cfg : Config} {r : Realm} (h : Realm.Reachable cfg r) (ops : List Op) (c : ReqId) :
    ∀ x ∈ traceHist r ops, ActOk x.pre.ds x.script.dsteps x.post.ds c (x.call? = some c) :=
  fun x hx => x.actOk (hist_dinv h ops x hx) c

/-- ONLY THE DEALER REPLIES.  In a realm without an Authorizer, for every action of every history and every call `c`:
    the replies for `c` among the offers of the action are exactly the replies its dealer steps send, or there is
    none; and the replies enqueued are a sub-list of those offered. -/
theorem C02_hist_only_dealer_replies {cfg : Config} {r : Realm} (h : Realm.Reachable cfg r) (hz : cfg.authz = none)
    (ops : List Op) (c : ReqId) :
    ∀ x ∈ traceHist r ops,
      (repliesFor c x.script.offers = replyStream c x.script.dsteps ∨ repliesFor c x.script.offers = []) ∧
      (repliesFor c x.enqueued).Sublist (repliesFor c x.script.offers) := by
  intro x hx
  have hcfg := ((WpA.chain_framed (chain_hist ops r)).1 x hx).1
  exact ⟨x.offer_replies (by rw [hcfg, (WpA.flags_const h).2.2.2.2.1]; exact hz) (hist_inv h ops x hx).2 c,
    repliesFor_sublist c (taken_sublist _ _)⟩

/-- THE BRIDGE TO THE DEALER-LEVEL THEOREMS (no Authorizer): over any history from a reachable realm, the replies for `c`
    appended to the queues are a sub-list of the replies offered, which are a sub-list of the REPLY STREAM
    `replyStream c` of the dealer run `C02_hist_dealer_run` — the object `C02_episode`, `C02_nothing_after_final_chunks`,
    `C08_progress_order` … of Nexus/Props/C02.lean and C08Dealer.lean speak about. -/
theorem C02_hist_replies_sublist {cfg : Config} {r : Realm} (h : Realm.Reachable cfg r) (hz : cfg.authz = none)
    (ops : List Op) (c : ReqId) :
    (repliesFor c (enqueuedOf (traceHist r ops))).Sublist (repliesFor c (offersOf (traceHist r ops))) ∧
    (repliesFor c (offersOf (traceHist r ops))).Sublist (replyStream c (dstepsOf (traceHist r ops))) := by
  have hx := C02_hist_only_dealer_replies h hz ops c
  rw [replyStream_dstepsOf, ← List.flatMap_def]
  unfold offersOf enqueuedOf
  rw [repliesFor_flatMap, repliesFor_flatMap]
  refine ⟨flatMap_sublist _ _ _ (fun x hx' => (hx x hx').2), flatMap_sublist _ _ _ (fun x hx' => ?_)⟩
  rcases (hx x hx').1 with e | e
  · rw [e]; exact List.Sublist.refl _
  · rw [e]; exact List.nil_sublist _

/-- … hence `C02_episode` itself applies: if every dealer step of the history that is a CALL step for `c` in the sense of
    `IsCallStep` finds `c` pending, the enqueued replies have the shape progress* final?. -/
theorem C02_hist_episode_dealer {cfg : Config} {r : Realm} (h : Realm.Reachable cfg r) (hz : cfg.authz = none)
    (ops : List Op) (c : ReqId)
    (hno : ∀ p ∈ dstepsOf (traceHist r ops), IsCallStep p.1 p.2 c → c ∈ p.1.d.calls) :
    ∃ ps f, repliesFor c (enqueuedOf (traceHist r ops)) = ps ++ f ∧ (∀ y ∈ ps, y.msg.isFinalReply = false) ∧
      (f = [] ∨ ∃ y, f = [y] ∧ y.msg.isFinalReply = true ∧ c ∉ (runOps r ops).ds.d.calls) := by
  obtain ⟨ps, f, e, hp, hf⟩ := C02_episode c (C02_hist_dealer_run r ops) h.inv.1.dinv hno
  obtain ⟨s1, s2⟩ := C02_hist_replies_sublist h hz ops c
  exact shape_sublist (s1.trans s2) e hp hf

/-- THE EPISODE OF ONE CALL, REALM LEVEL.  A realm without an Authorizer, any reachable state, any further inputs `ops`
    — of the caller, the callee and every bystander — during which no NEW call re-uses the id `c` (every handler that
    reads a CALL with id `c` finds `c` pending: the later chunks of a progressive call invocation).  Then the replies
    for `c` that are appended to the caller's queue over the whole history are a list of progressive RESULTs
    followed by at most one final reply (RESULT without `progress`, or ERROR of type CALL), nothing after it, and
    with the final reply `c` is no longer pending at the end.  The same holds for the replies OFFERED (a full queue
    drops a message: the enqueued ones are a sub-list). -/
theorem C02_hist_episode {cfg : Config} {r : Realm} (h : Realm.Reachable cfg r) (hz : cfg.authz = none)
    (ops : List Op) (c : ReqId)
    (hno : ∀ x ∈ traceHist r ops, x.call? = some c → c ∈ x.pre.ds.d.calls) :
    (∃ ps f, repliesFor c (enqueuedOf (traceHist r ops)) = ps ++ f ∧ (∀ y ∈ ps, y.msg.isFinalReply = false) ∧
      (f = [] ∨ ∃ y, f = [y] ∧ y.msg.isFinalReply = true ∧ c ∉ (runOps r ops).ds.d.calls)) ∧
    (∃ ps f, repliesFor c (offersOf (traceHist r ops)) = ps ++ f ∧ (∀ y ∈ ps, y.msg.isFinalReply = false) ∧
      (f = [] ∨ ∃ y, f = [y] ∧ y.msg.isFinalReply = true ∧ c ∉ (runOps r ops).ds.d.calls)) := by
  obtain ⟨ps, f, e, hp, hf⟩ := chain_episode (chain_hist ops r) c h.inv.1.dinv hno
  obtain ⟨s2, s1⟩ := C02_hist_replies_sublist h hz ops c
  exact ⟨shape_sublist (s2.trans s1) e hp hf, shape_sublist s1 e hp hf⟩

/-- … STARTING WITH THE CALL: the history begins with the input `op` (in particular the CALL that opens `c`, whatever
    the dealer does with it: refuse it, route it, find the callee's queue full), followed by inputs `ops` during
    which no new call re-uses the id. -/
theorem C02_hist_episode_from_call {cfg : Config} {r : Realm} (h : Realm.Reachable cfg r) (hz : cfg.authz = none)
    (op : Op) (ops : List Op) (c : ReqId) (hop : ∀ ms, op ≠ .tick ms)
    (hno : ∀ x ∈ (traceHist r (op :: ops)).tail, x.call? = some c → c ∈ x.pre.ds.d.calls) :
    ∃ ps f, repliesFor c (enqueuedOf (traceHist r (op :: ops))) = ps ++ f ∧ (∀ y ∈ ps, y.msg.isFinalReply = false) ∧
      (f = [] ∨ ∃ y, f = [y] ∧ y.msg.isFinalReply = true ∧ c ∉ (runOps r (op :: ops)).ds.d.calls) := by
  have hchain := chain_hist (op :: ops) r
  have e0 : traceHist r (op :: ops) = ⟨r, .op op⟩ :: (traceHist r (op :: ops)).tail := by
    show traceStep r op ++ _ = ⟨r, .op op⟩ :: (traceStep r op ++ _).tail
    rw [traceStep_of_not_tick r hop]; rfl
  have rest : Chain (⟨r, .op op⟩ : Rec).post (traceHist r (op :: ops)).tail (runOps r (op :: ops)) := by
    rw [e0] at hchain
    exact (chain_cons_inv hchain).2
  obtain ⟨ps, f, e, hp, hf⟩ := chain_episode_from (x0 := ⟨r, .op op⟩) rest c h.inv.1.dinv hno
  obtain ⟨s2, s1⟩ := C02_hist_replies_sublist h hz (op :: ops) c
  rw [← e0] at e
  exact shape_sublist (s2.trans s1) e hp hf

/-- NO FOREIGN REPLY.  A realm without an Authorizer, started fresh; any inputs `ops`; a session `k` and a request id
    `q` such that `k` never sends a CALL with request id `q`.  Then no action of the history offers — let alone
    enqueues — a RESULT or an ERROR of type CALL for session `k` bearing request id `q`; and (`k`, `q`) is never a
    pending call. -/
theorem C02_hist_no_foreign_reply {cfg : Config} {r0 : Realm} (h0 : Realm.create cfg = some r0) (hz : cfg.authz = none)
    (ops : List Op) (k : SessKey) (q : Nat)
    (hnever : ∀ opts proc args kw, Op.msg k (.call q opts proc args kw) ∉ ops) :
    (∀ x ∈ traceHist r0 ops, repliesFor ⟨k, q⟩ x.script.offers = []) ∧
    (⟨k, q⟩ : ReqId) ∉ (runOps r0 ops).ds.d.calls := by
  have hr : Realm.Reachable cfg r0 := .init h0
  have hchain := chain_hist ops r0
  have hnocall : ∀ x ∈ traceHist r0 ops, x.call? = some (⟨k, q⟩ : ReqId) → (⟨k, q⟩ : ReqId) ∈ x.pre.ds.d.calls := by
    intro x hx hc
    obtain ⟨hw, htok, hop⟩ := hist_tasksOk h0 ops x hx
    obtain ⟨o, p, a, kw, hP⟩ := x.call_src hw htok hop hc
    exact absurd hP (hnever o p a kw)
  have hc0 : (⟨k, q⟩ : ReqId) ∉ r0.ds.d.calls := by
    intro hc
    obtain ⟨c, hcm, _⟩ := hr.inv.1.callers _ hc
    rw [(create_empty h0).2.2.2.2] at hcm
    cases hcm
  obtain ⟨h1, h2⟩ := (hchain.blocks ⟨k, q⟩ hr.inv.1.dinv hnocall).quiet hc0
  refine ⟨?_, h2⟩
  intro x hx
  rcases (C02_hist_only_dealer_replies hr hz ops ⟨k, q⟩ x hx).1 with e | e
  · rw [e]; exact List.flatten_eq_nil_iff.1 h1 _ (List.mem_map_of_mem hx)
  · exact e

/-- … in terms of what `k` READS: at the end of no step of the history does session `k` read a RESULT or an ERROR of
    type CALL bearing a request id it has never used in a CALL. -/
theorem C02_hist_no_foreign_reply_read {cfg : Config} {r0 : Realm} (h0 : Realm.create cfg = some r0)
    (hz : cfg.authz = none) (ops : List Op) (op : Op) (k : SessKey) (q : Nat)
    (hnever : ∀ opts proc args kw, Op.msg k (.call q opts proc args kw) ∉ ops ++ [op]) :
    ∀ e ∈ ((runOps r0 ops).step op).1.out, e.1 = k → ∀ m ∈ e.2, m.replyReq ≠ some q := by
  intro e he hk m hm hq
  obtain ⟨x, hx, hs⟩ := read_src h0 ops op e he m hm
  have hnone := (C02_hist_no_foreign_reply h0 hz (ops ++ [op]) k q hnever).1 x hx
  have hmem : (⟨e.1, m⟩ : Send) ∈ repliesFor ⟨k, q⟩ x.script.offers := by
    unfold repliesFor
    refine List.mem_filter.mpr ⟨Rec.enqueued_offers hs, ?_⟩
    simp [Send.replyTo, hq, hk]
  rw [hnone] at hmem
  cases hmem

/-! ### non-vacuity: a progressive call -/

def exSetup : List Op :=
  [ .join 1 false [] [(RoleCallee, [FeatureCallCanceling, FeatureProgCallResults])] 8,
    .join 2 false [] [(RoleCaller, [FeatureProgCallResults])] 8,
    .msg 1 (.register 1 [] "p") ]

def exCall : Op := .msg 2 (.call 7 [(OptReceiveProgress, .bool true)] "p" [] [])

def exYields : List Op :=
  [ .msg 1 (.yield 1 [(OptProgress, .bool true)] [.int 1] []),
    .msg 1 (.yield 1 [(OptProgress, .bool true)] [.int 2] []),
    .msg 1 (.yield 1 [] [.int 3] []),
    .msg 1 (.yield 1 [] [.int 4] []) ]

def exP0 : Realm := (Realm.create {}).getD default

theorem exP0_eq : exP0 = Realm.metaRealm := by rw [exP0, Realm.create_default]; rfl

theorem exP0_create : Realm.create {} = some exP0 := exP0_eq ▸ Realm.create_default

/-- the state after the setup is reachable, and the realm has no Authorizer -/
theorem exP1_reachable : Realm.Reachable {} (runOps exP0 exSetup) := runOps_reachable exSetup (.init exP0_create)

/-- the state after the CALL is reachable too -/
theorem exP2_reachable : Realm.Reachable {} (runOps exP0 (exSetup ++ [exCall])) :=
  runOps_reachable _ (.init exP0_create)

/-- The two examples below, evaluated together: most of the work of either is building the realm (`Realm.create`
    registers the meta procedures with the dealer) and running the setup. -/
theorem exP_eval :
    ((∀ x ∈ (traceHist (runOps exP0 exSetup) (exCall :: exYields)).tail,
        x.call? = some (⟨2, 7⟩ : ReqId) → (⟨2, 7⟩ : ReqId) ∈ x.pre.ds.d.calls) ∧
      (repliesFor ⟨2, 7⟩ (enqueuedOf (traceHist (runOps exP0 exSetup) (exCall :: exYields)))).map
        (fun s => (s.msg.typeCode, s.msg.isFinalReply)) = [(50, false), (50, false), (50, true)]) ∧
    ((∀ x ∈ traceHist (runOps exP0 (exSetup ++ [exCall])) exYields,
        x.call? = some (⟨2, 7⟩ : ReqId) → (⟨2, 7⟩ : ReqId) ∈ x.pre.ds.d.calls) ∧
      (repliesFor ⟨2, 7⟩ (enqueuedOf (traceHist (runOps exP0 (exSetup ++ [exCall])) exYields))).map
        (fun s => (s.msg.typeCode, s.msg.isFinalReply)) = [(50, false), (50, false), (50, true)]) := by
  rw [exP0_eq]
  decide +kernel

set_option maxRecDepth 100000 in
/-- the hypotheses of `C02_hist_episode_from_call` are met by the history "CALL 7, then the four YIELDs" from that
    state (no later action is a CALL (2, 7)), and the replies enqueued for (2, 7) are: progressive RESULT, progressive
    RESULT, final RESULT — the duplicate final YIELD is answered by nothing -/
example :
    (∀ x ∈ (traceHist (runOps exP0 exSetup) (exCall :: exYields)).tail,
      x.call? = some (⟨2, 7⟩ : ReqId) → (⟨2, 7⟩ : ReqId) ∈ x.pre.ds.d.calls) ∧
    (repliesFor ⟨2, 7⟩ (enqueuedOf (traceHist (runOps exP0 exSetup) (exCall :: exYields)))).map
      (fun s => (s.msg.typeCode, s.msg.isFinalReply)) = [(50, false), (50, false), (50, true)] :=
  exP_eval.1

set_option maxRecDepth 100000 in
/-- the hypotheses of `C02_hist_episode` are met by the four YIELDs from the state after the CALL (no action of that
    history is a CALL (2, 7) at all), with the same three replies -/
example :
    (∀ x ∈ traceHist (runOps exP0 (exSetup ++ [exCall])) exYields,
      x.call? = some (⟨2, 7⟩ : ReqId) → (⟨2, 7⟩ : ReqId) ∈ x.pre.ds.d.calls) ∧
    (repliesFor ⟨2, 7⟩ (enqueuedOf (traceHist (runOps exP0 (exSetup ++ [exCall])) exYields))).map
      (fun s => (s.msg.typeCode, s.msg.isFinalReply)) = [(50, false), (50, false), (50, true)] :=
  exP_eval.2

/-- the hypothesis of `C02_hist_no_foreign_reply` is met by the whole example history, session 2 and the request id 8
    (session 2 only ever sends CALL 7) -/
example : ∀ opts proc args kw, Op.msg 2 (.call 8 opts proc args kw) ∉ exSetup ++ [exCall] ++ exYields := by
  intro opts proc args kw hmem
  simp [exSetup, exCall, exYields] at hmem

/-- the episode statement at full strength: for EVERY configuration (reachable state, any further inputs during which no
    new call re-uses the id) -/
def C02_hist_episode_full : Prop :=
  ∀ (cfg : Config) (r : Realm), Realm.Reachable cfg r → ∀ (ops : List Op) (c : ReqId),
    (∀ x ∈ traceHist r ops, x.call? = some c → c ∈ x.pre.ds.d.calls) →
    ∃ ps f, repliesFor c (enqueuedOf (traceHist r ops)) = ps ++ f ∧ (∀ y ∈ ps, y.msg.isFinalReply = false) ∧
      (f = [] ∨ ∃ y, f = [y] ∧ y.msg.isFinalReply = true)

def exD0 : Realm := (Realm.create Ex.cfgDenyQ).getD default

/-- FALSE with an Authorizer (F47, as `C02_realm_one_final_full_fails`): in the realm whose Authorizer denies CALLs to
    "q", after callee 1 registered "p" and caller 2 opened the progressive call 7 to "p" (the first four inputs of
    `Ex.opsDenied`), the last chunk names "q": the GATE answers ERROR(CALL, 7, not_authorized) — no dealer step, the
    action is not a CALL action — and the call lives on; the callee's YIELD then brings RESULT(7): two final replies
    are enqueued for (2, 7) although no new call re-used the id. -/
theorem C02_hist_episode_full_fails : ¬ C02_hist_episode_full := by
  intro hfull
  have hr : Realm.Reachable Ex.cfgDenyQ (runOps exD0 (Ex.opsDenied.take 4)) :=
    runOps_reachable _ (.init (by rw [exD0, create_denyQ]; rfl))
  -- one evaluation for both facts: building the realm is most of the work
  obtain ⟨hno, hfin⟩ :
      (∀ x ∈ traceHist (runOps exD0 (Ex.opsDenied.take 4)) (Ex.opsDenied.drop 4),
        x.call? = some (⟨2, 7⟩ : ReqId) → (⟨2, 7⟩ : ReqId) ∈ x.pre.ds.d.calls) ∧
      (repliesFor ⟨2, 7⟩ (enqueuedOf (traceHist (runOps exD0 (Ex.opsDenied.take 4)) (Ex.opsDenied.drop 4)))).map
        (fun s => s.msg.isFinalReply) = [true, true] := by rw [exD0, create_denyQ]; decide +kernel
  obtain ⟨ps, f, e, hp, hf⟩ := hfull _ _ hr _ ⟨2, 7⟩ hno
  rw [e] at hfin
  have hps : ps = [] := by
    cases ps with
    | nil => rfl
    | cons y ys =>
      have := hp y (List.mem_cons_self ..)
      simp only [List.cons_append, List.map_cons, List.cons.injEq] at hfin
      rw [this] at hfin
      exact absurd hfin.1 (by decide)
  subst hps
  rcases hf with rfl | ⟨y, rfl, _⟩
  · simp at hfin
  · simp at hfin

end Nexus.C02
