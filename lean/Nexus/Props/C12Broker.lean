/-
  C12 (broker half) — Identity is disclosed only when allowed; recipients get independent messages.

  Property text.  "A publisher's or caller's identity (session id, authid, authrole) appears in an
  EVENT or INVOCATION only if disclosure was requested by the originator (disclose_me) or by the
  callee's registration (disclose_caller), the realm allows disclosure (or the requester is
  trusted), and - for disclose_me - the recipient announced the identification feature; a
  disallowed disclose_me request is refused with wamp.error.option_disallowed.disclose_me and not
  delivered.  The details of a message delivered to one recipient depend only on that recipient
  and its own subscription or registration, never on other recipients of the same publication, and
  never change after delivery; in-process recipients get private copies of details and payload,
  and session meta events and wamp.session.get never expose transport authentication data."

  This file: the EVENT clauses, about `Broker.syncPublish` (router/broker.go `syncPublish`,
  `syncPubEvent`, `prepareEvent`, `disclosePublisher`).  `p.disclose` is the flag `broker.publish`
  computes: disclose_me requested AND allowed by the realm (a disallowed request never reaches
  `syncPublish`: `Realm.handlePublish` answers option_disallowed.disclose_me, `C12_refused_publish`).
  The dealer half is Nexus.Props.C12Dealer, the private-copies clause Nexus.Props.C12Alloc.
  Vocabulary: `isPublisherKey`, `disclosedTo`, `deliveryOf`, `Expected`, `expectedEvent`
  (Nexus/L2/Proofs/BrokerSpec.lean).

  clause                                                               theorem
  -------------------------------------------------------------------  ------------------------------
  publisher / publisher_authid / publisher_authrole occur in a
    delivered EVENT only if p.disclose ∧ recipient announced
    subscriber.publisher_identification; then they carry the
    publisher's session id and its authid / authrole                   C12_disclose_event
  … needs: the payload-passthru details contain no publisher key
    (true of every publication the realm hands over)                   C12_disclose_event_full, C12_disclose_event_full_fails,
                                                                       C12_realm_base_ok
  the EVENT delivered to k through s is a function of (p, s, k's
    session) only: equal for any two brokers / session tables that
    agree on s and on k's session                                      C12_independent
  the example broker used below (`exB`: sessions 1 and 2 subscribed
    to one topic) satisfies the broker invariant                       exB_inv
  stored history entries never contain a publisher key                 C12_history_no_identity,
                                                                       C12_history_no_identity_init (from the broker
                                                                       as the realm starts it: all stores empty)
  realm level (`Realm.handlePublish`): disclose_me = true while the
    realm disallows disclosure → nothing is delivered to anybody, no
    history entry, no publication id drawn, exactly one ERROR
    option_disallowed.disclose_me to the publisher iff acknowledged    C12_refused_publish
  … and only then: `p.disclose` of the publication handed to the
    broker is set iff disclose_me is the bool true (and then the realm
    allows disclosure)                                                 C12_disclose_flag
  realm level, for the publication `pubOf r s opts …` actually handed
    over (no side condition left): a publisher key in a delivered
    EVENT ⇒ disclose_me = true ∧ the realm allows disclosure ∧ the
    recipient is attached and announced the feature; conversely the
    three keys are then present with the publisher's id/authid/authrole C12_realm_event, C12_realm_event_disclosed,
                                                                       C12_realm_event_details
  REGISTER (`Realm.handleRegister`): a registration with disclose =
    true either was there before (same id, same flag) or was created
    by this REGISTER with disclose_caller = true ∧ (realm allows ∨
    registrant's authrole = "trusted")                                 C12_reg_disclose_origin
  disallowed disclose_caller: exactly one ERROR
    option_disallowed.disclose_me offered to the sender, dealer state
    unchanged, nothing announced                                       C12_register_refused
  every handler refusal of REGISTER announces nothing                  C12_register_refusals_silent
  "the realm allows disclosure" is a constant: in every reachable
    realm the broker's and the dealer's `allowDisclose` / `strict`
    equal the configuration                                            C12_flags_const
  in every reachable realm no stored history entry carries a
    publisher key (with Nexus.C20.C20_answer_no_identity: no
    get_events answer does)                                            C12_history_no_identity_realm
-/
import Nexus.L2.Proofs.BrokerHist
import Nexus.L2.Proofs.BrokerDeliver
import Nexus.L2.Proofs.RealmPublish
import Nexus.L2.Proofs.ReachableRealm
import Nexus.L2.Proofs.PublicationOf
import Nexus.L2.Proofs.RegisterDisclose

namespace Nexus.C12
open Nexus.L2 Gen.N

/-! ### example state: two recipients of one publication, only one announced the feature -/

def exB : Broker :=
  let b1 := (({} : Broker).syncSubscribe 1 1 "t" "exact" 0).1
  (b1.syncSubscribe 2 1 "t" "exact" 0).1
def exSess : SessKey → Option Session := fun k =>
  if k = 1 then some { key := 1, details := [], roles := [("subscriber", ["publisher_identification"])], isLocal := false }
  else if k = 2 then some { key := 2, details := [], roles := [("subscriber", [])], isLocal := false }
  else none
def exPub : Publication :=
  { publisher := 3, pubDetails := [("authid", .str "alice"), ("authrole", .str "user")], topic := "t", pubId := 9,
    args := [], kw := [], opts := [], excludePub := true, disclose := true, baseDetails := [] }

theorem exB_inv : BrokerInv exB := ((BrokerInv.empty false false).subscribe ..).subscribe ..

/-- Every EVENT `syncPublish` delivers goes to an attached session `c` (the one stored under the
    recipient's key) and, provided the payload-passthru details carry no publisher key:
    * if NOT (`p.disclose` and `c` announced `subscriber.features.publisher_identification`), none of
      `publisher`, `publisher_authid`, `publisher_authrole` occurs in its details;
    * otherwise `publisher` is the publisher's session id, and `publisher_authid` /
      `publisher_authrole` are exactly the publisher's `authid` / `authrole` (absent iff absent). -/
theorem C12_disclose_event (b : Broker) (sess : SessKey → Option Session) (now : Nat) (p : Publication)
    (hbase : ∀ key, isPublisherKey key → p.baseDetails.get? key = none) :
    ∀ x ∈ (b.syncPublish sess now p).2, ∃ (s : Sub) (c : Session) (d : Dict),
      sess x.to = some c ∧ x.msg = .event s.id p.pubId d p.args p.kw ∧
      (¬(p.disclose = true ∧ c.hasFeature RoleSubscriber FeaturePubIdent = true) →
          ∀ key, isPublisherKey key → d.get? key = none) ∧
      ((p.disclose = true ∧ c.hasFeature RoleSubscriber FeaturePubIdent = true) →
          d.get? "publisher" = some (.int (sidOf p.publisher)) ∧
          d.get? "publisher_authid" = p.pubDetails.get? "authid" ∧
          d.get? "publisher_authrole" = p.pubDetails.get? "authrole") := by
  intro x hx
  obtain ⟨s, k, c, ⟨_, _, _, hc, _, _⟩, rfl⟩ := (mem_syncPublish_sends b sess now p x).mp hx
  refine ⟨s, c, eventDetails p s.isPattern (some c), hc, rfl, ?_, ?_⟩
  · intro hno key hkey
    apply eventDetails_get?_pubkey_none p _ _ key hkey (hbase key hkey)
    unfold disclosedTo
    cases hd : p.disclose <;> cases hf : c.hasFeature RoleSubscriber FeaturePubIdent <;> simp_all
  · intro hyes
    apply eventDetails_get?_pubkeys p _ _ hbase
    unfold disclosedTo
    simp [hyes.1, hyes.2]

/-- non-vacuity: in the example both cases occur (session 1 announced the feature, session 2 did not),
    and the hypothesis on `baseDetails` holds. -/
example : (∀ key, isPublisherKey key → exPub.baseDetails.get? key = none) ∧ exPub.disclose = true ∧
    (∃ c, exSess 1 = some c ∧ c.hasFeature RoleSubscriber FeaturePubIdent = true) ∧
    (∃ c, exSess 2 = some c ∧ c.hasFeature RoleSubscriber FeaturePubIdent = false) :=
  ⟨fun _ _ => rfl, rfl, ⟨_, rfl, by decide⟩, ⟨_, rfl, by decide⟩⟩

/-- the "only if" clause without the side condition on `baseDetails` … -/
def C12_disclose_event_full : Prop :=
  ∀ (b : Broker) (sess : SessKey → Option Session) (now : Nat) (p : Publication),
    ∀ x ∈ (b.syncPublish sess now p).2, ∀ sub pub d args kw, x.msg = .event sub pub d args kw →
      ∀ c, sess x.to = some c → ∀ key, isPublisherKey key → d.get? key ≠ none →
        p.disclose = true ∧ c.hasFeature RoleSubscriber FeaturePubIdent = true

/-- … is false of the broker taken alone: a `publisher` key already present in the payload-passthru
    details is forwarded to everybody.  (Not reachable through the realm, see `C12_realm_base_ok`.) -/
theorem C12_disclose_event_full_fails : ¬ C12_disclose_event_full := by
  intro h
  let p : Publication := { exPub with disclose := false, baseDetails := [("publisher", .int 3)] }
  have hx : (⟨2, .event 1 9 [("publisher", .int 3)] [] []⟩ : Send) ∈ (exB.syncPublish exSess 0 p).2 := by
    have : (exB.syncPublish exSess 0 p).2 =
        [⟨1, .event 1 9 [("publisher", .int 3)] [] []⟩, ⟨2, .event 1 9 [("publisher", .int 3)] [] []⟩] := by rfl
    rw [this]; simp
  have := h exB exSess 0 p _ hx 1 9 _ [] [] rfl _ rfl "publisher" (Or.inl rfl) (by simp [Dict.get?])
  exact absurd this.1 (by decide)

/-- The `baseDetails` the realm builds (`handlePublish`: payload-passthru keys only) contain no
    publisher key. -/
theorem C12_realm_base_ok (opts : Dict) (usesPPT : Bool) (key : String) (hk : isPublisherKey key) :
    (if usesPPT then pptInto opts [] else ([] : Dict)).get? key = none :=
  realm_base_ok opts usesPPT key (Or.inr hk)

/-- What session `k` receives through subscription `s` for publication `p` is `deliveryOf sess p s k`,
    which mentions the broker only through `s` and the session table only through `sess k`.  Hence:
    for any two brokers (satisfying the invariant) and any two session tables that agree on `s` (id,
    topic, policy, whether `k` is a member) and on `k`'s session, the messages `k` receives through
    `s` are the same — whatever the other subscriptions, members, sessions and their features are. -/
theorem C12_independent {b1 b2 : Broker} (hb1 : BrokerInv b1) (hb2 : BrokerInv b2)
    (sess1 sess2 : SessKey → Option Session) (now1 now2 : Nat) (p : Publication)
    {s1 s2 : Sub} (hs1 : s1 ∈ b1.subs) (hs2 : s2 ∈ b2.subs)
    (hid : s1.id = s2.id) (htopic : s1.topic = s2.topic) (hkind : s1.kind = s2.kind)
    (k : SessKey) (hmem : k ∈ s1.members ↔ k ∈ s2.members) (hsess : sess1 k = sess2 k) :
    through (b1.syncPublish sess1 now1 p).2 k s1.id = deliveryOf sess1 p s1 k ∧
    through (b2.syncPublish sess2 now2 p).2 k s2.id = deliveryOf sess2 p s2 k ∧
    through (b1.syncPublish sess1 now1 p).2 k s1.id = through (b2.syncPublish sess2 now2 p).2 k s2.id := by
  have e1 := through_syncPublish_eq_deliveryOf hb1 sess1 now1 p hs1 k
  have e2 := through_syncPublish_eq_deliveryOf hb2 sess2 now2 p hs2 k
  refine ⟨e1, e2, ?_⟩
  rw [e1, e2]
  exact deliveryOf_congr sess1 sess2 p s1 s2 k hid htopic hkind hmem hsess

/-- non-vacuity: two different brokers / session tables agreeing on subscription 1 and session 2 -/
example : ∃ (b2 : Broker) (sess2 : SessKey → Option Session) (s1 s2 : Sub), BrokerInv exB ∧ BrokerInv b2 ∧
    s1 ∈ exB.subs ∧ s2 ∈ b2.subs ∧ s1.id = s2.id ∧ s1.topic = s2.topic ∧ s1.kind = s2.kind ∧
    ((2 : SessKey) ∈ s1.members ↔ (2 : SessKey) ∈ s2.members) ∧ exSess 2 = sess2 2 ∧ s1.members ≠ s2.members ∧
    exSess 1 ≠ sess2 1 := by
  refine ⟨(({} : Broker).syncSubscribe 2 1 "t" "exact" 0).1, fun k => if k = 2 then exSess 2 else none,
    { id := 1, topic := "t", «match» := "exact", members := [1, 2] },
    { id := 1, topic := "t", «match» := "exact", members := [2] },
    exB_inv, (BrokerInv.empty false false).subscribe .., ?_, ?_, rfl, rfl, rfl, by simp, rfl, by simp, ?_⟩
  · have : exB.subs = [{ id := 1, topic := "t", «match» := "exact", members := [1, 2] }] := by rfl
    rw [this]; simp
  · have : (({} : Broker).syncSubscribe 2 1 "t" "exact" 0).1.subs =
        [{ id := 1, topic := "t", «match» := "exact", members := [2] }] := by rfl
    rw [this]; simp
  · simp [exSess]

/-- Stored history entries never contain a publisher key: if no entry of the stores does, none does
    after any sequence of steps whose publications carry no publisher key in their payload-passthru
    details — whatever `disclose` and the recipients' features are. -/
theorem C12_history_no_identity {b : Broker} (hb : BrokerInv b) (steps : List BStep)
    (hclean : ∀ h ∈ b.hist, ∀ e ∈ h.entries, ∀ key, isPublisherKey key → e.details.get? key = none)
    (hbase : ∀ sess now p, BStep.publish sess now p ∈ steps →
      ∀ key, isPublisherKey key → p.baseDetails.get? key = none) :
    ∀ h ∈ (b.run steps).hist, ∀ e ∈ h.entries, ∀ key, isPublisherKey key → e.details.get? key = none :=
  HistClean.run steps hclean hbase

/-- … in particular from the pre-initialised broker (all stores empty). -/
theorem C12_history_no_identity_init (strict allowDisclose : Bool) (cfg : List (String × String × Nat))
    (steps : List BStep)
    (hbase : ∀ sess now p, BStep.publish sess now p ∈ steps →
      ∀ key, isPublisherKey key → p.baseDetails.get? key = none) :
    ∀ h ∈ ((({ strict := strict, allowDisclose := allowDisclose } : Broker).preInit cfg).run steps).hist,
      ∀ e ∈ h.entries, ∀ key, isPublisherKey key → e.details.get? key = none := by
  apply C12_history_no_identity (BrokerInv.preInit strict allowDisclose cfg) steps _ hbase
  intro h hh e he
  rw [preInit_entries cfg _ (by simp) h hh] at he
  simp at he

open Realm in
/-- PUBLISH (valid topic, payload passthru not refused) asking for `disclose_me` in a realm that does
    not allow disclosure: the publication is REFUSED — no EVENT is delivered to anybody (every queue
    other than the publisher's own is untouched), nothing is stored (the broker, hence every history
    store, is unchanged), no publication id is drawn — and the publisher's queue is offered exactly one
    ERROR(PUBLISH, req, wamp.error.option_disallowed.disclose_me) iff `acknowledge` is the bool true
    (dropped, changing nothing, if that queue is full); without acknowledgement nothing happens at all. -/
theorem C12_refused_publish (r : Realm) (s : Session) (req : Nat) (opts : Dict) (topic : String)
    (args : List WVal) (kw : Dict) (hv : validUri r.broker.strict "" topic = true)
    (hp : pptRefused s opts = false)
    (hdis : opts.get? OptDiscloseMe = some (.bool true)) (hrealm : r.broker.allowDisclose = false) :
    (opts.optFlag OptAcknowledge = false → handlePublish r s req opts topic args kw = r) ∧
    (opts.optFlag OptAcknowledge = true →
      handlePublish r s req opts topic args kw =
        r.trySend ⟨s.key, .error tPUBLISH req [] ErrOptionDisallowedDiscloseMe [] []⟩ ∧
      ∀ c, s.key ≠ metaKey → r.client? s.key = some c →
        (c.cap ≤ r.queueLen s.key → handlePublish r s req opts topic args kw = r) ∧
        (r.queueLen s.key < c.cap →
          (handlePublish r s req opts topic args kw).queueOf s.key =
            r.queueOf s.key ++ [.error tPUBLISH req [] ErrOptionDisallowedDiscloseMe [] []])) ∧
    (∀ k, k ≠ s.key → (handlePublish r s req opts topic args kw).queueOf k = r.queueOf k) ∧
    (handlePublish r s req opts topic args kw).broker = r.broker ∧
    (handlePublish r s req opts topic args kw).pubCount = r.pubCount ∧
    (handlePublish r s req opts topic args kw).clients = r.clients := by
  have hd : discloseRefused r opts = true := by
    unfold discloseRefused
    rw [(optFlag_iff opts OptDiscloseMe).mpr hdis, hrealm]; rfl
  have heq := handlePublish_refused r s req opts topic args kw hv hp hd
  have hf := deliver_frame (ackList opts ⟨s.key, errMsg tPUBLISH req ErrOptionDisallowedDiscloseMe⟩) r
  refine ⟨?_, ?_, ?_, by rw [heq]; exact hf.broker, by rw [heq]; exact hf.pubCount, by rw [heq]; exact hf.clients⟩
  · exact fun ha => heq.trans ((deliver_ackList r [] opts _).trans (by rw [ha]; rfl))
  · intro ha
    have heq' : handlePublish r s req opts topic args kw =
        r.trySend ⟨s.key, .error tPUBLISH req [] ErrOptionDisallowedDiscloseMe [] []⟩ :=
      heq.trans ((deliver_ackList r [] opts _).trans (by rw [ha]; rfl))
    refine ⟨heq', ?_⟩
    intro c hk hc
    rw [heq']
    obtain ⟨h1, h2⟩ := trySend_client_effect r ⟨s.key, .error tPUBLISH req [] ErrOptionDisallowedDiscloseMe [] []⟩ hk hc
    exact ⟨h1, fun hroom => (h2 hroom).1⟩
  · intro k hk
    rw [heq]
    refine (congrArg (·.queueOf k) (deliver_ackList r [] opts _)).trans ?_
    split
    · exact queueOf_trySend_ne r hk
    · rfl

/-- non-vacuity -/
example : validUri false "" "a.b" = true ∧
    Realm.pptRefused { key := 1, details := [], roles := [], isLocal := false }
      [("disclose_me", .bool true), ("acknowledge", .bool true)] = false ∧
    Dict.get? [("disclose_me", .bool true), ("acknowledge", .bool true)] OptDiscloseMe = some (.bool true) ∧
    ({} : Realm).broker.allowDisclose = false := by
  refine ⟨by decide +kernel, by decide +kernel, by rfl, rfl⟩

open Realm in
/-- The `disclose` flag of the publication the realm hands to the broker is exactly "the option
    `disclose_me` is the bool true"; when it is set and the publication is not refused, the realm
    allows disclosure.  (So `p.disclose` in `C12_disclose_event` means: requested AND allowed.) -/
theorem C12_disclose_flag (r : Realm) (s : Session) (opts : Dict) (topic : String) (args : List WVal) (kw : Dict) :
    ((pubOf r s opts topic args kw).disclose = true ↔ opts.get? OptDiscloseMe = some (.bool true)) ∧
    ((pubOf r s opts topic args kw).disclose = true → discloseRefused r opts = false →
      r.broker.allowDisclose = true) := by
  refine ⟨optFlag_iff opts OptDiscloseMe, ?_⟩
  intro h1 h2
  unfold discloseRefused at h2
  have : opts.optFlag OptDiscloseMe = true := h1
  rw [this] at h2
  simpa using h2

open Realm in
/-- The three disclosure theorems composed for the publication `pubOf r s opts …` that `handlePublish`
    hands to the broker (no side condition on `baseDetails` left: `C01_pubOf_base`).  Every message
    sent is an EVENT for an attached session `c`, carrying the next publication id and the publisher's
    arguments, and its details
    * contain NO publisher key unless `disclose_me` is the boolean true and `c` announced
      `subscriber.features.publisher_identification`;
    * in that case carry `publisher` = the publisher's session id and `publisher_authid` /
      `publisher_authrole` = the publisher's `authid` / `authrole` (absent iff absent). -/
theorem C12_realm_event_details (r : Realm) (s : Session) (opts : Dict) (topic : String) (args : List WVal) (kw : Dict) :
    ∀ x ∈ (r.broker.syncPublish r.session? r.now (pubOf r s opts topic args kw)).2,
      ∃ (sub : Sub) (c : Session) (d : Dict), r.session? x.to = some c ∧
        x.msg = .event sub.id (pubBase + r.pubCount) d args kw ∧
        (¬(opts.get? OptDiscloseMe = some (.bool true) ∧ c.hasFeature RoleSubscriber FeaturePubIdent = true) →
            ∀ key, isPublisherKey key → d.get? key = none) ∧
        ((opts.get? OptDiscloseMe = some (.bool true) ∧ c.hasFeature RoleSubscriber FeaturePubIdent = true) →
            d.get? "publisher" = some (.int (sidOf s.key)) ∧
            d.get? "publisher_authid" = s.details.get? "authid" ∧
            d.get? "publisher_authrole" = s.details.get? "authrole") := by
  intro x hx
  have hbase : ∀ key, isPublisherKey key → (pubOf r s opts topic args kw).baseDetails.get? key = none :=
    fun key hk => (Nexus.L2.WpA.C01_pubOf_base r s opts topic args kw).1 key (Or.inr hk)
  have hflag := (C12_disclose_flag r s opts topic args kw).1
  obtain ⟨sub, c, d, hc, hm, hno, hyes⟩ :=
    C12_disclose_event r.broker r.session? r.now (pubOf r s opts topic args kw) hbase x hx
  refine ⟨sub, c, d, hc, hm, ?_, ?_⟩
  · intro h; exact hno (fun hh => h ⟨hflag.mp hh.1, hh.2⟩)
  · intro h; exact hyes ⟨hflag.mpr h.1, h.2⟩

open Realm in
/-- "Only if", in the form of the property text: a publisher key in a delivered EVENT ⇒ the publisher
    asked (`disclose_me` = true), the realm allows disclosure, and the recipient is an attached
    session that announced the identification feature.  (`hd`: the publication was not refused — a
    refused one is not handed over at all, `C12_refused_publish`.) -/
theorem C12_realm_event (r : Realm) (s : Session) (opts : Dict) (topic : String) (args : List WVal) (kw : Dict)
    (hd : discloseRefused r opts = false) :
    ∀ x ∈ (r.broker.syncPublish r.session? r.now (pubOf r s opts topic args kw)).2,
      ∀ sub pub d a k, x.msg = .event sub pub d a k → ∀ key, isPublisherKey key → d.get? key ≠ none →
        opts.get? OptDiscloseMe = some (.bool true) ∧ r.broker.allowDisclose = true ∧
        ∃ c, r.session? x.to = some c ∧ c.hasFeature RoleSubscriber FeaturePubIdent = true := by
  intro x hx sub pub d a k hmsg key hkey hne
  obtain ⟨sub', c, d', hc, hm, hno, _⟩ := C12_realm_event_details r s opts topic args kw x hx
  rw [hm] at hmsg
  have hdd : d' = d := by injection hmsg
  subst hdd
  have hboth : opts.get? OptDiscloseMe = some (.bool true) ∧ c.hasFeature RoleSubscriber FeaturePubIdent = true := by
    apply Classical.byContradiction
    intro h
    exact hne (hno h key hkey)
  have hflag := C12_disclose_flag r s opts topic args kw
  exact ⟨hboth.1, hflag.2 (hflag.1.mpr hboth.1) hd, c, hc, hboth.2⟩

open Realm in
/-- "If": when the publisher asked, the realm allows it (the publication is handed over) and the
    recipient announced the feature, the three keys ARE there with the publisher's data. -/
theorem C12_realm_event_disclosed (r : Realm) (s : Session) (opts : Dict) (topic : String) (args : List WVal) (kw : Dict)
    (hdis : opts.get? OptDiscloseMe = some (.bool true)) :
    ∀ x ∈ (r.broker.syncPublish r.session? r.now (pubOf r s opts topic args kw)).2,
      ∀ c, r.session? x.to = some c → c.hasFeature RoleSubscriber FeaturePubIdent = true →
        ∃ sub d, x.msg = .event sub (pubBase + r.pubCount) d args kw ∧
          d.get? "publisher" = some (.int (sidOf s.key)) ∧
          d.get? "publisher_authid" = s.details.get? "authid" ∧
          d.get? "publisher_authrole" = s.details.get? "authrole" := by
  intro x hx c hc hf
  obtain ⟨sub, c', d, hc', hm, _, hyes⟩ := C12_realm_event_details r s opts topic args kw x hx
  rw [hc] at hc'
  cases hc'
  exact ⟨sub.id, d, hm, hyes ⟨hdis, hf⟩⟩

/-- non-vacuity: a realm that allows disclosure, one subscriber (session 1) that announced the
    feature; the publication of session 3 (authid alice) with `disclose_me` is not refused and its one
    EVENT carries the three keys. -/
def exRealm : Realm :=
  { broker := { (({} : Broker).syncSubscribe 1 1 "t" "exact" 0).1 with allowDisclose := true },
    clients := [{ key := 1, details := [], roles := [("subscriber", ["publisher_identification"])], isLocal := false },
                { key := 3, details := [("authid", .str "alice")], roles := [], isLocal := false }] }

example : Realm.discloseRefused exRealm [("disclose_me", .bool true)] = false ∧
    Dict.get? [("disclose_me", .bool true)] OptDiscloseMe = some (.bool true) ∧
    (exRealm.broker.syncPublish exRealm.session? exRealm.now
      (Realm.pubOf exRealm { key := 3, details := [("authid", .str "alice")], roles := [], isLocal := false }
        [("disclose_me", .bool true)] "t" [.int 7] [])).2.map (fun x => (x.to, x.msg.eventPub?)) =
      [(1, some pubBase)] ∧
    (∃ c, exRealm.session? 1 = some c ∧ c.hasFeature RoleSubscriber FeaturePubIdent = true) := by
  refine ⟨by decide, by rfl, by decide +kernel,
    ⟨{ key := 1, details := [], roles := [("subscriber", ["publisher_identification"])], isLocal := false },
      by rfl, by decide⟩⟩

open Realm Nexus.L2.WpA in
/-- Where a registration's `disclose` flag comes from.  After `handleRegister r s req opts proc`, a
    registration `g` with `g.disclose = true` either continues a registration that was already there
    (same id, same flag: joining a shared registration changes only its `callees`, so the flag is the
    CREATOR's), or it is the registration created by this very REGISTER — fresh id, `s` its only
    callee — and then `disclose_caller` was requested (the boolean true) AND the realm allows
    disclosure or the registering session's authrole is "trusted". -/
theorem C12_reg_disclose_origin (r : Realm) (s : Session) (req : Nat) (opts : Dict) (proc : String) :
    ∀ g ∈ (handleRegister r s req opts proc).ds.d.regs, g.disclose = true →
      (∃ g0 ∈ r.ds.d.regs, g0.id = g.id ∧ g0.disclose = g.disclose) ∨
      (g.id = r.ds.d.nextReg + 1 ∧ g.callees = [s.key] ∧ g.proc = proc ∧
        opts.optFlag OptDiscloseCaller = true ∧
        (r.ds.d.allowDisclose = true ∨ sessAttr s.details "authrole" = "trusted")) := by
  intro g hg hdis
  rw [handleRegister_eq] at hg
  cases hr : registerRefusal r s req opts proc with
  | some m =>
    rw [hr] at hg
    simp only [trySend_ds] at hg
    exact Or.inl ⟨g, hg, rfl, rfl⟩
  | none =>
    rw [hr] at hg
    simp only [applyD_ds] at hg
    rcases syncRegister_regs_origin _ _ _ _ _ _ _ _ _ g hg with h | ⟨h1, h2, h3, h4⟩
    · exact Or.inl h
    · refine Or.inr ⟨h1, h2, h3, by rw [← h4]; exact hdis, ?_⟩
      have hflag : opts.optFlag OptDiscloseCaller = true := by rw [← h4]; exact hdis
      have hno : ¬(r.ds.d.allowDisclose = false ∧ opts.optFlag OptDiscloseCaller = true ∧
          sessAttr s.details "authrole" ≠ "trusted") :=
        registerRefusal_cases (P := fun o => o = none → _) r s req opts proc (fun _ h => nomatch h)
          (fun _ h => nomatch h) (fun _ h => nomatch h) (fun _ h => nomatch h) (fun _ _ h _ _ => h) hr
      cases ha : r.ds.d.allowDisclose with
      | true => exact Or.inl rfl
      | false => exact Or.inr (Classical.byContradiction fun ht => hno ⟨ha, hflag, ht⟩)

open Realm Nexus.L2.WpA in
/-- REGISTER with `disclose_caller` in a realm that disallows disclosure, by a session whose authrole
    is not "trusted" (URI valid, not a `wamp.` URI from a client): REFUSED.  The whole effect is one
    ERROR(REGISTER, req, wamp.error.option_disallowed.disclose_me) offered to the sender's queue
    (appended if there is room, dropped — changing nothing — if the queue is full); the dealer state,
    hence every registration, is unchanged; no meta event is queued; nobody else's queue changes. -/
theorem C12_register_refused (r : Realm) (s : Session) (req : Nat) (opts : Dict) (proc : String)
    (hv : validUri r.ds.d.strict (opts.optString OptMatch) proc = true)
    (hw : ¬(proc.startsWith "wamp." = true ∧ s.key ≠ metaKey))
    (hd : opts.optFlag OptDiscloseCaller = true) (ha : r.ds.d.allowDisclose = false)
    (ht : sessAttr s.details "authrole" ≠ "trusted") :
    handleRegister r s req opts proc =
      r.trySend ⟨s.key, .error tREGISTER req [] ErrOptionDisallowedDiscloseMe [] []⟩ ∧
    (handleRegister r s req opts proc).ds = r.ds ∧
    (handleRegister r s req opts proc).tasks = r.tasks ∧
    (handleRegister r s req opts proc).broker = r.broker ∧
    (handleRegister r s req opts proc).clients = r.clients ∧
    (∀ k, k ≠ s.key → (handleRegister r s req opts proc).queueOf k = r.queueOf k) ∧
    (∀ c, s.key ≠ metaKey → r.client? s.key = some c →
      (c.cap ≤ r.queueLen s.key → handleRegister r s req opts proc = r) ∧
      (r.queueLen s.key < c.cap →
        (handleRegister r s req opts proc).queueOf s.key =
          r.queueOf s.key ++ [.error tREGISTER req [] ErrOptionDisallowedDiscloseMe [] []])) := by
  have hr : registerRefusal r s req opts proc = some (errMsg tREGISTER req ErrOptionDisallowedDiscloseMe) := by
    unfold registerRefusal
    rw [if_neg (by simp [hv]), if_neg hw, if_pos ⟨ha, hd, ht⟩]
  have heq : handleRegister r s req opts proc =
      r.trySend ⟨s.key, .error tREGISTER req [] ErrOptionDisallowedDiscloseMe [] []⟩ := by
    rw [handleRegister_eq, hr]; rfl
  have hf := trySend_frame r ⟨s.key, .error tREGISTER req [] ErrOptionDisallowedDiscloseMe [] []⟩
  refine ⟨heq, by rw [heq]; exact hf.ds, ?_, by rw [heq]; exact hf.broker, by rw [heq]; exact hf.clients, ?_, ?_⟩
  · rw [heq]; exact trySend_tasks_of (dmetaTask_of_msg (fun _ _ _ _ _ h => by cases h))
  · intro k hk
    rw [heq]; exact queueOf_trySend_ne r hk
  · intro c hk hc
    rw [heq]
    obtain ⟨h1, h2⟩ := trySend_client_effect r ⟨s.key, .error tREGISTER req [] ErrOptionDisallowedDiscloseMe [] []⟩ hk hc
    exact ⟨h1, fun hroom => (h2 hroom).1⟩

/-- non-vacuity: an ordinary client asking for `disclose_caller` in the default realm (disclosure not
    allowed) -/
example : validUri ({} : Realm).ds.d.strict (Dict.optString [("disclose_caller", .bool true)] OptMatch) "a.b" = true ∧
    ¬(("a.b" : String).startsWith "wamp." = true ∧ (5 : SessKey) ≠ metaKey) ∧
    Dict.optFlag [("disclose_caller", .bool true)] OptDiscloseCaller = true ∧
    ({} : Realm).ds.d.allowDisclose = false ∧ sessAttr [("authrole", .str "user")] "authrole" ≠ "trusted" := by
  refine ⟨by decide +kernel, by decide +kernel, by decide, rfl, by decide⟩

open Realm Nexus.L2.WpA in
/-- Every refusal of REGISTER in the handler (invalid URI; a `wamp.` URI from a client; disallowed
    `disclose_caller`; unknown invocation policy) announces nothing: the effect is one
    ERROR(REGISTER, req, …) offered to the sender; the dealer state is unchanged and no task (hence no
    meta event) is queued. -/
theorem C12_register_refusals_silent (r : Realm) (s : Session) (req : Nat) (opts : Dict) (proc : String)
    (h : validUri r.ds.d.strict (opts.optString OptMatch) proc = false ∨
         (proc.startsWith "wamp." = true ∧ s.key ≠ metaKey) ∨
         (r.ds.d.allowDisclose = false ∧ opts.optFlag OptDiscloseCaller = true ∧
            sessAttr s.details "authrole" ≠ "trusted") ∨
         (opts.optString OptInvoke) ∉ knownPolicies) :
    ∃ uri a, handleRegister r s req opts proc = r.trySend ⟨s.key, .error tREGISTER req [] uri a []⟩ ∧
      (handleRegister r s req opts proc).ds = r.ds ∧
      (handleRegister r s req opts proc).tasks = r.tasks ∧
      (handleRegister r s req opts proc).broker = r.broker := by
  have hr : ∃ uri a, registerRefusal r s req opts proc = some (.error tREGISTER req [] uri a []) :=
    registerRefusal_cases (P := fun o => ∃ uri a, o = some (.error tREGISTER req [] uri a [])) r s req opts proc
      (fun _ => ⟨_, _, rfl⟩) (fun _ => ⟨_, _, rfl⟩) (fun _ => ⟨_, _, rfl⟩) (fun _ => ⟨_, _, rfl⟩)
      (fun h1 h2 h3 h4 => (h.elim h1 (·.elim h2 (·.elim h3 h4))).elim)
  obtain ⟨uri, a, hr⟩ := hr
  have heq : handleRegister r s req opts proc = r.trySend ⟨s.key, .error tREGISTER req [] uri a []⟩ := by
    rw [handleRegister_eq, hr]
  have hf := trySend_frame r ⟨s.key, .error tREGISTER req [] uri a []⟩
  exact ⟨uri, a, heq, by rw [heq]; exact hf.ds,
    by rw [heq]; exact trySend_tasks_of (dmetaTask_of_msg (fun _ _ _ _ _ h => by cases h)), by rw [heq]; exact hf.broker⟩

/-- non-vacuity: the four refusal reasons on concrete requests -/
example : validUri false "" "a..b" = false ∧ ("wamp.x" : String).startsWith "wamp." = true ∧
    Dict.optString [("invoke", .str "nonsense")] OptInvoke ∉ Realm.knownPolicies := by
  refine ⟨by decide +kernel, by decide +kernel, by decide⟩

/-- "The realm allows disclosure" is a constant of the realm: in every reachable state the broker's
    and the dealer's copies of `allowDisclose` (and of `strict`) are the configured values.  So
    `r.broker.allowDisclose` in `C12_refused_publish` / `C12_disclose_flag` and `s.d.allowDisclose` in the
    dealer theorems (C12Dealer) all mean `cfg.allowDisclose`. -/
theorem C12_flags_const {cfg : Config} {r : Realm} (h : Realm.Reachable cfg r) :
    r.broker.allowDisclose = cfg.allowDisclose ∧ r.ds.d.allowDisclose = cfg.allowDisclose ∧
    r.broker.strict = cfg.strict ∧ r.ds.d.strict = cfg.strict := by
  obtain ⟨a, b, c, d, _, _⟩ := WpA.flags_const h
  exact ⟨a, b, c, d⟩

/-- non-vacuity: `Realm.Reachable` is inhabited for a configuration that allows disclosure -/
example : ∃ r, Realm.Reachable { allowDisclose := true } r ∧ r.broker.allowDisclose = true := by
  have hs : (Realm.create { allowDisclose := true }).isSome = true := by decide +kernel
  cases hc : Realm.create { allowDisclose := true } with
  | none => rw [hc] at hs; cases hs
  | some r => exact ⟨r, .init hc, (C12_flags_const (.init hc)).1⟩

/-- In every reachable realm no stored history entry carries a publisher key — whatever was
    published with `disclose_me` and whoever was subscribed: the hypotheses of
    `C12_history_no_identity_init` hold for the run that produced the realm's broker. -/
theorem C12_history_no_identity_realm {cfg : Config} {r : Realm} (h : Realm.Reachable cfg r) :
    ∀ st ∈ r.broker.hist, ∀ e ∈ st.entries, ∀ key, isPublisherKey key → e.details.get? key = none :=
  WpA.hist_clean_reachable h

end Nexus.C12
