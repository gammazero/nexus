/-
  C20 (history level) — the GHOST TRACE of the broker and what `get_events` returns.

  Property text (the clauses proved here).  "For a topic or pattern configured with event history of
  limit N, wamp.subscription.get_events on its subscription returns the most recent at most N
  publications matching it, oldest first […], each with its original publication id, arguments and
  topic, and never a publication that was restricted to particular receivers by exclude/eligible
  session lists […]."

  Nexus/Props/C20.lean proves retention for an EXISTENTIALLY quantified list of broker steps
  (`C20_reachable_run`, `C20_retention_realm`: "the broker is the run of SOME steps").  Here the list is
  explicit — a function of the inputs — and its `.publish` steps are identified:

  `traceHist r0 ops`             the ghost trace of the history (Nexus/L2/Proofs/Trace.lean; see
                                 Nexus/Props/C08Hist.lean);
  `bstepsOf (traceHist r0 ops)`  the broker steps the realm hands its broker, in order;
  `x.pub? : Option PubRec`       the publication the action `x` hands over (Nexus/L2/Proofs/TracePubs.lean):
      the handler of an attached session reads a PUBLISH — an external input `.msg k m`, or one that
      waited in the transport — that the authorization gate lets through and `broker.publish` accepts
      (`pubAccepted`: valid topic, no payload passthru without the feature, no disallowed `disclose_me`),
      or the meta session publishes (session / registration meta events, testaments);
  `acceptedPubs tr`              those of a trace, in order;  `p.step`: the broker step of `p` —
      `syncPublish` with the realm's session table and clock and the publication id `pubBase + pubCount`;
  `p.retained? s`                the entry the store of `s` keeps for `p`: none unless `p.topic` matches
      `s` and `p.opts` contain neither `exclude` nor `eligible`.

  clause                                                                theorem
  --------------------------------------------------------------------  -----------------------------------
  the broker after the history IS the pre-initialised broker after the
    broker steps of the ghost trace; their publish steps carry strictly
    increasing ids; and the publish steps are EXACTLY the accepted
    publications, in order                                               C20_hist_ghost_trace
  an accepted publication: who, in which action, under which conditions;
    a client's was sent by that client as a PUBLISH input of the history  C20_hist_accepted_spec
  conversely a PUBLISH input read by its handler, passing the gate and
    `broker.publish`, IS an accepted publication                          C20_hist_publish_accepted
  the store of a configured (topic, policy, N) holds the last N of the
    accepted publications that match it and are not restricted            C20_hist_store
  `get_events` on that subscription answers `histAnswer q` of exactly
    that list, for EVERY query; with only `limit`/`reverse`: its most
    recent min(limit, …) entries, oldest first, reversed iff `reverse`    C20_hist_get_events,
                                                                          C20_hist_get_events_plain
  each entry: the original publication id `pubBase + pubCount` (ids of
    distinct accepted publications differ), arguments, keyword arguments,
    time of publication, and `details.topic` = the topic iff pattern-based C20_hist_entry, C20_hist_ids_increasing
-/
import Nexus.L2.Proofs.TracePubs
import Nexus.Props.C20

namespace Nexus.C20
open Nexus.L2 Nexus.L2.Realm Nexus.L2.WpE Gen.N
open Realm (HistQuery histScan takeLast histEntryVal histQuery? metaProc mYield)

/-- THE GHOST TRACE.  From the realm `Realm.create cfg` builds, after ANY inputs `ops`: the broker is the
    pre-initialised broker after the broker steps of the ghost trace; the publish steps among them carry the ids
    `pubBase + m` for strictly increasing `m` below the publication counter (`WpA.Trace`); and they are exactly the
    steps of the accepted publications of the trace, in order. -/
theorem C20_hist_ghost_trace {cfg : Config} {r0 : Realm} (h0 : Realm.create cfg = some r0) (ops : List Op) :
    (runOps r0 ops).broker =
      (({ strict := cfg.strict, allowDisclose := cfg.allowDisclose } : Broker).preInit cfg.history).run
        (bstepsOf (traceHist r0 ops)) ∧
    WpA.Trace 0 (bstepsOf (traceHist r0 ops)) (runOps r0 ops).pubCount ∧
    (bstepsOf (traceHist r0 ops)).filter BStep.isPublish = (acceptedPubs (traceHist r0 ops)).map PubRec.step := by
  obtain ⟨h1, h2, _⟩ := hist_tables r0 ops
  exact ⟨by rw [h1, (create_rinv h0).broker], by rw [← (create_rinv h0).pubCount]; exact h2, bsteps_publish _⟩

/-- AN ACCEPTED PUBLICATION: `p` is handed to the broker in the state `p.r`, which has the broker, the publication
    counter, the clock and the session table of the state the action starts in; `broker.publish` accepts it; and
    * either the handler of the attached session `p.s` (found under key `k`) reads the PUBLISH `m` with these
      options, topic and payload — the action is the external input `.msg k m`, or `m` waited in the transport —
      and the gate lets it through; then `.msg k m` is an input of the history;
    * or the meta session publishes the meta event / testament `mp`
    (a third source, an answer of the meta-procedure handler being a PUBLISH, is ruled out by the task invariant:
    such answers are YIELDs or ERRORs). -/
theorem C20_hist_accepted_spec {cfg : Config} {r0 : Realm} (h0 : Realm.create cfg = some r0) (ops : List Op) :
    ∀ x ∈ traceHist r0 ops, ∀ p, x.pub? = some p →
      pubAccepted p.r p.s p.opts p.topic = true ∧ p.r.broker = x.pre.broker ∧ p.r.pubCount = x.pre.pubCount ∧
      p.r.now = x.pre.now ∧ p.r.session? = x.pre.session? ∧
      ((∃ k m req, (x.act = .op (.msg k m) ∨ x.act = .task (.inMsg k m)) ∧
          m = .publish req p.opts p.topic p.args p.kw ∧
          x.pre.clients.find? (fun c => c.key == k) = some p.s ∧ (authzGate p.r p.s m).1 = true ∧
          Op.msg k m ∈ ops) ∨
       (∃ mp, x.act = .task (.metaPub mp) ∧ p.s = x.pre.metaS ∧ p.opts = mp.opts ∧ p.topic = mp.topic ∧
          p.args = mp.args ∧ p.kw = mp.kw)) := by
  intro x hx p hp
  obtain ⟨hw, htok, hop⟩ := hist_tasksOk h0 ops x hx
  obtain ⟨hacc, hs, hn, hse, ⟨req, src, hg⟩ | hmp⟩ := x.pub_spec hp
  · refine ⟨hacc, hs.broker, hs.pubCount, hn, hse, ?_⟩
    cases src with
    | client k ha hf _ _ =>
      exact .inl ⟨k, _, req, ha, rfl, hf, hg, ha.elim (hop k _) fun e => htok.tasks _ (hw.mem e)⟩
    -- an answer of the meta-procedure handler is a YIELD or an ERROR, never a PUBLISH
    | metaS ha _ => cases htok.tasks _ (hw.mem ha)
  · exact ⟨hacc, hs.broker, hs.pubCount, hn, hse, .inr hmp⟩

/-- CONVERSELY: an external PUBLISH input of an attached session `s` whose handler is neither ending nor busy, which the
    gate lets through and `broker.publish` accepts, IS an accepted publication of its action. -/
theorem C20_hist_publish_accepted (r : Realm) (k : SessKey) (s : Session) (req : Nat) (opts : Dict) (topic : String)
    (args : List WVal) (kw : Dict)
    (hf : r.clients.find? (fun c => c.key == k) = some s) (he : r.ending.contains k = false) (hb : r.busy k = false)
    (hg : (authzGate r s (.publish req opts topic args kw)).1 = true) (ha : pubAccepted r s opts topic = true) :
    (⟨r, .op (.msg k (.publish req opts topic args kw))⟩ : Rec).pub? = some ⟨r, s, opts, topic, args, kw⟩ := by
  show recvPub r k (.publish req opts topic args kw) = _
  unfold recvPub
  rw [hf]
  simp only [he, hb, Bool.false_eq_true, if_false]
  unfold msgPub
  rw [hg]
  simp only [if_true]
  unfold publishPub
  rw [if_pos ha]

/-- THE STORE.  If `(topic, m, limit)` is an entry of the history configuration not overridden by a later entry for the
    same (topic, policy), then after ANY inputs from the fresh realm: there is exactly one store `st` for the
    subscription `s` with that topic and policy — found by `get_events` under the id `st.sub` —, and it holds the
    last `limit`, oldest first, of the ACCEPTED PUBLICATIONS of the history that match `s` and carry neither
    `exclude` nor `eligible`. -/
theorem C20_hist_store {cfg : Config} {r0 : Realm} (h0 : Realm.create cfg = some r0) (ops : List Op)
    (pre post : List (String × String × Nat)) (topic m : String) (limit : Nat)
    (hcfg : cfg.history = pre ++ (topic, m, limit) :: post)
    (hlast : ∀ c ∈ post, ¬(c.1 = topic ∧ matchKind c.2.1 = matchKind m)) :
    0 < limit ∧
    ∃ st ∈ (runOps r0 ops).broker.hist, ∃ s ∈ (runOps r0 ops).broker.subs,
      s.id = st.sub ∧ s.topic = topic ∧ s.kind = matchKind m ∧ st.limit = limit ∧
      (runOps r0 ops).broker.findId st.sub = some s ∧
      (runOps r0 ops).broker.hist.find? (fun h => h.sub == st.sub) = some st ∧
      st.entries = lastN limit ((acceptedPubs (traceHist r0 ops)).filterMap (PubRec.retained? s)) := by
  have hr : Realm.Reachable cfg (runOps r0 ops) := runOps_reachable ops (.init h0)
  obtain ⟨hb, _, _⟩ := C20_hist_ghost_trace h0 ops
  obtain ⟨hpos, st, hst, s, hs, e1, e2, e3, e4, e5, _⟩ :=
    retention_of_run hr (bstepsOf (traceHist r0 ops)) hb pre post topic m limit hcfg hlast
  refine ⟨hpos, st, hst, s, hs, e1, e2, e3, e4, ?_, (find?_key_eq_some hr.inv.1.binv.hist_nodup).mpr ⟨hst, rfl⟩, ?_⟩
  · rw [← e1]; exact findId_of_mem hr.inv.1.binv.ids_nodup hs
  · rw [e5, retained_trace]

/-- WHAT `get_events` RETURNS.  In the situation of `C20_hist_store`: the meta procedure
    `wamp.subscription.get_events`, called with the store's subscription id and ANY well-formed keyword arguments,
    answers YIELD with `histAnswer q'` of exactly the last `limit` accepted, matching, unrestricted publications of the
    history (`q'` = the parsed query with `subTopic` := the subscription's topic), each rendered with its
    subscription id, publication id, details, arguments and keyword arguments; the realm is unchanged. -/
theorem C20_hist_get_events {cfg : Config} {r0 : Realm} (h0 : Realm.create cfg = some r0) (ops : List Op)
    (pre post : List (String × String × Nat)) (topic m : String) (limit : Nat)
    (hcfg : cfg.history = pre ++ (topic, m, limit) :: post)
    (hlast : ∀ c ∈ post, ¬(c.1 = topic ∧ matchKind c.2.1 = matchKind m)) :
    ∃ st ∈ (runOps r0 ops).broker.hist, ∃ s ∈ (runOps r0 ops).broker.subs,
      s.id = st.sub ∧ s.topic = topic ∧ s.kind = matchKind m ∧
      ∀ (req : Nat) (details : Dict) (a : WVal) (rest : List WVal) (kw : Dict) (q : HistQuery),
        a.asID = some st.sub → histQuery? kw = some q →
        metaProc (runOps r0 ops) MetaProcEventHistory req details (a :: rest) kw =
          (mYield req
            ((histAnswer { q with subTopic := s.topic }
                (lastN limit ((acceptedPubs (traceHist r0 ops)).filterMap (PubRec.retained? s)))).map histEntryVal)
            [("is_limit_reached",
              .bool ((lastN limit ((acceptedPubs (traceHist r0 ops)).filterMap (PubRec.retained? s))).length ≥ limit))],
           runOps r0 ops) := by
  obtain ⟨_, st, hst, s, hs, e1, e2, e3, e4, e5, e6, e7⟩ := C20_hist_store h0 ops pre post topic m limit hcfg hlast
  refine ⟨st, hst, s, hs, e1, e2, e3, ?_⟩
  intro req details a rest kw q ha hq
  rw [C20_query_metaProc (runOps r0 ops) req details a rest kw st.sub q st s ha hq e5 e6, e7, e4]

/-- … with only `limit` / `reverse` in the query (no time, topic or publication bounds): the most recent
    min(q.limit, …) of those entries (all of them without `limit`), oldest first — newest first iff `reverse`. -/
theorem C20_hist_get_events_plain (q : HistQuery) (es : List HistEntry)
    (hT : q.fromT = none ∧ q.afterT = none ∧ q.beforeT = none ∧ q.untilT = none) (htopic : q.topic = "")
    (hP : q.fromPub = 0 ∧ q.afterPub = 0 ∧ q.beforePub = 0 ∧ q.untilPub = 0) (sub : String) :
    histAnswer { q with subTopic := sub } es =
      (if q.reverse then (if q.limit > 0 then lastN q.limit es else es).reverse
       else (if q.limit > 0 then lastN q.limit es else es)) :=
  (C20_query_limit_reverse { q with subTopic := sub } es hT htopic hP).1

/-- WHAT AN ENTRY IS.  The entry the store of `s` keeps for the accepted publication `p`: the publication id drawn for
    `p` (`pubBase + ` the counter when it was published), its arguments and keyword arguments, the time of
    publication, the subscription's id; `details.topic` is the publication's topic iff `s` is pattern-based (an
    exact-match subscription stores none: its topic is the subscription's).  And two accepted publications of one
    history have different ids unless they are the same element of `acceptedPubs`: the ids are strictly increasing
    (`C20_hist_ids_increasing`). -/
theorem C20_hist_entry (s : Sub) (p : PubRec) (e : HistEntry) (he : p.retained? s = some e) :
    s.matchesTopic p.topic = true ∧ p.opts.contains "exclude" = false ∧ p.opts.contains "eligible" = false ∧
    e.pub = pubBase + p.r.pubCount ∧ e.args = p.args ∧ e.kw = p.kw ∧ e.time = p.r.now ∧ e.sub = s.id ∧
    (e.details.get? "topic" = some (.str p.topic) ↔ s.isPattern = true) ∧
    (s.isPattern = false → e.details.get? "topic" = none) := by
  unfold PubRec.retained? at he
  split at he
  · rename_i hc
    simp only [Option.some.injEq] at he
    subst he
    simp only [Bool.and_eq_true, Bool.not_eq_true'] at hc
    have hbase : p.pub.baseDetails.get? "topic" = none :=
      realm_base_ok p.opts (pptScheme p.opts != "") "topic" (Or.inl rfl)
    obtain ⟨_, _, _, _, _, h6⟩ := C20_entry_content s p.r.now p.pub
    exact ⟨hc.1.1, hc.1.2, hc.2, rfl, rfl, rfl, rfl, rfl, (h6 hbase).1, (h6 hbase).2⟩
  · cases he

/-- the ids of the accepted publications of a history are strictly increasing -/
theorem C20_hist_ids_increasing {cfg : Config} {r0 : Realm} (h0 : Realm.create cfg = some r0) (ops : List Op) :
    ((acceptedPubs (traceHist r0 ops)).map (fun p => pubBase + p.r.pubCount)).Pairwise (· < ·) := by
  obtain ⟨_, ht, hp⟩ := C20_hist_ghost_trace h0 ops
  have h1 := (WpA.Trace.ids ht).1
  -- only publish steps have an id
  have e : (bstepsOf (traceHist r0 ops)).filterMap WpA.stepPubId =
      ((bstepsOf (traceHist r0 ops)).filter BStep.isPublish).filterMap WpA.stepPubId := by
    rw [List.filterMap_filter]
    congr 1
    funext a
    cases a <;> rfl
  -- and the id of the step of an accepted publication `p` is `pubBase + p.r.pubCount`
  rw [e, hp, List.filterMap_map,
    show List.filterMap (WpA.stepPubId ∘ PubRec.step) = List.map (fun p => pubBase + p.r.pubCount) from
      List.filterMap_eq_map] at h1
  exact h1

/-- the hypotheses on the configuration, the subscription id and the keyword arguments are met: `exRCfg` has the single
    history entry ("a.", prefix, 2) (`exR0_create : Realm.create exRCfg = some exR0`); the id 1 and `limit: 2` parse -/
example : exRCfg.history = [] ++ ("a.", "prefix", 2) :: [] ∧
    (∀ c ∈ ([] : List (String × String × Nat)), ¬(c.1 = "a." ∧ matchKind c.2.1 = matchKind "prefix")) ∧
    (WVal.int 1).asID = some 1 ∧ histQuery? [("limit", .int 2)] = some { limit := 2 } :=
  ⟨rfl, fun _ hc => (nomatch hc), rfl, rfl⟩

/-- session 1 joins and publishes: "a.b"; "a.c" restricted by `exclude`; "x" (no store matches); "a..b" (invalid URI:
    refused, no publication); "a.d" -/
def exHOps : List Op :=
  [ .join 1 false [] [] 8,
    .msg 1 (.publish 1 [] "a.b" [.int 1] []),
    .msg 1 (.publish 2 [("exclude", .list [])] "a.c" [.int 2] []),
    .msg 1 (.publish 3 [] "x" [.int 3] []),
    .msg 1 (.publish 4 [] "a..b" [.int 4] []),
    .msg 1 (.publish 5 [] "a.d" [.int 5] []) ]

set_option maxRecDepth 100000 in
/-- in the realm configured with `("a.", prefix, 2)` (`exRCfg`, `exR0_create`): the accepted publications of this
    history are the `on_join` meta event of the meta session (key 0) and four of the five PUBLISHes of session 1, with
    the publication counters 0 … 4; the store of subscription 1 ("a.", prefix) must hold those to "a.b" and "a.d" —
    the one to "a.c" carried `exclude` — and does. -/
example :
    (acceptedPubs (traceHist exR0 exHOps)).map (fun p => (p.s.key, p.topic, p.r.pubCount)) =
      [(0, "wamp.session.on_join", 0), (1, "a.b", 1), (1, "a.c", 2), (1, "x", 3), (1, "a.d", 4)] ∧
    ((acceptedPubs (traceHist exR0 exHOps)).filterMap
        (PubRec.retained? { id := 1, topic := "a.", «match» := "prefix", members := [] })).map
      (fun e => (e.pub, e.args.map WVal.asID)) = [(pubBase + 1, [some 1]), (pubBase + 4, [some 5])] ∧
    (runOps exR0 exHOps).broker.hist.map (fun st => (st.sub, st.entries.map (fun e => (e.pub, e.args.map WVal.asID)))) =
      [(1, [(pubBase + 1, [some 1]), (pubBase + 4, [some 5])])] := by
  decide +kernel

end Nexus.C20
