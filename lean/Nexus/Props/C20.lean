/-
  C20 — Event history returns the retained publications, and only those (broker + meta API, L2).

  Property text.  "For a topic or pattern configured with event history of limit N,
  wamp.subscription.get_events on its subscription returns the most recent at most N publications
  matching it, oldest first (newest first when reversed), each with its original publication id,
  arguments and topic, and never a publication that was restricted to particular receivers by
  exclude/eligible session lists; filters (limit, time and publication-id bounds, topic) select
  exactly the entries they describe, whichever transport and serializer the asking client uses.
  Retention does not depend on who is subscribed: history is kept with no subscriber present and
  survives subscribers coming and going."

  Model: `Nexus.L2.Broker` (`preInit`, `syncPubEvent`/`Hist.save`, subscription deletion) and the
  `MetaProcEventHistory` branch of `Nexus.L2.Realm.metaProc` (`histScan`, `takeLast`).  Declarative
  vocabulary: Nexus/L2/Proofs/BrokerSpec.lean (`BStep`, `Broker.run`, `retained`, `retainedEntry`,
  `lastN`) and Nexus/L2/Proofs/BrokerQuerySpec.lean (`timeOk`, `topicOk`, the four `*Stage`s,
  `scanSpec`, `histAnswer`).  "Restricted" is read as the code reads it: the options contain the
  key `exclude` or the key `eligible` (whatever the value); `exclude_<attr>`/`eligible_<attr>` alone
  do not keep a publication out of the history.

  clause                                                              theorem
  ------------------------------------------------------------------  -----------------------------------
  a configured (topic, policy, N) has a store and a subscription      C20_configured
  the example broker used below (`exB0`: "t" exact 2, "a." prefix 3
    configured) starts with those two empty stores and subscriptions   exB0_hist, exB0_subs
  after ANY sequence of publish/subscribe/unsubscribe/remove steps
    from the pre-initialised broker the store still exists, is the
    only one of its subscription, its subscription still exists
    (never removed, never orphaned), and its entries are the last N
    (oldest first) of the matching unrestricted publications           C20_retention
  the same as an invariant over an explicit ghost list, from any
    state satisfying BrokerInv                                         C20_retention_invariant
  each entry: publication id, args, kw of the publication;
    details.topic present iff the subscription is pattern-based        C20_entry_content
  retention is independent of who is subscribed                       C20_independent_of_subscribers
  scan of get_events = declarative pipeline, for EVERY query           C20_query_scan
  answer = scan, then last `limit`, then reversed iff `reverse`        C20_query_answer
  only limit/reverse: most recent min(limit,len), oldest first,
    reversed iff `reverse`                                             C20_query_limit_reverse
  time bounds and topic (no publication bounds): exactly the entries
    with from ≤ t, after < t, t < before, t ≤ until, details.topic = it C20_query_time_topic
  from/after/before/until_publication (distinct publication ids),
    including what happens when the named publication is absent        C20_query_from_publication, C20_query_after_publication,
                                                                       C20_query_before_publication, C20_query_until_publication
  the meta procedure answers with exactly that, rendered per entry     C20_query_metaProc
  "and only those": for EVERY query the answer (read backwards when
    `reverse`) is a sub-list of the store: entries of that store,
    each at most once, in store order                                  C20_scan_sublist, C20_answer_sublist, C20_answer_mem,
                                                                       C20_query_metaProc_sublist (meta procedure level)
  … hence no answered entry carries a publisher key (C12)              C20_answer_no_identity
  `topic` filter, read as the property text reads it ("entries of
    publications to that topic"): TRUE for every subscription
    (Go fix 30f858f: the entries of an exact-match subscription
    store no `details.topic`; their topic is the subscription's,
    which the handler hands to the scan as `q.subTopic`): for an
    exact-match subscription get_events(sub, topic = its own topic)
    answers what it answers without `topic`, any other topic nothing    C20_topic_filter_full (def), C20_topic_filter_full_holds,
                                                                       C20_topic_filter_pattern, C20_topic_filter_exact,
                                                                       C20_topic_filter_exact_scan, C20_topic_filter_exact_metaProc,
                                                                       C20_topic_filter_scan (list level, any subscription)
  the caller cannot set `subTopic`: the parser leaves it empty,
    the handler fills in the topic of the subscription queried         C20_histQuery_subTopic, C20_query_metaProc
  argument parsing: what each keyword argument is parsed to; the
    parser fails exactly on the listed malformations; well-formed
    arguments always parse                                             C20_histQuery_spec, C20_histQuery_none_iff, C20_histQuery_total
  other branches of the meta procedure: no argument / first argument
    not an id / malformed kwargs ⇒ ERROR invalid_argument, state
    unchanged; unknown subscription or subscription without store ⇒
    empty list, is_limit_reached = false                               C20_query_metaProc_errors, C20_query_metaProc_nostore
  REALM LEVEL (every `Realm.Reachable cfg r`; Nexus/L2/Proofs/BrokerEvolution.lean, ReachableRealm.lean):
  the realm's broker IS a `Broker.run` of steps from the
    pre-initialised broker; its publish steps carry strictly
    increasing ids drawn from the realm's counter and payload-passthru
    details without `topic` / publisher keys                           C20_reachable_run
  stored publication ids are strictly increasing, hence distinct
    (the `Nodup` hypothesis of the four publication-bound clauses),
    and below pubBase + pubCount                                       C20_store_pubs_nodup
  retention for a configured (topic, policy, N) in every reachable
    realm state (N > 0 follows from the configuration check)           C20_retention_realm
  the four publication-bound clauses for every store of a reachable
    realm, no side condition left                                      C20_query_publication_realm
  the topic filter for every configured store of a reachable realm,
    any policy, no side condition left                                 C20_topic_filter_realm
  no get_events answer in a reachable realm carries a publisher key    C20_answer_no_identity_realm
  the example realm used below (`exR`: "a." prefix 2 configured,
    session 1 joins and publishes to "a.b") is reachable               exR_reachable

  What the pipeline of `C20_query_scan` says about COMBINED bounds (this is what the code does):
  the time bounds are applied first and hide entries from the publication bounds — a
  `from_publication`/`after_publication` naming an entry outside the time window is "absent" and the
  answer is empty; `after_publication` is searched only from the `from_publication` entry on;
  `before_publication` cuts before `until_publication` is looked at; the `topic` filter is applied
  last and does not hide an entry from the publication bounds.
  Explicit assumptions: N > 0 (`0 < h.limit`; the realm configuration check guarantees it);
  publication ids in a store distinct for the four `*_publication` clauses — discharged
  for every reachable realm by `C20_store_pubs_nodup`.
-/
import Nexus.L2.Proofs.BrokerHist
import Nexus.L2.Proofs.BrokerQuery
import Nexus.L2.Proofs.ReachableRealm

namespace Nexus.C20
open Nexus.L2 Gen.N
open Realm (HistQuery histScan takeLast histEntryVal histQuery? metaProc mYield)

/-! ### a concrete history used by the `example`s -/

def exCfg : List (String × String × Nat) := [("t", "exact", 2), ("a.", "prefix", 3)]
def exB0 : Broker := ({} : Broker).preInit exCfg
def exPub (n : Nat) (opts : Dict) : Publication :=
  { publisher := 1, pubDetails := [], topic := "t", pubId := n, args := [.int n], kw := [], opts := opts,
    excludePub := true, disclose := false, baseDetails := [] }
def noSess : SessKey → Option Session := fun _ => none
/-- publications 10, 11 (restricted), 12, 13 on "t", with a subscriber coming, going, leaving -/
def exSteps : List BStep :=
  [.publish noSess 1 (exPub 10 []), .subscribe 5 1 "t" "exact" 0, .publish noSess 2 (exPub 11 [("exclude", .list [])]),
   .unsubscribe 5 2 1 0, .publish noSess 3 (exPub 12 []), .subscribe 6 1 "t" "exact" 0, .removeSession 6 0,
   .publish noSess 4 (exPub 13 [])]
def exH0 : Hist := { sub := 1, limit := 2, entries := [] }
def exS0 : Sub := { id := 1, topic := "t", «match» := "exact", members := [] }

theorem exB0_hist : exB0.hist = [exH0, { sub := 2, limit := 3, entries := [] }] := by rfl
theorem exB0_subs : exB0.subs = [exS0, { id := 2, topic := "a.", «match» := "prefix", members := [] }] := by rfl

/-- A configured (topic, policy, limit) — the last entry of the configuration naming that (topic,
    policy) — has, in the broker the realm starts with, an empty store with that limit on a
    subscription with that topic and policy. -/
theorem C20_configured (strict allowDisclose : Bool) (pre post : List (String × String × Nat))
    (topic m : String) (limit : Nat)
    (hlast : ∀ c ∈ post, ¬(c.1 = topic ∧ matchKind c.2.1 = matchKind m)) :
    ∃ h ∈ (({ strict := strict, allowDisclose := allowDisclose } : Broker).preInit
              (pre ++ (topic, m, limit) :: post)).hist,
    ∃ s ∈ (({ strict := strict, allowDisclose := allowDisclose } : Broker).preInit
              (pre ++ (topic, m, limit) :: post)).subs,
      s.id = h.sub ∧ h.limit = limit ∧ h.entries = [] ∧ s.topic = topic ∧ s.kind = matchKind m := by
  have happ : ∀ (l1 l2 : List (String × String × Nat)) (b : Broker),
      b.preInit (l1 ++ l2) = (b.preInit l1).preInit l2 := by
    intro l1
    induction l1 with
    | nil => intros; rfl
    | cons c l1 ih =>
      intro l2 b
      obtain ⟨t, m', n⟩ := c
      simp only [List.cons_append, Broker.preInit]
      cases b.findTopic t (matchKind m') <;> exact ih _ _
  rw [happ]
  generalize hb1 : ({ strict := strict, allowDisclose := allowDisclose } : Broker).preInit pre = b1
  have hinv : BrokerInv b1 := hb1 ▸ BrokerInv.preInit strict allowDisclose pre
  unfold Broker.preInit
  cases hf : b1.findTopic topic (matchKind m) with
  | none =>
    have hinv2 := hinv.preInit_step_new topic m limit hf
    obtain ⟨a, c⟩ := preInit_configured post hinv2
      (h := { sub := b1.nextSub + 1, limit := limit, entries := [] })
      (List.mem_append_right _ (List.mem_singleton.mpr rfl))
      (s := { id := b1.nextSub + 1, topic := topic, «match» := m, members := [] })
      (List.mem_append_right _ (List.mem_singleton.mpr rfl)) rfl hlast
    exact ⟨_, a, _, c, rfl, rfl, rfl, rfl, rfl⟩
  | some sub =>
    obtain ⟨hsub, hk, ht⟩ := findTopic_some hf
    have hinv2 := hinv.preInit_step_old limit hsub
    obtain ⟨a, c⟩ := preInit_configured post hinv2
      (h := { sub := sub.id, limit := limit, entries := [] })
      (List.mem_append_right _ (List.mem_singleton.mpr rfl))
      (s := sub) hsub rfl (by rw [ht, hk]; exact hlast)
    exact ⟨_, a, _, c, rfl, rfl, rfl, ht, hk⟩

/-- Retention as an invariant over an explicit ghost list `L`, from ANY state satisfying the broker
    invariant: if a store with limit N > 0 holds the last N of `L`, then after the steps it holds the
    last N of `L ++ retained s steps`, and store and subscription are still there. -/
theorem C20_retention_invariant {b : Broker} (hb : BrokerInv b) (steps : List BStep) {h : Hist} (hh : h ∈ b.hist)
    {s : Sub} (hs : s ∈ b.subs) (hid : s.id = h.sub) (hN : 0 < h.limit) (L : List HistEntry)
    (hL : h.entries = lastN h.limit L) :
    ∃ h' ∈ (b.run steps).hist, h'.sub = h.sub ∧ h'.limit = h.limit ∧
      h'.entries = lastN h.limit (L ++ retained s steps) ∧
      ∃ s' ∈ (b.run steps).subs, s'.id = s.id ∧ s'.topic = s.topic ∧ s'.«match» = s.«match» := by
  induction steps generalizing b h s L with
  | nil => exact ⟨h, hh, rfl, rfl, by simpa [retained] using hL, s, hs, rfl, rfl, rfl⟩
  | cons e rest ih =>
    obtain ⟨h1, hh1, e1, e2, e3, s1, hs1, i1, i2, i3⟩ := step_store hb e hh hs hid hN L hL
    obtain ⟨h2, hh2, f1, f2, f3, s2, hs2, j1, j2, j3⟩ :=
      ih (hb.step e) hh1 hs1 (by rw [i1, hid, e1]) (by rw [e2]; exact hN) (L ++ retained s [e]) (by rw [e2]; exact e3)
    refine ⟨h2, hh2, f1.trans e1, f2.trans e2, ?_, s2, hs2, j1.trans i1, j2.trans i2, j3.trans i3⟩
    rw [f3, e2, retained_congr i1 i2 i3, retained_cons s e rest, List.append_assoc]

/-- Retention.  Let `h0` be a store of the pre-initialised broker, on subscription `s0`, with limit
    N > 0.  After ANY sequence of steps (publications by anybody, with any options and session
    tables; SUBSCRIBE / UNSUBSCRIBE / session removal of any session, i.e. arbitrary subscriber
    churn) the broker has exactly one store `h` for that subscription, with the same limit; the
    subscription still exists with the same id, topic and policy; and `h.entries` are the last N,
    oldest first, of `retained s0 steps`: the publications so far, in publish order, whose topic
    matches `s0` under its policy and whose options contain neither `exclude` nor `eligible`. -/
theorem C20_retention (strict allowDisclose : Bool) (cfg : List (String × String × Nat)) (steps : List BStep)
    {h0 : Hist} {s0 : Sub}
    (hh : h0 ∈ (({ strict := strict, allowDisclose := allowDisclose } : Broker).preInit cfg).hist)
    (hs : s0 ∈ (({ strict := strict, allowDisclose := allowDisclose } : Broker).preInit cfg).subs)
    (hid : s0.id = h0.sub) (hN : 0 < h0.limit) :
    ∃ h ∈ ((({ strict := strict, allowDisclose := allowDisclose } : Broker).preInit cfg).run steps).hist,
      h.sub = h0.sub ∧ h.limit = h0.limit ∧
      h.entries = lastN h0.limit (retained s0 steps) ∧
      (∀ h' ∈ ((({ strict := strict, allowDisclose := allowDisclose } : Broker).preInit cfg).run steps).hist,
          h'.sub = h0.sub → h' = h) ∧
      ∃ s ∈ ((({ strict := strict, allowDisclose := allowDisclose } : Broker).preInit cfg).run steps).subs,
        s.id = s0.id ∧ s.topic = s0.topic ∧ s.«match» = s0.«match» := by
  have hb := BrokerInv.preInit strict allowDisclose cfg
  have hempty : h0.entries = lastN h0.limit [] := by
    rw [preInit_entries cfg _ (by simp) h0 hh]; simp [lastN]
  obtain ⟨h, hm, e1, e2, e3, s, hsm, e4⟩ := C20_retention_invariant hb steps hh hs hid hN [] hempty
  refine ⟨h, hm, e1, e2, by simpa using e3, ?_, s, hsm, e4⟩
  intro h' hm' e
  exact nodup_map_inj (hb.run steps).hist_nodup hm' hm (e.trans e1.symm)

/-- non-vacuity: the example configuration has the store and the subscription; the ghost list of the
    example history is publications 10, 12, 13 (11 carried `exclude`), so the store ends with 12, 13 —
    although the subscription had no subscriber at the first and the last publication. -/
example : exH0 ∈ exB0.hist ∧ exS0 ∈ exB0.subs ∧ exS0.id = exH0.sub ∧ 0 < exH0.limit := by
  rw [exB0_hist, exB0_subs]; simp [exS0, exH0]

example : (retained exS0 exSteps).map (·.pub) = [10, 12, 13] ∧
    (lastN exH0.limit (retained exS0 exSteps)).map (fun e => (e.pub, e.time)) = [(12, 3), (13, 4)] := by
  constructor <;> rfl

/-- What a retained entry is: the publication's id, arguments and keyword arguments unchanged, the
    time of publication, the subscription's id; `details.topic` is the publication's topic iff the
    subscription is pattern-based (given that the payload-passthru details have no `topic`, as is the
    case for every publication the realm hands over: `Nexus.C01.C01_realm_base_has_no_topic`). -/
theorem C20_entry_content (s : Sub) (now : Nat) (p : Publication) :
    (retainedEntry s now p).pub = p.pubId ∧ (retainedEntry s now p).args = p.args ∧
    (retainedEntry s now p).kw = p.kw ∧ (retainedEntry s now p).time = now ∧
    (retainedEntry s now p).sub = s.id ∧
    (p.baseDetails.get? "topic" = none →
      ((retainedEntry s now p).details.get? "topic" = some (.str p.topic) ↔ s.isPattern = true) ∧
      (s.isPattern = false → (retainedEntry s now p).details.get? "topic" = none)) := by
  refine ⟨rfl, rfl, rfl, rfl, rfl, ?_⟩
  intro hbase
  rw [retainedEntry_topic]
  cases s.isPattern <;> simp [hbase]

/-- Retention does not depend on who is subscribed: what must be retained is determined by the
    publish steps alone, so two histories from the same configuration with the same publications —
    and any subscriber churn whatsoever in between — end with equal store contents. -/
theorem C20_independent_of_subscribers (strict allowDisclose : Bool) (cfg : List (String × String × Nat))
    (steps1 steps2 : List BStep)
    (hpub : steps1.filter BStep.isPublish = steps2.filter BStep.isPublish)
    {h0 : Hist} {s0 : Sub}
    (hh : h0 ∈ (({ strict := strict, allowDisclose := allowDisclose } : Broker).preInit cfg).hist)
    (hs : s0 ∈ (({ strict := strict, allowDisclose := allowDisclose } : Broker).preInit cfg).subs)
    (hid : s0.id = h0.sub) (hN : 0 < h0.limit) :
    ∃ h1 ∈ ((({ strict := strict, allowDisclose := allowDisclose } : Broker).preInit cfg).run steps1).hist,
    ∃ h2 ∈ ((({ strict := strict, allowDisclose := allowDisclose } : Broker).preInit cfg).run steps2).hist,
      h1.sub = h0.sub ∧ h2.sub = h0.sub ∧ h1.entries = h2.entries := by
  obtain ⟨h1, m1, a1, _, c1, _⟩ := C20_retention strict allowDisclose cfg steps1 hh hs hid hN
  obtain ⟨h2, m2, a2, _, c2, _⟩ := C20_retention strict allowDisclose cfg steps2 hh hs hid hN
  refine ⟨h1, m1, h2, m2, a1, a2, ?_⟩
  rw [c1, c2, retained_filter_publish s0 steps1, retained_filter_publish s0 steps2, hpub]

/-- For EVERY query (any combination of bounds) the scan loop of `subEventHistory` selects exactly
    the pipeline `scanSpec`: time bounds; then from_publication (from the first entry with that id
    on); then after_publication (after the first entry with that id); then before_publication
    (before the first such entry); then until_publication (up to and including it); then topic. -/
theorem C20_query_scan (q : HistQuery) (es : List HistEntry) :
    histScan q es q.fromPub q.afterPub false = scanSpec q es := by
  rw [histScan_eq_scanG]
  unfold scanG scanSpec untilG
  by_cases h : q.untilPub = 0
  · rw [if_pos h]; unfold untilStage; rw [if_pos h]
  · rw [if_neg h]; rfl

/-- The answer: the scan result, cut to its last `limit` entries when a limit is given, reversed iff
    `reverse`. -/
theorem C20_query_answer (q : HistQuery) (es : List HistEntry) :
    histAnswer q es =
      (let r := if q.limit > 0 then lastN q.limit (scanSpec q es) else scanSpec q es
       if q.reverse then r.reverse else r) := by
  unfold histAnswer
  rw [C20_query_scan]
  rfl

theorem scan_pubs_only (q : HistQuery) (es : List HistEntry)
    (hT : q.fromT = none ∧ q.afterT = none ∧ q.beforeT = none ∧ q.untilT = none) (htopic : q.topic = "") :
    scanSpec q es =
      untilStage q.untilPub (beforeStage q.beforePub (afterStage q.afterPub (fromStage q.fromPub es))) := by
  rw [scanSpec, filter_timeOk_none q hT, filter_topicOk_none q htopic]

/-- Only `limit` and `reverse`: the most recent min(limit, len) entries, oldest first; reversed iff
    `reverse`.  (Without `limit`: all entries.) -/
theorem C20_query_limit_reverse (q : HistQuery) (es : List HistEntry)
    (hT : q.fromT = none ∧ q.afterT = none ∧ q.beforeT = none ∧ q.untilT = none) (htopic : q.topic = "")
    (hP : q.fromPub = 0 ∧ q.afterPub = 0 ∧ q.beforePub = 0 ∧ q.untilPub = 0) :
    histAnswer q es =
      (if q.reverse then (if q.limit > 0 then lastN q.limit es else es).reverse
       else (if q.limit > 0 then lastN q.limit es else es)) ∧
    (lastN q.limit es).length = min q.limit es.length ∧
    (∃ older, es = older ++ lastN q.limit es) := by
  refine ⟨?_, lastN_length _ _, ⟨es.take (es.length - q.limit), (List.take_append_drop _ _).symm⟩⟩
  rw [C20_query_answer, scan_pubs_only q es hT htopic, hP.1, hP.2.1, hP.2.2.1, hP.2.2.2,
    fromStage_zero, afterStage_zero, beforeStage_zero, untilStage_zero]

example : ∃ q : HistQuery, (q.fromT = none ∧ q.afterT = none ∧ q.beforeT = none ∧ q.untilT = none) ∧
    q.topic = "" ∧ (q.fromPub = 0 ∧ q.afterPub = 0 ∧ q.beforePub = 0 ∧ q.untilPub = 0) ∧ q.limit = 2 ∧
    q.reverse = true := ⟨{ limit := 2, reverse := true }, by simp⟩

/-- Time bounds and topic, no publication bounds: exactly the entries (in store order, each once)
    with `from_time ≤ t`, `after_time < t`, `t < before_time`, `t ≤ until_time` for the bounds that
    are present, and — when `topic` is given — a publication topic equal to it (`topicIs q.subTopic`: the
    stored `details.topic`, or, for an entry without one, the topic `q.subTopic` of the subscription). -/
theorem C20_query_time_topic (q : HistQuery) (es : List HistEntry)
    (hP : q.fromPub = 0 ∧ q.afterPub = 0 ∧ q.beforePub = 0 ∧ q.untilPub = 0) :
    histScan q es q.fromPub q.afterPub false =
      es.filter (fun e =>
        (q.fromT.all (fun t => t ≤ e.time) && q.afterT.all (fun t => t < e.time) &&
         q.beforeT.all (fun t => e.time < t) && q.untilT.all (fun t => e.time ≤ t)) &&
        (q.topic == "" || topicIs q.subTopic e q.topic)) := by
  rw [C20_query_scan]
  unfold scanSpec
  rw [hP.1, hP.2.1, hP.2.2.1, hP.2.2.2, fromStage_zero, afterStage_zero, beforeStage_zero, untilStage_zero,
    List.filter_filter]
  apply List.filter_congr
  intro e _
  rw [Bool.and_comm]
  rfl

/-- `from_publication = x` alone, distinct publication ids: if the store is `pre ++ f :: post` with
    `f` the entry of publication `x`, the result is `f :: post`; if no entry has id `x`, nothing. -/
theorem C20_query_from_publication (q : HistQuery) (es : List HistEntry)
    (hT : q.fromT = none ∧ q.afterT = none ∧ q.beforeT = none ∧ q.untilT = none) (htopic : q.topic = "")
    (hP : q.fromPub ≠ 0 ∧ q.afterPub = 0 ∧ q.beforePub = 0 ∧ q.untilPub = 0)
    (hn : (es.map (·.pub)).Nodup) :
    (∀ pre f post, es = pre ++ f :: post → f.pub = q.fromPub →
        histScan q es q.fromPub q.afterPub false = f :: post) ∧
    ((∀ e ∈ es, e.pub ≠ q.fromPub) → histScan q es q.fromPub q.afterPub false = []) := by
  rw [C20_query_scan, scan_pubs_only q es hT htopic, hP.2.1, hP.2.2.1, hP.2.2.2, afterStage_zero, beforeStage_zero,
    untilStage_zero]
  exact ⟨fun pre f post e hf => e ▸ fromStage_split hP.1 hf (hf ▸ pre_ne_of_nodup (e ▸ hn)), fromStage_absent hP.1⟩

/-- `after_publication = x` alone: `post` (the entries after `f`); nothing if `x` is absent. -/
theorem C20_query_after_publication (q : HistQuery) (es : List HistEntry)
    (hT : q.fromT = none ∧ q.afterT = none ∧ q.beforeT = none ∧ q.untilT = none) (htopic : q.topic = "")
    (hP : q.fromPub = 0 ∧ q.afterPub ≠ 0 ∧ q.beforePub = 0 ∧ q.untilPub = 0)
    (hn : (es.map (·.pub)).Nodup) :
    (∀ pre f post, es = pre ++ f :: post → f.pub = q.afterPub →
        histScan q es q.fromPub q.afterPub false = post) ∧
    ((∀ e ∈ es, e.pub ≠ q.afterPub) → histScan q es q.fromPub q.afterPub false = []) := by
  rw [C20_query_scan, scan_pubs_only q es hT htopic, hP.1, hP.2.2.1, hP.2.2.2, fromStage_zero, beforeStage_zero,
    untilStage_zero]
  exact ⟨fun pre f post e hf => e ▸ afterStage_split hP.2.1 hf (hf ▸ pre_ne_of_nodup (e ▸ hn)), afterStage_absent hP.2.1⟩

/-- `before_publication = x` alone: `pre` (the entries before `f`); ALL entries if `x` is absent. -/
theorem C20_query_before_publication (q : HistQuery) (es : List HistEntry)
    (hT : q.fromT = none ∧ q.afterT = none ∧ q.beforeT = none ∧ q.untilT = none) (htopic : q.topic = "")
    (hP : q.fromPub = 0 ∧ q.afterPub = 0 ∧ q.beforePub ≠ 0 ∧ q.untilPub = 0)
    (hn : (es.map (·.pub)).Nodup) :
    (∀ pre f post, es = pre ++ f :: post → f.pub = q.beforePub →
        histScan q es q.fromPub q.afterPub false = pre) ∧
    ((∀ e ∈ es, e.pub ≠ q.beforePub) → histScan q es q.fromPub q.afterPub false = es) := by
  rw [C20_query_scan, scan_pubs_only q es hT htopic, hP.1, hP.2.1, hP.2.2.2, fromStage_zero, afterStage_zero,
    untilStage_zero]
  exact ⟨fun pre f post e hf => e ▸ beforeStage_split hP.2.2.1 hf (hf ▸ pre_ne_of_nodup (e ▸ hn)),
    beforeStage_absent hP.2.2.1⟩

/-- `until_publication = x` alone: `pre ++ [f]` (up to and including `f`); ALL entries if `x` is
    absent. -/
theorem C20_query_until_publication (q : HistQuery) (es : List HistEntry)
    (hT : q.fromT = none ∧ q.afterT = none ∧ q.beforeT = none ∧ q.untilT = none) (htopic : q.topic = "")
    (hP : q.fromPub = 0 ∧ q.afterPub = 0 ∧ q.beforePub = 0 ∧ q.untilPub ≠ 0)
    (hn : (es.map (·.pub)).Nodup) :
    (∀ pre f post, es = pre ++ f :: post → f.pub = q.untilPub →
        histScan q es q.fromPub q.afterPub false = pre ++ [f]) ∧
    ((∀ e ∈ es, e.pub ≠ q.untilPub) → histScan q es q.fromPub q.afterPub false = es) := by
  rw [C20_query_scan, scan_pubs_only q es hT htopic, hP.1, hP.2.1, hP.2.2.1, fromStage_zero, afterStage_zero,
    beforeStage_zero]
  exact ⟨fun pre f post e hf => e ▸ untilStage_split hP.2.2.2 hf (hf ▸ pre_ne_of_nodup (e ▸ hn)),
    untilStage_absent hP.2.2.2⟩

/-- non-vacuity for the four publication clauses: a store with distinct ids, split at publication 12 -/
example : ∃ (es pre post : List HistEntry) (f : HistEntry), es = pre ++ f :: post ∧ f.pub = 12 ∧
    (es.map (·.pub)).Nodup ∧ pre ≠ [] ∧ post ≠ [] :=
  ⟨retained exS0 exSteps, [retainedEntry exS0 1 (exPub 10 [])], [retainedEntry exS0 4 (exPub 13 [])],
    retainedEntry exS0 3 (exPub 12 []), by rfl, rfl, by decide, by simp, by simp⟩

/-- The meta procedure `wamp.subscription.get_events`, called with a valid subscription id and valid
    keyword arguments on a subscription `s` that exists and has a store, answers YIELD with exactly
    `histAnswer q' store` — where `q'` is the parsed query `q` with `subTopic` set to the topic of `s` —
    (each entry rendered with its subscription id, publication id, details, arguments and keyword
    arguments) and does not change the realm. -/
theorem C20_query_metaProc (r : Realm) (req : Nat) (details : Dict) (a : WVal) (rest : List WVal) (kw : Dict)
    (id : Nat) (q : HistQuery) (h : Hist) (s : Sub) (ha : a.asID = some id) (hq : histQuery? kw = some q)
    (hsub : r.broker.findId id = some s) (hh : r.broker.hist.find? (fun h => h.sub == id) = some h) :
    metaProc r MetaProcEventHistory req details (a :: rest) kw =
      (mYield req ((histAnswer { q with subTopic := s.topic } h.entries).map histEntryVal)
        [("is_limit_reached", .bool (h.entries.length ≥ h.limit))], r) := by
  rw [Realm.metaProc_at 20 rfl, Realm.MetaView.eventHistory]
  simp only [Realm.view, ha, hq, hsub, hh, Option.isSome_some, if_true]
  rfl

/-- the caller has no say in `subTopic`: whatever the keyword arguments, the parser leaves it empty -/
theorem C20_histQuery_subTopic (kw : Dict) (q : HistQuery) (h : histQuery? kw = some q) : q.subTopic = "" := by
  rw [Nexus.L2.WpA.histQuery?_eq] at h
  split at h
  · split at h
    · split at h
      · cases h
      · cases h; rfl
    · cases h; rfl
  · cases h

example : histQuery? [("limit", .int 2), ("reverse", .bool true)] =
    some { limit := 2, reverse := true } := by rfl

/-- every stage of the pipeline only removes entries -/
theorem C20_scan_sublist (q : HistQuery) (es : List HistEntry) : (scanSpec q es).Sublist es := by
  have stage (x : Nat) {l t : List HistEntry} (h : t.Sublist l) : (if x = 0 then l else t).Sublist l := by
    split
    · exact .refl _
    · exact h
  have huntil (x : Nat) (l : List HistEntry) :
      (l.takeWhile (fun e => e.pub != x) ++ (l.dropWhile (fun e => e.pub != x)).take 1).Sublist l := by
    have h := List.Sublist.append (List.Sublist.refl (l.takeWhile (fun e => e.pub != x)))
      (List.take_sublist 1 (l.dropWhile (fun e => e.pub != x)))
    rwa [List.takeWhile_append_dropWhile] at h
  exact List.filter_sublist.trans <| (stage _ (huntil _ _)).trans <| (stage _ (List.takeWhile_sublist _)).trans <|
    (stage _ ((List.drop_sublist _ _).trans (List.dropWhile_sublist _))).trans <|
    (stage _ (List.dropWhile_sublist _)).trans List.filter_sublist

/-- "… and only those", list level.  For EVERY query the entries answered are entries of the store,
    each at most once, in store order — after undoing the reversal when `reverse` was asked for. -/
theorem C20_answer_sublist (q : HistQuery) (es : List HistEntry) :
    (if q.reverse then (histAnswer q es).reverse else histAnswer q es).Sublist es := by
  have hr : (if q.limit > 0 then lastN q.limit (scanSpec q es) else scanSpec q es).Sublist es := by
    split
    · exact (List.drop_sublist _ _).trans (C20_scan_sublist q es)
    · exact C20_scan_sublist q es
  rw [C20_query_answer]
  cases q.reverse <;> simpa using hr

/-- consequence: every answered entry is an entry of the store -/
theorem C20_answer_mem (q : HistQuery) (es : List HistEntry) : ∀ e ∈ histAnswer q es, e ∈ es := by
  intro e he
  have h := C20_answer_sublist q es
  cases hrev : q.reverse
  · rw [hrev] at h; exact h.subset he
  · rw [hrev] at h; exact h.subset (List.mem_reverse.mpr he)

/-- consequence for C12 ("get_events answers never reveal the publisher"): if no entry
    of the store carries a publisher key (`Nexus.C12.C12_history_no_identity`), no answered entry does. -/
theorem C20_answer_no_identity (q : HistQuery) (es : List HistEntry)
    (hclean : ∀ e ∈ es, ∀ key, isPublisherKey key → e.details.get? key = none) :
    ∀ e ∈ histAnswer q es, ∀ key, isPublisherKey key → e.details.get? key = none :=
  fun e he => hclean e (C20_answer_mem q es e he)

/-- The same at the level of the meta procedure: a well-formed `wamp.subscription.get_events` call on
    an existing subscription with store `h` answers the list `ans.map histEntryVal` where `ans`
    (read backwards when `reverse` was requested) is a sub-list of `h.entries`; in particular every
    value in the answer is the rendering of an entry of THAT subscription's store. -/
theorem C20_query_metaProc_sublist (r : Realm) (req : Nat) (details : Dict) (a : WVal) (rest : List WVal) (kw : Dict)
    (id : Nat) (q : HistQuery) (h : Hist) (s : Sub) (ha : a.asID = some id) (hq : histQuery? kw = some q)
    (hsub : r.broker.findId id = some s) (hh : r.broker.hist.find? (fun h => h.sub == id) = some h) :
    ∃ ans : List HistEntry,
      metaProc r MetaProcEventHistory req details (a :: rest) kw =
        (mYield req (ans.map histEntryVal) [("is_limit_reached", .bool (h.entries.length ≥ h.limit))], r) ∧
      (if q.reverse then ans.reverse else ans).Sublist h.entries ∧
      (∀ v ∈ ans.map histEntryVal, ∃ e ∈ h.entries, v = histEntryVal e) ∧
      h ∈ r.broker.hist ∧ h.sub = id :=
  ⟨histAnswer { q with subTopic := s.topic } h.entries, C20_query_metaProc r req details a rest kw id q h s ha hq hsub hh,
    C20_answer_sublist { q with subTopic := s.topic } h.entries,
    fun v hv => by
      obtain ⟨e, he, rfl⟩ := List.mem_map.mp hv
      exact ⟨e, C20_answer_mem { q with subTopic := s.topic } h.entries e he, rfl⟩,
    (find?_key_some hh).1, (find?_key_some hh).2⟩

/-- a realm whose broker went through the example history -/
def exRealm : Realm := { broker := exB0.run exSteps }

/-- by `C20_retention`: subscription 1 of `exRealm` exists and its store is found, with limit 2 and
    the last two retained publications (12 and 13) -/
theorem exRealm_store : ∃ h, exRealm.broker.hist.find? (fun h => h.sub == 1) = some h ∧ h.limit = 2 ∧
    h.entries = lastN 2 (retained exS0 exSteps) ∧ ∃ s, exRealm.broker.findId 1 = some s ∧ s.topic = "t" := by
  have hh : exH0 ∈ (({ strict := false, allowDisclose := false } : Broker).preInit exCfg).hist := by
    show exH0 ∈ exB0.hist
    rw [exB0_hist]; simp
  have hs : exS0 ∈ (({ strict := false, allowDisclose := false } : Broker).preInit exCfg).subs := by
    show exS0 ∈ exB0.subs
    rw [exB0_subs]; simp
  obtain ⟨h, hm, e1, e2, e3, huniq, s, hsm, e4, e5, _⟩ :=
    C20_retention false false exCfg exSteps hh hs rfl (by decide)
  have hinv : BrokerInv exRealm.broker := (BrokerInv.preInit false false exCfg).run exSteps
  refine ⟨h, ?_, e2, e3, ?_⟩
  · exact (find?_key_eq_some hinv.hist_nodup).mpr ⟨hm, e1⟩
  · have := findId_of_mem hinv.ids_nodup hsm
    rw [e4] at this
    rw [show exS0.id = 1 from rfl] at this
    exact ⟨s, this, e5⟩

/-- non-vacuity: the query `limit = 1, reverse` on subscription 1 of `exRealm` is well-formed, finds
    the store (entries 12, 13) and is answered with the single entry 13. -/
example : (WVal.int 1).asID = some 1 ∧
    histQuery? [("limit", .int 1), ("reverse", .bool true)] = some { limit := 1, reverse := true } ∧
    (∃ h, exRealm.broker.hist.find? (fun h => h.sub == 1) = some h ∧ h.entries.map (·.pub) = [12, 13] ∧
      ∃ s, exRealm.broker.findId 1 = some s ∧ s.topic = "t") ∧
    (histAnswer { limit := 1, reverse := true, subTopic := "t" }
      (lastN 2 (retained exS0 exSteps))).map (·.pub) = [13] := by
  obtain ⟨h, h1, _, h3, h4⟩ := exRealm_store
  exact ⟨by decide, by rfl, ⟨h, h1, by rw [h3]; rfl, h4⟩, by rfl⟩

theorem exact_matchesTopic {s : Sub} (hp : s.isPattern = false) (t : String) :
    s.matchesTopic t = true ↔ s.topic = t := by
  unfold Sub.isPattern at hp
  unfold Sub.matchesTopic
  cases hk : s.kind <;> simp [hk] at hp ⊢

/-- FULL statement of "the topic filter selects exactly the entries it describes", read as the
    property text reads it: an entry retained for publication `p` in the store of subscription `s`
    passes the filter `topic = t` of a query on `s` (the handler sets `subTopic := s.topic`) iff `p` was
    published to `t`. -/
def C20_topic_filter_full : Prop :=
  ∀ (s : Sub) (now : Nat) (p : Publication) (t : String),
    p.baseDetails.get? "topic" = none → s.matchesTopic p.topic = true →
    (topicIs s.topic (retainedEntry s now p) t = true ↔ p.topic = t)

/-- for a pattern-based subscription (prefix, wildcard) the stored `details.topic` decides, whatever
    the subscription's own topic (a pattern) is -/
theorem C20_topic_filter_pattern (s : Sub) (now : Nat) (p : Publication) (t : String)
    (hp : s.isPattern = true) (sub : String) :
    topicIs sub (retainedEntry s now p) t = true ↔ p.topic = t := by
  unfold topicIs
  rw [retainedEntry_topic, hp]
  simp

/-- for an EXACT-match subscription the stored details carry no `topic` key (given that the
    payload-passthru details have none, as for every publication the realm hands over), and an entry
    passes the filter `topic = t` iff `t` is the subscription's own topic: the subscription's own topic
    selects every entry, any other topic none. -/
theorem C20_topic_filter_exact (s : Sub) (now : Nat) (p : Publication) (t : String)
    (hp : s.isPattern = false) (hbase : p.baseDetails.get? "topic" = none) :
    topicIs s.topic (retainedEntry s now p) t = (s.topic == t) := by
  unfold topicIs
  rw [retainedEntry_topic, hp]
  simp only [Bool.false_eq_true, if_false, hbase]

/-- The full statement holds (for exact-match subscriptions since the Go fix 30f858f). -/
theorem C20_topic_filter_full_holds : C20_topic_filter_full := by
  intro s now p t hbase hm
  cases hp : s.isPattern
  · rw [C20_topic_filter_exact s now p t hp hbase]
    have := (exact_matchesTopic hp p.topic).mp hm
    rw [← this]
    simp
  · exact C20_topic_filter_pattern s now p t hp s.topic

/-- non-vacuity: the exact-match subscription `exS0` on "t" retains
    publication 10 (published to "t"); its entry passes `topic = "t"` and not `topic = "u"` -/
example : exS0.isPattern = false ∧ (exPub 10 []).baseDetails.get? "topic" = none ∧
    exS0.matchesTopic (exPub 10 []).topic = true ∧
    topicIs exS0.topic (retainedEntry exS0 1 (exPub 10 [])) "t" = true ∧
    topicIs exS0.topic (retainedEntry exS0 1 (exPub 10 [])) "u" = false := by
  refine ⟨by decide, by rfl, by decide, by rfl, by rfl⟩

theorem mem_retained {s : Sub} {steps : List BStep} {e : HistEntry} (he : e ∈ retained s steps) :
    ∃ sess now p, BStep.publish sess now p ∈ steps ∧ s.matchesTopic p.topic = true ∧ e = retainedEntry s now p := by
  induction steps with
  | nil => cases he
  | cons st rest ih =>
    have later (h : e ∈ retained s rest) :
        ∃ sess now p, BStep.publish sess now p ∈ st :: rest ∧ s.matchesTopic p.topic = true ∧
          e = retainedEntry s now p := by
      obtain ⟨a, b, c, h1, h23⟩ := ih h
      exact ⟨a, b, c, List.mem_cons_of_mem _ h1, h23⟩
    cases st with
    | publish sess now p =>
      unfold retained at he
      split at he
      · rename_i hc
        rcases List.mem_cons.mp he with rfl | he
        · simp only [Bool.and_eq_true] at hc
          exact ⟨sess, now, p, List.mem_cons_self .., hc.1.1, rfl⟩
        · exact later he
      · exact later he
    | _ => exact later he

/-- list level, ANY subscription: on a store whose entries are retained entries of subscription `s`
    (`C20_retention`), queried with `subTopic = s.topic` (what the handler does), the scan selects,
    after the time and publication bounds, exactly the entries retained for publications to `q.topic`. -/
theorem C20_topic_filter_scan (q : HistQuery) (s : Sub) (steps : List BStep) (n : Nat)
    (hq : q.subTopic = s.topic) (ht : q.topic ≠ "")
    (hbase : ∀ sess now p, BStep.publish sess now p ∈ steps → p.baseDetails.get? "topic" = none) :
    ∀ e ∈ lastN n (retained s steps), topicOk q e = true ↔
      ∃ sess now p, BStep.publish sess now p ∈ steps ∧ s.matchesTopic p.topic = true ∧
        e = retainedEntry s now p ∧ p.topic = q.topic := by
  intro e he
  obtain ⟨sess, now, p, hm, hmt, rfl⟩ := mem_retained ((List.drop_sublist _ _).subset he)
  have hb := hbase sess now p hm
  unfold topicOk
  rw [hq]
  have hne : (q.topic == "") = false := by simpa using ht
  rw [hne, Bool.false_or]
  constructor
  · intro h; exact ⟨sess, now, p, hm, hmt, rfl, (C20_topic_filter_full_holds s now p q.topic hb hmt).mp h⟩
  · rintro ⟨sess', now', p', hm', hmt', he', ht'⟩
    rw [he']
    exact (C20_topic_filter_full_holds s now' p' q.topic (hbase sess' now' p' hm') hmt').mpr ht'

/-- the stages before the topic filter do not look at `topic` -/
theorem scanSpec_topic_congr (q : HistQuery) (es : List HistEntry) :
    scanSpec q es = (scanSpec { q with topic := "" } es).filter (topicOk q) := by
  unfold scanSpec
  rw [filter_topicOk_none { q with topic := "" } rfl]
  rfl

/-- list level, EXACT-match subscription: on the store of an exact-match subscription whose entries are
    retained entries (`C20_retention`), queried with `subTopic = s.topic`: the subscription's own topic
    selects every entry — the answer is the one without the `topic` argument, whatever the other bounds —
    and any other topic selects none. -/
theorem C20_topic_filter_exact_scan (q : HistQuery) (s : Sub) (es : List HistEntry)
    (hs : s.isPattern = false) (hq : q.subTopic = s.topic)
    (hes : ∀ e ∈ es, ∃ now p, p.baseDetails.get? "topic" = none ∧ e = retainedEntry s now p) :
    (q.topic = s.topic → histAnswer q es = histAnswer { q with topic := "" } es) ∧
    (q.topic ≠ "" → q.topic ≠ s.topic → histAnswer q es = []) := by
  have hmem : ∀ e ∈ scanSpec { q with topic := "" } es, e ∈ es := fun e he => (C20_scan_sublist _ es).subset he
  have hok : ∀ e ∈ es, topicOk q e = (q.topic == "" || s.topic == q.topic) := by
    intro e he
    obtain ⟨now, p, hb, rfl⟩ := hes e he
    unfold topicOk
    rw [hq, C20_topic_filter_exact s now p q.topic hs hb]
  constructor
  · intro ht
    have hscan : scanSpec q es = scanSpec { q with topic := "" } es := by
      rw [scanSpec_topic_congr, List.filter_eq_self]
      intro e he
      rw [hok e (hmem e he), ht]; simp
    rw [C20_query_answer, C20_query_answer, hscan]
  · intro ht hne
    have hscan : scanSpec q es = [] := by
      rw [scanSpec_topic_congr, List.filter_eq_nil_iff]
      intro e he
      rw [hok e (hmem e he)]
      have h1 : (q.topic == "") = false := by simpa using ht
      have h2 : (s.topic == q.topic) = false := by simpa using fun e => hne e.symm
      rw [h1, h2]; simp
    rw [C20_query_answer, hscan]
    simp [lastN]

example : exS0.isPattern = false ∧ ({ topic := "t", subTopic := "t" } : HistQuery).subTopic = exS0.topic ∧
    (∀ e ∈ lastN 2 (retained exS0 exSteps), ∃ now p, p.baseDetails.get? "topic" = none ∧ e = retainedEntry exS0 now p) ∧
    lastN 2 (retained exS0 exSteps) ≠ [] := by
  refine ⟨by decide, rfl, ?_, by decide⟩
  intro e he
  have : e = retainedEntry exS0 3 (exPub 12 []) ∨ e = retainedEntry exS0 4 (exPub 13 []) := by
    have h2 : lastN 2 (retained exS0 exSteps) = [retainedEntry exS0 3 (exPub 12 []), retainedEntry exS0 4 (exPub 13 [])] := by rfl
    rw [h2] at he; simpa using he
  rcases this with rfl | rfl
  · exact ⟨3, exPub 12 [], rfl, rfl⟩
  · exact ⟨4, exPub 13 [], rfl, rfl⟩

/-- Concrete, at the level of the meta procedure: the configuration `exCfg` (history of limit 2 on
    the exact topic "t"), publications 10, 12, 13 to "t" retained (store = 12, 13); the call
    `wamp.subscription.get_events [1] {topic: "t"}` is answered with BOTH stored entries, exactly as
    the call without the `topic` argument; `{topic: "u"}` is answered with the empty list. -/
theorem C20_topic_filter_exact_metaProc (req : Nat) (details : Dict) :
    ∃ h, exRealm.broker.hist.find? (fun h => h.sub == 1) = some h ∧ h.entries.map (·.pub) = [12, 13] ∧
      metaProc exRealm MetaProcEventHistory req details [.int 1] [("topic", .str "t")] =
        (mYield req (h.entries.map histEntryVal) [("is_limit_reached", .bool true)], exRealm) ∧
      metaProc exRealm MetaProcEventHistory req details [.int 1] [] =
        (mYield req (h.entries.map histEntryVal) [("is_limit_reached", .bool true)], exRealm) ∧
      metaProc exRealm MetaProcEventHistory req details [.int 1] [("topic", .str "u")] =
        (mYield req [] [("is_limit_reached", .bool true)], exRealm) := by
  obtain ⟨h, hh, hl, he, s, hs, hst⟩ := exRealm_store
  have hlim : decide (h.entries.length ≥ h.limit) = true := by rw [he, hl]; rfl
  refine ⟨h, hh, by rw [he]; rfl, ?_, ?_, ?_⟩
  · rw [C20_query_metaProc exRealm req details (.int 1) [] [("topic", .str "t")] 1 { topic := "t" } h s
      (by decide) (by rfl) hs hh, hlim, he, hst]
    rfl
  · rw [C20_query_metaProc exRealm req details (.int 1) [] [] 1 {} h s (by decide) (by rfl) hs hh, hlim, he, hst]
    rfl
  · rw [C20_query_metaProc exRealm req details (.int 1) [] [("topic", .str "u")] 1 { topic := "u" } h s
      (by decide) (by rfl) hs hh, hlim, he, hst]
    rfl

open Nexus.L2.WpA (timeBound limRaw reverseArg timeArg pubArg histQuery?_eq)
open Realm (kwStr mErr)

def histTimeKeys : List String := ["from_time", "after_time", "before_time", "until_time"]
def histPubKeys : List String :=
  ["from_publication", "after_publication", "before_publication", "until_publication"]

/-- the publication bound denoted by key `k`: 0 (= no bound) when absent, else the id -/
def pubBound (kw : Dict) (k : String) : Nat :=
  match kw.get? k with
  | none => 0
  | some v => (v.asID).getD 0

/-- The malformed keyword arguments of `get_events`: `limit` present and not an integer ≥ 1;
    `reverse` present and not a boolean; one of the four `*_time` keys holding a string (the model
    treats every string as an unparsable time; real times travel as the placeholder `{"$ms": n}`);
    one of the four `*_publication` keys present and not a valid id. -/
def HistMalformed (kw : Dict) : Prop :=
  (∃ v, kw.get? "limit" = some v ∧ ∀ n : Int, v = .int n → n < 1) ∨
  (∃ v, kw.get? "reverse" = some v ∧ ∀ b, v ≠ .bool b) ∨
  (∃ k ∈ histTimeKeys, ∃ s, kw.get? k = some (.str s)) ∨
  (∃ k ∈ histPubKeys, ∃ v, kw.get? k = some v ∧ v.asID = none)

theorem limit_bad_iff (kw : Dict) : (∃ v, kw.get? "limit" = some v ∧ ∀ n : Int, v = .int n → n < 1) ↔
    limRaw kw = none ∨ ∃ l, limRaw kw = some (some l) ∧ l < 1 := by
  unfold limRaw
  split <;> simp_all

/-- `histQuery?` fails exactly on the malformed keyword arguments: `HistMalformed` says that one of the ten
    per-key parsers fails or the limit is below 1, and as soon as one fails both sides hold. -/
theorem C20_histQuery_none_iff (kw : Dict) : histQuery? kw = none ↔ HistMalformed kw := by
  rw [histQuery?_eq]
  simp only [HistMalformed, limit_bad_iff, ← WpA.reverseArg_none, histTimeKeys, histPubKeys, List.mem_cons,
    List.not_mem_nil, or_false, exists_eq_or_imp, exists_eq_left, ← WpA.timeArg_none, ← WpA.pubArg_none]
  rcases limRaw kw with _ | lim
  · simp
  rcases reverseArg kw with _ | rev
  · simp
  rcases timeArg kw "from_time" with _ | ft
  · simp
  rcases timeArg kw "after_time" with _ | at_
  · simp
  rcases timeArg kw "before_time" with _ | bt
  · simp
  rcases timeArg kw "until_time" with _ | ut
  · simp
  rcases pubArg kw "from_publication" with _ | fp
  · simp
  rcases pubArg kw "after_publication" with _ | ap
  · simp
  rcases pubArg kw "before_publication" with _ | bp
  · simp
  rcases pubArg kw "until_publication" with _ | up
  · simp
  cases lim <;> simp

/-- well-formed keyword arguments are always parsed -/
theorem C20_histQuery_total (kw : Dict) (h : ¬ HistMalformed kw) : ∃ q, histQuery? kw = some q := by
  cases hq : histQuery? kw with
  | none => exact absurd ((C20_histQuery_none_iff kw).mp hq) h
  | some q => exact ⟨q, rfl⟩

/-- What `histQuery?` parses, key by key.  `limit`: absent ⇒ 0 (no limit), an integer n ≥ 1 ⇒ n;
    `reverse`: absent ⇒ false, a boolean ⇒ it; the four time bounds: the placeholder `{"$ms": n}` ⇒
    `some n`, anything else that is not a string (or absent) ⇒ no bound; the four publication
    bounds: absent ⇒ 0 (no bound), else the id `asID` reads; `topic`: the string (else "" = no
    filter).  And nothing malformed was present. -/
theorem C20_histQuery_spec (kw : Dict) (q : HistQuery) (h : histQuery? kw = some q) :
    ((kw.get? "limit" = none ∧ q.limit = 0) ∨
      ∃ n : Int, kw.get? "limit" = some (.int n) ∧ 1 ≤ n ∧ q.limit = n.toNat) ∧
    ((kw.get? "reverse" = none ∧ q.reverse = false) ∨ kw.get? "reverse" = some (.bool q.reverse)) ∧
    q.fromT = timeBound kw "from_time" ∧ q.afterT = timeBound kw "after_time" ∧
    q.beforeT = timeBound kw "before_time" ∧ q.untilT = timeBound kw "until_time" ∧
    q.fromPub = pubBound kw "from_publication" ∧ q.afterPub = pubBound kw "after_publication" ∧
    q.beforePub = pubBound kw "before_publication" ∧ q.untilPub = pubBound kw "until_publication" ∧
    q.topic = kwStr kw "topic" ∧ ¬ HistMalformed kw := by
  have hmal : ¬ HistMalformed kw := fun hm => by
    rw [(C20_histQuery_none_iff kw).mpr hm] at h; exact absurd h (by simp)
  have hpub : ∀ k n, pubArg kw k = some n → n = pubBound kw k := by
    intro k n hk
    unfold pubBound
    rcases Nexus.L2.WpA.pubArg_some.mp hk with ⟨h1, h2⟩ | ⟨v, h1, h2⟩
    · rw [h1]; exact h2
    · rw [h1]; simp [h2]
  rw [histQuery?_eq] at h
  split at h
  · rename_i lim rev ft at_ bt ut fp ap bp up h1 h2 h3 h4 h5 h6 h7 h8 h9 h10
    have hrev := Nexus.L2.WpA.reverseArg_some.mp h2
    have e3 := Nexus.L2.WpA.timeArg_some h3
    have e4 := Nexus.L2.WpA.timeArg_some h4
    have e5 := Nexus.L2.WpA.timeArg_some h5
    have e6 := Nexus.L2.WpA.timeArg_some h6
    have e7 := hpub _ _ h7
    have e8 := hpub _ _ h8
    have e9 := hpub _ _ h9
    have e10 := hpub _ _ h10
    split at h
    · rename_i l
      split at h
      · exact absurd h (by simp)
      · rename_i hl
        have hq : q = _ := (Option.some.inj h).symm
        subst hq
        exact ⟨Or.inr ⟨l, Nexus.L2.WpA.limRaw_some_some.mp h1, by omega, rfl⟩, hrev, e3, e4, e5, e6, e7, e8, e9, e10,
          rfl, hmal⟩
    · have hq : q = _ := (Option.some.inj h).symm
      subst hq
      exact ⟨Or.inl ⟨Nexus.L2.WpA.limRaw_some_none.mp h1, rfl⟩, hrev, e3, e4, e5, e6, e7, e8, e9, e10, rfl, hmal⟩
  · exact absurd h (by simp)

/-- non-vacuity and the per-key failure cases of the specification, on concrete arguments -/
example : histQuery? [("limit", .int 3), ("reverse", .bool true), ("from_time", .dict [("$ms", .int 5)]),
      ("until_time", .null), ("after_publication", .int 12), ("topic", .str "a.b")] =
    some { limit := 3, reverse := true, fromT := some 5, afterPub := 12, topic := "a.b" } := by rfl
example : HistMalformed [("limit", .int 0)] ∧ HistMalformed [("limit", .str "3")] ∧
    HistMalformed [("reverse", .int 1)] ∧ HistMalformed [("before_time", .str "2024-01-01T00:00:00Z")] ∧
    HistMalformed [("until_publication", .int 0)] ∧ HistMalformed [("from_publication", .str "x")] ∧
    ¬ HistMalformed [("limit", .int 3), ("after_time", .int 7)] := by
  refine ⟨Or.inl ⟨_, rfl, ?_⟩, Or.inl ⟨_, rfl, ?_⟩, Or.inr (Or.inl ⟨_, rfl, ?_⟩),
    Or.inr (Or.inr (Or.inl ⟨"before_time", by simp [histTimeKeys], _, rfl⟩)),
    Or.inr (Or.inr (Or.inr ⟨"until_publication", by simp [histPubKeys], _, rfl, by decide⟩)),
    Or.inr (Or.inr (Or.inr ⟨"from_publication", by simp [histPubKeys], _, rfl, by decide⟩)), ?_⟩
  · intro n hn; cases hn; decide
  · intro n hn; cases hn
  · intro b hb; cases hb
  · intro hm
    rw [← C20_histQuery_none_iff] at hm
    exact absurd hm (by rw [show histQuery? [("limit", .int 3), ("after_time", .int 7)] = some { limit := 3 } from rfl]; simp)

/-- `get_events` with no argument, with a first argument that is not an id, or with malformed
    keyword arguments answers ERROR `wamp.error.invalid_argument` and changes nothing. -/
theorem C20_query_metaProc_errors (r : Realm) (req : Nat) (details : Dict) (kw : Dict) :
    metaProc r MetaProcEventHistory req details [] kw = (mErr req ErrInvalidArgument, r) ∧
    (∀ a rest, a.asID = none →
      metaProc r MetaProcEventHistory req details (a :: rest) kw = (mErr req ErrInvalidArgument, r)) ∧
    (∀ a rest, HistMalformed kw →
      metaProc r MetaProcEventHistory req details (a :: rest) kw = (mErr req ErrInvalidArgument, r)) := by
  refine ⟨?_, ?_, ?_⟩
  · exact Realm.metaProc_at 20 rfl ..
  · intro a rest ha
    rw [Realm.metaProc_at 20 rfl, Realm.MetaView.eventHistory]
    simp only [ha]
    rfl
  · intro a rest hm
    rw [Realm.metaProc_at 20 rfl, Realm.MetaView.eventHistory]
    simp only [(C20_histQuery_none_iff kw).mpr hm]
    cases a.asID <;> rfl

/-- A well-formed `get_events` naming a subscription id that does not exist, or a subscription
    without a history store, answers the empty list with `is_limit_reached = false`. -/
theorem C20_query_metaProc_nostore (r : Realm) (req : Nat) (details : Dict) (a : WVal) (rest : List WVal) (kw : Dict)
    (id : Nat) (ha : a.asID = some id) (hq : ¬ HistMalformed kw)
    (hno : r.broker.findId id = none ∨ ∀ h ∈ r.broker.hist, h.sub ≠ id) :
    metaProc r MetaProcEventHistory req details (a :: rest) kw =
      (mYield req [] [("is_limit_reached", .bool false)], r) := by
  obtain ⟨q, hq⟩ := C20_histQuery_total kw hq
  rw [Realm.metaProc_at 20 rfl, Realm.MetaView.eventHistory, show (Realm.view r).broker = r.broker from rfl]
  simp only [ha, hq]
  have : (if (r.broker.findId id).isSome then r.broker.hist.find? (fun h => h.sub == id) else none) = none := by
    rcases hno with h | h
    · rw [h]; rfl
    · split
      · exact find?_key_eq_none.mpr h
      · rfl
  rw [this]
  rfl

/-- non-vacuity: in `exRealm` subscription 7 does not exist; subscription 2 (prefix "a.") exists -/
example : (WVal.int 7).asID = some 7 ∧ ¬ HistMalformed [] ∧ (WVal.str "x").asID = none := by
  refine ⟨by decide, ?_, rfl⟩
  intro hm
  rw [← C20_histQuery_none_iff] at hm
  exact absurd hm (by rw [show histQuery? [] = some {} from rfl]; simp)

/-- A reachable realm's broker IS a run of broker steps from the broker the realm started with
    (pre-initialised from the configuration).  The `.publish` steps of that run carry strictly
    increasing publication ids, all drawn from the realm's counter (`pubBase ≤ id < pubBase +
    pubCount`), and hand the broker payload-passthru details without `topic` or publisher keys.
    (`WpA.stepPubId e` is the publication id of a publish step, `none` for the other steps.) -/
theorem C20_reachable_run {cfg : Config} {r : Realm} (h : Realm.Reachable cfg r) :
    ∃ steps, r.broker =
        (({ strict := cfg.strict, allowDisclose := cfg.allowDisclose } : Broker).preInit cfg.history).run steps ∧
      (steps.filterMap WpA.stepPubId).Pairwise (· < ·) ∧
      (∀ i ∈ steps.filterMap WpA.stepPubId, pubBase ≤ i ∧ i < pubBase + r.pubCount) ∧
      (∀ sess now p, BStep.publish sess now p ∈ steps →
        ∀ key, (key = "topic" ∨ isPublisherKey key) → p.baseDetails.get? key = none) := by
  obtain ⟨steps, hb, ht⟩ := WpA.reachable_run h
  refine ⟨steps, hb, ht.ids.1, fun i hi => ?_, fun sess now p hm => WpA.Trace.pubOk ht sess now p hm⟩
  have := ht.ids.2 i hi
  omega

/-- In a reachable realm the publication ids stored in any history are strictly increasing in store
    order — hence pairwise distinct: the hypothesis `hn` of the four `C20_query_*_publication` theorems
    holds for every store — and all of them have been drawn already. -/
theorem C20_store_pubs_nodup {cfg : Config} {r : Realm} (h : Realm.Reachable cfg r) :
    ∀ st ∈ r.broker.hist, (st.entries.map (·.pub)).Nodup ∧ (st.entries.map (·.pub)).Pairwise (· < ·) ∧
      ∀ e ∈ st.entries, e.pub < pubBase + r.pubCount := by
  intro st hst
  obtain ⟨h1, h2⟩ := WpA.store_pubs_fresh h st hst
  exact ⟨h1.imp Nat.ne_of_lt, h1, h2⟩

theorem retention_of_run {cfg : Config} {r : Realm} (h : Realm.Reachable cfg r) (steps : List BStep)
    (hb : r.broker =
      (({ strict := cfg.strict, allowDisclose := cfg.allowDisclose } : Broker).preInit cfg.history).run steps)
    (pre post : List (String × String × Nat)) (topic m : String) (limit : Nat)
    (hcfg : cfg.history = pre ++ (topic, m, limit) :: post)
    (hlast : ∀ c ∈ post, ¬(c.1 = topic ∧ matchKind c.2.1 = matchKind m)) :
    0 < limit ∧
      ∃ st ∈ r.broker.hist, ∃ s ∈ r.broker.subs,
        s.id = st.sub ∧ s.topic = topic ∧ s.kind = matchKind m ∧ st.limit = limit ∧
        st.entries = lastN limit (retained s steps) ∧
        (∀ st' ∈ r.broker.hist, st'.sub = st.sub → st' = st) := by
  obtain ⟨r0, h0, _⟩ := WpA.reachable_evo h
  have hpos : 0 < limit := (WpA.create_historyOk h0 (topic, m, limit) (by rw [hcfg]; simp)).2
  refine ⟨hpos, ?_⟩
  obtain ⟨h00, hh0, s0, hs0, e1, e2, _, e4, e5⟩ :=
    C20_configured cfg.strict cfg.allowDisclose pre post topic m limit hlast
  rw [← hcfg] at hh0 hs0
  obtain ⟨st, hst, f1, f2, f3, f4, s, hs, g1, g2, g3⟩ :=
    C20_retention cfg.strict cfg.allowDisclose cfg.history steps hh0 hs0 e1 (by rw [e2]; exact hpos)
  rw [← hb] at hst hs f4
  refine ⟨st, hst, s, hs, by rw [g1, e1, f1], g2.trans e4, ?_, f2.trans e2, ?_, ?_⟩
  · have : s.kind = s0.kind := by unfold Sub.kind; rw [g3]
    rw [this, e5]
  · rw [f3, e2, retained_congr g1 g2 g3]
  · intro st' hst' he
    exact f4 st' hst' (he.trans f1)

/-- Retention for reachable realms.  If `(topic, m, limit)` is an entry of the realm's history
    configuration not overridden by a later entry for the same (topic, policy), then in EVERY reachable
    realm state: the broker is the run of some steps from the initial broker; the limit is positive;
    there is exactly one store for the subscription `s` with that topic and policy, which still exists;
    and the store holds the last `limit`, oldest first, of the publications of that run that match `s`
    and were not restricted by `exclude`/`eligible`. -/
theorem C20_retention_realm {cfg : Config} {r : Realm} (h : Realm.Reachable cfg r)
    (pre post : List (String × String × Nat)) (topic m : String) (limit : Nat)
    (hcfg : cfg.history = pre ++ (topic, m, limit) :: post)
    (hlast : ∀ c ∈ post, ¬(c.1 = topic ∧ matchKind c.2.1 = matchKind m)) :
    0 < limit ∧
    ∃ steps, r.broker =
        (({ strict := cfg.strict, allowDisclose := cfg.allowDisclose } : Broker).preInit cfg.history).run steps ∧
      ∃ st ∈ r.broker.hist, ∃ s ∈ r.broker.subs,
        s.id = st.sub ∧ s.topic = topic ∧ s.kind = matchKind m ∧ st.limit = limit ∧
        st.entries = lastN limit (retained s steps) ∧
        (∀ st' ∈ r.broker.hist, st'.sub = st.sub → st' = st) := by
  obtain ⟨steps, hb, _⟩ := WpA.reachable_run h
  obtain ⟨hpos, rest⟩ := retention_of_run h steps hb pre post topic m limit hcfg hlast
  exact ⟨hpos, steps, hb, rest⟩

/-- THE TOPIC FILTER IN A REACHABLE REALM, for a configured (topic, policy, limit) of ANY policy (exact,
    prefix, wildcard): the subscription `s` exists and is the one `get_events` finds under the store's id
    (so the handler runs the scan with `subTopic := s.topic`), and for every query with a `topic`
    argument an entry of the store passes the topic filter iff it was retained for a publication to
    exactly that topic.  No side condition: the publications the realm hands the broker carry no `topic`
    in their payload-passthru details (`C20_reachable_run`). -/
theorem C20_topic_filter_realm {cfg : Config} {r : Realm} (h : Realm.Reachable cfg r)
    (pre post : List (String × String × Nat)) (topic m : String) (limit : Nat)
    (hcfg : cfg.history = pre ++ (topic, m, limit) :: post)
    (hlast : ∀ c ∈ post, ¬(c.1 = topic ∧ matchKind c.2.1 = matchKind m)) :
    ∃ steps, r.broker =
        (({ strict := cfg.strict, allowDisclose := cfg.allowDisclose } : Broker).preInit cfg.history).run steps ∧
      ∃ st ∈ r.broker.hist, ∃ s ∈ r.broker.subs,
        s.topic = topic ∧ s.kind = matchKind m ∧ r.broker.findId st.sub = some s ∧
        ∀ q : HistQuery, q.topic ≠ "" → ∀ e ∈ st.entries,
          (topicOk { q with subTopic := s.topic } e = true ↔
            ∃ sess now p, BStep.publish sess now p ∈ steps ∧ s.matchesTopic p.topic = true ∧
              e = retainedEntry s now p ∧ p.topic = q.topic) := by
  obtain ⟨steps, hb, ht⟩ := WpA.reachable_run h
  obtain ⟨_, st, hst, s, hs, e1, e2, e3, _, e5, _⟩ := retention_of_run h steps hb pre post topic m limit hcfg hlast
  refine ⟨steps, hb, st, hst, s, hs, e2, e3, ?_, ?_⟩
  · rw [← e1]; exact findId_of_mem h.inv.1.binv.ids_nodup hs
  · intro q hq e he
    rw [e5] at he
    exact C20_topic_filter_scan { q with subTopic := s.topic } s steps limit rfl hq
      (fun sess now p hm => WpA.Trace.pubOk ht sess now p hm "topic" (Or.inl rfl)) e he

/-- The four publication-bound clauses for the stores of reachable realms: the `Nodup` hypothesis
    is discharged by `C20_store_pubs_nodup`. -/
theorem C20_query_publication_realm {cfg : Config} {r : Realm} (h : Realm.Reachable cfg r)
    (st : Hist) (hst : st ∈ r.broker.hist) (q : HistQuery)
    (hT : q.fromT = none ∧ q.afterT = none ∧ q.beforeT = none ∧ q.untilT = none) (htopic : q.topic = "") :
    ((q.fromPub ≠ 0 ∧ q.afterPub = 0 ∧ q.beforePub = 0 ∧ q.untilPub = 0) →
      (∀ pre f post, st.entries = pre ++ f :: post → f.pub = q.fromPub →
          histScan q st.entries q.fromPub q.afterPub false = f :: post) ∧
      ((∀ e ∈ st.entries, e.pub ≠ q.fromPub) → histScan q st.entries q.fromPub q.afterPub false = [])) ∧
    ((q.fromPub = 0 ∧ q.afterPub ≠ 0 ∧ q.beforePub = 0 ∧ q.untilPub = 0) →
      (∀ pre f post, st.entries = pre ++ f :: post → f.pub = q.afterPub →
          histScan q st.entries q.fromPub q.afterPub false = post) ∧
      ((∀ e ∈ st.entries, e.pub ≠ q.afterPub) → histScan q st.entries q.fromPub q.afterPub false = [])) ∧
    ((q.fromPub = 0 ∧ q.afterPub = 0 ∧ q.beforePub ≠ 0 ∧ q.untilPub = 0) →
      (∀ pre f post, st.entries = pre ++ f :: post → f.pub = q.beforePub →
          histScan q st.entries q.fromPub q.afterPub false = pre) ∧
      ((∀ e ∈ st.entries, e.pub ≠ q.beforePub) → histScan q st.entries q.fromPub q.afterPub false = st.entries)) ∧
    ((q.fromPub = 0 ∧ q.afterPub = 0 ∧ q.beforePub = 0 ∧ q.untilPub ≠ 0) →
      (∀ pre f post, st.entries = pre ++ f :: post → f.pub = q.untilPub →
          histScan q st.entries q.fromPub q.afterPub false = pre ++ [f]) ∧
      ((∀ e ∈ st.entries, e.pub ≠ q.untilPub) → histScan q st.entries q.fromPub q.afterPub false = st.entries)) := by
  have hn := (C20_store_pubs_nodup h st hst).1
  exact ⟨fun hP => C20_query_from_publication q st.entries hT htopic hP hn,
         fun hP => C20_query_after_publication q st.entries hT htopic hP hn,
         fun hP => C20_query_before_publication q st.entries hT htopic hP hn,
         fun hP => C20_query_until_publication q st.entries hT htopic hP hn⟩

/-- In a reachable realm no `get_events` answer reveals a publisher: no stored entry carries a
    publisher key (whatever was published with `disclose_me`, whoever was subscribed), and every
    answered entry is a stored entry (`C20_answer_mem`). -/
theorem C20_answer_no_identity_realm {cfg : Config} {r : Realm} (h : Realm.Reachable cfg r)
    (st : Hist) (hst : st ∈ r.broker.hist) (q : HistQuery) :
    ∀ e ∈ histAnswer q st.entries, ∀ key, isPublisherKey key → e.details.get? key = none :=
  C20_answer_no_identity q st.entries (fun e he => WpA.hist_clean_reachable h st hst e he)

/-- a concrete reachable realm with a history store that has retained a publication:
    configuration `("a.", prefix, 2)`, session 1 joins and publishes "a.b" -/
def exRCfg : Config := { history := [("a.", "prefix", 2)] }
def exR0 : Realm := (Realm.create exRCfg).getD {}
theorem exR0_create : Realm.create exRCfg = some exR0 := by
  have h : (Realm.create exRCfg).isSome = true := by decide +kernel
  unfold exR0
  cases hc : Realm.create exRCfg with
  | none => rw [hc] at h; cases h
  | some r => rfl
def exR : Realm :=
  ((exR0.step (.join 1 false [] [] 8)).2.step (.msg 1 (.publish 1 [] "a.b" [.int 5] []))).2
theorem exR_reachable : Realm.Reachable exRCfg exR := .step _ (.step _ (.init exR0_create))

/-- the store of the example realm holds the publication; its id is `pubBase + 1`: the first id was
    spent on the `wamp.session.on_join` meta event (which no store matches) -/
example : exR.broker.hist.map (fun st => (st.sub, st.limit, st.entries.map (fun e => (e.pub, e.time)))) =
    [(1, 2, [(pubBase + 1, 0)])] ∧ exR.pubCount = 2 := by decide +kernel

example : exRCfg.history = [] ++ ("a.", "prefix", 2) :: [] ∧
    ∀ c ∈ ([] : List (String × String × Nat)), ¬(c.1 = "a." ∧ matchKind c.2.1 = matchKind "prefix") :=
  ⟨rfl, fun _ hc => nomatch hc⟩

end Nexus.C20
