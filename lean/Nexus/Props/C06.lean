/-
C06 — "Router.Close and RemoveRealm are safe at any moment" (concurrency-skeleton half)

  Closing the router or removing a realm at any point - with handshakes, publications, calls, call
  timers, kills and disconnects in flight - always returns, never panics then or later (for instance
  when a timer of a call that was pending expires), tells every attached client GOODBYE
  wamp.close.system_shutdown or closes its transport, answers later attach attempts with an error or
  ABORT rather than a crash, and leaves no goroutine of the router behind. Sessions of realms that
  were not removed are unaffected.

clause → theorem
  never panics then or later: nobody posts to a channel whose server has stopped
      generic ..................................... Shutdown.no_post_after_close (Nexus/L3/Shutdown)
      the program is the regenerated realm.close ... close_stmts_known, close_order
      every poster role is quiesced ................ posters_quiesced, derived_posters
      instantiated ................................. no_post_after_close_realm, no_live_poster_realm
      call timers (F8, F8b) ........................ timer_post_guarded, dealer_channel_never_closed
      late attach (F9, F32) ........................ router_channel_never_closed, post_guarded_by_stopped,
                                                     attach_never_posts_to_realm
      WELCOME vs handler (F26) ..................... welcome_sent_by_handler
      meta handlers (F27, F27b) .................... meta_handler_sends_guarded
  always returns: every wait of the closers descends the rank
      ............................................. close_waits_descend (+ C07.no_wait_cycle_router)
      and the servers they (and the handlers they wait for) depend on keep serving until the closer
      stops them .................................. servers_guarded, server_guard_matches_channel,
                                                     mp_exits_after_hm, assumptions_table_half,
                                                     server_alive_until_stopped, servers_keep_serving,
                                                     mp_serves_while_hm, rtr_serves_until_closed,
                                                     server_waits_classified, assumptions_used,
                                                     serve_edges_are_wait_edges
                                                     (generic: Nexus/L3/Serve; tables (i),(l),(m) of
                                                      Nexus/L3/WpL3Tables; C07.blocked_posters_reach_running_server)
      if a server could leave at any moment, a handler posting to the meta session with nobody serving
      it would be reachable (F44) ................. old_model_admits_wedge
  one closer per realm ............................. single_closer, single_closer_generic
  handleSession / close mutual exclusion ........... handle_session_order, peer_closed_once_by_handler,
                                                     peer_close_roles
  router.Close ..................................... router_close_order
  RemoveRealm: the realm leaves the router's table inside the router goroutine, then is closed outside
      ............................................. remove_realm_order
The sequential half (GOODBYE to every client, later Attach answered, other realms unchanged) is the L2
model's; "no goroutine left" is observed by family `shutdown` under synctest.
-/
import Nexus.L3.CloseModel
import Nexus.L3.WpL3ServeModel
import Nexus.L3.WpL3Wait
import Nexus.L3.Mutex

namespace Nexus.C06
open Nexus.Gen.Sites Nexus.L3 Nexus.L3.Shutdown Nexus.L3.CloseModel
open Nexus.L3.WpL3Tables Nexus.L3.WpL3.Serve Nexus.L3.WpL3.ServeModel

/-- Every statement of realm.close (with dealer.close and broker.close inlined) is known to the
    translation. -/
theorem close_stmts_known : realmCloseProg.isSome = true := by decide +kernel

/-- The regenerated statement order of realm.close is the model's protocol: take the close lock
    (no new handler; wait for an attach inside handleSession) → [kick clients] → wait for the
    handlers → end the meta session → wait for the meta-procedure handler → stop the dealer → stop
    the broker → close the realm channel. -/
theorem close_order : realmCloseProg.map essential = some expectedProtocol := by decide +kernel

/-! `postPairs`, `rawPostPairs`, `routerEdges` and the classification of the waits for a server are computed
from the roles (`siteRoles`: a search of `fnRolesTable`) and the wait targets (`opTargets`) of every
operation of `chanOps`, and those two searches are nearly all of the work. The kernel remembers what
`siteRoles`, `opTargets` and `opEdges` of an operation evaluate to only while it checks one declaration,
so the facts that need them for the same operations stand together in one statement (`post_facts`: the
posts to served channels; `wait_facts`: every operation). Each conjunct is named by a theorem: those of
`post_facts` and the first two of `wait_facts` below, the last four of `wait_facts` in Nexus/Props/C07.lean
(`all_ops_classified`, the first clause of `all_sites_have_roles`, `rtr_waits_for_client_only_in_abort` and
its non-vacuity example). -/

/-! What to touch when the router grows (the definitions are the model's, Nexus/L3; the literals and theorems are here).
A new role: `Role`, `rank` (Roles); `allRoles`, `rule`, `exitNeeds` (CloseModel); where it runs: `fnRolesTable`,
`goLitRole` or `postedRole` (Roles); for whom it waits: `idleOps` and the target tables `fieldTargets`,
`locTargets`, `syncTargets` (Wait).  Then the lists to evaluate again (`#eval postPairs` …) and paste:
`postPairsLit` (stated once more in `derived_posters`), `rawPostPairsLit`, `routerEdgesLit`, the class list of
`wait_facts` and `server_wait_classes` (its order is that of first occurrence in `chanOps`), `assumptions_used`;
in other files `C07.realmWorkers`, the rank line in the docstring of `C07.no_wait_cycle_router`, and
`C08.expectedEmitters`.
A new served channel: `SChan`, `servedChan`, `stmtInstr`, `expectedProtocol` (CloseModel); `serverOf`, a
`ServerSpec` in `serverSpecs`, `exitWhy`, `postedChan`, `endChans` (WpL3ServeModel); here one more conjunct of
`servers_guarded` and one more bullet of `server_guard_matches_channel` (a `cases ch`, bullets in the order of
the constructors of `SChan`).
The generic theorems (L3/Shutdown, Serve, Progress) and their instances here take the new role or channel as it
comes; what fails is the `decide` of a table fact: `all_ops_classified`, `all_sites_have_roles`,
`roles_closed_under_calls` (an entry is missing), `router_edges_descend` (the rank), `posters_quiesced` (`rule`). -/

def postPairsLit : List (Role × SChan) :=
  [(.H, .brokerChan), (.HM, .brokerChan), (.MP, .brokerChan),
   (.H, .dealerChan), (.HM, .dealerChan), (.MP, .dealerChan),
   (.H, .metaChan), (.MP, .realmChan), (.A2, .realmChan), (.A2, .metaChan),
   (.H, .realmChan)]

def rawPostPairsLit : List (Role × SChan) :=
  [(.H, .brokerChan), (.HM, .brokerChan), (.R, .brokerChan), (.MP, .brokerChan),
   (.H, .dealerChan), (.HM, .dealerChan), (.MP, .dealerChan), (.H, .metaChan),
   (.R, .dealerChan), (.R, .metaChan), (.MP, .realmChan), (.A2, .realmChan),
   (.A2, .metaChan), (.H, .realmChan)]

theorem post_facts :
    postPairs = postPairsLit ∧
    rawPostPairs = rawPostPairsLit ∧
    (∀ o ∈ chanOps, (servedChan o).isSome = true → (siteRoles o.fn o.gctx o.garg).contains .A1 = false) := by
  decide +kernel

/-- The poster table derived from the channel operations: who can be left hanging on, or panic at,
    which served channel. -/
theorem derived_posters :
    postPairs = [(.H, .brokerChan), (.HM, .brokerChan), (.MP, .brokerChan),
                 (.H, .dealerChan), (.HM, .dealerChan), (.MP, .dealerChan),
                 (.H, .metaChan), (.MP, .realmChan), (.A2, .realmChan), (.A2, .metaChan),
                 (.H, .realmChan)] := post_facts.1

/-- Who can be blocked in a post to which served channel (`derived_posters` without the attribution
    of the realm goroutine's posts to the handler it acts for). -/
theorem rawPostPairs_eq : rawPostPairs = rawPostPairsLit := post_facts.2.1

/-- F32: no function run by the attaching goroutine outside the close lock (`A1`) sends on a realm,
    dealer or broker channel: the realm pointer it holds may belong to a realm already closed. -/
theorem attach_never_posts_to_realm :
    ∀ o ∈ chanOps, (servedChan o).isSome = true → (siteRoles o.fn o.gctx o.garg).contains .A1 = false :=
  post_facts.2.2

def routerEdgesLit : List (Role × Role) :=
  [(.Ext1, .B), (.Rtr, .B), (.Ext2, .B), (.H, .B), (.HM, .B), (.R, .B), (.MP, .B),
   (.H, .D), (.HM, .D), (.Ext1, .D), (.Rtr, .D), (.Ext2, .D), (.MP, .D), (.H, .HM),
   (.R, .D), (.R, .HM), (.T, .D), (.Rtr, .R), (.Ext2, .R), (.Rtr, .MP), (.Ext2, .MP),
   (.MP, .R), (.MP, .HM), (.A2, .R), (.A2, .HM), (.H, .R), (.Ext1, .HM), (.Rtr, .HM),
   (.Ext1, .Rtr), (.A1, .Rtr), (.A1, .C), (.Rtr, .C), (.Ext1, .Mem), (.A1, .W), (.H, .W),
   (.Rd, .W), (.A1, .Rd), (.H, .Rd), (.Rtr, .A2), (.Ext2, .A2), (.Rtr, .H), (.Ext2, .H),
   (.A1, .Ext2), (.A1, .A2)]

theorem wait_facts :
    routerEdges = routerEdgesLit ∧
    ((chanOps.filter waitsForServer).map classifyServerOp).eraseDups =
      [EdgeClass.awaitEnd, .servedPost, .replyWait, .exemptPost, .guardedPost, .stopAlt].map some ∧
    (∀ o ∈ WpL3.allChanOps, (opTargets o).isSome = true) ∧
    (∀ o ∈ WpL3.allChanOps, (siteRoles o.fn o.gctx o.garg).isEmpty = false) ∧
    (∀ o ∈ WpL3.allChanOps, (Role.Rtr, Role.C) ∈ opEdges o →
      o.key = key! "router.router.AttachClient|send|client.Send()@posted router.actionChan") ∧
    (∃ o ∈ WpL3.allChanOps, (Role.Rtr, Role.C) ∈ opEdges o) := by
  decide +kernel

/-- **The wait-for relation of the router**, as the regenerated channel and lock tables give it:
    `(a, b)` — a goroutine of role `a` can be blocked until one of role `b` acts. Everything C06 and
    C07 say about the relation is read off this list. -/
theorem routerEdges_eq : routerEdges = routerEdgesLit := wait_facts.1

/-- The classes that the waits for a server role fall into, in the order of their first occurrence in
    the channel-operation table. -/
theorem server_wait_classes :
    ((chanOps.filter waitsForServer).map classifyServerOp).eraseDups =
      [EdgeClass.awaitEnd, .servedPost, .replyWait, .exemptPost, .guardedPost, .stopAlt].map some :=
  wait_facts.2.1

/-- Table fact: every poster role of every served channel is quiesced before the statement that
    stops the channel's server — waited for at a point after which it cannot be respawned, or (the
    meta session's handler) outlived by a fixed goroutine that is. -/
theorem posters_quiesced : ∀ prog, realmCloseProg = some prog → checkPosters prog = true := by
  have h : (match realmCloseProg with | some p => checkPosters p | none => true) = true := by
    simp only [checkPosters, derived_posters]
    decide +kernel
  intro prog hp
  rw [hp] at h
  exact h

/-! What goes through `Sys.posts`.  In `Shutdown.Step` a post is a stutter step (`Step.post` leaves the
configuration as it is), so the system derives nothing from an actor's posting: `posts` only names the pairs the
instances below speak about.  What is proved about them is `checkPosters`: `quiesced` for each pair of
`postPairs`, hence (`no_post_after_close`) no live actor of the role once the channel is stopped.  That
`postPairs` has every role that can be inside a send on a served channel rests on the tables it is computed
from; that the realm goroutine's posts may be counted as posts of the session handler it acts for
(`shutdownRole`, R ↦ H) rests on the prose at its definition: no theorem says that R posts only inside an action
for which a live H is waiting. -/

/-- `posts` is unfolded by hand, here and in `sys_posts`: met by unification it is evaluated, and that
    runs `List.elem` over the whole derived table. -/
theorem posts_mem {r : Role} {ch : SChan} : posts r ch = true ↔ (r, ch) ∈ postPairs := by
  rw [posts]
  exact List.contains_iff_mem

theorem sys_posts (prog : List I) {r : Role} {ch : SChan} (h : posts r ch = true) :
    (sys prog).posts r ch = true := by
  dsimp only [sys]
  exact h

theorem posts_iff {r : Role} {ch : SChan} : posts r ch = true ↔ (r, ch) ∈ postPairsLit :=
  post_facts.1 ▸ posts_mem

theorem poster_quiesced (prog : List I) (hp : realmCloseProg = some prog) {r : Role} {ch : SChan}
    (hposts : posts r ch = true) : quiesced (sys prog) allRoles fuel r ch = true :=
  List.all_eq_true.mp (posters_quiesced prog hp) (r, ch) (posts_mem.mp hposts)

/-- **Instantiation of `no_post_after_close`**: in every reachable configuration of the shutdown
    system built from the regenerated realm.close, once a served channel is stopped no actor of any
    role that posts to it is alive. -/
theorem no_post_after_close_realm (prog : List I) (hp : realmCloseProg = some prog)
    {c : Cfg Role SChan SFlag} (hreach : Reach (sys prog) c) (r : Role) (ch : SChan)
    (hposts : posts r ch = true) (hclosed : c.closed ch = true) : c.alive r = 0 :=
  no_post_after_close (sys prog) allRoles fuel hreach r ch (poster_quiesced prog hp hposts) hclosed

/-- Equivalently: a post step of the system never targets a stopped channel. -/
theorem no_live_poster_realm (prog : List I) (hp : realmCloseProg = some prog)
    {c : Cfg Role SChan SFlag} (hreach : Reach (sys prog) c) (r : Role) (ch : SChan)
    (halive : 0 < c.alive r) (hposts : posts r ch = true) : c.closed ch = false :=
  no_live_poster_on_closed (sys prog) allRoles fuel hreach r ch (poster_quiesced prog hp hposts) halive
    (sys_posts prog hposts)

/-- The one exit dependency of the realm's system (`exitNeeds`): a population is a start population
    if it has a meta-procedure handler whenever it has a meta session's handler. -/
theorem exitNeeds_dep (prog : List I) {alive : Role → Nat} (h : alive .MP = 0 → alive .HM = 0)
    (r q : Role) (hq : (sys prog).exitNeeds r = some q) (h0 : alive r = 0) : alive q = 0 := by
  change exitNeeds r = some q at hq
  unfold exitNeeds at hq
  split at hq
  · cases hq; exact h h0
  · cases hq

/-- Non-vacuity 1: the check fails for the order "stop the dealer before waiting for the
    meta-procedure handler" (the mutant of DESIGN §8.4). -/
example : checkPosters [.setFlag .closing, .await .A2, .await .H, .closeChan .metaChan,
    .closeChan .dealerChan, .await .MP, .closeChan .brokerChan, .closeChan .realmChan] = false := by
  rw [checkPosters, derived_posters]
  decide +kernel

/-- Non-vacuity 2: in that order a meta-procedure handler is alive, and posts to the dealer, while
    the dealer is stopped — a reachable configuration of the model. -/
example : ∃ c, Reach (sys [.setFlag .closing, .await .A2, .await .H, .closeChan .metaChan,
      .closeChan .dealerChan, .await .MP]) c ∧
    PostsOnClosed (sys [.setFlag .closing, .await .A2, .await .H, .closeChan .metaChan,
      .closeChan .dealerChan, .await .MP]) c .MP .dealerChan := by
  let S := sys [.setFlag .closing, .await .A2, .await .H, .closeChan .metaChan,
      .closeChan .dealerChan, .await .MP]
  let c0 : Cfg Role SChan SFlag :=
    { pc := 0, alive := fun r => if r = .MP then 1 else 0, flag := fun _ => false, closed := fun _ => false }
  have hinit : Init S c0 := ⟨rfl, fun _ => rfl, fun _ => rfl, exitNeeds_dep _ (by decide)⟩
  refine ⟨_, reach_of_exec (S := S) [.closer, .closer, .closer, .closer, .closer] (.init hinit) rfl,
    ?_, ?_, ?_⟩
  · decide
  · dsimp only [S, sys]
    exact posts_iff.mpr (by decide)
  · decide

/-- F8/F8b: the call timer's post to the dealer is a select with `dealer.closing` as alternative … -/
theorem timer_post_guarded :
    ∀ o ∈ chanOps, o.op = .send → o.gctx = .golit → o.garg = key! "router.dealer.syncCall#go1" →
      o.chan = key! "dealer.actionChan" ∧ o.sel = .selMulti ∧ (key! "dealer.closing") ∈ o.alts := by
  decide +kernel

/-- … and the dealer's action channel is never closed (ea8fcfd), so that select can never pick a
    send on a closed channel: when the dealer has stopped only the `closing` case is ready. The same
    holds for the router's channel (4a0e46a). The broker's and the realm's channels are closed; all
    their posters are quiesced (`posters_quiesced`). -/
theorem dealer_channel_never_closed :
    reallyClosed (key! "dealer.actionChan") = false ∧ reallyClosed (key! "router.actionChan") = false ∧
    reallyClosed (key! "broker.actionChan") = true ∧ reallyClosed (key! "realm.actionChan") = true := by
  decide +kernel

theorem router_channel_never_closed : reallyClosed (key! "router.actionChan") = false :=
  dealer_channel_never_closed.2.1

/-- F9: the only sends on the router's channel are `router.post`'s select with `router.stopped` as
    alternative, and the first post of `Close` itself (inside closeOnce.Do, before `closing` is closed). -/
theorem post_guarded_by_stopped :
    ∀ o ∈ chanOps, o.op = .send → o.chan = key! "router.actionChan" →
      (o.fn = key! "router.router.post" ∧ o.sel = .selMulti ∧ (key! "router.stopped") ∈ o.alts) ∨
      o.fn = key! "router.router.Close" := by
  decide +kernel

/-- F26: WELCOME is sent by the session's handler goroutine — the goroutine that later closes the
    peer — with a non-blocking send; the attaching goroutine sends nothing after it started the
    handler (its only send, the ABORT, is on the refusal paths). -/
theorem welcome_sent_by_handler :
    ∀ m ∈ msgSends, m.msgType = key! "Welcome" →
      m.gctx = .golit ∧ m.garg = key! "router.realm.handleSession#go1" ∧ m.nonBlocking = true := by
  decide +kernel

/-- F27/F27b: every operation of the meta-procedure handler on the meta peer is a select with
    `metaSessDone` (closed when the meta session's handler goroutine returns) as alternative: it can
    neither wait for a GOODBYE that was dropped nor hang on a reply nobody will read. -/
theorem meta_handler_sends_guarded :
    ∀ o ∈ chanOps, o.fn = key! "router.realm.metaProcedureHandler" →
      (o.cls = .peerSendMeta ∨ o.cls = .peerRecvMeta) →
      o.sel = .selMulti ∧ (key! "realm.metaSessDone") ∈ o.alts := by
  decide +kernel

/-- handleSession: lock → refuse if closed → register in the wait group → onJoin → unlock → start the
    handler; the handler: WELCOME (non-blocking) → handle messages → [ABORT] → onLeave → close the
    peer → leave the wait group. -/
theorem handle_session_order :
    order_realm_handleSession = [
      key! "realm.closeLock.Lock()",
      key! "if realm.closed {",
      key! "realm.closeLock.Unlock()",
      key! "err := errors.New(\"realm closed\")",
      key! "return err",
      key! "}",
      key! "realm.waitHandlers.Add(1)",
      key! "realm.onJoin(sess)",
      key! "realm.closeLock.Unlock()",
      key! "if realm.debug {",
      key! "realm.log.Println(\"Handling messages for session\", sess)",
      key! "}",
      key! "go func() {",
      key! "select {",
      key! "case sess.Send() <- welcome:",
      key! "default:",
      key! "}",
      key! "shutdown, killAll, err := realm.handleInboundMessages(sess)",
      key! "if err != nil {",
      key! "abortMsg := wamp.Abort{ Reason: wamp.ErrProtocolViolation, Details: wamp.Dict{wamp.OptMessage: err.Error()}, }",
      key! "realm.log.Println(\"Aborting session\", sess, \":\", err)",
      key! "select {",
      key! "case sess.Send() <- &abortMsg:",
      key! "default:",
      key! "}",
      key! "}",
      key! "realm.onLeave(sess, shutdown, killAll)",
      key! "sess.Close()",
      key! "realm.waitHandlers.Done()",
      key! "}()",
      key! "return nil"] := by decide +kernel

/-- After a session's handler exists, its peer is closed in exactly one place: the end of that
    handler. The other `Close` calls on a peer are in AttachClient, on the paths that never start a
    handler: `client.Close()` when no HELLO arrived, and the `client.Close()` of the `sendAbort`
    closure, which runs in the attaching goroutine and — called inside the action posted to the router
    goroutine — in the router goroutine (the fourth entry; table (b) completed with the closure's
    second context, Nexus/L3/WpL3Wait.lean). -/
theorem peer_closed_once_by_handler :
    ((WpL3.allCloseSites.filter fun c => !c.isChanClose &&
        memN c.recvType [key! "*wamp.Session", key! "wamp.Peer"]).map (·.key)) =
      [key! "router.realm.handleSession|Close|sess",
       key! "router.router.AttachClient|Close|client",
       key! "router.router.AttachClient|Close|client#2",
       key! "router.router.AttachClient|Close|client@posted router.actionChan"] := by decide +kernel

/-- … and by which goroutines: the handler, the attaching goroutine, the router goroutine. -/
theorem peer_close_roles :
    ∀ c ∈ WpL3.allCloseSites, c.isChanClose = false →
      memN c.recvType [key! "*wamp.Session", key! "wamp.Peer"] = true →
      siteRoles c.fn c.gctx c.garg = [.H] ∨ siteRoles c.fn c.gctx c.garg = [.A1] ∨
      siteRoles c.fn c.gctx c.garg = [.Rtr] := by
  decide +kernel

/-- router.Close: once; inside the router goroutine mark closed and close every realm; then stop the
    router goroutine through `closing` (the action channel stays open for late callers), stop the
    memory logger, and wait for the router goroutine. -/
theorem router_close_order :
    order_router_Close = [
      key! "router.closeOnce.Do(func() {",
      key! "done := make(chan struct{})",
      key! "router.actionChan <- func() {",
      key! "router.closed = true",
      key! "for uri, realm := range router.realms {",
      key! "realm.close()",
      key! "delete(router.realms, uri)",
      key! "router.log.Println(\"Realm\", uri, \"completed shutdown\")",
      key! "}",
      key! "close(done)",
      key! "}",
      key! "<-done",
      key! "close(router.closing)",
      key! "if router.stopMemStats != nil {",
      key! "close(router.stopMemStats)",
      key! "<-router.memStatsStopped",
      key! "}",
      key! "router.log.Println(\"Router stopped\")",
      key! "})",
      key! "<-router.stopped"] := by decide +kernel

/-- RemoveRealm: take the realm out of the router inside the router goroutine (no new attach finds
    it), then close it outside. -/
theorem remove_realm_order :
    order_router_RemoveRealm = [
      key! "var realm *realm",
      key! "var ok bool",
      key! "sync := make(chan struct{})",
      key! "if !router.post(func() {",
      key! "if realm, ok = router.realms[name]; ok {",
      key! "delete(router.realms, name)",
      key! "router.log.Printf(\"Removed realm: %s\", name)",
      key! "}",
      key! "close(sync)",
      key! "}) {",
      key! "return",
      key! "}",
      key! "<-sync",
      key! "if ok {",
      key! "realm.close()",
      key! "router.log.Println(\"Realm\", name, \"was removed and completed shutdown\")",
      key! "}"] := by decide +kernel

def closerFns : List Nat :=
  [key! "router.realm.close", key! "router.dealer.close", key! "router.broker.close",
   key! "router.router.Close", key! "router.router.RemoveRealm"]

/-- "Always returns": every wait inside realm.close, dealer.close, broker.close, router.Close and
    RemoveRealm is for a role of strictly lower rank than the closing goroutine. Together with
    `C07.no_wait_cycle_router` the closer cannot be part of a wait cycle. -/
theorem close_waits_descend :
    (∀ o ∈ chanOps, memN o.fn closerFns = true → ∀ e ∈ opEdges o, rank e.2 < rank e.1) ∧
    (∀ s ∈ syncOps, memN s.fn closerFns = true → ∀ e ∈ syncEdges s, rank e.2 < rank e.1) := by
  decide +kernel

/-! `close_waits_descend` and `C07.no_wait_cycle_router` say that the closer is in no wait *cycle*. The
closer waits for the session handlers, those block on the realm goroutine and on the meta session's
handler, the realm goroutine on the dealer … — acyclic, but if one of those servers could leave its
loop for a reason of its own everybody above it would wait for ever. The theorems below close that
gap: each server leaves its loop only behind the stop signal that the closer issues *after* it has
waited for everybody who posts to that server. -/

/-- In the shutdown model without guards (any actor may exit at any moment) the wedge of F44 is a
    reachable configuration: a session handler alive and posting to the meta session's channel, that
    channel not stopped, and nobody serving it. The guards exclude exactly this. -/
theorem old_model_admits_wedge (prog : List I) :
    ∃ c, Reach (sys prog) c ∧ 0 < c.alive .H ∧ posts .H .metaChan = true ∧
      c.closed .metaChan = false ∧ c.alive (serverOf .metaChan) = 0 := by
  let c0 : Cfg Role SChan SFlag :=
    { pc := 0, alive := fun r => if r = .H ∨ r = .HM ∨ r = .MP then 1 else 0,
      flag := fun _ => false, closed := fun _ => false }
  have hinit : Init (sys prog) c0 := ⟨rfl, fun _ => rfl, fun _ => rfl, exitNeeds_dep _ (by decide)⟩
  have hstep : Step (sys prog) c0 { c0 with alive := upd c0.alive .HM (c0.alive .HM - 1) } :=
    Step.exit (S := sys prog) Role.HM (by decide) (by intro q hq; simp [sys, exitNeeds] at hq)
  refine ⟨_, Reach.step (Reach.init hinit) hstep, ?_, posts_iff.mpr (by decide), rfl, ?_⟩
  · decide
  · decide

/-- **The guards, computed from the regenerated exit table**: every way out of `dealer.run`,
    `broker.run`, `realm.run` and of the meta session's `handleInboundMessages` is the closer's stop
    signal for that server's channel (for the meta session: or excluded by a named assumption). -/
theorem servers_guarded :
    guardOf .D = some .dealerChan ∧ guardOf .B = some .brokerChan ∧
    guardOf .R = some .realmChan ∧ guardOf .HM = some .metaChan := by decide +kernel

theorem server_guard_matches_channel (ch : SChan) : servers.guard (servers.server ch) = some ch := by
  show guardOf (serverOf ch) = some ch
  obtain ⟨hD, hB, hR, hHM⟩ := servers_guarded
  cases ch
  · exact hD
  · exact hB
  · exact hR
  · exact hHM

/-- The meta-procedure handler: every exit of its loop follows the exit of the meta session's
    handler — `metaSessDone` (closed only by that goroutine, never sent on) is closed, its closure `send`
    failed (it returns false only on `metaSessDone`), or that handler's parting GOODBYE arrived. This
    is `CloseModel.exitNeeds .MP = some .HM`, derived from table (i). -/
theorem mp_exits_after_hm : mpExitsAfterHM = true ∧ exitNeeds .MP = some .HM := by
  refine ⟨by decide +kernel, rfl⟩

/-- The table half of each assumption holds (see Nexus/L3/WpL3ServeModel.lean for what remains). -/
theorem assumptions_table_half : ∀ a : Assumption, neverOk a = true := by
  intro a; cases a <;> decide +kernel

/-- The assumptions the guard of the meta session's handler uses; no other guard uses any. -/
theorem assumptions_used :
    ((exitWhy.filterMap fun e => match e.2.2 with | .never a => some (e.2.1, a) | _ => none).eraseDups) =
      [(.HM, .C04_meta_never_ends), (.HM, .metaNotInClients), (.HM, .metaPeerNeverClosed),
       (.HM, .metaMessageKinds), (.MP, .metaPeerNeverClosed)] := by decide +kernel

/-- Non-vacuity of the guard computation: a wrong stop signal, a wrong closer statement, or one more
    `return` in the loop (an exit without entry) take the guard away. -/
example : specOk { specD with signal := key! "dealer.stopped" } = false := by decide +kernel
example : specOk { specD with stopStmt := key! "<-dealer.stopped" } = false := by decide +kernel
example : specOk { specB with chan := some .dealerChan } = false := by decide +kernel
example : exitOk specD ⟨key! "router.dealer.run|exit|ret|if dealer.debug {", key! "router.dealer.run", .ret, true,
    key! "", key! "", .other, key! "", false, [key! "if dealer.debug {"]⟩ = false := by decide +kernel

abbrev GReachRealm (prog : List I) (c : Cfg Role SChan SFlag) : Prop := GReach (sys prog) servers c

/-- **A server is alive until the closer stops it**: in every configuration reachable by guarded
    steps, while the stop statement of a served channel has not been executed its server has a live
    actor. -/
theorem server_alive_until_stopped (prog : List I) {c : Cfg Role SChan SFlag}
    (hreach : GReachRealm prog c) (ch : SChan) (hopen : c.closed ch = false) :
    0 < c.alive (serverOf ch) :=
  guarded_alive hreach (serverOf ch) ch (server_guard_matches_channel ch) hopen

/-- **Servers keep serving.** In every reachable configuration a live actor of any role that posts
    to a served channel (table `derived_posters`) finds that channel's server alive: nobody is left
    hanging on `metaPeer.Send()`, `dealer.actionChan`, `broker.actionChan` or `realm.actionChan`. -/
theorem servers_keep_serving (prog : List I) (hp : realmCloseProg = some prog)
    {c : Cfg Role SChan SFlag} (hreach : GReachRealm prog c) (r : Role) (ch : SChan)
    (hposts : posts r ch = true) (halive : 0 < c.alive r) : 0 < c.alive (serverOf ch) :=
  poster_finds_server (sys prog) servers allRoles fuel hreach r ch (poster_quiesced prog hp hposts) halive
    (sys_posts prog hposts) (server_guard_matches_channel ch)

/-- The meta-procedure handler is alive while the meta session's handler is, hence until the meta
    session is stopped. -/
theorem mp_serves_while_hm (prog : List I) {c : Cfg Role SChan SFlag} (hreach : GReachRealm prog c) :
    (0 < c.alive .HM → 0 < c.alive .MP) ∧ (c.closed .metaChan = false → 0 < c.alive .MP) := by
  have h1 : 0 < c.alive .HM → 0 < c.alive .MP :=
    dependent_alive (reach_of_greach hreach) (r := .MP) (q := .HM) rfl rfl rfl
  exact ⟨h1, fun ho => h1 (server_alive_until_stopped prog hreach .metaChan ho)⟩

/-- Non-vacuity: the hypotheses hold in a non-trivial configuration — a session handler and the fixed
    goroutines, the closer not yet started — and in the guarded system the meta session's handler
    cannot leave before its stop instruction. -/
def exCfg : Cfg Role SChan SFlag :=
  { pc := 0, alive := fun r => if r = .H ∨ r = .HM ∨ r = .MP ∨ r = .R ∨ r = .D ∨ r = .B then 1 else 0,
    flag := fun _ => false, closed := fun _ => false }

theorem exCfg_init (prog : List I) : GInit (sys prog) servers exCfg := by
  refine ⟨⟨rfl, fun _ => rfl, fun _ => rfl, exitNeeds_dep _ (by decide)⟩, fun r ch hg => ?_⟩
  have : ∀ r, (guardOf r).isSome = true → 0 < exCfg.alive r := by
    intro r; cases r <;> decide +kernel
  exact this r (by simp [show guardOf r = some ch from hg])

/-- Hypotheses of `server_alive_until_stopped`. -/
example (prog : List I) : GReachRealm prog exCfg ∧ exCfg.closed .dealerChan = false :=
  ⟨GReach.init (exCfg_init prog), rfl⟩

example (prog : List I) (hp : realmCloseProg = some prog) :
    ∃ c, GReachRealm prog c ∧ 0 < c.alive .H ∧ posts .H .metaChan = true ∧ 0 < c.alive (serverOf .metaChan) := by
  have h0 : GReachRealm prog exCfg := GReach.init (exCfg_init prog)
  have hposts : posts .H .metaChan = true := posts_iff.mpr (by decide)
  exact ⟨exCfg, h0, by decide, hposts, servers_keep_serving prog hp h0 .H .metaChan hposts (by decide)⟩

example : ∀ prog, realmCloseProg = some prog →
    gexec (sys prog) servers guardedPairs exCfg [.exit .HM] = none ∧
    (gexec (sys prog) servers guardedPairs exCfg
      (List.replicate 15 .closer ++ [.exit .H, .closer, .closer, .exit .HM])).isSome = true := by
  have h : (match realmCloseProg with
      | some prog => decide (gexec (sys prog) servers guardedPairs exCfg [.exit .HM] = none) &&
          (gexec (sys prog) servers guardedPairs exCfg
            (List.replicate 15 .closer ++ [.exit .H, .closer, .closer, .exit .HM])).isSome
      | none => true) = true := by decide +kernel
  intro prog hp
  rw [hp] at h
  simpa using h

/-- The router goroutine: the only way out of `router.run` is `case <-router.closing`, a channel
    nobody sends on and that only `router.Close` closes (inside `closeOnce.Do`, after the action that
    closed every realm has answered, `router_close_order`); `router.stopped` is closed only by
    `router.run` itself on that exit, and it is the alternative of every later post
    (`post_guarded_by_stopped`): whoever posts to the router goroutine is served or released. -/
theorem rtr_serves_until_closed :
    specOk specRtr = true ∧ endChanOk (key! "router.stopped") = true ∧
    (order_router_Close.idxOf (key! "<-done") < order_router_Close.idxOf (key! "close(router.closing)")) := by
  decide +kernel

/-- **Every wait for a server is accounted for.** Each channel operation that makes a goroutine wait
    for one of the server roles HM, R, D, B, Rtr, MP is a post covered by `servers_keep_serving`, a post
    with the server's stop signal as alternative, the closer's own post or a post during construction,
    the wait for the answer of a posted closure (the waiter being a poster to that very channel), or the
    wait for the server's termination on a channel that only the server's exit closes. -/
theorem server_waits_classified :
    ∀ o ∈ chanOps, waitsForServer o = true → (classifyServerOp o).isSome = true := by
  intro o ho hw
  have h := List.mem_eraseDups.mpr
    (List.mem_map_of_mem (f := classifyServerOp) (List.mem_filter.mpr ⟨ho, hw⟩))
  rw [server_wait_classes] at h
  obtain ⟨c, _, hc⟩ := List.mem_map.mp h
  rw [← hc]
  rfl

/-- Non-vacuity: there are such waits, of every class. -/
example : ∀ c ∈ [EdgeClass.awaitEnd, .servedPost, .replyWait, .exemptPost, .guardedPost, .stopAlt],
    (chanOps.any fun o => waitsForServer o && decide (classifyServerOp o = some c)) = true := by
  intro c hc
  have h := List.mem_map_of_mem (f := some) hc
  rw [← server_wait_classes, List.mem_eraseDups] at h
  obtain ⟨o, ho, hoc⟩ := List.mem_map.mp h
  obtain ⟨ho, hw⟩ := List.mem_filter.mp ho
  exact List.any_eq_true.mpr ⟨o, ho, by simp [hw, hoc]⟩

/-- The served post edges are edges of the router's wait-for relation (C07), poster → server. -/
theorem serve_edges_are_wait_edges : ∀ e ∈ serveEdges, e ∈ routerEdges := by
  rw [serveEdges, rawPostPairs_eq, routerEdges_eq]
  decide +kernel

/-- `realm.closed` is assigned in one place in the whole tree, `realm.closed = true` in `realm.close`
    (table (k)); `realm.close` begins `Lock; defer Unlock; if closed { return }; closed = true`, releases
    the lock nowhere but in that deferred call, and every statement that waits for a role or stops a
    server comes after the assignment. Two goroutines in `realm.close` (Router.Close in the router
    goroutine, RemoveRealm outside it) are serialised by the lock and the second returns at the test:
    the shutdown system's single closer is the code's. `handleSession` tests the same flag under the
    same lock (`handle_session_order`). The generic statement — test-and-set under a mutex lets exactly
    one caller through, for any number of callers and every interleaving — is
    `single_closer_generic` below (over the mutex system of Nexus/L3/Mutex.lean). -/
theorem single_closer :
    ((fieldAssigns.filter fun a => Nat.beq a.field (key! "realm.closed")).map fun a => (a.fn, a.rhs, a.gctx)) =
      [(key! "router.realm.close", key! "true", GCtx.body)] ∧
    order_realm_close.take 6 =
      [key! "realm.closeLock.Lock()", key! "defer realm.closeLock.Unlock()", key! "if realm.closed {",
       key! "return", key! "}", key! "realm.closed = true"] ∧
    ((syncOps.filter fun s => Nat.beq s.fn (key! "router.realm.close") && decide (s.kind = .unlock)).length = 1) ∧
    (∀ s ∈ (order_realm_close.drop 1).take 5, ∀ is, lookup s stmtInstr = some is → is = [.skip]) ∧
    (key! "return") ∉ order_realm_close.drop 6 := by
  decide +kernel

/-- Any number of goroutines running `Lock; if flag { return }; flag = true; …; Unlock`: at most one
    gets past the test, and once the flag is set every later caller leaves at the test. -/
theorem single_closer_generic {s : WpL3.Mutex.St} (h : WpL3.Mutex.Reach s) :
    s.passed.length ≤ 1 ∧ (s.flag = true → ∀ i, s.pc i ≠ .willSet) :=
  ⟨WpL3.Mutex.single_pass h, WpL3.Mutex.later_callers_bail h⟩

end Nexus.C06
