/-
  C18 — Meta API and meta events mirror the realm's actual state.

  Property text.  "The session, registration and subscription meta procedures answer consistently
  with the realm's state as of all requests completed before the call: counts equal the lengths of
  the lists, every listed id can be fetched, lookup/match agree with how a call or publication to
  that URI would actually be routed, and unknown ids yield the documented errors.  Each change is
  announced by exactly one meta event of the right kind and order (session on_join/on_leave;
  on_create before on_subscribe/on_register; on_unsubscribe/on_unregister before on_delete), to
  that realm's subscribers of the meta topic (subscription meta events are not echoed to the
  session that caused them), and a refused or ineffective request announces nothing; kill
  procedures end exactly the targeted sessions with the given reason and never the caller;
  testaments are published or flushed exactly as requested."

  The theorems are about `Realm.metaProc` (router/realm.go `metaProcedureHandler` and the handlers
  in realm.go / dealer.go / broker.go it dispatches to) for EVERY realm state `r` (no invariant
  is needed: a meta procedure reads the very tables the router routes with), and about the exact
  outputs of the state-changing transitions (`stepOp`, `Realm.leave`, `Broker.syncSubscribe`,
  `Broker.syncUnsubscribe`, `syncRegister`, `syncUnregister`).  The answer `(m, r')` of a meta
  procedure is the message handed back through the meta session and the new realm state.

  clause                                                          theorem
  --------------------------------------------------------------  -------------------------------
  session.count = length of session.list (same filter; invalid     C18_session_count_list
  filter: both invalid_argument); no filter: all attached sessions
  every listed session id can be fetched with session.get          C18_session_get_listed
  unknown / malformed session id → wamp.error.no_such_session      C18_session_get_unknown
  registration.list lists exactly the ids of `ds.d.regs` by kind   C18_reg_list
  every listed registration can be fetched; count_callees =        C18_reg_get_listed
  length of list_callees
  unknown registration id → wamp.error.no_such_registration        C18_reg_unknown
  (get, list_callees, count_callees)
  registration.match p = the registration a CALL to p is routed    C18_reg_match_routes
  to (`Dealer.matchProcedure`, the first thing `syncCall` does);
  registration.lookup = the exact-table lookup (uri, match kind)
  subscription.list lists exactly the ids of `broker.subs`         C18_sub_list
  every listed subscription can be fetched (subscription.get)      C18_sub_get_listed
  count_subscribers = length of list_subscribers, for EVERY       C18_sub_count_list
  existing subscription (also a memberless pre-created history
  subscription: empty list, count 0)
  the details shown by session.get / carried by on_join never     C18_no_transport_auth
  contain a `transport.auth` dict
  unknown subscription id → wamp.error.no_such_subscription        C18_sub_unknown
  subscription.match t = the subscriptions a PUBLISH to t is        C18_sub_match_routes
  delivered through (`Broker.matching`, what `syncPublish`
  iterates); subscription.lookup = exact-table lookup
  join → exactly one on_join (cleaned details)                     C18_events_join
  leave (every mode but the realm shutdown, kill_all included)   C18_events_leave
  → registration meta events, then testaments, on_leave LAST;
  shutdown: silent by design
  SUBSCRIBE creating → on_create then on_subscribe; joining →      C18_events_subscribe
  on_subscribe only; already a member → none
  UNSUBSCRIBE → on_unsubscribe then on_delete iff emptied;         C18_events_unsubscribe
  not a member / unknown id → ERROR only, no meta event, no change
  a departing session's memberships are announced like an          C18_events_departure
  UNSUBSCRIBE: per subscription on_unsubscribe, then on_delete
  iff the subscription was deleted with it; nothing else
  subscription meta events never go to the causing session         C18_events_not_echoed
  REGISTER new → [on_create, on_register]; shared join →            C18_events_register
  [on_register]; refused → none, state unchanged; `wamp.*`
  (meta session) registrations announce nothing
  UNREGISTER → [on_unregister] then on_delete iff deleted;         C18_events_unregister
  refused → none
  kill procedures: exactly the selected sessions that are not      C18_kill
  already ending get the GOODBYE with the given reason/message;
  never the caller
  add_testament stores under the caller, in the requested scope     C18_testament_add, C18_testament_flush,
  (default destroyed) — nothing for a caller that is no longer      C18_testament_add_unattached, C18_attachedCaller
  attached; flush_testaments empties exactly the scope

  WHO receives a subscription meta event, exactly once, with what:   C18_meta_event_exact
  through each subscription `s` of the broker, session `k` gets
  exactly one EVENT (id of `s`, the publication id, topic detail
  iff `s` is a pattern subscription, the arguments) iff `s` matches
  the meta topic, `k` is a member and `k` did not cause the event;
  nothing through ids that name no subscription; every send has
  that form
  kill procedures end EXACTLY the targeted sessions: the full        C18_kill_exact, C18_kill_exact_session,
  result of `metaProc` with the selector given declaratively —       C18_kill_errors, C18_kill_targets
  leave tasks (GOODBYE reason/message, `all` for kill_all) for
  exactly the attached sessions matching the selector, not the
  caller, not already ending, in `clients` order; their keys
  appended to `ending`; the count answered; error cases unchanged
  testaments (and every other meta publication) are published        C18_testament_published, C18_testament_ppt,
  exactly as requested: valid topic, disclosure not refused →        C18_testament_dropped, C18_testament_reachable,
  one publication by the meta session, delivered as C01 says, an     C18_metaS_const
  `acknowledge` option changes nothing, `ppt_*` options are passed
  through (the meta session has the feature in every reachable
  realm); invalid topic or refused disclose_me → DROPPED, nobody     C18_testament_cases, C18_testament_ppt
  is told (recorded behaviour)
  meta topics are valid URIs (strict or not): on_join / on_leave /   C18_meta_topics_valid, C18_session_events_published
  registration events are never dropped for URI reasons
  first steps of the meta-call round trip: the `metaInvoke` task     C18_meta_invoke_task, C18_meta_answer_task,
  runs `metaProc` on the state at that moment and queues the         C18_meta_call_drain
  answer; the answer is the meta session's YIELD / ERROR (authz
  never applies to the meta session)
  a CALL of a meta procedure by an attached client is answered in    C18_call_roundtrip_stmt (statement),
  the same step with RESULT / ERROR rendered from `metaProc` on      C18_call_roundtrip_stmt_holds (every
  the state after the CALL was routed — in EVERY reachable realm:    reachable realm), C18_call_roundtrip_partial
  the meta registrations are intact (`Realm.Reachable.metaRegs`)     (state level), C18_meta_regs_intact,
                                                                     C18_meta_answer_delivered
  registration events on leave: per registration the session is a   C18_events_leave_regs,
  callee of, in callee-index order, on_unregister then on_delete     C18_events_leave_exact (state level),
                                                                     C18_events_leave_exact_reachable,
                                                                     C18_events_leave_regs_reachable
  iff it was the last callee; nothing for other registrations;
  all tasks of a departure = pending ++ these ++ testaments ++ [on_leave]

  A subscription without subscribers (a pre-created history subscription): before /repo a37425d the router
  answered `list_subscribers` with ERROR no_such_subscription while `count_subscribers` answered 0; since then it
  answers the empty list, and so does the model (`C18_sub_count_list` and the example below it).

  ASSUMPTION made explicit where needed: ids handed to a meta procedure are read with `AsID`, which
  accepts `1 … 2^53`; session ids (`sidOf k = 2^40 + k`) and router-assigned ids are in that range
  for every id a history can produce within the "fewer than 2^53 ids" assumption of DESIGN §3.
-/
import Nexus.L2.Proofs.RealmMetaEvents
import Nexus.L2.Proofs.MetaKill
import Nexus.L2.Proofs.RealmLeave
import Nexus.L2.Proofs.MetaCallRoundTrip
import Nexus.L2.Proofs.RealmMetaRegs
import Nexus.L2.Proofs.RealmCreate
import Nexus.L2.Proofs.UriBridge

namespace Nexus.C18
open Nexus.L2 Nexus.L2.Realm Nexus.Gen.N

theorem asID_int {n : Nat} (hpos : 0 < n) (hid : n ≤ maxID) : (WVal.int n).asID = some n := by
  unfold WVal.asID
  simp only
  rw [if_pos ⟨by exact_mod_cast hpos, by exact_mod_cast hid⟩]
  simp

/-- `session.count` and `session.list` with the same arguments: either both refuse the filter
    (invalid_argument) or they answer the length of, resp. the ids of, the same selection of
    attached sessions; without arguments the selection is all of `r.clients`.  Neither changes the
    state. -/
theorem C18_session_count_list (r : Realm) (req : Nat) (details : Dict) (args : List WVal) (kw : Dict) :
    (metaProc r MetaProcSessionCount req details args kw = (mErr req ErrInvalidArgument, r) ∧
     metaProc r MetaProcSessionList req details args kw = (mErr req ErrInvalidArgument, r)) ∨
    (∃ sel : List Session,
      metaProc r MetaProcSessionCount req details args kw = (mYield req [.int sel.length], r) ∧
      metaProc r MetaProcSessionList req details args kw = (mYield req [.list (sel.map (fun c => sidVal c.key))], r) ∧
      (∀ c ∈ sel, c ∈ r.clients) ∧ (args = [] → sel = r.clients)) := by
  rw [metaProc_at 0 rfl, metaProc_at 1 rfl, MetaView.sessionCount, MetaView.sessionList]
  cases hf : sessFilter args with
  | none => exact Or.inl ⟨rfl, rfl⟩
  | some f =>
    simp only [view_sel, List.length_map, List.map_map]
    refine Or.inr ⟨sessSel r f, rfl, rfl, fun c hc => (List.mem_filter.mp hc).1, ?_⟩
    intro ha
    subst ha
    have : f = [] := by simpa [sessFilter] using hf.symm
    subst this
    simp [sessSel]

/-- Every session the list shows can be fetched: `session.get` of the id of an attached session
    answers with (cleaned) details of a session with that id, never with an error. -/
theorem C18_session_get_listed (r : Realm) (req : Nat) (details : Dict) (kw : Dict) (c : Session)
    (hc : c ∈ r.clients) (hid : sidOf c.key ≤ maxID) :
    ∃ s ∈ r.clients, sidOf s.key = sidOf c.key ∧
      metaProc r MetaProcSessionGet req details [sidVal c.key] kw = (mYield req [.dict (r.cleanDetails s.details)], r) := by
  rw [metaProc_at 2 rfl, MetaView.sessionGet]
  have hpos : 0 < sidOf c.key := by unfold sidOf sidBase; split <;> omega
  simp only [sidVal, asID_int hpos hid, view_find]
  cases hk : r.keyOfSid (sidOf c.key) with
  | none => exact absurd rfl (find?_key_eq_none.mp hk c hc)
  | some s => exact ⟨s, (find?_key_some hk).1, (find?_key_some hk).2, rfl⟩

example : sidOf 5 ≤ maxID := by decide

/-- Unknown or malformed session ids give wamp.error.no_such_session. -/
theorem C18_session_get_unknown (r : Realm) (req : Nat) (details : Dict) (kw : Dict) :
    metaProc r MetaProcSessionGet req details [] kw = (mErr req ErrNoSuchSession, r) ∧
    (∀ a rest, a.asID = none → metaProc r MetaProcSessionGet req details (a :: rest) kw = (mErr req ErrNoSuchSession, r)) ∧
    (∀ a rest sid, a.asID = some sid → (∀ c ∈ r.clients, sidOf c.key ≠ sid) →
      metaProc r MetaProcSessionGet req details (a :: rest) kw = (mErr req ErrNoSuchSession, r)) := by
  refine ⟨metaProc_at 2 rfl .., ?_, ?_⟩
  · intro a rest h
    rw [metaProc_at 2 rfl, MetaView.sessionGet]; simp only [h]; rfl
  · intro a rest sid h hno
    rw [metaProc_at 2 rfl, MetaView.sessionGet]
    have : r.keyOfSid sid = none := find?_key_eq_none.mpr hno
    simp only [h, view_find, this]
    rfl

/-- `cleanSessionDetails`: whatever the session details are (strict mode or not), the dict answered
    by `wamp.session.get` and carried by `wamp.session.on_join` (`r.cleanDetails details`) never has a
    `transport` dict containing an `auth` dict. -/
theorem C18_no_transport_auth (r : Realm) (details : Dict) (t a : Dict)
    (h : Dict.get? (r.cleanDetails details) "transport" = some (.dict t)) : Dict.get? t "auth" ≠ some (.dict a) :=
  cleanDetails_no_transport_auth r details t a h

-- non-vacuity: details with transport.auth; the shown transport keeps the other keys
example : Dict.get? (({} : Realm).cleanDetails [("transport", .dict [("type", .str "ws"), ("auth", .dict [("pw", .str "x")])])])
    "transport" = some (.dict [("type", .str "ws")]) := rfl

/-- `registration.list` answers exactly the ids of the registration table, split by match kind. -/
theorem C18_reg_list (r : Realm) (req : Nat) (details : Dict) (args : List WVal) (kw : Dict) :
    metaProc r MetaProcRegList req details args kw =
      (mYield req [.dict [(MatchExact, .list (((r.ds.d.regs.filter (fun g => g.kind == .exact)).map (fun g => .int g.id)))),
                          (MatchPrefix, .list (((r.ds.d.regs.filter (fun g => g.kind == .pfx)).map (fun g => .int g.id)))),
                          (MatchWildcard, .list (((r.ds.d.regs.filter (fun g => g.kind == .wild)).map (fun g => .int g.id))))]], r) := by
  rw [metaProc_at 8 rfl]
  show (mYield req [idLists (r.ds.d.regs.map _)], r) = _
  simp [idLists, List.filter_map, List.map_map, Function.comp_def]

/-- Every listed registration can be fetched, and its callee count equals the length of its callee
    list: for the id of any registration of the table, `get`, `list_callees`, `count_callees`
    answer about one and the same registration `g'` with that id (the registration itself when
    ids are distinct, which `DealerInv` guarantees). -/
theorem C18_reg_get_listed (r : Realm) (req : Nat) (details : Dict) (kw : Dict) (g : Reg) (hg : g ∈ r.ds.d.regs)
    (hpos : 0 < g.id) (hid : g.id ≤ maxID) :
    ∃ g' ∈ r.ds.d.regs, g'.id = g.id ∧
      metaProc r MetaProcRegGet req details [.int g.id] kw =
        (mYield req [regDetailsDict g'.id g'.proc g'.«match» g'.policy], r) ∧
      metaProc r MetaProcRegListCallees req details [.int g.id] kw = (mYield req [.list (g'.callees.map sidVal)], r) ∧
      metaProc r MetaProcRegCountCallees req details [.int g.id] kw =
        (mYield req [.int (g'.callees.map sidVal).length], r) := by
  have harg : regArg r [.int g.id] = r.ds.d.findReg g.id := by simp [regArg, asID_int hpos hid]
  cases hf : r.ds.d.findReg g.id with
  | none => exact absurd rfl (find?_key_eq_none.mp hf g hg)
  | some g' =>
    obtain ⟨hm, he⟩ := find?_key_some hf
    refine ⟨g', hm, he, ?_, ?_, ?_⟩
    · rw [metaProc_at 11 rfl, ← aboutReg_run, harg, hf]
    · rw [metaProc_at 12 rfl, ← aboutReg_run, harg, hf]
    · rw [metaProc_at 13 rfl, ← aboutReg_run, harg, hf, List.length_map]

/-- Unknown or malformed registration ids give wamp.error.no_such_registration. -/
theorem C18_reg_unknown (r : Realm) (req : Nat) (details : Dict) (args : List WVal) (kw : Dict)
    (h : regArg r args = none) :
    metaProc r MetaProcRegGet req details args kw = (mErr req ErrNoSuchRegistration, r) ∧
    metaProc r MetaProcRegListCallees req details args kw = (mErr req ErrNoSuchRegistration, r) ∧
    metaProc r MetaProcRegCountCallees req details args kw = (mErr req ErrNoSuchRegistration, r) := by
  rw [metaProc_at 11 rfl, metaProc_at 12 rfl, metaProc_at 13 rfl]
  simp only [← aboutReg_run, h, and_self]

-- `regArg` is none for: no argument, a non-id argument, an id that is not in the table
example (r : Realm) : regArg r [] = none ∧ regArg r [.str "x"] = none ∧ regArg r [.int 0] = none := ⟨rfl, rfl, rfl⟩
example (r : Realm) (id : Nat) (h : ∀ g ∈ r.ds.d.regs, g.id ≠ id) (a : WVal) (ha : a.asID = some id) :
    regArg r [a] = none := by
  simp only [regArg, ha]
  exact find?_key_eq_none.mpr h

/-- `registration.match [p]` answers the id of exactly the registration `Dealer.matchProcedure p`
    selects — the function `syncCall` routes a CALL with (exact, then longest prefix, then longest
    wildcard) — or 0 when a CALL to `p` would get no_such_procedure; `registration.lookup [p, {match}]`
    answers the id of the registration stored under exactly (p, kind of match), or 0. -/
theorem C18_reg_match_routes (r : Realm) (req : Nat) (details : Dict) (kw : Dict) (p : String) (rest : List WVal) :
    metaProc r MetaProcRegMatch req details (.str p :: rest) kw =
      (mYield req [.int (match r.ds.d.matchProcedure p with | some g => g.id | none => 0)], r) ∧
    metaProc r MetaProcRegLookup req details (.str p :: rest) kw =
      (mYield req [.int (match r.ds.d.findProc p (matchKind (lookupMatchOpt (.str p :: rest))) with
                         | some g => g.id | none => 0)], r) ∧
    (∀ env caller creq opts args ckw rnd, r.ds.d.matchProcedure p = none → (r.ds.d.byCall? ⟨caller, creq⟩) = none →
      syncCall env r.ds caller creq opts p args ckw rnd =
        { st := r.ds, sends := [⟨caller, errMsg tCALL creq ErrNoSuchProcedure⟩] }) := by
  refine ⟨metaProc_at 10 rfl .., metaProc_at 9 rfl .., ?_⟩
  intro env caller creq opts args ckw rnd hm hb
  unfold syncCall
  simp only [hm, hb]

theorem C18_sub_list (r : Realm) (req : Nat) (details : Dict) (args : List WVal) (kw : Dict) :
    metaProc r MetaProcSubList req details args kw =
      (mYield req [.dict [(MatchExact, .list (((r.broker.subs.filter (fun s => s.kind == .exact)).map (fun s => .int s.id)))),
                          (MatchPrefix, .list (((r.broker.subs.filter (fun s => s.kind == .pfx)).map (fun s => .int s.id)))),
                          (MatchWildcard, .list (((r.broker.subs.filter (fun s => s.kind == .wild)).map (fun s => .int s.id))))]], r) := by
  rw [metaProc_at 14 rfl]
  show (mYield req [idLists (r.broker.subs.map _)], r) = _
  simp [idLists, List.filter_map, List.map_map, Function.comp_def]

/-- Every listed subscription can be fetched with `subscription.get`. -/
theorem C18_sub_get_listed (r : Realm) (req : Nat) (details : Dict) (kw : Dict) (s : Sub) (hs : s ∈ r.broker.subs)
    (hpos : 0 < s.id) (hid : s.id ≤ maxID) :
    ∃ s' ∈ r.broker.subs, s'.id = s.id ∧ subArg r [.int s.id] = some s' ∧
      metaProc r MetaProcSubGet req details [.int s.id] kw = (mYield req [subDetailsDict s'], r) := by
  have harg : subArg r [.int s.id] = r.broker.findId s.id := by simp [subArg, asID_int hpos hid]
  cases hf : r.broker.findId s.id with
  | none => exact absurd rfl (find?_key_eq_none.mp hf s hs)
  | some s' =>
    obtain ⟨hm, he⟩ := find?_key_some hf
    exact ⟨s', hm, he, by rw [harg, hf],
      by rw [metaProc_at 17 rfl, ← aboutSub_run, harg, hf]⟩

/-- For EVERY existing subscription (with or without subscribers), `count_subscribers` equals the
    length of `list_subscribers`, and the list is the subscription's members. -/
theorem C18_sub_count_list (r : Realm) (req : Nat) (details : Dict) (args : List WVal) (kw : Dict) (s : Sub)
    (hs : subArg r args = some s) :
    metaProc r MetaProcSubListSubscribers req details args kw = (mYield req [.list (s.members.map sidVal)], r) ∧
    metaProc r MetaProcSubCountSubscribers req details args kw = (mYield req [.int (s.members.map sidVal).length], r) := by
  rw [metaProc_at 18 rfl, metaProc_at 19 rfl]
  simp only [← aboutSub_run, hs, List.length_map, and_self]

-- a pre-created history subscription nobody subscribed to (the case /repo a37425d repaired)
example : let r0 : Realm := { broker := { subs := [{ id := 1, topic := "t", «match» := "", members := [] }], nextSub := 1,
                                            hist := [{ sub := 1, limit := 10, entries := [] }] } }
    metaProc r0 MetaProcSubCountSubscribers 7 [] [.int 1] [] = (mYield 7 [.int 0], r0) ∧
    metaProc r0 MetaProcSubListSubscribers 7 [] [.int 1] [] = (mYield 7 [.list []], r0) := by
  intro r0
  have harg : subArg r0 [.int 1] = some { id := 1, topic := "t", «match» := "", members := [] } := rfl
  rw [metaProc_at 19 rfl, metaProc_at 18 rfl]
  simp only [← aboutSub_run, harg]
  exact ⟨rfl, rfl⟩

/-- Unknown or malformed subscription ids give wamp.error.no_such_subscription. -/
theorem C18_sub_unknown (r : Realm) (req : Nat) (details : Dict) (args : List WVal) (kw : Dict)
    (h : subArg r args = none) :
    metaProc r MetaProcSubGet req details args kw = (mErr req ErrNoSuchSubscription, r) ∧
    metaProc r MetaProcSubListSubscribers req details args kw = (mErr req ErrNoSuchSubscription, r) ∧
    metaProc r MetaProcSubCountSubscribers req details args kw = (mErr req ErrNoSuchSubscription, r) := by
  rw [metaProc_at 17 rfl, metaProc_at 18 rfl, metaProc_at 19 rfl]
  simp only [← aboutSub_run, h, and_self]

/-- `subscription.match [t]` answers the ids of exactly the subscriptions `Broker.matching t`
    yields, in that order — the list `syncPublish` iterates to deliver a PUBLISH to `t` (exact,
    then prefix, then wildcard matches); `subscription.lookup [t, {match}]` answers the id stored
    under exactly (t, kind of match), or 0. -/
theorem C18_sub_match_routes (r : Realm) (req : Nat) (details : Dict) (kw : Dict) (t : String) (rest : List WVal) :
    metaProc r MetaProcSubMatch req details (.str t :: rest) kw =
      (mYield req [.list ((r.broker.matching t).map (fun p => .int p.1.id))], r) ∧
    metaProc r MetaProcSubLookup req details (.str t :: rest) kw =
      (mYield req [.int (match r.broker.findTopic t (matchKind (lookupMatchOpt (.str t :: rest))) with
                         | some s => s.id | none => 0)], r) ∧
    (∀ sess now (p : Publication), p.topic = t →
      (r.broker.syncPublish sess now p).2 =
        (r.broker.matching t).flatMap (fun x => eventsFor sess p (mkFilter p.opts) x.1 x.2)) := by
  refine ⟨metaProc_at 16 rfl .., metaProc_at 15 rfl .., ?_⟩
  intro sess now p hp
  rw [syncPublish_sends, hp]

/-- A join (under a session id as the router draws it: not the meta session's, not one in use) is
    announced by exactly one `wamp.session.on_join` publication task carrying the cleaned session
    details; nothing else is queued.  A `join` under the meta session's key or the key of an attached
    client cannot occur; in the model it changes nothing (and announces nothing). -/
theorem C18_events_join (r : Realm) (k : SessKey) (isLocal : Bool) (details : Dict) (roles : Roles) (cap : Nat) :
    ((k ≠ metaKey ∧ ∀ c ∈ r.clients, c.key ≠ k) →
      (r.stepOp (.join k isLocal details roles cap)).tasks =
        r.tasks ++ [.metaPub { topic := MetaEventSessionOnJoin, args := [.dict (r.cleanDetails details)] }]) ∧
    (¬ (k ≠ metaKey ∧ ∀ c ∈ r.clients, c.key ≠ k) → r.stepOp (.join k isLocal details roles cap) = r) := by
  constructor
  · rintro ⟨h1, h2⟩
    rw [stepOp_join_fresh _ _ _ _ h1 h2]; rfl
  · intro h
    apply stepOp_join_noop
    apply Classical.byContradiction
    intro hg
    exact h (join_guard_false hg)

/-- A departure in any non-shutdown mode (lost, killed by kill / kill_by_* / kill_all, aborted,
    violation) appends, after whatever
    the table removal queued (the `on_unregister` / `on_delete` publications of the dealer, in
    registration order), the testaments and LAST exactly one `wamp.session.on_leave`
    [session id, authid, authrole] — also for sessions ended by kill_all (F30 fixed); only the realm
    shutdown announces nothing.  (The broker's announcements of the departure — `on_unsubscribe`, then
    `on_delete`, per subscription of the session — are EVENTs sent during the table removal, not tasks:
    `C18_events_departure`.) -/
theorem C18_events_leave (r : Realm) (k : SessKey) (s : Session) (mode : LeaveMode)
    (hf : r.clients.find? (fun c => c.key == k) = some s) :
    (mode.isShutdown = false →
      (r.leave k mode).tasks =
        leaveBaseTasks r k mode ++ (testamentTasks (bucketOf r k) ++
          [.metaPub { topic := MetaEventSessionOnLeave,
                      args := [sidVal s.key, detailOr s.details "authid", detailOr s.details "authrole"] }])) ∧
    (mode.isShutdown = true → (r.leave k mode).tasks = leaveBaseTasks r k mode) := by
  refine ⟨fun h => ?_, fun h => ?_⟩
  · rw [leave_tasks mode hf, h]; rfl
  · rw [leave_tasks mode hf, h]; simp

/-- SUBSCRIBE.  Creating a subscription: SUBSCRIBED, then the `on_create` EVENTs, then the
    `on_subscribe` EVENTs (so each observer gets on_create before on_subscribe), two publication
    ids.  Joining an existing subscription: SUBSCRIBED then `on_subscribe` only.  Already a member:
    SUBSCRIBED again, NO meta event, broker unchanged. -/
theorem C18_events_subscribe (b : Broker) (k : SessKey) (req : Nat) (topic m : String) (p : Nat) :
    (b.findTopic topic (matchKind m) = none →
      (b.syncSubscribe k req topic m p).2.1 =
        [⟨k, .subscribed req (b.nextSub + 1)⟩] ++
          (afterCreate b k topic m).metaEvent MetaEventSubOnCreate (pubBase + p) k [sidVal k, subDetailsDict (newSub b k topic m)] ++
          (afterCreate b k topic m).metaEvent MetaEventSubOnSubscribe (pubBase + p + 1) k [sidVal k, .int (b.nextSub + 1)] ∧
      (b.syncSubscribe k req topic m p).2.2 = 2) ∧
    (∀ sub, b.findTopic topic (matchKind m) = some sub → k ∉ sub.members →
      (b.syncSubscribe k req topic m p).2.1 =
        [⟨k, .subscribed req sub.id⟩] ++
          (afterJoin b k sub).metaEvent MetaEventSubOnSubscribe (pubBase + p) k [sidVal k, .int sub.id] ∧
      (b.syncSubscribe k req topic m p).2.2 = 1) ∧
    (∀ sub, b.findTopic topic (matchKind m) = some sub → k ∈ sub.members →
      b.syncSubscribe k req topic m p = (b, [⟨k, .subscribed req sub.id⟩], 0)) := by
  refine ⟨fun h => ?_, fun sub h hk => ?_, fun sub h hk => syncSubscribe_again h hk⟩
  · rw [syncSubscribe_create h]; exact ⟨rfl, rfl⟩
  · rw [syncSubscribe_join_sends h hk]; exact ⟨rfl, rfl⟩

/-- UNSUBSCRIBE by a member: UNSUBSCRIBED, `on_unsubscribe`, then `on_delete` iff the subscription
    was emptied (and has no history store).  By a non-member or for an unknown id: one ERROR
    no_such_subscription, no meta event, broker unchanged. -/
theorem C18_events_unsubscribe (b : Broker) (k : SessKey) (req subId p : Nat) :
    (∀ sub, b.findId subId = some sub → k ∈ sub.members →
      (b.syncUnsubscribe k req subId p).2.1 =
        [⟨k, .unsubscribed req⟩] ++
          (b.syncUnsubscribe k req subId p).1.metaEvent MetaEventSubOnUnsubscribe (pubBase + p) k [sidVal k, .int subId] ++
          (if (sub.members.filter (· != k)).isEmpty && !b.hasHist sub.id
           then (b.syncUnsubscribe k req subId p).1.metaEvent MetaEventSubOnDelete (pubBase + p + 1) k [sidVal k, .int subId]
           else [])) ∧
    ((∀ sub, b.findId subId = some sub → k ∉ sub.members) →
      b.syncUnsubscribe k req subId p = (b, [⟨k, errMsg tUNSUBSCRIBE req ErrNoSuchSubscription⟩], 0)) :=
  ⟨fun _ hf hk => (syncUnsubscribe_sends hf hk).1, fun h => syncUnsubscribe_err_state b k req subId p h⟩

/-- DEPARTURE of a session from its subscriptions (`Broker.syncRemoveSession`, run when the session's handler
    exits in any non-shutdown mode): announced like an UNSUBSCRIBE — `on_unsubscribe` BEFORE `on_delete`.
    * One subscription (`Broker.removeMember`, one iteration of the loop): the broker is `afterDepart b k sub`
      (subscription deleted iff `k` was its last member and it has no history store, otherwise `k` struck
      from its members); the sends are exactly the `on_unsubscribe` EVENTs (publication id `pubBase + p`)
      followed — iff the subscription was deleted — by the `on_delete` EVENTs (`pubBase + p + 1`), nothing
      else; 2 resp. 1 publication ids are drawn.  An id naming no subscription: nothing at all.
    * A session with no index entry (subscribed to nothing): broker unchanged, nothing announced.
    * Otherwise (under `BrokerInv`) the ids the loop runs over are exactly the subscriptions `k` is a member
      of, each once, and the sends of the whole departure are, subscription by subscription in index
      order, that block (`Departure`: computed in the broker state reached so far, with consecutive
      publication ids) — and nothing else. -/
theorem C18_events_departure (b : Broker) (k : SessKey) (p : Nat) :
    (∀ subId sub, b.findId subId = some sub →
      b.removeMember k subId p =
        (afterDepart b k sub,
         (afterDepart b k sub).metaEvent MetaEventSubOnUnsubscribe (pubBase + p) k [sidVal k, .int subId] ++
           (if (sub.members.filter (· != k)).isEmpty && !b.hasHist sub.id
            then (afterDepart b k sub).metaEvent MetaEventSubOnDelete (pubBase + p + 1) k [sidVal k, .int subId]
            else []),
         if (sub.members.filter (· != k)).isEmpty && !b.hasHist sub.id then 2 else 1)) ∧
    (∀ subId, b.findId subId = none → b.removeMember k subId p = (b, [], 0)) ∧
    (idxGet b.index k = none → b.syncRemoveSession k p = (b, [], 0)) ∧
    (BrokerInv b → ∀ ids, idxGet b.index k = some ids →
      ids.Nodup ∧ (∀ id, id ∈ ids ↔ b.isMember k id) ∧
      Departure k { b with index := idxDrop b.index k } p ids
        (b.syncRemoveSession k p).1 (b.syncRemoveSession k p).2.1 (b.syncRemoveSession k p).2.2) := by
  refine ⟨fun subId sub hf => ?_, fun _ hf => removeMember_unknown hf, syncRemoveSession_none p,
    fun hb ids hg => syncRemoveSession_departure hb p hg⟩
  have hid : sub.id = subId := (findId_some hf).2
  rw [removeMember_sends hf, ← hid]
  rfl

-- the block one subscription contributes, spelled out (`Departure.member`)
example (b : Broker) (k : SessKey) (sub : Sub) (p : Nat) :
    departEvents b k sub p =
      (afterDepart b k sub).metaEvent MetaEventSubOnUnsubscribe (pubBase + p) k [sidVal k, .int sub.id] ++
        (if departDeletes b k sub
         then (afterDepart b k sub).metaEvent MetaEventSubOnDelete (pubBase + p + 1) k [sidVal k, .int sub.id] else []) ∧
    departCount b k sub = (if departDeletes b k sub then 2 else 1) ∧
    departDeletes b k sub = ((sub.members.filter (· != k)).isEmpty && !b.hasHist sub.id) := ⟨rfl, rfl, rfl⟩

-- non-vacuity: session 1 is the only member of subscription 1 ("t") and one of two members of subscription 2
-- ("u"); session 3 observes both meta topics.  Its departure deletes 1 (on_unsubscribe, on_delete) and
-- shrinks 2 (on_unsubscribe only): three EVENTs for the observer, in that order, publication ids p, p+1, p+2.
example : let b0 : Broker :=
      { subs := [{ id := 1, topic := "t", «match» := "", members := [1] },
                 { id := 2, topic := "u", «match» := "", members := [1, 2] },
                 { id := 3, topic := MetaEventSubOnUnsubscribe, «match» := "", members := [3] },
                 { id := 4, topic := MetaEventSubOnDelete, «match» := "", members := [3] }],
        nextSub := 4, index := [(1, [1, 2]), (2, [2]), (3, [3, 4])] }
    ((b0.syncRemoveSession 1 0).2.1.map (fun x => (x.to, match x.msg with | .event sub pub _ _ _ => (sub, pub - pubBase) | _ => (0, 0)))) =
      [(3, 3, 0), (3, 4, 1), (3, 3, 2)] ∧
    (b0.syncRemoveSession 1 0).2.2 = 3 ∧
    (b0.syncRemoveSession 1 0).1.subs.map (fun s => (s.id, s.members)) = [(2, [2]), (3, [3]), (4, [3])] := by
  decide +kernel

/-- Subscription meta events are sent to members of subscriptions matching the meta topic and
    never to the session that caused them. -/
theorem C18_events_not_echoed (b : Broker) (metaTopic : String) (pubId : Nat) (cause : SessKey) (args : List WVal)
    (x : Send) (hx : x ∈ b.metaEvent metaTopic pubId cause args) :
    x.to ≠ cause ∧ ∃ s ∈ b.subs, s.matchesTopic metaTopic = true ∧ x.to ∈ s.members := by
  obtain ⟨s, hs, hm, hmem, hne, _⟩ := WpA.metaEvent_mem_shape b metaTopic pubId cause args x hx
  exact ⟨hne, s, hs, hm, hmem⟩

/-- REGISTER.  New registration: REGISTERED and the publications [on_create, on_register] in that
    order.  Joining a shared registration: [on_register].  Refused (existing registration with the
    single policy, a different policy, or the same callee again): ERROR procedure_already_exists,
    NO publication, dealer state unchanged.  Registrations of `wamp.*` procedures (only the meta
    session may make them) announce nothing. -/
theorem C18_events_register (s : DState) (callee : SessKey) (req : Nat) (proc m invoke : String) (disclose fwd : Bool) :
    (s.d.findProc proc (matchKind m) = none →
      (syncRegister s callee req proc m invoke disclose fwd false).metaPubs =
        [ { topic := MetaEventRegOnCreate, args := [sidVal callee, regDetailsDict (s.d.nextReg + 1) proc m invoke] },
          { topic := MetaEventRegOnRegister, args := [sidVal callee, .int (s.d.nextReg + 1)] } ] ∧
      (syncRegister s callee req proc m invoke disclose fwd true).metaPubs = []) ∧
    (∀ reg, s.d.findProc proc (matchKind m) = some reg →
      reg.policy ≠ "" → reg.policy ≠ InvokeSingle → reg.policy = invoke → callee ∉ reg.callees →
      (syncRegister s callee req proc m invoke disclose fwd false).metaPubs =
        [ { topic := MetaEventRegOnRegister, args := [sidVal callee, .int reg.id] } ]) ∧
    (∀ reg wampURI, s.d.findProc proc (matchKind m) = some reg →
      (reg.policy = "" ∨ reg.policy = InvokeSingle ∨ reg.policy ≠ invoke ∨ callee ∈ reg.callees) →
      syncRegister s callee req proc m invoke disclose fwd wampURI =
        { st := s, sends := [⟨callee, errMsg tREGISTER req ErrProcedureAlreadyExists⟩] }) := by
  refine ⟨fun h => ⟨?_, ?_⟩, fun reg h h1 h2 h3 h4 => ?_, fun reg w h hr => syncRegister_refused h hr⟩
  · rw [(syncRegister_create h).2]; rfl
  · rw [(syncRegister_create h).2]; rfl
  · rw [(syncRegister_shared h h1 h2 h3 h4).2]; rfl

/-- UNREGISTER: refused → ERROR no_such_registration and no publication; otherwise UNREGISTERED and
    [on_unregister] followed by [on_delete] exactly when the registration is gone afterwards. -/
theorem C18_events_unregister (s : DState) (callee : SessKey) (req regId : Nat) :
    ((syncUnregister s callee req regId).sends = [⟨callee, errMsg tUNREGISTER req ErrNoSuchRegistration⟩] ∧
     (syncUnregister s callee req regId).metaPubs = []) ∨
    ((syncUnregister s callee req regId).sends = [⟨callee, .unregistered req⟩] ∧
     ∃ deleted : Bool,
      (syncUnregister s callee req regId).metaPubs =
        [ { topic := MetaEventRegOnUnregister, args := [sidVal callee, .int regId] } ] ++
        (if deleted then [ { topic := MetaEventRegOnDelete, args := [sidVal callee, .int regId] } ] else []) ∧
      (deleted = true ↔ (syncUnregister s callee req regId).st.d.findReg regId = none ∨
        ∀ g ∈ (syncUnregister s callee req regId).st.d.regs, g.id ≠ regId)) := by
  unfold syncUnregister
  dsimp only
  split
  · left; exact ⟨rfl, rfl⟩
  · rename_i d' deleted hdel
    right
    refine ⟨rfl, deleted, rfl, ?_⟩
    dsimp only
    obtain ⟨reg, hreg, _, rfl, rfl⟩ := delCalleeReg_of_some hdel
    have hid : reg.id = regId := (find?_key_some (f := fun r : Reg => r.id) hreg).2
    by_cases hl : reg.callees = [callee]
    · rw [if_pos hl, decide_eq_true hl]
      exact ⟨fun _ => .inr fun g hg => by simpa using (List.mem_filter.mp hg).2, fun _ => rfl⟩
    · rw [if_neg hl, decide_eq_false hl]
      -- the registration stays, with `callee` struck: it is still found under `regId`
      have hin := mem_setReg.2 (.inr ⟨rfl, reg, List.mem_of_find?_eq_some hreg, rfl⟩ :
        _ ∨ ({ reg with callees := eraseFirst callee reg.callees } : Reg) = _ ∧ _)
      refine ⟨nofun, ?_⟩
      rintro (h | h)
      · exact (findReg_eq_none.1 h _ hin hid).elim
      · exact (h _ hin hid).elim

/-- Every kill procedure ends exactly the sessions it selects that are not already ending: each
    gets one `leave` task carrying GOODBYE(reason or wamp.close.normal, {message}) — with the `all`
    mark for kill_all — and is marked ending; a session whose id is the caller's is NEVER among
    them; the answer counts them (kill answers nothing).  An invalid `reason` URI → ERROR
    invalid_uri and nobody is ended. -/
theorem C18_kill (r : Realm) (req : Nat) (details : Dict) (args : List WVal) (kw : Dict) (proc : String)
    (hp : proc = MetaProcSessionKill ∨ proc = MetaProcSessionKillByAuthid ∨ proc = MetaProcSessionKillByAuthrole ∨
          proc = MetaProcSessionKillAll) :
    (metaProc r proc req details args kw).2 = r ∨
    ∃ victims : List Session,
      (metaProc r proc req details args kw).2 =
        { r with tasks := r.tasks ++ victims.map (fun c => Task.leave c.key
                    (.killed (makeGoodbye (kwStr kw "reason") (kwStr kw "message") (proc == MetaProcSessionKillAll))
                             (proc == MetaProcSessionKillAll))),
                 ending := r.ending ++ victims.map (·.key) } ∧
      (∀ c ∈ victims, c ∈ r.clients ∧ some (sidOf c.key) ≠ callerOf details ∧ c.key ∉ r.ending) ∧
      badReasonOf kw = false := by
  rw [metaProc_eq]
  have hl := metaOut_legal (view r) proc details args kw
  generalize metaOut (view r) proc details args kw = o at hl ⊢
  cases o with
  | err uri => exact Or.inl rfl
  | ok a kw' eff =>
    cases eff with
    | none => exact Or.inl rfl
    | kill sel g ka =>
      obtain ⟨_, rfl, rfl, hbad, hsel, _⟩ := hl
      exact Or.inr ((Realm.kill_victims r sel _ _ _ fun c h => hsel _ _ h).imp fun _ h => ⟨h.1, h.2, hbad⟩)
    -- the other two effects are not the kill procedures'
    | modify k d => rcases hp with rfl | rfl | rfl | rfl <;> exact absurd hl.2.2 (by decide)
    | testaments t => rcases hp with rfl | rfl | rfl | rfl <;> exact absurd hl.2.2.1 (by decide)

-- the GOODBYE carries the given reason and message; kill_all adds the `all` mark
example : makeGoodbye "com.example.bye" "go away" false = .goodbye [("message", .str "go away")] "com.example.bye" ∧
    makeGoodbye "" "" false = .goodbye [] CloseNormal ∧
    makeGoodbye "" "x" true = .goodbye [("message", .str "x"), ("all", .null)] CloseNormal := ⟨rfl, rfl, rfl⟩

/-- `add_testament [topic, args, kwargs]` by caller `c`: an unknown scope is refused with invalid_argument;
    for a caller that is not (any longer) an attached client NOTHING is stored — same empty YIELD, state
    unchanged (`attachedCaller r c`: `c` is the session id of a session in `clients`); otherwise the
    testament is stored under the caller's session key, appended to the requested scope (`destroyed`
    when no scope is given), the other scope and all other sessions' buckets untouched. -/
theorem C18_testament_add (r : Realm) (req c : Nat) (details : Dict) (kw : Dict) (topic : String)
    (targs : List WVal) (tkw : Dict) (rest : List WVal) (hc : callerOf details = some c) :
    metaProc r MetaProcSessionAddTestament req details (.str topic :: .list targs :: .dict tkw :: rest) kw =
      if scopeOf kw != "destroyed" && scopeOf kw != "detached" then (mErr req ErrInvalidArgument, r)
      else if !attachedCaller r c then (mYield req [], r)
      else
        (mYield req [],
         { r with testaments := (r.testaments.filter (fun x => x.1 != c - sidBase)) ++
            [(c - sidBase,
              addToBucket (((r.testaments.find? (fun x => x.1 == c - sidBase)).map (·.2)).getD {}) (scopeOf kw)
                { topic := topic, args := targs, kw := tkw,
                  opts := (match kw.get? "publish_options" with
                    | some v => (v.asDict).getD []
                    | none => []) })] }) := by
  rw [metaProc_at 21 rfl]
  unfold MetaView.addTestament
  rw [hc]
  simp only [WVal.asString, WVal.asList, WVal.asDict, view_attached, apply_ite (MetaOut.run r req)]
  rfl

/-- which callers are attached: the caller id is a session id (`sidBase + key`) of a session in `clients` -/
theorem C18_attachedCaller (r : Realm) (c : Nat) :
    attachedCaller r c = true ↔ sidBase ≤ c ∧ ∃ s ∈ r.clients, s.key = c - sidBase := by
  unfold attachedCaller
  simp

/-- `add_testament` by a caller that is not an attached client (F20: the session has left while its
    invocation was pending): the answer is the empty YIELD as for a stored testament and the realm
    state is UNCHANGED — in particular no bucket appears under the id of a session that does not exist. -/
theorem C18_testament_add_unattached (r : Realm) (req c : Nat) (details : Dict) (kw : Dict) (topic : String)
    (targs : List WVal) (tkw : Dict) (rest : List WVal) (hc : callerOf details = some c)
    (hs : scopeOf kw = "destroyed" ∨ scopeOf kw = "detached")
    (hna : c < sidBase ∨ ∀ s ∈ r.clients, s.key ≠ c - sidBase) :
    metaProc r MetaProcSessionAddTestament req details (.str topic :: .list targs :: .dict tkw :: rest) kw =
      (mYield req [], r) :=
  metaProc_addTestament_unattached r req c details kw topic targs tkw rest hc hs hna

-- non-vacuity: an attached caller's testament is stored; the same request from a session that has left is not
example : let r0 : Realm := { clients := [{ key := 5, details := [], roles := [], isLocal := true }] }
    (metaProc r0 MetaProcSessionAddTestament 7 [("caller", .int (sidBase + 5))] [.str "t", .list [], .dict []] []).2.testaments.map (·.1) = [5] ∧
    (metaProc r0 MetaProcSessionAddTestament 7 [("caller", .int (sidBase + 6))] [.str "t", .list [], .dict []] []).2.testaments = [] := by
  decide +kernel

example : scopeOf [] = "destroyed" ∧ scopeOf [("scope", .str "detached")] = "detached" := by decide
example (b : TBucket) (t : Testament) :
    (addToBucket b "destroyed" t).destroyed = b.destroyed ++ [t] ∧ (addToBucket b "destroyed" t).detached = b.detached ∧
    (addToBucket b "detached" t).detached = b.detached ++ [t] ∧ (addToBucket b "detached" t).destroyed = b.destroyed :=
  ⟨rfl, rfl, rfl, rfl⟩

/-- `flush_testaments` by caller `c`: empties exactly the requested scope of the caller's bucket
    (dropping the bucket when both scopes are empty), nothing else. -/
theorem C18_testament_flush (r : Realm) (req c : Nat) (details : Dict) (args : List WVal) (kw : Dict)
    (hc : callerOf details = some c) (hs : scopeOf kw = "destroyed" ∨ scopeOf kw = "detached") :
    (r.testaments.find? (fun x => x.1 == c - sidBase) = none →
      metaProc r MetaProcSessionFlushTestaments req details args kw = (mYield req [], r)) ∧
    (∀ key cur, r.testaments.find? (fun x => x.1 == c - sidBase) = some (key, cur) →
      (metaProc r MetaProcSessionFlushTestaments req details args kw).1 = mYield req [] ∧
      (metaProc r MetaProcSessionFlushTestaments req details args kw).2.testaments =
        r.testaments.filter (fun x => x.1 != c - sidBase) ++
          (if (flushBucket cur (scopeOf kw)).destroyed.isEmpty && (flushBucket cur (scopeOf kw)).detached.isEmpty then []
           else [(c - sidBase, flushBucket cur (scopeOf kw))])) := by
  have hsc : (scopeOf kw != "destroyed" && scopeOf kw != "detached") = false := by
    rcases hs with h | h <;> simp [h]
  refine ⟨fun hn => ?_, fun key cur hf => ?_⟩
  · rw [metaProc_at 22 rfl]
    unfold MetaView.flushTestaments
    rw [hc]
    simp only [hsc, show (view r).testaments = r.testaments from rfl, hn, Bool.false_eq_true, if_false]
    rfl
  · rw [metaProc_at 22 rfl]
    unfold MetaView.flushTestaments
    rw [hc]
    simp only [hsc, show (view r).testaments = r.testaments from rfl, hf, Bool.false_eq_true, if_false]
    split <;> exact ⟨rfl, by simp [MetaOut.run, MetaEff.apply]⟩

section Exact
open Nexus.L2.WpA Nexus.L2.Realm.WpA

/-- WHO receives a subscription meta event, EXACTLY ONCE, WITH WHAT (completeness of `C18_events_not_echoed`).
    For a broker satisfying its invariant:
    * through a subscription `s` of the broker, session `k` gets exactly one EVENT — `s`'s id, the publication
      id, `topic` in the details iff `s` is pattern-based, the arguments, no keyword arguments — iff `s` matches
      the meta topic under its own policy, `k` is a member of `s`, and `k` is not the session that caused the
      event; otherwise nothing;
    * nothing goes through an id that is not the id of a subscription;
    * every message sent has that form for some matching subscription and one of its members ≠ cause. -/
theorem C18_meta_event_exact {b : Broker} (hb : BrokerInv b) (t : String) (pid : Nat) (cause : SessKey)
    (args : List WVal) :
    (∀ s ∈ b.subs, ∀ k,
      through (b.metaEvent t pid cause args) k s.id =
        if s.matchesTopic t = true ∧ k ∈ s.members ∧ k ≠ cause then
          [⟨k, .event s.id pid (if s.isPattern then [("topic", .str t)] else []) args []⟩]
        else []) ∧
    (∀ k id, (∀ s ∈ b.subs, s.id ≠ id) → through (b.metaEvent t pid cause args) k id = []) ∧
    (∀ x ∈ b.metaEvent t pid cause args,
      ∃ s ∈ b.subs, s.matchesTopic t = true ∧ x.to ∈ s.members ∧ x.to ≠ cause ∧
        x = ⟨x.to, .event s.id pid (if s.isPattern then [("topic", .str t)] else []) args []⟩) :=
  ⟨fun _ hs k => through_metaEvent hb t pid cause args hs k,
   fun k id hno => through_metaEvent_none b t pid cause args k id hno,
   fun x hx => metaEvent_mem_shape b t pid cause args x hx⟩

-- non-vacuity: sessions 3 and 4 observe on_subscribe; session 4 causes an event: 3 gets it once, 4 does not
example : let b0 : Broker := (({} : Broker).run
      [.subscribe 3 1 MetaEventSubOnSubscribe "" 0, .subscribe 4 1 MetaEventSubOnSubscribe "" 1])
    BrokerInv b0 ∧
    (through (b0.metaEvent MetaEventSubOnSubscribe 9 4 []) 3 1).map (·.to) = [3] ∧
    (through (b0.metaEvent MetaEventSubOnSubscribe 9 4 []) 4 1).map (·.to) = [] := by
  intro b0
  exact ⟨(BrokerInv.empty false false).run _, by decide +kernel⟩

/-- "EXACTLY the targeted sessions": the sessions `killTargets r P` are the attached sessions satisfying the
    selector `P` that are not already ending — each once (as often as in `clients`), in `clients` order — and
    `endSessions` gives exactly them a `leave` task with the GOODBYE and marks exactly them as ending; nothing
    else of the realm changes. -/
theorem C18_kill_targets (r : Realm) (P : Session → Prop) (g : Msg) (all : Bool) :
    (∀ c, c ∈ killTargets r P ↔ c ∈ r.clients ∧ P c ∧ c.key ∉ r.ending) ∧
    (killTargets r P).Sublist r.clients ∧
    (endSessions r (killTargets r P) g all).tasks =
      r.tasks ++ (killTargets r P).map (fun c => Task.leave c.key (.killed g all)) ∧
    (endSessions r (killTargets r P) g all).ending = r.ending ++ (killTargets r P).map (·.key) ∧
    (∀ k, Task.leave k (.killed g all) ∈ (killTargets r P).map (fun c => Task.leave c.key (.killed g all)) ↔
      ∃ c ∈ r.clients, c.key = k ∧ P c ∧ c.key ∉ r.ending) ∧
    (endSessions r (killTargets r P) g all).clients = r.clients ∧
    (endSessions r (killTargets r P) g all).broker = r.broker ∧
    (endSessions r (killTargets r P) g all).ds = r.ds ∧
    (endSessions r (killTargets r P) g all).queues = r.queues ∧
    (endSessions r (killTargets r P) g all).testaments = r.testaments := by
  refine ⟨mem_killTargets r P, killTargets_sublist r P, rfl, rfl, ?_, rfl, rfl, rfl, rfl, rfl⟩
  intro k
  simp only [List.mem_map]
  constructor
  · rintro ⟨c, hc, he⟩
    have hk : c.key = k := by injection he
    exact ⟨c, ((mem_killTargets r P c).mp hc).1, hk, ((mem_killTargets r P c).mp hc).2⟩
  · rintro ⟨c, hc, hk, hp, he⟩
    exact ⟨c, (mem_killTargets r P c).mpr ⟨hc, hp, he⟩, by rw [hk]⟩

/-- THE THREE BULK KILL PROCEDURES, full result (`reason`, if given, a valid URI).
    `kill_by_authid [v]` / `kill_by_authrole [v]`: the targets are the sessions whose id is not the caller's and
    whose `authid` (resp. `authrole`) detail is the string `v`; `kill_all`: every session but the caller.  The
    answer is the number of sessions actually ended (`killTargets`: targets not already ending), the new state is
    `r` with exactly those told to end (`endSessions`: GOODBYE with the given reason — default wamp.close.normal —
    and message; `all` for kill_all). -/
theorem C18_kill_exact (r : Realm) (req : Nat) (details : Dict) (kw : Dict) (hr : badReasonOf kw = false) :
    (∀ v rest,
      metaProc r MetaProcSessionKillByAuthid req details (.str v :: rest) kw =
        (mYield req [.int (killTargets r (fun c => callerOf details ≠ some (sidOf c.key) ∧
                              c.details.get? "authid" = some (.str v))).length],
         endSessions r (killTargets r (fun c => callerOf details ≠ some (sidOf c.key) ∧
                              c.details.get? "authid" = some (.str v)))
           (makeGoodbye (kwStr kw "reason") (kwStr kw "message") false) false)) ∧
    (∀ v rest,
      metaProc r MetaProcSessionKillByAuthrole req details (.str v :: rest) kw =
        (mYield req [.int (killTargets r (fun c => callerOf details ≠ some (sidOf c.key) ∧
                              c.details.get? "authrole" = some (.str v))).length],
         endSessions r (killTargets r (fun c => callerOf details ≠ some (sidOf c.key) ∧
                              c.details.get? "authrole" = some (.str v)))
           (makeGoodbye (kwStr kw "reason") (kwStr kw "message") false) false)) ∧
    (∀ args,
      metaProc r MetaProcSessionKillAll req details args kw =
        (mYield req [.int (killTargets r (fun c => callerOf details ≠ some (sidOf c.key))).length],
         endSessions r (killTargets r (fun c => callerOf details ≠ some (sidOf c.key)))
           (makeGoodbye (kwStr kw "reason") (kwStr kw "message") true) true)) := by
  refine ⟨fun v rest => ?_, fun v rest => ?_, fun args => ?_⟩
  · rw [metaProc_at 4 rfl, MetaView.killBy]
    simp only [WVal.asString, hr, Bool.false_eq_true, if_false]
    exact kill_run r req _ _ _ false (fun c _ => killBySel_iff details "authid" v c)
  · rw [metaProc_at 5 rfl, MetaView.killBy]
    simp only [WVal.asString, hr, Bool.false_eq_true, if_false]
    exact kill_run r req _ _ _ false (fun c _ => killBySel_iff details "authrole" v c)
  · rw [metaProc_at 6 rfl, MetaView.killAll]
    simp only [hr, Bool.false_eq_true, if_false]
    exact kill_run r req _ _ _ true
      (fun c _ => by simp only [bne_iff_ne, ne_eq]; exact ⟨fun h e => h e.symm, fun h e => h e.symm⟩)

/-- `session.kill [sid]` for an attached session `sid` that is not the caller: empty YIELD, and exactly the
    session(s) with that id — not already ending — are told to end. -/
theorem C18_kill_exact_session (r : Realm) (req : Nat) (details : Dict) (a : WVal) (rest : List WVal) (kw : Dict)
    (sid : Nat) (ha : a.asID = some sid) (hc : callerOf details ≠ some sid) (hr : badReasonOf kw = false)
    (hex : ∃ c ∈ r.clients, sidOf c.key = sid) :
    metaProc r MetaProcSessionKill req details (a :: rest) kw =
      (mYield req [],
       endSessions r (killTargets r (fun c => sidOf c.key = sid))
         (makeGoodbye (kwStr kw "reason") (kwStr kw "message") false) false) := by
  rw [metaProc_at 3 rfl, MetaView.kill]
  simp only [ha, beq_false_of_ne hc, hr, Bool.false_eq_true, if_false, view_find]
  cases hk : r.keyOfSid sid with
  | none =>
    obtain ⟨c, hcm, hcs⟩ := hex
    exact absurd hcs (find?_key_eq_none.mp hk c hcm)
  | some s =>
    have hs : sidOf s.key = sid := (find?_key_some hk).2
    exact congrArg (Prod.mk _) (kill_apply r _ (fun c => sidOf c.key = sid) _ false (fun c _ => by
      simp only [beq_iff_eq]
      exact ⟨fun h => by rw [h, hs], fun h => sidOf_inj (h.trans hs.symm)⟩)).2

/-- The refusals of the kill procedures; the state is UNCHANGED in every one of them.  `session.kill`: no / a
    malformed id → no_such_session; the caller's own id → no_such_session; an invalid `reason` URI →
    invalid_uri; an id naming no attached session → no_such_session.  Bulk procedures: no / a non-string
    argument → no_such_session; an invalid `reason` URI → invalid_uri. -/
theorem C18_kill_errors (r : Realm) (req : Nat) (details : Dict) (kw : Dict) :
    (metaProc r MetaProcSessionKill req details [] kw = (mErr req ErrNoSuchSession, r) ∧
     (∀ a rest, a.asID = none → metaProc r MetaProcSessionKill req details (a :: rest) kw = (mErr req ErrNoSuchSession, r)) ∧
     (∀ a rest sid, a.asID = some sid → callerOf details = some sid →
       metaProc r MetaProcSessionKill req details (a :: rest) kw = (mErr req ErrNoSuchSession, r)) ∧
     (∀ a rest sid, a.asID = some sid → callerOf details ≠ some sid → badReasonOf kw = true →
       metaProc r MetaProcSessionKill req details (a :: rest) kw = (mErr req ErrInvalidURI, r)) ∧
     (∀ a rest sid, a.asID = some sid → callerOf details ≠ some sid → badReasonOf kw = false →
       (∀ c ∈ r.clients, sidOf c.key ≠ sid) →
       metaProc r MetaProcSessionKill req details (a :: rest) kw = (mErr req ErrNoSuchSession, r))) ∧
    (∀ proc, proc = MetaProcSessionKillByAuthid ∨ proc = MetaProcSessionKillByAuthrole →
      metaProc r proc req details [] kw = (mErr req ErrNoSuchSession, r) ∧
      (∀ a rest, a.asString = none → metaProc r proc req details (a :: rest) kw = (mErr req ErrNoSuchSession, r)) ∧
      (∀ v rest, badReasonOf kw = true → metaProc r proc req details (.str v :: rest) kw = (mErr req ErrInvalidURI, r))) ∧
    (∀ args, badReasonOf kw = true → metaProc r MetaProcSessionKillAll req details args kw = (mErr req ErrInvalidURI, r)) := by
  refine ⟨?_, ?_, fun args hb => by rw [metaProc_at 6 rfl, MetaView.killAll, if_pos hb]; rfl⟩
  · simp only [metaProc_at 3 rfl, MetaView.kill]
    refine ⟨rfl, fun a rest h => by simp only [h, MetaOut.run],
      fun a rest sid h hc => by simp only [h, hc, beq_self_eq_true, if_true, MetaOut.run],
      fun a rest sid h hc hb => by
        simp only [h, beq_false_of_ne hc, hb, Bool.false_eq_true, if_false, if_true, MetaOut.run],
      fun a rest sid h hc hb hno => ?_⟩
    have : r.keyOfSid sid = none := find?_key_eq_none.mpr hno
    simp only [h, beq_false_of_ne hc, hb, view_find, this, Bool.false_eq_true, if_false]
    rfl
  · rintro proc (rfl | rfl)
    all_goals
      simp only [metaProc_at 4 rfl, metaProc_at 5 rfl, MetaView.killBy]
      exact ⟨rfl, fun a rest h => by simp only [h, MetaOut.run],
        fun v rest hb => by simp only [WVal.asString, hb, if_true, MetaOut.run]⟩

example : badReasonOf [] = false ∧ badReasonOf [("reason", .str "com.example.bye")] = false ∧
    badReasonOf [("reason", .str "not a uri")] = true := by decide +kernel

-- non-vacuity: four sessions, three of them "bob" (session 3 already ending) and one "eve"; session 1 (a bob) calls:
-- kill-by-authid ends the other live bob, kill-all every other session, kill the session named
example : let r0 : Realm :=
      { clients := [{ key := 1, details := [("authid", .str "bob")], roles := [], isLocal := true },
                    { key := 2, details := [("authid", .str "bob")], roles := [], isLocal := true },
                    { key := 3, details := [("authid", .str "bob")], roles := [], isLocal := true },
                    { key := 4, details := [("authid", .str "eve")], roles := [], isLocal := true }],
        ending := [3] }
    (metaProc r0 MetaProcSessionKillByAuthid 7 [("caller", .int (sidBase + 1))] [.str "bob"] []).2.ending = [3, 2] ∧
    (metaProc r0 MetaProcSessionKillAll 7 [("caller", .int (sidBase + 1))] [] []).2.ending = [3, 2, 4] ∧
    (metaProc r0 MetaProcSessionKill 7 [("caller", .int (sidBase + 1))] [.int (sidBase + 4)] []).2.ending = [3, 4] ∧
    (WVal.int (sidBase + 4)).asID = some (sidBase + 4) ∧
    callerOf [("caller", .int (sidBase + 1))] ≠ some (sidBase + 4) := by
  decide +kernel

/-- THE META SESSION IS NEVER CHANGED: in every reachable realm it is the session `newRealm` creates — key 0
    (`metaKey`), details {authrole: trusted}, publisher role with `payload_passthru_mode`. -/
theorem C18_metaS_const {cfg : Config} {r : Realm} (h : Realm.Reachable cfg r) :
    r.metaS = ({} : Realm).metaS ∧
    r.metaS.hasFeature RolePublisher FeaturePayloadPassthruMode = true ∧ r.metaS.key = metaKey := by
  rw [reachable_metaS h]
  exact ⟨rfl, by decide, rfl⟩

example : (Realm.create {}).isSome = true := by rw [create_default]; rfl

/-- TESTAMENTS ARE PUBLISHED EXACTLY AS REQUESTED.  The task queued for testament `t` when its owner leaves
    (`C18_events_leave`) IS the meta session's PUBLISH(options, topic, args, kwargs of the testament).  When the
    topic is a valid URI for the realm and `disclose_me` is not refused, the result is: one publication id
    drawn, the broker publishes exactly `pubOf r r.metaS t.opts t.topic t.args t.kw` (publisher = meta session,
    the testament's options — `exclude`, `eligible`, … —, topic, payload) and the EVENTs it computes are
    delivered: for every attached client `k` the queue afterwards is the old one offered exactly those EVENTs,
    which through each subscription are `deliveryOf` (C01).  This holds WITH OR WITHOUT `acknowledge` in the
    options: the PUBLISHED goes to the meta session, which ignores it. -/
theorem C18_testament_published (r : Realm) (t : Testament) (hk : r.metaS.key = metaKey)
    (hf : r.metaS.hasFeature RolePublisher FeaturePayloadPassthruMode = true)
    (hv : validUri r.broker.strict "" t.topic = true) (hd : discloseRefused r t.opts = false) :
    r.runTask (.metaPub (testamentPub t)) = r.metaPublish (testamentPub t) ∧
    r.metaPublish (testamentPub t) = handlePublish r r.metaS 0 t.opts t.topic t.args t.kw ∧
    r.metaPublish (testamentPub t) =
      ({ r with pubCount := r.pubCount + 1,
                broker := (r.broker.syncPublish r.session? r.now (pubOf r r.metaS t.opts t.topic t.args t.kw)).1 } : Realm).deliver
        (r.broker.syncPublish r.session? r.now (pubOf r r.metaS t.opts t.topic t.args t.kw)).2 ∧
    (∀ k c, k ≠ metaKey → r.client? k = some c →
      (r.metaPublish (testamentPub t)).queueOf k =
        accept c.cap (r.queueOf k)
          (msgsTo k (r.broker.syncPublish r.session? r.now (pubOf r r.metaS t.opts t.topic t.args t.kw)).2)) ∧
    (BrokerInv r.broker → ∀ s ∈ r.broker.subs, ∀ k,
      through (r.broker.syncPublish r.session? r.now (pubOf r r.metaS t.opts t.topic t.args t.kw)).2 k s.id =
        deliveryOf r.session? (pubOf r r.metaS t.opts t.topic t.args t.kw) s k) :=
  ⟨rfl, rfl, metaPublish_ok r (testamentPub t) hk hf hv hd,
   fun k c hne hc => by
     rw [metaPublish_ok r (testamentPub t) hk hf hv hd]
     exact queueOf_deliver_client _ _ k c hne hc,
   fun hb _ hs k => through_syncPublish_eq_deliveryOf hb _ _ _ hs k⟩

/-- … including payload passthru: the publication carries the testament's `ppt_*` options in the EVENT details
    (`pptInto`) iff `ppt_scheme` is given, and nothing otherwise; the publisher is the meta session, the
    options / topic / payload are the testament's.  (The meta session is never aborted: `C18_testament_cases`.) -/
theorem C18_testament_ppt (r : Realm) (t : Testament) :
    (pubOf r r.metaS t.opts t.topic t.args t.kw).publisher = r.metaS.key ∧
    (pubOf r r.metaS t.opts t.topic t.args t.kw).topic = t.topic ∧
    (pubOf r r.metaS t.opts t.topic t.args t.kw).args = t.args ∧
    (pubOf r r.metaS t.opts t.topic t.args t.kw).kw = t.kw ∧
    (pubOf r r.metaS t.opts t.topic t.args t.kw).opts = t.opts ∧
    (pubOf r r.metaS t.opts t.topic t.args t.kw).pubId = pubBase + r.pubCount ∧
    (pptScheme t.opts = "" → (pubOf r r.metaS t.opts t.topic t.args t.kw).baseDetails = []) ∧
    (pptScheme t.opts ≠ "" → (pubOf r r.metaS t.opts t.topic t.args t.kw).baseDetails = pptInto t.opts []) := by
  refine ⟨rfl, rfl, rfl, rfl, rfl, rfl, fun h => ?_, fun h => ?_⟩ <;> simp [pubOf, h]

/-- THE "NOT PUBLISHED" CASES (recorded behaviour): a testament whose topic is not a valid URI for the realm, or
    that asks for `disclose_me` in a realm that disallows disclosure, is DROPPED AND NOBODY IS TOLD — the realm
    state is exactly what it was, with or without `acknowledge` in the options (the ERROR would go to the meta
    session, which ignores it). -/
theorem C18_testament_dropped (r : Realm) (t : Testament) (hk : r.metaS.key = metaKey)
    (hf : r.metaS.hasFeature RolePublisher FeaturePayloadPassthruMode = true) :
    (validUri r.broker.strict "" t.topic = false → r.runTask (.metaPub (testamentPub t)) = r) ∧
    (validUri r.broker.strict "" t.topic = true → discloseRefused r t.opts = true →
      r.runTask (.metaPub (testamentPub t)) = r) :=
  ⟨fun hv => metaPublish_invalid r (testamentPub t) hk hv,
   fun hv hd => metaPublish_refused r (testamentPub t) hk hf hv hd⟩

/-- The three cases are exhaustive — in particular a testament with `ppt_scheme` is never answered with an
    ABORT of the meta session, no task is queued, no session is ended. -/
theorem C18_testament_cases (r : Realm) (t : Testament) (hk : r.metaS.key = metaKey)
    (hf : r.metaS.hasFeature RolePublisher FeaturePayloadPassthruMode = true) :
    r.runTask (.metaPub (testamentPub t)) = r ∨
    (validUri r.broker.strict "" t.topic = true ∧ discloseRefused r t.opts = false ∧
     r.runTask (.metaPub (testamentPub t)) =
      ({ r with pubCount := r.pubCount + 1,
                broker := (r.broker.syncPublish r.session? r.now (pubOf r r.metaS t.opts t.topic t.args t.kw)).1 } : Realm).deliver
        (r.broker.syncPublish r.session? r.now (pubOf r r.metaS t.opts t.topic t.args t.kw)).2) := by
  cases hv : validUri r.broker.strict "" t.topic with
  | false => exact Or.inl (metaPublish_invalid r (testamentPub t) hk hv)
  | true =>
    cases hd : discloseRefused r t.opts with
    | true => exact Or.inl (metaPublish_refused r (testamentPub t) hk hf hv hd)
    | false => exact Or.inr ⟨rfl, rfl, metaPublish_ok r (testamentPub t) hk hf hv hd⟩

/-- In a reachable realm any publication of the meta session — testament or meta event — whose topic is a valid URI
    for the realm and that asks for no refused disclosure is carried out: one publication id drawn, the broker
    publishes it and the EVENTs are delivered. -/
theorem metaPub_published {cfg : Config} {r : Realm} (h : Realm.Reachable cfg r) (p : MetaPub)
    (hv : validUri r.broker.strict "" p.topic = true) (hd : discloseRefused r p.opts = false) :
    r.runTask (.metaPub p) =
      ({ r with pubCount := r.pubCount + 1,
                broker := (r.broker.syncPublish r.session? r.now (pubOf r r.metaS p.opts p.topic p.args p.kw)).1 } : Realm).deliver
        (r.broker.syncPublish r.session? r.now (pubOf r r.metaS p.opts p.topic p.args p.kw)).2 :=
  metaPublish_ok r p (C18_metaS_const h).2.2 (C18_metaS_const h).2.1 hv hd

/-- In every REACHABLE realm the hypotheses about the meta session hold, so for every testament exactly one of:
    published as requested / dropped silently (invalid topic; refused disclose_me). -/
theorem C18_testament_reachable {cfg : Config} {r : Realm} (h : Realm.Reachable cfg r) (t : Testament) :
    (validUri r.broker.strict "" t.topic = true → discloseRefused r t.opts = false →
      r.runTask (.metaPub (testamentPub t)) =
        ({ r with pubCount := r.pubCount + 1,
                  broker := (r.broker.syncPublish r.session? r.now (pubOf r r.metaS t.opts t.topic t.args t.kw)).1 } : Realm).deliver
          (r.broker.syncPublish r.session? r.now (pubOf r r.metaS t.opts t.topic t.args t.kw)).2) ∧
    (validUri r.broker.strict "" t.topic = false → r.runTask (.metaPub (testamentPub t)) = r) ∧
    (validUri r.broker.strict "" t.topic = true → discloseRefused r t.opts = true →
      r.runTask (.metaPub (testamentPub t)) = r) := by
  obtain ⟨_, hf, hk⟩ := C18_metaS_const h
  exact ⟨metaPub_published h (testamentPub t),
    fun hv => metaPublish_invalid r (testamentPub t) hk hv,
    fun hv hd => metaPublish_refused r (testamentPub t) hk hf hv hd⟩

-- non-vacuity: the default realm; a testament with exclude_authid and ppt options is published, one with a bad
-- topic or with disclose_me (disclosure disallowed by default) is dropped
example : ({} : Realm).metaS.key = metaKey ∧
    ({} : Realm).metaS.hasFeature RolePublisher FeaturePayloadPassthruMode = true ∧
    validUri ({} : Realm).broker.strict "" "com.example.bye" = true ∧
    validUri ({} : Realm).broker.strict "" "a..b" = false ∧
    discloseRefused ({} : Realm) [("exclude_authid", .list [.str "bob"]), ("ppt_scheme", .str "x")] = false ∧
    discloseRefused ({} : Realm) [("disclose_me", .bool true)] = true := by decide +kernel

/-- Every meta topic the router publishes to is a valid URI, in strict mode too. -/
theorem C18_meta_topics_valid (strict : Bool) :
    validUri strict "" MetaEventSessionOnJoin = true ∧ validUri strict "" MetaEventSessionOnLeave = true ∧
    validUri strict "" MetaEventSubOnCreate = true ∧ validUri strict "" MetaEventSubOnSubscribe = true ∧
    validUri strict "" MetaEventSubOnUnsubscribe = true ∧ validUri strict "" MetaEventSubOnDelete = true ∧
    validUri strict "" MetaEventRegOnCreate = true ∧ validUri strict "" MetaEventRegOnRegister = true ∧
    validUri strict "" MetaEventRegOnUnregister = true ∧ validUri strict "" MetaEventRegOnDelete = true := by
  refine ⟨?_, ?_, ?_, ?_, ?_, ?_, ?_, ?_, ?_, ?_⟩
  all_goals exact validUri_of_strict strict (by decide +kernel)

/-- Consequence: the `on_join`, `on_leave` and registration meta publications queued by `C18_events_join`,
    `C18_events_leave`, `C18_events_register`, `C18_events_unregister`, `C18_events_leave_regs` are NEVER dropped:
    their task publishes (no options: nothing to refuse), in every reachable realm. -/
theorem C18_session_events_published {cfg : Config} {r : Realm} (h : Realm.Reachable cfg r) (p : MetaPub)
    (ht : p.topic = MetaEventSessionOnJoin ∨ p.topic = MetaEventSessionOnLeave ∨
          p.topic = MetaEventRegOnCreate ∨ p.topic = MetaEventRegOnRegister ∨
          p.topic = MetaEventRegOnUnregister ∨ p.topic = MetaEventRegOnDelete)
    (ho : p.opts = []) :
    r.runTask (.metaPub p) =
      ({ r with pubCount := r.pubCount + 1,
                broker := (r.broker.syncPublish r.session? r.now (pubOf r r.metaS [] p.topic p.args p.kw)).1 } : Realm).deliver
        (r.broker.syncPublish r.session? r.now (pubOf r r.metaS [] p.topic p.args p.kw)).2 := by
  have hm := C18_meta_topics_valid r.broker.strict
  have hv : validUri r.broker.strict "" p.topic = true := by
    rcases ht with e | e | e | e | e | e <;> rw [e]
    · exact hm.1
    · exact hm.2.1
    · exact hm.2.2.2.2.2.2.1
    · exact hm.2.2.2.2.2.2.2.1
    · exact hm.2.2.2.2.2.2.2.2.1
    · exact hm.2.2.2.2.2.2.2.2.2
  have := metaPub_published h p hv (by rw [ho]; rfl)
  rwa [ho] at this

/-- REGISTRATION EVENTS OF A DEPARTURE (`leaveBaseTasks` of `C18_events_leave`, characterised).
    * Dealer: in a state satisfying the dealer invariant, the publications `syncRemoveSession k` hands to the meta
      session are, for each id of `k`'s callee-index entry in order, the block `regDepartPubs` of that
      registration; the ids of the entry are distinct and are exactly the registrations `k` is a callee of.
    * The block of a registration `k` is a callee of: `on_unregister [k, id]`, then `on_delete [k, id]` iff `k` was
      its only callee; of any other id: nothing.
    * Realm: for a non-shutdown departure of an attached session `k ≠ 0` these publications, in that order, are
      exactly the tasks the removal stage appends to the pending ones (the dealer's sends there are ERRORs for
      callers, the broker's are EVENTs: neither is a task); a shutdown appends nothing.  With `C18_events_leave`:
      tasks after the departure = pending ++ registration events ++ testaments ++ [on_leave]. -/
theorem C18_events_leave_regs :
    (∀ (env : DEnv) (s : DState) (k : SessKey), DealerInv s →
      (syncRemoveSession env s k).metaPubs = (idxIds s.d.index k).flatMap (regDepartPubs s.d k) ∧
      (idxIds s.d.index k).Nodup ∧
      (∀ id, id ∈ idxIds s.d.index k ↔ ∃ reg ∈ s.d.regs, reg.id = id ∧ k ∈ reg.callees)) ∧
    (∀ (d : Dealer) (k : SessKey) (reg : Reg), (d.regs.map (·.id)).Nodup → reg ∈ d.regs → k ∈ reg.callees →
      regDepartPubs d k reg.id =
        { topic := MetaEventRegOnUnregister, args := [sidVal k, .int reg.id] } ::
          (if reg.callees = [k] then [{ topic := MetaEventRegOnDelete, args := [sidVal k, .int reg.id] }] else [])) ∧
    (∀ (d : Dealer) (k : SessKey) (id : Nat), (∀ reg ∈ d.regs, reg.id = id → k ∉ reg.callees) →
      regDepartPubs d k id = []) ∧
    (∀ (r : Realm) (k : SessKey) (mode : LeaveMode), DealerInv r.ds → k ≠ metaKey →
      leaveBaseTasks r k mode =
        r.tasks ++ (if mode.isShutdown then []
                    else ((idxIds r.ds.d.index k).flatMap (regDepartPubs r.ds.d k)).map Task.metaPub)) :=
  ⟨fun _ _ k h => syncRemoveSession_metaPubs h k,
   fun _ _ _ hn hm hk => regDepartPubs_of_find ((findReg_eq_some hn).2 ⟨hm, rfl⟩) hk,
   fun d k id h => by
     unfold regDepartPubs
     cases hf : d.findReg id with
     | none => rfl
     | some reg => exact if_neg (h reg (List.mem_of_find?_eq_some hf) (findReg_id hf)),
   fun _ _ mode hd hk => leaveBaseTasks_eq hd hk mode⟩

-- non-vacuity: session 1 is the only callee of registration 1 and one of two callees of registration 2; session 2
-- is a callee of 2 and 3.  Departure of 1: on_unregister 1, on_delete 1, on_unregister 2 — nothing about 3.
example : let d0 : Dealer :=
      { regs := [{ id := 1, proc := "p", «match» := "", policy := "", disclose := false, fwdTimeout := false, callees := [1] },
                 { id := 2, proc := "q", «match» := "", policy := "roundrobin", disclose := false, fwdTimeout := false, callees := [1, 2] },
                 { id := 3, proc := "s", «match» := "", policy := "", disclose := false, fwdTimeout := false, callees := [2] }],
        nextReg := 3, index := [(1, [1, 2]), (2, [2, 3])] }
    ((syncRemoveSession { sess := fun _ => none, full := fun _ => false, now := 0 } { d := d0 } 1).metaPubs.map
        (fun p => (p.topic, match p.args with | [_, .int i] => i | _ => 0))) =
      [(MetaEventRegOnUnregister, 1), (MetaEventRegOnDelete, 1), (MetaEventRegOnUnregister, 2)] ∧
    ((idxIds d0.index 1).flatMap (regDepartPubs d0 1)).map (fun p => (p.topic, match p.args with | [_, .int i] => i | _ => 0)) =
      [(MetaEventRegOnUnregister, 1), (MetaEventRegOnDelete, 1), (MetaEventRegOnUnregister, 2)] := by
  decide +kernel

/-- `C18_events_leave` and `C18_events_leave_regs` combined: ALL tasks after a non-shutdown departure of an
    attached session `k ≠ 0` (dealer invariant): what was pending; then, per registration `k` was a callee of (callee-index
    order), `on_unregister` and `on_delete` iff it was the last callee; then the testaments (detached, destroyed);
    LAST `on_leave`. -/
theorem C18_events_leave_exact {r : Realm} (hd : DealerInv r.ds) {k : SessKey} (hk : k ≠ metaKey) {s : Session}
    (mode : LeaveMode) (hf : r.clients.find? (fun c => c.key == k) = some s) (hm : mode.isShutdown = false) :
    (r.leave k mode).tasks =
      r.tasks ++ ((idxIds r.ds.d.index k).flatMap (regDepartPubs r.ds.d k)).map Task.metaPub ++
        testamentTasks (bucketOf r k) ++
        [.metaPub { topic := MetaEventSessionOnLeave,
                    args := [sidVal s.key, detailOr s.details "authid", detailOr s.details "authrole"] }] := by
  rw [(C18_events_leave r k s mode hf).1 hm, leaveBaseTasks_eq hd hk mode, hm]
  simp only [Bool.false_eq_true, if_false, List.append_assoc]

-- non-vacuity of `C18_events_leave_exact`: the created default realm with one client that registered nothing
example : ∃ (r : Realm) (s : Session), DealerInv r.ds ∧ (5 : SessKey) ≠ metaKey ∧
    r.clients.find? (fun c => c.key == 5) = some s ∧ LeaveMode.lost.isShutdown = false := by
  obtain ⟨R0, hd⟩ : ∃ R0 : Realm, DealerInv R0.ds :=
    ⟨_, registerMeta_inv (metaProcNames {}) {} (DealerInv.init false false)⟩
  exact ⟨{ R0 with clients := [{ key := 5, details := [], roles := [], isLocal := true }] }, _, hd, by decide, rfl, rfl⟩

/-- First step of the round trip: the task `trySend` queues for an INVOCATION addressed to the meta session runs
    `metaProc` ON THE REALM STATE THE TASK FINDS (everything completed before it is visible to the procedure),
    keeps the state the procedure returns and queues its answer as the next task of the meta session; an
    invocation of a registration id that names no meta procedure is answered ERROR no_such_procedure. -/
theorem C18_meta_invoke_task (r : Realm) (req reg : Nat) (d : Dict) (a : List WVal) (kw : Dict) :
    (∀ reg' proc, r.metaProcs.find? (fun p => p.1 == reg) = some (reg', proc) →
      r.runTask (.metaInvoke req reg d a kw) =
        (metaProc r proc req d a kw).2.addTasks [.metaMsg (metaProc r proc req d a kw).1]) ∧
    (r.metaProcs.find? (fun p => p.1 == reg) = none →
      r.runTask (.metaInvoke req reg d a kw) = r.addTasks [.metaMsg (mErr req ErrNoSuchProcedure)]) ∧
    (∀ (tr : Realm) (s : Send), s.to = metaKey → ∀ q g dd aa kk, s.msg = .invocation q g dd aa kk →
      tr.trySend s = { tr with tasks := tr.tasks ++ [.metaInvoke q g dd aa kk] }) :=
  ⟨fun _ _ h => runTask_metaInvoke_some h, fun h => runTask_metaInvoke_none h, fun tr s hs q g dd aa kk hm => by
    obtain ⟨to, msg⟩ := s
    simp only at hs hm
    subst hs; subst hm
    exact trySend_meta_invocation tr q g dd aa kk⟩

/-- Second step: the answer task is the meta session's own message — `handleMsg` with the meta session — and the
    authorizer is never consulted for it; a YIELD is `dealer.yield(meta session, invocation id, {}, args, kwargs)`,
    an ERROR is `dealer.error(meta session, invocation id, {}, uri)`.  Every answer of a meta procedure is one of
    the two, carrying the invocation's request id. -/
theorem C18_meta_answer_task (r : Realm) (hk : r.metaS.key = metaKey) :
    (∀ m, r.runTask (.metaMsg m) = handleMsg r r.metaS m) ∧
    (∀ m, authzGate r r.metaS m = (true, r)) ∧
    (∀ req a kw, r.runTask (.metaMsg (mYield req a kw)) = handleYield r r.metaS req [] a kw) ∧
    (∀ req uri, r.runTask (.metaMsg (mErr req uri)) = handleError r r.metaS req [] uri [] []) ∧
    (∀ proc req details args kw,
      (∃ a kw', (metaProc r proc req details args kw).1 = mYield req a kw') ∨
      (∃ uri, (metaProc r proc req details args kw).1 = mErr req uri)) :=
  ⟨fun _ => rfl, fun m => authzGate_meta r r.metaS m hk, fun req a kw => runTask_metaMsg_yield r hk req a kw,
   fun req uri => runTask_metaMsg_err r hk req uri, fun proc req details args kw => metaProc_answer r proc req details args kw⟩

/-- The task-unfolding lemmas composed: a realm whose only pending task is the invocation of a meta procedure
    other than the kill procedures — two tasks later (`drain (fuel + 2)`) the state is the meta session's answer
    applied to the state `metaProc` returned (evaluated on the realm with the task taken off). -/
theorem C18_meta_call_drain {r : Realm} {req reg : Nat} {d : Dict} {a : List WVal} {kw : Dict}
    (h : r.tasks = [.metaInvoke req reg d a kw]) {reg' : Nat} {proc : String}
    (hmp : r.metaProcs.find? (fun p => p.1 == reg) = some (reg', proc)) (hnk : isKillProc proc = false) (fuel : Nat) :
    drain (fuel + 1 + 1) r =
      drain fuel (handleMsg { (metaProc { r with tasks := [] } proc req d a kw).2 with tasks := [] }
        (metaProc { r with tasks := [] } proc req d a kw).2.metaS (metaProc { r with tasks := [] } proc req d a kw).1) := by
  rw [drain_succ_cons _ _ _ _ h, runTask_metaInvoke_some (r := { r with tasks := [] }) hmp,
    drain_succ_cons _ _ (.metaMsg _) [] (congrArg (· ++ _) (metaProc_tasks_nokill _ proc req d a kw hnk).1)]
  rfl

-- non-vacuity of `C18_meta_call_drain` (the hypotheses of `C18_meta_answer_delivered` are those the proof of
-- `C18_call_roundtrip_partial` derives from its own, which the example below that theorem satisfies)
example : let r0 : Realm := { tasks := [.metaInvoke 1 1 [] [] []], metaProcs := [(1, MetaProcSessionCount)] }
    r0.tasks = [.metaInvoke 1 1 [] [] []] ∧
    r0.metaProcs.find? (fun p => p.1 == 1) = some (1, MetaProcSessionCount) ∧
    isKillProc MetaProcSessionCount = false ∧ isKillProc MetaProcSessionKillAll = true :=
  ⟨rfl, rfl, by decide +kernel, by decide +kernel⟩

/-- The answer half at full strength: the meta session holds invocation `invId` of the pending call `(k, req)` of
    an attached client whose queue has room, and nothing else is pending: the answer task appends exactly
    `callerReply req m` — RESULT(req, {}, args, kwargs) for YIELD(invId, {}, args, kwargs), ERROR(CALL, req, {}, uri)
    for ERROR(INVOCATION, invId, {}, uri) — to that client's queue, and leaves no task. -/
theorem C18_meta_answer_delivered {r : Realm} (hd : DealerInv r.ds) (hms : r.metaS.key = metaKey) (ht : r.tasks = [])
    {v : Invk} {invId req : Nat} {k : SessKey} (hv : v ∈ r.ds.d.invs) (hvid : v.id = ⟨metaKey, invId⟩)
    (hvc : v.callId = ⟨k, req⟩) (hk : k ≠ metaKey)
    {c : Session} (hc : r.clients.find? (fun c => c.key == k) = some c) (hroom : r.queueLen k < c.cap)
    (m : Msg) (hmsg : (∃ a kw', m = mYield invId a kw') ∨ (∃ uri, m = mErr invId uri)) :
    (r.runTask (.metaMsg m)).tasks = [] ∧
    (r.runTask (.metaMsg m)).queueOf k = r.queueOf k ++ [callerReply req m] := by
  have hf : r.ds.d.findInv ⟨metaKey, invId⟩ = some v := (findInv_eq_some hd.call.invIds).2 ⟨hv, hvid⟩
  have hfull : r.denv.full k = false := by
    show r.isFull k = false
    unfold isFull session?
    rw [if_neg hk, if_neg hk, hc]
    simp only [ge_iff_le, decide_eq_false_iff_not, Nat.not_le]
    exact hroom
  rcases hmsg with ⟨a, kw', rfl⟩ | ⟨uri, rfl⟩
  · rw [runTask_metaMsg_yield r hms]
    unfold handleYield
    simp only [hms]
    rw [show syncYield r.denv r.ds metaKey invId [] a kw' (Dict.optFlag [] OptProgress) true =
        { st := yieldFinish r.ds false v ⟨metaKey, invId⟩, sends := [⟨k, .result req [] a kw'⟩] } by
      rw [show Dict.optFlag [] OptProgress = false from rfl, syncYield_some' hd.call [] a kw' false true hf,
        yieldOut_deliver a kw' false true v (by rfl) (by rfl) (by rw [hvc]; exact hfull), hvc]
      rfl]
    simp only [Bool.false_eq_true, if_false]
    exact applyD_reply ht _ hk hc hroom rfl rfl rfl rfl
  · rw [runTask_metaMsg_err r hms]
    unfold handleError
    simp only [hms]
    rw [syncError_some hd.call [] uri [] [] hf]
    exact applyD_reply ht _ hk hc hroom (by rw [hvc]; rfl) rfl rfl rfl

example (req inv : Nat) (a : List WVal) (kw : Dict) (uri : String) :
    callerReply req (mYield inv a kw) = .result req [] a kw ∧
    callerReply req (mErr inv uri) = .error tCALL req [] uri [] [] := ⟨rfl, rfl⟩

/-- THE ROUND TRIP, full statement: in every reachable, quiescent realm, a plain CALL (no progress,
    no payload passthru) of a configured meta procedure other than the kill procedures by an attached client
    (handler idle, not ending, authorized, queue not full, no call pending under that request id) is answered
    WITHIN THE SAME STEP: exactly one message is appended to the caller's queue, the RESULT / ERROR rendered from
    `metaProc` evaluated on the realm state after the CALL was routed.

    PROVED: `C18_call_roundtrip_stmt_holds`, from `C18_call_roundtrip_partial` (the same conclusion from the state
    facts "the best match of `proc` is a registration of the meta session alone, bound to meta procedure `mp`")
    and the invariant `Realm.Reachable.metaRegs` (Nexus/L2/Proofs/RealmMetaRegs.lean): in every reachable realm
    every configured meta procedure still has its registration — exact match, only callee the meta session,
    caller disclosure on, bound to its name in `metaProcs` — because a registration loses a callee only by that
    callee's UNREGISTER or departure, and the meta session sends nothing but YIELD / ERROR and never leaves.
    (`Op.join metaKey …` is a no-op of the model: a client attached under the meta session's key would, leaving,
    take the meta registrations with it.  Hence the key of an attached client is never the meta session's,
    `Realm.Reachable.find?_ne_meta`, and `k ≠ metaKey` need not be assumed.)  For the kill procedures the answer is queued
    BEHIND the departures they cause, whose meta events may reach the caller first: the caller still gets its
    RESULT (by `C18_meta_answer_delivered`, if its queue has room then), but not "appended next". -/
def C18_call_roundtrip_stmt : Prop :=
  ∀ (cfg : Config) (r : Realm), Realm.Reachable cfg r → r.tasks = [] →
  ∀ (k : SessKey) (c : Session), r.clients.find? (fun c => c.key == k) = some c →
    r.ending.contains k = false → r.busy k = false →
  ∀ (req : Nat) (opts : Dict) (proc : String) (args : List WVal) (kw : Dict),
    proc ∈ metaProcNames cfg → isKillProc proc = false →
    authzGate r c (.call req opts proc args kw) = (true, r) →
    r.ds.d.byCall? ⟨k, req⟩ = none →
    opts.optFlag OptProgress = false → pptScheme opts = "" → r.queueLen k < c.cap →
    ∃ (R : Realm) (invId : Nat) (details : Dict),
      r.step (.msg k (.call req opts proc args kw)) = flush R ∧ R.tasks = [] ∧
      details.get? "caller" = some (sidVal k) ∧
      R.queueOf k = r.queueOf k ++
        [callerReply req (metaProc { handleCall r c req opts proc args kw with tasks := [] } proc invId details args kw).1]

/-- THE ROUND TRIP, proved from state facts (see `C18_call_roundtrip_stmt`).  `r`: dealer invariant, meta session
    under key 0, no task pending.  `k`: attached as `c`, handler idle, not ending, authorized, queue has room, no
    call pending under `req`.  The CALL is plain; its best match `reg` is a registration of the meta session alone
    (caller disclosure on), bound in `metaProcs` to the meta procedure `mp`, which is not a kill procedure.  Then
    the step is `flush R` for a state `R` without pending tasks in which `k`'s queue is its old queue plus exactly
    the RESULT / ERROR (`callerReply`) rendered from the answer of `metaProc` — evaluated on the state after the
    CALL was routed, with the fresh invocation id, the details built for the meta session (which carry
    `caller = k`'s session id) and the CALL's arguments. -/
theorem C18_call_roundtrip_partial {r : Realm} (hd : DealerInv r.ds) (hms : r.metaS.key = metaKey) (ht : r.tasks = [])
    {k : SessKey} {c : Session} (hk : k ≠ metaKey) (hc : r.clients.find? (fun c => c.key == k) = some c)
    (hend : r.ending.contains k = false) (hbusy : r.busy k = false)
    (req : Nat) (opts : Dict) (proc : String) (args : List WVal) (kw : Dict)
    (hauth : authzGate r c (.call req opts proc args kw) = (true, r))
    (hb : r.ds.d.byCall? ⟨k, req⟩ = none)
    {reg : Reg} (hm : r.ds.d.matchProcedure proc = some reg) (hcal : reg.callees = [metaKey])
    (hdis : reg.disclose = true)
    {reg' : Nat} {mp : String} (hmp : r.metaProcs.find? (fun p => p.1 == reg.id) = some (reg', mp))
    (hnk : isKillProc mp = false)
    (hprog : opts.optFlag OptProgress = false) (hppt : pptScheme opts = "")
    (hroom : r.queueLen k < c.cap) :
    ∃ R : Realm,
      r.step (.msg k (.call req opts proc args kw)) = flush R ∧ R.tasks = [] ∧
      (invDetails r.denv reg k metaKey opts proc).get? "caller" = some (sidVal k) ∧
      R.queueOf k = r.queueOf k ++
        [callerReply req (metaProc { handleCall r c req opts proc args kw with tasks := [] } mp
            (genOf r.ds.invGen metaKey + 1) (invDetails r.denv reg k metaKey opts proc) args kw).1] := by
  have hck : c.key = k := (find?_key hc).2
  subst hck
  rw [step_of_not_tick _ _ (by intro _ h; cases h), stepOp_msg_dispatch r c.key c _ hc hend hbusy (by rw [hauth])]
  have h1 := handleCall_meta (r := r) (c := c) (req := req) (opts := opts) (proc := proc) args kw hb hm hcal hdis hprog hppt
  generalize hr1 : handleCall r c req opts proc args kw = r1 at h1
  have hds1 : DealerInv r1.ds := hr1 ▸ handleCall_inv hd c req opts proc args kw
  -- the invocation and the answer are the two tasks of this step
  rw [show Realm.dispatch r c (.call req opts proc args kw) = r1 from hr1, show taskFuel = 99998 + 1 + 1 from rfl,
    C18_meta_call_drain (r := r1) (by rw [h1, ht]; rfl) (by rw [h1]; exact hmp) hnk]
  generalize hans : metaProc { r1 with tasks := [] } mp (genOf r.ds.invGen metaKey + 1)
    (invDetails r.denv reg c.key metaKey opts proc) args kw = ans
  have hstep : MetaStep _ mp _ ans := hans ▸ metaProc_step { r1 with tasks := [] } mp _ _ _ _
  obtain ⟨fds, -, fq, fms⟩ := hstep.frame
  obtain ⟨c', hc', hcap⟩ := metaStep_caps hstep (k := c.key) (by rw [h1]; exact hc)
  have hq : ({ ans.2 with tasks := [] } : Realm).queues = r.queues := fq.trans (by rw [h1])
  obtain ⟨v, hv, hvid, hvc⟩ := armTimer_mem (env := r.denv)
    (v := newInvk r.ds reg c.key req metaKey opts)
    (s := recordCall { r.ds with d := r.ds.d.setReg reg } (newInvk r.ds reg c.key req metaKey opts) metaKey)
    (List.mem_append_right _ (List.mem_singleton.2 rfl)) c.key req (routerTimeout r.denv reg metaKey opts)
  have hfin := C18_meta_answer_delivered (r := { ans.2 with tasks := [] }) (fds ▸ hds1)
    (by rw [show ({ ans.2 with tasks := [] } : Realm).metaS = r.metaS from fms.trans (by rw [h1])]; exact hms) rfl
    (v := v) (invId := genOf r.ds.invGen metaKey + 1) (req := req) (k := c.key)
    (by rw [show ({ ans.2 with tasks := [] } : Realm).ds = r1.ds from fds, h1]; exact hv)
    (by rw [hvid, newInvk_id]) (by rw [hvc]; rfl) hk hc'
    (by rw [queueLen_congr hq, hcap]; exact hroom) ans.1 (hans ▸ metaProc_answer _ _ _ _ _ _)
  exact ⟨_, congrArg flush (drain_succ_nil 99997 _ hfin.1), hfin.1,
    invDetails_caller r.denv reg c.key metaKey opts proc hdis,
    hfin.2.trans (congrArg (· ++ _) (queueOf_congr hq c.key))⟩

-- non-vacuity: the realm `create {}` builds, with one attached client (key 5)
example : ∃ (r : Realm) (c : Session) (reg : Reg),
    DealerInv r.ds ∧ r.metaS.key = metaKey ∧ r.tasks = [] ∧ (5 : SessKey) ≠ metaKey ∧
    r.clients.find? (fun c => c.key == 5) = some c ∧ r.ending.contains 5 = false ∧ r.busy 5 = false ∧
    authzGate r c (.call 1 [] MetaProcSessionCount [] []) = (true, r) ∧
    r.ds.d.byCall? ⟨5, 1⟩ = none ∧ r.ds.d.matchProcedure MetaProcSessionCount = some reg ∧
    reg.callees = [metaKey] ∧ reg.disclose = true ∧
    r.metaProcs.find? (fun p => p.1 == reg.id) = some (reg.id, MetaProcSessionCount) ∧
    isKillProc MetaProcSessionCount = false ∧
    Nexus.Dict.optFlag [] OptProgress = false ∧ pptScheme [] = "" ∧ r.queueLen 5 < c.cap ∧
    -- … and what the client reads in that step: RESULT(1, [1]) — one session attached
    ((r.step (.msg 5 (.call 1 [] MetaProcSessionCount [] []))).1.out.map
      (fun q => (q.1, q.2.map (fun m => match m with | .result req _ [.int n] _ => (req, n) | _ => (0, 0))))) =
      [(5, [(1, 1)])] := by
  -- the created realm as an opaque `R0`, so that the facts every reachable realm enjoys are not unfolded
  obtain ⟨R0, e⟩ : ∃ R0, R0 = metaRealm := ⟨_, rfl⟩
  have h0 : Realm.Reachable {} R0 := .init (e ▸ create_default)
  obtain ⟨reg, _, _, _, hcal, hdis, hreg, hmp⟩ := h0.metaRegs (p := MetaProcSessionCount) (by decide)
  have hcl : R0.clients = [] := e ▸ rfl
  refine ⟨{ R0 with
      clients := [{ key := 5, details := [("authid", .str "bob")], roles := [], isLocal := true, cap := 8 }],
      queues := [(5, [])] }, _, reg, h0.inv.1.dinv, h0.metaSafe.mkey, e ▸ rfl, by decide,
    rfl, ?_, ?_, ?_, h0.inv.1.dinv.call.byCall?_none fun hc => ?_, hreg, hcal, hdis, hmp, by decide, rfl, rfl, ?_, ?_⟩
  · subst e; rfl
  · subst e; rfl
  · subst e; rfl
  · obtain ⟨c, hc', _⟩ := h0.inv.1.callers _ hc
    rw [hcl] at hc'
    cases hc'
  · subst e; decide
  · subst e; decide +kernel

/-- THE ROUND TRIP HOLDS in every reachable realm (see `C18_call_roundtrip_stmt`): the witnesses are the fresh
    invocation id of the meta session and the invocation details the dealer builds for it. -/
theorem C18_call_roundtrip_stmt_holds : C18_call_roundtrip_stmt := by
  intro cfg r h ht k c hc hend hbusy req opts proc args kw hproc hnk hauth hb hprog hppt hroom
  obtain ⟨g, _, _, _, gc, gd, gm, gf⟩ := h.metaRegs hproc
  obtain ⟨R, h1, h2, h3, h4⟩ := C18_call_roundtrip_partial h.inv.1.dinv h.metaSafe.mkey ht (h.find?_ne_meta hc) hc hend hbusy
    req opts proc args kw hauth hb gm gc gd gf hnk hprog hppt hroom
  exact ⟨R, genOf r.ds.invGen metaKey + 1, invDetails r.denv g k metaKey opts proc, h1, h2, h3, h4⟩

/-- the invariant behind it, as a property of its own: in every reachable realm every configured meta procedure
    is registered for the meta session alone (exact match, caller disclosure on), is the best match of its own
    URI, and is bound to its name in `metaProcs` — whatever the clients have sent -/
theorem C18_meta_regs_intact {cfg : Config} {r : Realm} (h : Realm.Reachable cfg r) {p : String}
    (hp : p ∈ metaProcNames cfg) :
    ∃ g ∈ r.ds.d.regs, g.proc = p ∧ g.kind = .exact ∧ g.callees = [metaKey] ∧ g.disclose = true ∧
      r.ds.d.matchProcedure p = some g ∧ r.metaProcs.find? (fun e => e.1 == g.id) = some (g.id, p) :=
  h.metaRegs hp

-- non-vacuity: after `join metaKey`, `drop metaKey` (both no-ops of the model) and `join 5` the realm answers
-- `wamp.session.count` with RESULT(1, [1])
example : let r0 : Realm := registerMeta ({} : Realm) (metaProcNames {})
    let r3 : Realm := (((r0.step (.join metaKey true [] [] 8)).2.step (.drop metaKey)).2.step (.join 5 true [] [] 8)).2
    r3.clients.map (·.key) = [5] ∧
    ((r3.step (.msg 5 (.call 1 [] MetaProcSessionCount [] []))).1.out.map
      (fun q => (q.1, q.2.map (fun m => match m with | .result req _ [.int n] _ => (req, n) | _ => (0, 0))))) =
      [(5, [(1, 1)])] := by
  rw [registerMeta_default]
  decide +kernel

/-- registration events of a departure in a REACHABLE realm: `C18_events_leave_exact` with its side conditions
    discharged — the dealer invariant holds, and the key of an attached client is not the meta session's
    (`Realm.Reachable.find?_ne_meta`), so "k is attached" is all that is asked -/
theorem C18_events_leave_exact_reachable {cfg : Config} {r : Realm} (h : Realm.Reachable cfg r) {k : SessKey}
    {s : Session} (mode : LeaveMode) (hf : r.clients.find? (fun c => c.key == k) = some s)
    (hm : mode.isShutdown = false) :
    (r.leave k mode).tasks =
      r.tasks ++ ((idxIds r.ds.d.index k).flatMap (regDepartPubs r.ds.d k)).map Task.metaPub ++
        testamentTasks (bucketOf r k) ++
        [.metaPub { topic := MetaEventSessionOnLeave,
                    args := [sidVal s.key, detailOr s.details "authid", detailOr s.details "authrole"] }] :=
  C18_events_leave_exact h.inv.1.dinv (h.find?_ne_meta hf) mode hf hm

/-- … and the realm clause of `C18_events_leave_regs` for every attached client of a reachable realm -/
theorem C18_events_leave_regs_reachable {cfg : Config} {r : Realm} (h : Realm.Reachable cfg r) {k : SessKey}
    {s : Session} (mode : LeaveMode) (hf : r.clients.find? (fun c => c.key == k) = some s) :
    leaveBaseTasks r k mode =
      r.tasks ++ (if mode.isShutdown then []
                  else ((idxIds r.ds.d.index k).flatMap (regDepartPubs r.ds.d k)).map Task.metaPub) :=
  C18_events_leave_regs.2.2.2 r k mode h.inv.1.dinv (h.find?_ne_meta hf)

end Exact

end Nexus.C18
