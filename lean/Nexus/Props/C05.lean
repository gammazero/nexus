/-
  C05 — Ending a session removes all of its effects and state.

  Property text.  "When a session ends for any reason (GOODBYE, lost transport, kill through the
  meta API, protocol violation), from then on no event or invocation is routed to it, its
  subscriptions and registrations no longer exist for matching, sharing decisions or the meta API,
  every call it was serving is answered to its caller with an error, its own pending calls are
  abandoned (progressive results for them are interrupted), and its stored testaments are
  published exactly once.  Once all sessions of a realm have left and all calls have completed, the
  router holds no per-session, per-subscription, per-registration or per-call state, so
  arbitrarily long runs of sessions and calls, including failed and refused ones, do not grow the
  router."

  The theorems are about the realm model `Nexus.L2.Realm` (router/realm.go + the handler halves of
  broker.go / dealer.go).  The carrier is the invariant `Realm.RealmInv` (Nexus/L2/Proofs/RealmInv.lean):
  `BrokerInv` and `DealerInv` + live references + well-formed pending tasks.
  It holds initially, is preserved by every external input (`stepOp`), every internal task
  (`runTask`, whichever pending task is scheduled next — this is how all interleavings of the
  broker/dealer/realm/meta goroutines are covered), every timed event, and hence by `step` and in
  every reachable state.

  Vocabulary:  `r.isClient k`  k is the key of a session in `r.clients`;
               `r.att k`       k = metaKey ∨ r.isClient k;
               `r.broker.mem k` k is a member of some subscription;
               `r.ds.refs k`   k is a callee of a registration, a caller of a pending call, the
                               callee of an invocation, or a key of the callee index (DealerTimer.lean);
               `Gone r k`      ¬ broker.mem k ∧ no broker-index entry of k ∧ ¬ ds.refs k.

  clause                                                        theorem
  ------------------------------------------------------------  ----------------------------------
  live references: every subscriber, broker-index key and        C05_live_refs
  caller is attached; every callee, callee-index key,
  invocation callee and retrying handler is attached or is the
  meta session (which holds the wamp.* registrations)
  every message waiting in `inbox` was sent by an attached,      C05_live_refs_inbox
  buffered session whose handler is still busy
  … holds initially / preserved by every input, task, timed      C05_live_refs_init, C05_live_refs_stepOp,
  event, step / in every reachable state                         C05_live_refs_runTask, C05_live_refs_timed,
                                                                 C05_live_refs_step, C05_live_refs_reachable
  after the leave of k (every mode: lost, killed, aborted,       C05_leave_gone
  violation, shutdown) k occurs nowhere: clients, ending,
  subscriptions, broker index, registrations, callee index,
  calls, invocations, testament table
  "no event or invocation is routed to it": sends go only to     (consequence of C05_live_refs +
  members / callees / callers, all attached                      C05_leave_gone; C04_no_panic_step)
  every call k was serving → exactly one ERROR(CALL,             C05_leave_served_calls
  wamp.error.canceled) to its caller, in that step (shutdown
  is quiet by design); the calls are removed
  k's own calls are gone; a later progressive YIELD for them     C05_leave_own_calls,
  finds no invocation and draws an INTERRUPT                     C05_yield_after_leave (what `syncYield` does
                                                                 when it finds no invocation)
  … sharpened: the invocation, the call and the link            C05_leave_own_calls'
  of every call made by k are gone (no alternative)
  … hence the callee's later YIELD for it: progressive           C05_yield_after_caller_left (dealer),
  ⇒ INTERRUPT(killnowait) appended to the callee's queue if      C05_yield_after_caller_left_realm
  there is room, nothing else changes; final ⇒ nothing at all    (`handleYield`, end to end)
  "registrations no longer exist": every registration           C05_leave_regs_gone
  left has callees, none of them k, and is an old one minus k;
  `matchProcedure` / `findProc` / `findReg` return only such;
  a registration whose only callee was k is not found any more
  the same for subscriptions (`findId` / `findTopic` /           C05_leave_subs_gone
  `matching`); a subscription whose only member was k and that
  has no history store is gone; the history stores are untouched
  meta API after the leave: list_callees/count_callees,          C05_leave_meta_callees,
  list_subscribers/count_subscribers, session.list/count/get     C05_leave_meta_subscribers,
  never mention / count k                                         C05_leave_meta_sessions
  testaments: k's bucket is taken from the table and turned      C05_leave_testaments
  into publish tasks exactly once, detached then destroyed,
  followed by on_leave, for every non-shutdown mode (kill_all
  included: F30 fixed); nothing for shutdown
  running a testament's publish task: a well-formed              C05_testament_published,
  testament (valid topic, disclose_me allowed) is published      C05_meta_publisher_reachable
  — `ppt_scheme` included — to exactly the C01-expected
  subscribers, nobody is aborted, no task, no acknowledgement;   C05_testament_published_reachable
  in reachable states the feature hypothesis holds by itself
  an ill-formed one (invalid topic / disclose_me                 C05_testament_dropped
  refused) leaves the state unchanged (also with acknowledge)
  exactly one publish task per stored testament, the             C05_testaments_exactly_once
  bucket is gone, and each task publishes once / never
  testament buckets are stored under keys of attached sessions   C05_testaments_task_level,
  only: kept by every task / input / timed event / step;         C05_testaments_attached, _reachable,
  add_testament of a caller that has left stores nothing          C05_add_testament_unattached
  "for any reason" (kill through the meta API, ABORT by           C05_ending_only_busy,
  broker/dealer, …): marking a session as ending and queueing     C05_marked_ending_gone,
  its `leave` always go together; at quiescence only sessions    C05_end_pending_preserved
  with a busy handler (deferred departure) are still marked;
  from any moment inside a step, a marked session with a free
  handler is gone once the pending tasks have run
  … at every level: reachable state, every single task,          C05_testaments_live
  every input, every step
  from the input to the effect: an input that ends k              C05_end_input_gone,
  (lost transport, GOODBYE, protocol violation) — by the end of   C05_end_input_gone_inv
  that step k is no client and occurs nowhere (tables, ending,
  deferred, inbox, retries, testaments), nothing is pending;
  unless k's handler is busy / the task fuel ran out (`drain`
  induction principle `WpC.drain_quiescent`)
  "the router holds no per-session … state" once no session      C05_returns_to_empty
  is attached
  … and no testament, nobody ending, nothing deferred,           C05_returns_to_empty'
  nothing waiting in a transport, only the meta session's
  handler possibly retrying, no pending task (every history     C05_returns_to_empty'_full (def),
  of inputs: `Realm.Reachable`)                                  C05_returns_to_empty'_full_holds
  calls / invocations / invocationByCall have equal sizes,       C05_bounded
  every entry belongs to attached sessions (so the tables are
  bounded by the pending calls of attached sessions)

  Hypotheses on session keys.  None of the theorems below — those about whole steps included, which are
  stated over every history of inputs (`Realm.Reachable`): `join` under a key in use or the meta key and
  `drop` of a key that names no attached client are no-ops of the model, so every reachable realm satisfies
  `WpC.CtlInv` (`Realm.Reachable.ctl`, `Realm.Reachable.clients_wf`) —
  needs "joins use fresh keys" or
  "no session joins with key 0 (= metaKey)": `isClient` / `att` are stated by key, `Realm.leave k`
  removes every client entry with key k, and a client that (in the model only — the harness never
  does it, the router draws random non-zero ids) carried the key 0 would merely be conflated with
  the meta session by `att`.  Where key freshness matters (one realm per session) it is an explicit
  hypothesis: `C11_attach_once_step`, `C11_sessions_partitioned`, `C11_dispatch_own_realm`.

  Not proved here / recorded limits
  * `queues`: the model keeps the outbound queue of a departed session that had stopped reading
    (`ghosts`) until the harness observes the closure (`resume`); queue keys ⊆ sessions joined to
    the realm is C11 (`Realm.Conf`).  `C05_returns_to_empty` therefore says nothing about `queues`.
  * testaments (finding F20, fixed): `add_testament` stores under the caller id found in the
    invocation details.  In the real router the handler goroutines are concurrent, so the caller may
    have left when the meta handler runs; `testamentAdd` looks the caller up in `clients`
    and stores nothing when it is gone (`C05_add_testament_unattached`).  With that, "every testament
    bucket belongs to an attached session" is an invariant at the granularity of single tasks
    (`C05_testaments_task_level`: also a pending `metaInvoke add_testament` of a caller that has left
    stores nothing), of steps and in
    every reachable state (`C05_testaments_attached`, `C05_testaments_attached_reachable`).
    `C05_leave_testaments` (what leave does to the table) is unconditional.
  * a testament whose publish options say `acknowledge: true` makes the router produce
    PUBLISHED (or the ERROR of the two silent cases) for the meta session; the model's `trySend` drops
    everything but INVOCATIONs addressed to the meta session (`C05_testament_published`,
    `C05_testament_dropped` say so explicitly).  In Go `metaProcedureHandler` reacts to such a message
    by re-sending its previous response (realm.go `default:` branch) — harmless today, not modelled.
  * F30 (fixed in /repo 624448b, model follows): sessions ended by `kill_all` keep their
    testaments and their `on_leave`: `kill_all` is a kill like any other and
    `C05_leave_testaments` holds at full strength for every non-shutdown mode.  Only the realm
    shutdown (Router.Close / RemoveRealm) is silent, by design.
-/
import Nexus.L2.Proofs.RealmLeave
import Nexus.L2.Proofs.RealmMeta
import Nexus.L2.Proofs.LeaveTables
import Nexus.L2.Proofs.MetaPublish
import Nexus.L2.Proofs.EndPending

namespace Nexus.C05
open Nexus.L2 Nexus.L2.Realm Nexus.Gen.N

/-- What the invariant says about references to sessions. -/
theorem C05_live_refs (r : Realm) (hi : RealmInv r) :
    (∀ s ∈ r.broker.subs, ∀ k ∈ s.members, r.isClient k) ∧
    (∀ e ∈ r.broker.index, r.isClient e.1) ∧
    (∀ g ∈ r.ds.d.regs, ∀ k ∈ g.callees, r.att k) ∧
    (∀ e ∈ r.ds.d.index, r.att e.1) ∧
    (∀ c ∈ r.ds.d.calls, r.isClient c.sess) ∧
    (∀ v ∈ r.ds.d.invs, r.att v.callee ∧ r.isClient v.callId.sess) ∧
    (∀ p ∈ r.ds.d.byCall, r.isClient p.1.sess ∧ r.att p.2.sess) ∧
    (∀ x ∈ r.retries, r.att x.callee) := by
  refine ⟨fun s hs k hk => hi.bmem k ⟨s, hs, hk⟩, fun e he => hi.bmem e.1 (hi.binv.index_mem he),
    fun g hg k hk => hi.dref k (Or.inl ⟨g.id, g, hg, rfl, hk⟩),
    fun e he => hi.dref e.1 (Or.inr (Or.inr (Or.inr ⟨e, he, rfl⟩))), hi.callers, ?_, ?_, hi.retr⟩
  · intro v hv
    exact ⟨hi.dref _ (Or.inr (Or.inr (Or.inl ⟨v, hv, rfl⟩))), hi.callers _ (hi.dinv.call.inv_call hv).1⟩
  · intro p hp
    obtain ⟨v, hv, hvi, hvc⟩ := (hi.dinv.call.byInv p.1 p.2).mp hp
    refine ⟨hi.callers _ ((hi.dinv.call.callBy p.1).mpr ⟨p.2, hp⟩), ?_⟩
    have := hi.dref _ (Or.inr (Or.inr (Or.inl ⟨v, hv, rfl⟩)))
    rw [hi.dinv.call.callee v hv, hvi] at this
    exact this

/-- … and about what waits in the transport: every message in `inbox` was sent by an attached,
    `buffered` session whose handler is still in the yield retry loop (clause `inb` of `RealmInv`,
    kept by every input, task and timed event like the rest): nothing waits for a session that has
    left, nor for one whose handler could read it. -/
theorem C05_live_refs_inbox (r : Realm) (hi : RealmInv r) :
    ∀ e ∈ r.inbox, (∃ c ∈ r.clients, c.key = e.1 ∧ c.buffered = true) ∧ r.busy e.1 = true := hi.inb

/-- The freshly created realm satisfies the invariant. -/
theorem C05_live_refs_init (cfg : Config) (r : Realm) (h : Realm.create cfg = some r) : RealmInv r :=
  (create_rinv h).inv

/-- Every external input keeps it (join, message, transport loss, stall, resume, buffer, tick, rnd). -/
theorem C05_live_refs_stepOp (r : Realm) (hi : RealmInv r) (op : Op) : RealmInv (r.stepOp op) :=
  (stepOp_inv hi op).1

/-- Every internal task keeps it — for any pending task (`hi.tasks` says that every pending task is
    `TaskOk`), so for every order in which the goroutines' atomic actions are scheduled. -/
theorem C05_live_refs_runTask (r : Realm) (hi : RealmInv r) (t : Task) (ht : TaskOk t) : RealmInv (r.runTask t) :=
  (runTask_inv hi t ht).1

example (r : Realm) (hi : RealmInv r) (t : Task) (ht : t ∈ r.tasks) : TaskOk t := hi.tasks t ht

/-- Timed events keep it: a call timeout, and a turn of the yield retry loop of a pending retry. -/
theorem C05_live_refs_timed (r : Realm) (hi : RealmInv r) :
    (∀ t, RealmInv (r.timerDue t)) ∧ (∀ x ∈ r.retries, RealmInv (r.retryDue x)) :=
  ⟨fun t => (timerDue_rinv hi t).1, fun x hx => (retryDue_rinv hi x (hi.retr x hx)).1⟩

/-- One input run to quiescence keeps it. -/
theorem C05_live_refs_step (r : Realm) (hi : RealmInv r) (hp : FuelOnly r.panic) (op : Op) : RealmInv (r.step op).2 :=
  (step_inv hi hp op).1

/-- Hence it holds in every state reachable from `Realm.create cfg` by any history. -/
theorem C05_live_refs_reachable (cfg : Config) (r : Realm) (h : Realm.Reachable cfg r) : RealmInv r := h.inv.1

-- non-vacuity: the default realm (no sessions, nothing registered) satisfies the invariant
example : RealmInv ({} : Realm) := RealmInv.plain [] [] [] []

/-- After the handler of an attached session `k` has exited — in every mode — `k` is no longer in
    `clients` nor `ending`, is a member of no subscription, has no broker-index entry, is referred to
    by no registration, callee-index entry, call or invocation, and owns no testament bucket; the
    invariant holds and nothing panicked.  (`¬ busy k`: the handler is not in the yield retry loop —
    `runTask` defers the departure until it is free; `Router.shutdownRealm` clears the retries.) -/
theorem C05_leave_gone (r : Realm) (hi : RealmInv r) (k : SessKey) (mode : LeaveMode)
    (hk : r.isClient k) (hnb : r.busy k = false) :
    let r' := r.leave k mode
    RealmInv r' ∧ r'.panic = r.panic ∧
    ¬ r'.isClient k ∧ k ∉ r'.ending ∧
    ¬ r'.broker.mem k ∧ (∀ e ∈ r'.broker.index, e.1 ≠ k) ∧
    (∀ id, ¬ calleeRel r'.ds.d.regs id k) ∧ (∀ e ∈ r'.ds.d.index, e.1 ≠ k) ∧
    (∀ c ∈ r'.ds.d.calls, c.sess ≠ k) ∧
    (∀ v ∈ r'.ds.d.invs, v.callee ≠ k ∧ v.callId.sess ≠ k) ∧
    (∀ t ∈ r'.testaments, t.1 ≠ k) ∧
    (∀ k', r'.isClient k' ↔ r.isClient k' ∧ k' ≠ k) := by
  intro r'
  obtain ⟨h1, h2, h3⟩ := leave_inv hi k mode hnb
  obtain ⟨g1, g2, g3⟩ := h3 hk
  have hcalls : ∀ c ∈ r'.ds.d.calls, c.sess ≠ k := fun c hc e => g3 (Or.inr (Or.inl ⟨c, hc, e⟩))
  refine ⟨h1, h2, fun h => ((leave_isClient r k mode k).mp h).2 rfl, leave_ending r k mode hk, g1, g2, fun id h => g3 (Or.inl ⟨id, h⟩),
    fun e he h => g3 (Or.inr (Or.inr (Or.inr ⟨e, he, h⟩))), hcalls, ?_, ?_, ?_⟩
  · intro v hv
    exact ⟨fun e => g3 (Or.inr (Or.inr (Or.inl ⟨v, hv, e⟩))), hcalls _ (h1.dinv.call.inv_call hv).1⟩
  · intro t ht
    have : t ∈ r.testaments.filter (fun t => t.1 != k) := leave_testaments r k mode hk ▸ ht
    simpa using (List.mem_filter.mp this).2
  · exact leave_isClient r k mode

/-- Every call `k` was serving is answered in that step: the dealer part of the (non-shutdown)
    departure hands exactly one ERROR(CALL, request, wamp.error.canceled, ["<text>"]) per invocation
    whose callee is `k` to the caller's queue (non-blocking `trySend`, in table order), and those
    calls are no longer pending afterwards.  For the shutdown mode the same table updates happen
    without any message (quiet by design: Router.Close / RemoveRealm). -/
theorem C05_leave_served_calls (r : Realm) (hi : RealmInv r) (k : SessKey) :
    (syncRemoveSession r.denv r.ds k).sends =
      (r.ds.d.invs.filter (fun v => v.callee == k)).map (fun v => goneErr v.callId) ∧
    (∀ x ∈ (syncRemoveSession r.denv r.ds k).sends, r.isClient x.to) ∧
    (∀ c ∈ (syncRemoveSession r.denv r.ds k).st.d.calls, ∀ v ∈ r.ds.d.invs, v.callee = k → v.callId ≠ c) ∧
    leaveRemove r k false =
      (let ra := r.applyD (syncRemoveSession r.denv r.ds k)
       ({ ra with broker := (ra.broker.syncRemoveSession k ra.pubCount).1,
                  pubCount := ra.pubCount + (ra.broker.syncRemoveSession k ra.pubCount).2.2 } : Realm).deliver
         (ra.broker.syncRemoveSession k ra.pubCount).2.1) ∧
    leaveRemove r k true =
      ({ r with ds := (syncRemoveSession r.denv r.ds k).st, broker := (r.broker.syncRemoveSession k r.pubCount).1 } : Realm).setPanic
        (syncRemoveSession r.denv r.ds k).panic := by
  have hs := syncRemoveSession_sends (env := r.denv) hi.dinv k
  refine ⟨hs, ?_, fun c hc => (syncRemoveSession_calls hi.dinv k c hc).2.2, ?_, rfl⟩
  · intro x hx
    rw [hs] at hx
    obtain ⟨v, hv, rfl⟩ := List.mem_map.mp hx
    exact hi.callers _ (hi.dinv.call.inv_call (List.mem_filter.mp hv).1).1
  · -- the `if` is reduced first: `rfl` on the unreduced term unfolds `deliver` on both sides
    unfold leaveRemove
    rw [if_neg Bool.false_ne_true]

-- the ERROR a caller gets
example (c : ReqId) : goneErr c = ⟨c.sess, .error tCALL c.req [] ErrCanceled [.str "<text>"] []⟩ := rfl

/-- Example states for the non-vacuity examples below: sessions 1 and 2 join, 2 registers
    "p" and subscribes to "t", 1 calls "p" (the INVOCATION is in 2's queue, the call is pending). Built
    by `stepOp`, so the invariant holds by `C05_live_refs_stepOp`. -/
def WpCEx.r3 : Realm :=
  ((({} : Realm).stepOp (.join 1 false [] [] 8)).stepOp (.join 2 false [] [] 8)).stepOp (.msg 2 (.register 1 [] "p"))
def WpCEx.r4 : Realm := WpCEx.r3.stepOp (.msg 2 (.subscribe 2 [] "t"))
def WpCEx.r5 : Realm := WpCEx.r4.stepOp (.msg 1 (.call 1 [] "p" [] []))

theorem WpCEx.r4_inv : RealmInv WpCEx.r4 :=
  C05_live_refs_stepOp _ (C05_live_refs_stepOp _ (C05_live_refs_stepOp _ (C05_live_refs_stepOp _
    (RealmInv.plain [] [] [] []) _) _) _) _
theorem WpCEx.r5_inv : RealmInv WpCEx.r5 := C05_live_refs_stepOp _ WpCEx.r4_inv _

/-- `k`'s own calls are gone (sharpening of `C05_leave_own_calls`, whose second alternative is
    impossible): for every invocation `v` of a call made by `k`, after the leave — in every mode — no
    invocation with `v`'s id is stored (invocation ids are unique and the departure only removes
    invocations, so an invocation left over under that id would be `v` itself, whose caller is gone),
    the call is not pending and has no call→invocation link.  So whatever the callee still sends for
    that invocation finds nothing. -/
theorem C05_leave_own_calls' (r : Realm) (hi : RealmInv r) (k : SessKey) (mode : LeaveMode)
    (hk : r.isClient k) (hnb : r.busy k = false) (v : Invk) (hv : v ∈ r.ds.d.invs) (hvk : v.callId.sess = k) :
    let r' := r.leave k mode
    r'.ds.d.findInv v.id = none ∧ v.callId ∉ r'.ds.d.calls ∧ (∀ p ∈ r'.ds.d.byCall, p.1 ≠ v.callId) := by
  intro r'
  obtain ⟨h1, _, _, _, _, _, _, _, hcalls, hinvs, _, _⟩ := C05_leave_gone r hi k mode hk hnb
  obtain ⟨s, hf⟩ := isClient_find? hk
  refine ⟨WpC.leave_findInv_none hi mode hf (fun w hw => (hinvs w hw).2) hv hvk, fun hc => hcalls _ hc hvk, ?_⟩
  intro p hp e
  exact hcalls _ ((h1.dinv.call.callBy p.1).mpr ⟨p.2, hp⟩) (e ▸ hvk)

/-- `k`'s own calls are abandoned: after the leave no call, link or invocation with caller `k` is
    left, and a later YIELD of the callee for such an invocation finds no invocation — a progressive
    YIELD draws INTERRUPT(killnowait) (if the callee's queue has room), a final one is ignored. -/
theorem C05_leave_own_calls (r : Realm) (hi : RealmInv r) (k : SessKey) (mode : LeaveMode)
    (hk : r.isClient k) (hnb : r.busy k = false) (v : Invk) (_hv : v ∈ r.ds.d.invs) (hvk : v.callId.sess = k) :
    let r' := r.leave k mode
    v.callId ∉ r'.ds.d.calls ∧ (∀ p ∈ r'.ds.d.byCall, p.1.sess ≠ k) ∧ r'.ds.d.findInv v.id = none ∨
      (∃ w ∈ r'.ds.d.invs, w.id = v.id ∧ w.callId.sess ≠ k) := by
  intro r'
  obtain ⟨h1, _, _, _, _, _, _, _, hcalls, _⟩ := C05_leave_gone r hi k mode hk hnb
  obtain ⟨hf, hc, _⟩ := C05_leave_own_calls' r hi k mode hk hnb v _hv hvk
  exact Or.inl ⟨hc, fun p hp => hcalls _ ((h1.dinv.call.callBy p.1).mpr ⟨p.2, hp⟩), hf⟩

/-- … and what `syncYield` does when it finds no invocation (the link to the dealer model). -/
theorem C05_yield_after_leave (env : DEnv) (s : DState) (callee : SessKey) (req : Nat) (opts : Dict)
    (args : List WVal) (kw : Dict) (canRetry : Bool) (hf : s.d.findInv ⟨callee, req⟩ = none) :
    (env.full callee = false →
      syncYield env s callee req opts args kw true canRetry =
        { st := s, sends := [⟨callee, .interrupt req [(OptMode, .str CancelModeKillNoWait)]⟩] }) ∧
    syncYield env s callee req opts args kw false canRetry = { st := s } :=
  ⟨fun hfull => by rw [syncYield_unknown args kw true canRetry hf]; simp [hfull],
    by rw [syncYield_unknown args kw false canRetry hf]; simp⟩

-- non-vacuity: in the example state session 1 is attached, not busy, and has a pending call
example : RealmInv WpCEx.r5 ∧ WpCEx.r5.isClient 1 ∧ WpCEx.r5.busy 1 = false ∧
    ∃ v ∈ WpCEx.r5.ds.d.invs, v.callId.sess = 1 :=
  ⟨WpCEx.r5_inv, by unfold Realm.isClient; decide +kernel⟩

/-- The invocation key a YIELD of the callee carries is `v.id` (`CallInv.callee`), which is gone. -/
theorem leave_yield_none (r : Realm) (hi : RealmInv r) (k : SessKey) (mode : LeaveMode)
    (hk : r.isClient k) (hnb : r.busy k = false) (v : Invk) (hv : v ∈ r.ds.d.invs) (hvk : v.callId.sess = k) :
    (r.leave k mode).ds.d.findInv ⟨v.callee, v.id.req⟩ = none := by
  rw [hi.dinv.call.callee v hv]
  exact (C05_leave_own_calls' r hi k mode hk hnb v hv hvk).1

/-- "Progressive results for them are interrupted", at the dealer: after the caller `k` has left, the
    callee's YIELD for that invocation (`v.id = (v.callee, v.id.req)`), handled in the state after the
    leave, finds no invocation.  A progressive YIELD is answered with exactly one
    INTERRUPT(request, {mode: killnowait}) to the callee when the callee's queue is not full, and with
    nothing when it is full; a final YIELD is ignored.  The dealer state is unchanged in all three cases,
    nothing is sent to anybody else, nobody is aborted, the handler never enters the retry loop. -/
theorem C05_yield_after_caller_left (r : Realm) (hi : RealmInv r) (k : SessKey) (mode : LeaveMode)
    (hk : r.isClient k) (hnb : r.busy k = false) (v : Invk) (hv : v ∈ r.ds.d.invs) (hvk : v.callId.sess = k)
    (opts : Dict) (args : List WVal) (kw : Dict) (canRetry : Bool) :
    let r' := r.leave k mode
    (r'.isFull v.callee = false →
      syncYield r'.denv r'.ds v.callee v.id.req opts args kw true canRetry =
        { st := r'.ds, sends := [⟨v.callee, .interrupt v.id.req [(OptMode, .str CancelModeKillNoWait)]⟩] }) ∧
    (r'.isFull v.callee = true →
      syncYield r'.denv r'.ds v.callee v.id.req opts args kw true canRetry = { st := r'.ds }) ∧
    syncYield r'.denv r'.ds v.callee v.id.req opts args kw false canRetry = { st := r'.ds } := by
  intro r'
  have hfn : r'.ds.d.findInv ⟨v.callee, v.id.req⟩ = none := leave_yield_none r hi k mode hk hnb v hv hvk
  -- `isFull` is the dealer's `full`
  refine ⟨fun hfull => ?_, fun hfull => ?_, ?_⟩ <;> rw [syncYield_unknown args kw _ canRetry hfn]
  · simp [show r'.denv.full v.callee = false from hfull]
  · simp [show r'.denv.full v.callee = true from hfull]
  · simp

/-- … and end to end, at the realm: the callee session `s` (`s.key = v.callee`) sends
    YIELD(v.id.req, opts, args, kw) after the caller `k` has left.  `handleYield` in the state `r'` after
    the leave is `r'` with INTERRUPT(v.id.req, {mode: killnowait}) offered to `s`'s own queue when the
    YIELD is progressive and that queue is not full, and is exactly `r'` otherwise.  For a callee that
    is an attached (non-meta) session with capacity `c.cap`: the new state is `r'` with exactly that
    message appended to exactly that queue (everything else — tables, other queues, tasks, retries,
    panic flag — unchanged); if the YIELD is final or the queue is full, nothing changes at all.  For the
    meta session as callee (the `wamp.*` procedures) nothing changes either.  (A callee that is `k`
    itself is no longer attached: its queue counts as full, nothing changes.) -/
theorem C05_yield_after_caller_left_realm (r : Realm) (hi : RealmInv r) (k : SessKey) (mode : LeaveMode)
    (hk : r.isClient k) (hnb : r.busy k = false) (v : Invk) (hv : v ∈ r.ds.d.invs) (hvk : v.callId.sess = k)
    (s : Session) (hs : s.key = v.callee) (opts : Dict) (args : List WVal) (kw : Dict) :
    let r' := r.leave k mode
    let intr : Msg := .interrupt v.id.req [(OptMode, .str CancelModeKillNoWait)]
    handleYield r' s v.id.req opts args kw =
      (if opts.optFlag OptProgress = true ∧ r'.isFull s.key = false then r'.trySend ⟨s.key, intr⟩ else r') ∧
    (∀ c, s.key ≠ metaKey → r'.client? s.key = some c →
      handleYield r' s v.id.req opts args kw =
        (if opts.optFlag OptProgress = true ∧ r'.queueLen s.key < c.cap
         then { r' with queues := enq r'.queues s.key intr } else r') ∧
      (opts.optFlag OptProgress = true → r'.queueLen s.key < c.cap →
        (handleYield r' s v.id.req opts args kw).queueOf s.key = r'.queueOf s.key ++ [intr] ∧
        ∀ k', k' ≠ s.key → (handleYield r' s v.id.req opts args kw).queueOf k' = r'.queueOf k')) ∧
    (s.key = metaKey → handleYield r' s v.id.req opts args kw = r') := by
  intro r' intr
  have hfn : r'.ds.d.findInv ⟨s.key, v.id.req⟩ = none := hs ▸ leave_yield_none r hi k mode hk hnb v hv hvk
  refine ⟨WpC.handleYield_noInv r' s v.id.req opts args kw hfn, ?_,
    WpC.handleYield_noInv_meta r' s v.id.req opts args kw hfn⟩
  intro c hne hc
  have heq := WpC.handleYield_noInv_client r' s c v.id.req opts args kw hfn hne hc
  refine ⟨heq, ?_⟩
  intro hp hroom
  rw [heq, if_pos ⟨hp, hroom⟩]
  refine ⟨?_, fun k' hk' => ?_⟩
  · show qlook (enq r'.queues s.key intr) s.key = _
    rw [qlook_enq, if_pos rfl]; rfl
  · show qlook (enq r'.queues s.key intr) k' = _
    rw [qlook_enq, if_neg hk']; rfl

-- non-vacuity, end to end on the example: caller 1 is lost; callee 2's progressive YIELD for the
-- invocation (request id 1) appends one INTERRUPT (type 69) to 2's queue, a final YIELD nothing
example :
    let r' := WpCEx.r5.leave 1 .lost
    let s2 : Session := { key := 2, details := [], roles := [], isLocal := false, cap := 8 }
    (∃ v ∈ WpCEx.r5.ds.d.invs, v.callId.sess = 1 ∧ v.callee = 2 ∧ v.id.req = 1) ∧
    ((handleYield r' s2 1 [(OptProgress, .bool true)] [] []).queueOf 2).map Msg.typeCode =
      (r'.queueOf 2).map Msg.typeCode ++ [69] ∧
    ((handleYield r' s2 1 [] [] []).queueOf 2).map Msg.typeCode = (r'.queueOf 2).map Msg.typeCode := by
  decide +kernel

/-- "Its registrations no longer exist for matching, sharing decisions or the meta API."  After the
    leave of `k` (every mode):
    * every registration left has at least one callee, `k` is not among them, and it is a
      registration that existed before — same id, procedure, match, policy — whose callees are the old
      callees without `k`;
    * hence `matchProcedure p` (what CALL routes by), `findProc p kind` (what REGISTER shares by,
      `wamp.registration.lookup`) and `findReg id` (UNREGISTER, `wamp.registration.get` …) return only
      such registrations;
    * a registration whose only callee was `k` has been deleted: its id is not found, no registration
      with its (procedure, match kind) is found — a later REGISTER of that procedure creates a new
      registration, a CALL does not match it — and no lookup whatsoever returns it. -/
theorem C05_leave_regs_gone (r : Realm) (hi : RealmInv r) (k : SessKey) (mode : LeaveMode)
    (hk : r.isClient k) (hnb : r.busy k = false) :
    let r' := r.leave k mode
    (∀ g ∈ r'.ds.d.regs, g.callees ≠ [] ∧ k ∉ g.callees ∧
      ∃ g0 ∈ r.ds.d.regs, g.id = g0.id ∧ g.proc = g0.proc ∧ g.«match» = g0.«match» ∧ g.policy = g0.policy ∧
        ∀ c, c ∈ g.callees ↔ c ∈ g0.callees ∧ c ≠ k) ∧
    (∀ p g, r'.ds.d.matchProcedure p = some g → g ∈ r'.ds.d.regs ∧ g.callees ≠ [] ∧ k ∉ g.callees) ∧
    (∀ p kind g, r'.ds.d.findProc p kind = some g → g ∈ r'.ds.d.regs ∧ g.callees ≠ [] ∧ k ∉ g.callees) ∧
    (∀ id g, r'.ds.d.findReg id = some g → g ∈ r'.ds.d.regs ∧ g.callees ≠ [] ∧ k ∉ g.callees) ∧
    (∀ g ∈ r.ds.d.regs, g.callees = [k] →
      r'.ds.d.findReg g.id = none ∧ r'.ds.d.findProc g.proc g.kind = none ∧
      (∀ g' ∈ r'.ds.d.regs, g'.id ≠ g.id ∧ ¬ (g'.proc = g.proc ∧ g'.kind = g.kind)) ∧
      (∀ p g', r'.ds.d.matchProcedure p = some g' → g'.id ≠ g.id ∧ ¬ (g'.proc = g.proc ∧ g'.kind = g.kind))) := by
  intro r'
  obtain ⟨h1, _, _, _, _, _, hrel, _⟩ := C05_leave_gone r hi k mode hk hnb
  obtain ⟨s, hf⟩ := isClient_find? hk
  have hframe := WpC.leave_reg_frame hi mode hf h1
  have hall : ∀ g ∈ r'.ds.d.regs, g.callees ≠ [] ∧ k ∉ g.callees :=
    fun g hg => ⟨(h1.dinv.reg.regs.callees g hg).1, fun hc => hrel g.id ⟨g, hg, rfl, hc⟩⟩
  have hsole : ∀ g ∈ r.ds.d.regs, g.callees = [k] →
      ∀ g' ∈ r'.ds.d.regs, g'.id ≠ g.id ∧ ¬ (g'.proc = g.proc ∧ g'.kind = g.kind) := by
    intro g hg hgc g' hg'
    obtain ⟨g0, hg0, e1, e2, e3, _, hc⟩ := hframe g' hg'
    have hne : g0 ≠ g := by
      rintro rfl
      obtain ⟨c, hcm⟩ := List.exists_mem_of_ne_nil _ (hall g' hg').1
      obtain ⟨hc1, hc2⟩ := (hc c).mp hcm
      rw [hgc] at hc1
      exact hc2 (List.mem_singleton.mp hc1)
    refine ⟨fun e => hne (WpC.reg_eq_of_id hi.dinv.reg.regs hg0 hg (e1.symm.trans e)), fun e => hne ?_⟩
    exact WpC.reg_eq_of_key hi.dinv.reg.regs hg0 hg (e2.symm.trans e.1) ((WpC.reg_kind_eq e3).symm.trans e.2)
  have hfound : ∀ {g}, g ∈ r'.ds.d.regs → g ∈ r'.ds.d.regs ∧ g.callees ≠ [] ∧ k ∉ g.callees :=
    fun hg => ⟨hg, hall _ hg⟩
  refine ⟨fun g hg => ⟨(hall g hg).1, (hall g hg).2, hframe g hg⟩, fun p g hm => hfound (matchProcedure_mem hm),
    fun p kind g hm => hfound (List.mem_of_find?_eq_some hm), fun id g hm => hfound (List.mem_of_find?_eq_some hm),
    fun g hg hgc => ?_⟩
  have hs := hsole g hg hgc
  exact ⟨findReg_eq_none.mpr (fun g' hg' => (hs g' hg').1),
    findProc_eq_none.mpr (fun g' hg' e => (hs g' hg').2 ⟨e.2, e.1⟩), hs, fun p g' hm => hs g' (matchProcedure_mem hm)⟩

-- non-vacuity: in the example state session 2 is the only callee of the registration of "p"; after its
-- departure no registration is left at all
example : RealmInv WpCEx.r5 ∧ WpCEx.r5.isClient 2 ∧ WpCEx.r5.busy 2 = false ∧
    (∃ g ∈ WpCEx.r5.ds.d.regs, g.callees = [2] ∧ g.proc = "p") ∧
    (WpCEx.r5.leave 2 .lost).ds.d.regs.length = 0 :=
  ⟨WpCEx.r5_inv, by unfold Realm.isClient; decide +kernel⟩

/-- "Its subscriptions no longer exist for matching or the meta API."  After the leave of `k`:
    * every subscription left does not have `k` among its members, is a subscription that existed
      before — same id, topic, match — whose members are the old members without `k`, and if it has no
      member at all it has a history store (a pre-configured history subscription);
    * the history stores are untouched;
    * `findId id` (UNSUBSCRIBE, `wamp.subscription.get` …), `findTopic t kind` (SUBSCRIBE,
      `wamp.subscription.lookup`) and `matching t` (PUBLISH, `wamp.subscription.match`) return only
      such subscriptions;
    * a subscription whose only member was `k` and that has no history store has been deleted: neither
      its id nor its (topic, match kind) is found any more, `matching` never returns it. -/
theorem C05_leave_subs_gone (r : Realm) (hi : RealmInv r) (k : SessKey) (mode : LeaveMode)
    (hk : r.isClient k) (hnb : r.busy k = false) :
    let r' := r.leave k mode
    (∀ s ∈ r'.broker.subs, k ∉ s.members ∧ (s.members = [] → r'.broker.hasHist s.id = true) ∧
      ∃ s0 ∈ r.broker.subs, s.id = s0.id ∧ s.topic = s0.topic ∧ s.«match» = s0.«match» ∧
        ∀ c, c ∈ s.members ↔ c ∈ s0.members ∧ c ≠ k) ∧
    r'.broker.hist = r.broker.hist ∧
    (∀ id s, r'.broker.findId id = some s → s ∈ r'.broker.subs ∧ k ∉ s.members) ∧
    (∀ t kind s, r'.broker.findTopic t kind = some s → s ∈ r'.broker.subs ∧ k ∉ s.members) ∧
    (∀ t x, x ∈ r'.broker.matching t → x.1 ∈ r'.broker.subs ∧ k ∉ x.1.members) ∧
    (∀ s ∈ r.broker.subs, s.members = [k] → r.broker.hasHist s.id = false →
      r'.broker.findId s.id = none ∧ r'.broker.findTopic s.topic s.kind = none ∧
      (∀ s' ∈ r'.broker.subs, s'.id ≠ s.id ∧ ¬ (s'.topic = s.topic ∧ s'.kind = s.kind)) ∧
      (∀ t x, x ∈ r'.broker.matching t → x.1.id ≠ s.id)) := by
  intro r'
  obtain ⟨h1, _, _, _, hmem, _⟩ := C05_leave_gone r hi k mode hk hnb
  obtain ⟨s, hf⟩ := isClient_find? hk
  have hframe := WpC.leave_sub_frame hi mode hf h1
  have hhist : r'.broker.hist = r.broker.hist := (WpC.leave_subs_sub hi mode hf).2
  have hall : ∀ s ∈ r'.broker.subs, k ∉ s.members := fun s hs hc => hmem ⟨s, hs, hc⟩
  have hsole : ∀ s0 ∈ r.broker.subs, s0.members = [k] → r.broker.hasHist s0.id = false →
      ∀ s' ∈ r'.broker.subs, s'.id ≠ s0.id ∧ ¬ (s'.topic = s0.topic ∧ s'.kind = s0.kind) := by
    intro s0 hs0 hm hh s' hs'
    obtain ⟨s1, hs1, e1, e2, e3, hc⟩ := hframe s' hs'
    have hne : s1 ≠ s0 := by
      rintro rfl
      have hempty : s'.members = [] := List.eq_nil_iff_forall_not_mem.mpr fun c hcm =>
        ((hc c).mp hcm).2 (List.mem_singleton.mp (hm ▸ ((hc c).mp hcm).1))
      have := h1.binv.empty_hist s' hs' hempty
      unfold Broker.hasHist at this hh
      rw [hhist, e1, hh] at this
      cases this
    refine ⟨fun e => hne (eq_of_id_eq hi.binv.ids_nodup hs1 hs0 (e1.symm.trans e)), fun e => hne ?_⟩
    exact hi.binv.topic_unique s1 hs1 s0 hs0 (e2.symm.trans e.1) ((WpC.sub_kind_eq e3).symm.trans e.2)
  refine ⟨fun s' hs' => ⟨hall s' hs', h1.binv.empty_hist s' hs', hframe s' hs'⟩, hhist,
    fun id s' hm => ⟨(findId_some hm).1, hall s' (findId_some hm).1⟩,
    fun t kind s' hm => ⟨(findTopic_some hm).1, hall s' (findTopic_some hm).1⟩,
    fun t x hx => ⟨matching_sub hx, hall x.1 (matching_sub hx)⟩, fun s0 hs0 hm hh => ?_⟩
  have hs := hsole s0 hs0 hm hh
  refine ⟨?_, ?_, hs, fun t x hx => (hs x.1 (matching_sub hx)).1⟩
  · exact findId_none.2 fun s' hs' => (hs s' hs').1
  · exact findTopic_none.2 fun s' hs' e => (hs s' hs').2 ⟨e.2, e.1⟩

-- non-vacuity: in the example state session 2 is the only subscriber of "t" (no history store);
-- after its departure no subscription is left
example : (∃ s ∈ WpCEx.r5.broker.subs, s.members = [2] ∧ s.topic = "t" ∧ WpCEx.r5.broker.hasHist s.id = false) ∧
    (WpCEx.r5.leave 2 .lost).broker.subs.length = 0 :=
  by decide +kernel

/-- The meta API after the leave of `k`, registrations: `wamp.registration.list_callees` and
    `wamp.registration.count_callees` (for whatever arguments) either answer
    ERROR wamp.error.no_such_registration, or answer for a registration `g` still in the table the list
    `g.callees` (as session ids) resp. its length — and `k` is not in that list (so its session id is
    not listed and it is not counted). -/
theorem C05_leave_meta_callees (r : Realm) (hi : RealmInv r) (k : SessKey) (mode : LeaveMode)
    (hk : r.isClient k) (hnb : r.busy k = false) (req : Nat) (details : Dict) (args : List WVal) (kw : Dict) :
    let r' := r.leave k mode
    match regArg r' args with
    | none =>
      metaProc r' MetaProcRegListCallees req details args kw = (mErr req ErrNoSuchRegistration, r') ∧
      metaProc r' MetaProcRegCountCallees req details args kw = (mErr req ErrNoSuchRegistration, r')
    | some g =>
      g ∈ r'.ds.d.regs ∧ k ∉ g.callees ∧ sidVal k ∉ g.callees.map sidVal ∧
      metaProc r' MetaProcRegListCallees req details args kw = (mYield req [.list (g.callees.map sidVal)], r') ∧
      metaProc r' MetaProcRegCountCallees req details args kw = (mYield req [.int g.callees.length], r') := by
  intro r'
  have h1 := metaProc_at 12 rfl r' req details args kw
  have h2 := metaProc_at 13 rfl r' req details args kw
  rw [← aboutReg_run] at h1 h2
  cases hra : regArg r' args with
  | none =>
    rw [hra] at h1 h2
    exact ⟨h1, h2⟩
  | some g =>
    rw [hra] at h1 h2
    obtain ⟨id, hfr⟩ : ∃ id, r'.ds.d.findReg id = some g := by
      unfold regArg at hra
      split at hra
      · split at hra
        · exact ⟨_, hra⟩
        · cases hra
      · cases hra
    obtain ⟨hm, _, hnk⟩ := (C05_leave_regs_gone r hi k mode hk hnb).2.2.2.1 id g hfr
    exact ⟨hm, hnk, sidVal_not_mem hnk, h1, h2⟩

/-- The meta API after the leave of `k`, subscriptions: `wamp.subscription.list_subscribers` and
    `wamp.subscription.count_subscribers` either answer ERROR wamp.error.no_such_subscription, or answer
    for a subscription `s` still in the table the list `s.members` (as session ids) resp. its length —
    and `k` is not in that list. -/
theorem C05_leave_meta_subscribers (r : Realm) (hi : RealmInv r) (k : SessKey) (mode : LeaveMode)
    (hk : r.isClient k) (hnb : r.busy k = false) (req : Nat) (details : Dict) (args : List WVal) (kw : Dict) :
    let r' := r.leave k mode
    match subArg r' args with
    | none =>
      metaProc r' MetaProcSubListSubscribers req details args kw = (mErr req ErrNoSuchSubscription, r') ∧
      metaProc r' MetaProcSubCountSubscribers req details args kw = (mErr req ErrNoSuchSubscription, r')
    | some s =>
      s ∈ r'.broker.subs ∧ k ∉ s.members ∧ sidVal k ∉ s.members.map sidVal ∧
      metaProc r' MetaProcSubListSubscribers req details args kw = (mYield req [.list (s.members.map sidVal)], r') ∧
      metaProc r' MetaProcSubCountSubscribers req details args kw = (mYield req [.int s.members.length], r') := by
  intro r'
  have h1 := metaProc_at 18 rfl r' req details args kw
  have h2 := metaProc_at 19 rfl r' req details args kw
  rw [← aboutSub_run] at h1 h2
  cases hra : subArg r' args with
  | none =>
    rw [hra] at h1 h2
    exact ⟨h1, h2⟩
  | some s =>
    rw [hra] at h1 h2
    obtain ⟨id, hfr⟩ : ∃ id, r'.broker.findId id = some s := by
      unfold subArg at hra
      split at hra
      · split at hra
        · exact ⟨_, hra⟩
        · cases hra
      · cases hra
    obtain ⟨hm, hnk⟩ := (C05_leave_subs_gone r hi k mode hk hnb).2.2.1 id s hfr
    exact ⟨hm, hnk, sidVal_not_mem hnk, h1, h2⟩

/-- The meta API after the leave of `k`, sessions: the client list is the old one without the entries
    of key `k`; `wamp.session.list` answers the ids of the other sessions selected by the authrole
    filter, `wamp.session.count` their number, and `wamp.session.get` of `k`'s session id answers
    ERROR wamp.error.no_such_session.  (No hypothesis is needed: this is what `sess.Close()` /
    `delete(r.clients, sess.ID)` does, in every mode; for a `k` that is not attached the leave is a no-op
    and the filter removes nothing.) -/
theorem C05_leave_meta_sessions (r : Realm) (k : SessKey) (mode : LeaveMode)
    (req : Nat) (details : Dict) (args : List WVal) (kw : Dict) :
    let r' := r.leave k mode
    r'.clients = r.clients.filter (fun c => c.key != k) ∧
    (∀ f, sessSel r' f = (sessSel r f).filter (fun c => c.key != k) ∧
      sidVal k ∉ (sessSel r' f).map (fun c => sidVal c.key)) ∧
    metaProc r' MetaProcSessionList req details args kw =
      (match sessFilter args with
       | none => (mErr req ErrInvalidArgument, r')
       | some f => (mYield req [.list (((sessSel r f).filter (fun c => c.key != k)).map (fun c => sidVal c.key))], r')) ∧
    metaProc r' MetaProcSessionCount req details args kw =
      (match sessFilter args with
       | none => (mErr req ErrInvalidArgument, r')
       | some f => (mYield req [.int ((sessSel r f).filter (fun c => c.key != k)).length], r')) ∧
    (∀ a rest, a.asID = some (sidOf k) →
      metaProc r' MetaProcSessionGet req details (a :: rest) kw = (mErr req ErrNoSuchSession, r')) := by
  intro r'
  have hcl : r'.clients = r.clients.filter (fun c => c.key != k) := leave_clients r k mode
  have hsel : ∀ f, sessSel r' f = (sessSel r f).filter (fun c => c.key != k) := by
    intro f
    unfold sessSel
    rw [hcl, List.filter_filter, List.filter_filter]
    apply List.filter_congr
    intro c _
    exact Bool.and_comm _ _
  refine ⟨hcl, fun f => ⟨hsel f, ?_⟩, ?_, ?_, ?_⟩
  · intro hm
    obtain ⟨c, hc, e⟩ := List.mem_map.mp hm
    rw [hsel] at hc
    have := (List.mem_filter.mp hc).2
    have hck : c.key = k := sidVal_inj e
    simp [hck] at this
  · rw [metaProc_at 1 rfl, MetaView.sessionList]
    cases sessFilter args with
    | none => rfl
    | some f => simp only [view_sel, List.map_map, hsel]; rfl
  · rw [metaProc_at 0 rfl, MetaView.sessionCount]
    cases sessFilter args with
    | none => rfl
    | some f => simp only [view_sel, List.length_map, hsel]; rfl
  · intro a rest ha
    rw [metaProc_at 2 rfl, MetaView.sessionGet]
    simp only [ha, view_find]
    have : r'.keyOfSid (sidOf k) = none := by
      unfold keyOfSid
      rw [List.find?_eq_none]
      intro c hc e
      rw [hcl] at hc
      have hne := (List.mem_filter.mp hc).2
      have hck : c.key = k := sidOf_inj (by simpa using e)
      simp [hck] at hne
    rw [this]
    rfl

-- non-vacuity on the example: after 2 has left, `wamp.session.list` shows session 1 only,
-- `wamp.session.count` answers 1, `wamp.session.get` of 2's id answers no_such_session
example :
    let r' := WpCEx.r5.leave 2 .lost
    (sessSel WpCEx.r5 []).map (·.key) = [1, 2] ∧ (sessSel r' []).map (·.key) = [1] ∧
    (WVal.int (sidOf 2)).asID = some (sidOf 2) := by
  decide +kernel

/-- Testaments.  The bucket of `k` is removed from the table (every mode).  For every non-shutdown
    mode — lost, killed (kill, kill_by_authid, kill_by_authrole and kill_all), aborted, violation —
    the departure appends, after the tasks of the table removal, exactly: one publish task per
    testament — detached first, then destroyed, in stored order — followed by the
    `wamp.session.on_leave` announcement: the stored testaments are published exactly once.  For
    the realm shutdown nothing is appended (quiet by design). -/
theorem C05_leave_testaments (r : Realm) (k : SessKey) (s : Session) (mode : LeaveMode)
    (hf : r.clients.find? (fun c => c.key == k) = some s) :
    (r.leave k mode).testaments = r.testaments.filter (fun t => t.1 != k) ∧
    (mode.isShutdown = false →
      (r.leave k mode).tasks =
        leaveBaseTasks r k mode ++ (testamentTasks (bucketOf r k) ++ [.metaPub (onLeavePub s)])) ∧
    (mode.isShutdown = true → (r.leave k mode).tasks = leaveBaseTasks r k mode) ∧
    (∀ b, bucketOf r k = some b →
      testamentTasks (bucketOf r k) = (b.detached ++ b.destroyed).map (fun t => Task.metaPub (testamentPub t))) ∧
    (bucketOf r k = none → testamentTasks (bucketOf r k) = []) := by
  rw [leave_eq mode hf]
  exact ⟨rfl, fun h => by simp only [h]; rfl, fun h => by simp [h], fun b hb => by rw [hb]; rfl,
    fun hb => by rw [hb]; rfl⟩

-- which modes are silent: only the shutdown
example : LeaveMode.lost.isShutdown = false ∧ (LeaveMode.violation "x").isShutdown = false ∧
    LeaveMode.aborted.isShutdown = false ∧
    (LeaveMode.killed (.goodbye [] "r") false).isShutdown = false ∧
    (LeaveMode.killed (.goodbye [] "r") true).isShutdown = false ∧
    LeaveMode.shutdown.isShutdown = true := by decide

/-- The meta session is never written: in every reachable state it is the session the realm was created
    with — key 0, role publisher with the payload passthru feature (so a testament carrying `ppt_scheme`
    passes the feature test of `broker.publish`; without the feature the meta session would be aborted by
    its own publish). -/
theorem C05_meta_publisher_reachable (cfg : Config) (r : Realm) (h : Realm.Reachable cfg r) :
    r.metaS = ({} : Realm).metaS ∧ r.metaS.key = metaKey ∧
    r.metaS.hasFeature RolePublisher FeaturePayloadPassthruMode = true := by
  rw [Realm.WpA.reachable_metaS h]
  exact ⟨rfl, rfl, by decide⟩

/-- A well-formed testament is published.  Running the publish task the departure queued for testament
    `t`, in any state `r` satisfying the invariant in which the topic is a valid URI, `disclose_me` is
    not requested or the realm allows disclosure, and the meta session has the publisher's payload
    passthru feature (true in every reachable state, `C05_meta_publisher_reachable`):

    * the new state is `r` with the publication counter advanced by one, the broker after
      `syncPublish` of the publication `p := WpC.testamentPublication r t` — published by the meta
      session under the next publication id, the testament's topic, arguments and publish options
      (`ppt_*` keys go into the event details) — and its EVENTs `evs` delivered;
    * `evs` are exactly the C01-expected EVENTs: one per (subscription matching the topic, member allowed
      by the testament's black/white lists), nothing else (`C01_delivery_exact` instantiated);
    * every attached client's queue is its old queue offered its EVENTs in order (dropped when full);
      all other queues are untouched;
    * no acknowledgement is queued anywhere and no task is created (the PUBLISHED a testament with
      `acknowledge: true` asks for goes to the meta session, which drops it), nobody is aborted or
      marked as ending, nothing panics, clients / dealer / testament table / subscriptions are
      unchanged, the invariant holds. -/
theorem C05_testament_published (r : Realm) (hi : RealmInv r) (t : Testament)
    (hv : validUri r.broker.strict "" t.topic = true)
    (hd : t.opts.optFlag OptDiscloseMe = false ∨ r.broker.allowDisclose = true)
    (hf : r.metaS.hasFeature RolePublisher FeaturePayloadPassthruMode = true) :
    let p := WpC.testamentPublication r t
    let evs := (r.broker.syncPublish r.session? r.now p).2
    let r' := r.runTask (.metaPub (testamentPub t))
    r' = ({ r with pubCount := r.pubCount + 1,
                   broker := (r.broker.syncPublish r.session? r.now p).1 } : Realm).deliver evs ∧
    (p.publisher = metaKey ∧ p.pubId = pubBase + r.pubCount ∧ p.topic = t.topic ∧ p.args = t.args ∧
      p.kw = t.kw ∧ p.opts = t.opts ∧ p.disclose = t.opts.optFlag OptDiscloseMe ∧
      p.baseDetails = (if pptScheme t.opts != "" then pptInto t.opts [] else [])) ∧
    (∀ x ∈ evs, ∃ s k c, Expected r.broker r.session? p s k c ∧ x = ⟨k, expectedEvent p s c⟩) ∧
    (∀ s k c, Expected r.broker r.session? p s k c → through evs k s.id = [⟨k, expectedEvent p s c⟩]) ∧
    (∀ k c, k ≠ metaKey → r.client? k = some c → r'.queueOf k = accept c.cap (r.queueOf k) (msgsTo k evs)) ∧
    (∀ k, (k = metaKey ∨ r.client? k = none) → r'.queueOf k = r.queueOf k) ∧
    r'.pubCount = r.pubCount + 1 ∧ r'.tasks = r.tasks ∧ r'.ending = r.ending ∧ r'.panic = r.panic ∧
    r'.clients = r.clients ∧ r'.ds = r.ds ∧ r'.testaments = r.testaments ∧
    r'.broker.subs = r.broker.subs ∧ RealmInv r' := by
  intro p evs r'
  have heq : r' = ({ r with pubCount := r.pubCount + 1,
                            broker := (r.broker.syncPublish r.session? r.now p).1 } : Realm).deliver evs :=
    WpC.runTask_testament_ok hi.metaKey t hv hd hf
  obtain ⟨f1, f2, f3, f4, _, _, f7, f8, _, _, _⟩ := brokerStep_frame r
    (r.broker.syncPublish r.session? r.now p).1 (r.pubCount + 1) evs
  obtain ⟨d1, d2, _, _⟩ := delivery_exact hi.binv r.session? r.now p
  obtain ⟨hinv, hpanic⟩ := runTask_inv hi (.metaPub (testamentPub t)) trivial
  refine ⟨heq, ⟨rfl, rfl, rfl, rfl, rfl, rfl, rfl, rfl⟩, d1, d2, ?_, ?_, by rw [heq, f2], ?_, by rw [heq, f7],
    hpanic, by rw [heq, f3], by rw [heq, f4], by rw [heq, f8], ?_, hinv⟩
  · intro k c hk hc
    rw [heq]; exact brokerStep_queue r _ _ _ k c hk hc
  · intro k hk
    rw [heq]; exact brokerStep_queue_other r _ _ _ k hk
  · rw [heq, ddeliver_tasks, WpC.publish_sends_no_task, List.append_nil]
  · rw [heq, f1]; exact (syncPublish_tables _ _ _ _).1

/-- … in particular in every reachable state, where the feature hypothesis holds by itself: a stored
    testament with a valid topic (and `disclose_me` allowed or absent) is published when its task runs,
    whatever else its publish options contain (`ppt_scheme`, `acknowledge`, black/white lists). -/
theorem C05_testament_published_reachable (cfg : Config) (r : Realm) (h : Realm.Reachable cfg r) (t : Testament)
    (hv : validUri r.broker.strict "" t.topic = true)
    (hd : t.opts.optFlag OptDiscloseMe = false ∨ r.broker.allowDisclose = true) :
    r.runTask (.metaPub (testamentPub t)) =
      ({ r with pubCount := r.pubCount + 1,
                broker := (r.broker.syncPublish r.session? r.now (WpC.testamentPublication r t)).1 } : Realm).deliver
        (r.broker.syncPublish r.session? r.now (WpC.testamentPublication r t)).2 ∧
    (r.runTask (.metaPub (testamentPub t))).tasks = r.tasks ∧
    (r.runTask (.metaPub (testamentPub t))).ending = r.ending ∧
    (r.runTask (.metaPub (testamentPub t))).panic = r.panic := by
  obtain ⟨e, _, _, _, _, _, _, ht, he, hp, _⟩ :=
    C05_testament_published r h.inv.1 t hv hd h.metaSafe.metaPPT
  exact ⟨e, ht, he, hp⟩

-- non-vacuity: in the example state session 2 subscribes to "t"; a testament for "t" that uses payload
-- passthru is well-formed, and running its publish task appends one EVENT (type 36) to 2's queue
example :
    let t : Testament := { topic := "t", args := [.int 7], kw := [], opts := [(OptPPTScheme, .str "x")] }
    RealmInv WpCEx.r4 ∧ validUri WpCEx.r4.broker.strict "" t.topic = true ∧
    t.opts.optFlag OptDiscloseMe = false ∧
    WpCEx.r4.metaS.hasFeature RolePublisher FeaturePayloadPassthruMode = true ∧ pptScheme t.opts = "x" ∧
    ((WpCEx.r4.runTask (.metaPub (testamentPub t))).queueOf 2).map Msg.typeCode =
      (WpCEx.r4.queueOf 2).map Msg.typeCode ++ [36] ∧
    (WpCEx.r4.runTask (.metaPub (testamentPub t))).ending = WpCEx.r4.ending :=
  ⟨WpCEx.r4_inv, by decide +kernel⟩

/-- The silent cases, exactly.  A testament whose topic is not a valid URI (for the realm's strictness,
    exact match), or that asks for `disclose_me` in a realm that does not allow disclosure, is dropped
    when its publish task runs: the state is unchanged — no publication id is drawn, nothing is sent,
    no task, nobody is aborted.  This holds whatever the testament's options say about acknowledgement:
    `metaPublish` passes the stored `publish_options` on, so with `acknowledge: true` the router does
    produce ERROR(PUBLISH, 0, wamp.error.invalid_uri / option_disallowed.disclose_me) — addressed to
    the meta session, which drops everything but INVOCATIONs.  (In Go the meta-procedure handler would
    answer such a message by re-sending its previous response; the model drops it.) -/
theorem C05_testament_dropped (r : Realm) (hi : RealmInv r) (t : Testament) :
    (validUri r.broker.strict "" t.topic = false → r.runTask (.metaPub (testamentPub t)) = r) ∧
    (validUri r.broker.strict "" t.topic = true →
      r.metaS.hasFeature RolePublisher FeaturePayloadPassthruMode = true →
      t.opts.optFlag OptDiscloseMe = true → r.broker.allowDisclose = false →
      r.runTask (.metaPub (testamentPub t)) = r) :=
  ⟨WpA.metaPublish_invalid r (testamentPub t) hi.metaKey, fun hv hf hd ha =>
    WpA.metaPublish_refused r (testamentPub t) hi.metaKey hf hv
      (show discloseRefused r t.opts = true by unfold discloseRefused; rw [hd, ha]; rfl)⟩

-- non-vacuity: an invalid topic with `acknowledge: true`; `disclose_me` in the default realm (disclosure off)
example :
    let t1 : Testament := { topic := "a..b", args := [], kw := [], opts := [(OptAcknowledge, .bool true)] }
    let t2 : Testament := { topic := "t", args := [], kw := [], opts := [(OptDiscloseMe, .bool true), (OptAcknowledge, .bool true)] }
    validUri WpCEx.r4.broker.strict "" t1.topic = false ∧ t1.opts.optFlag OptAcknowledge = true ∧
    validUri WpCEx.r4.broker.strict "" t2.topic = true ∧ t2.opts.optFlag OptDiscloseMe = true ∧
    WpCEx.r4.broker.allowDisclose = false := by
  decide +kernel

/-- the testaments stored for session `k`, in publication order: detached first, then destroyed -/
def testamentsOf (r : Realm) (k : SessKey) : List Testament :=
  match bucketOf r k with
  | some b => b.detached ++ b.destroyed
  | none => []

/-- a testament the router will publish: valid topic, and `disclose_me` not requested or allowed -/
def WellFormedTestament (r : Realm) (t : Testament) : Prop :=
  validUri r.broker.strict "" t.topic = true ∧
  (t.opts.optFlag OptDiscloseMe = false ∨ r.broker.allowDisclose = true)

/-- "Its stored testaments are published exactly once."  The departure of the attached session `k` in any
    non-shutdown mode
    * appends to the pending tasks — after those of the table removal — exactly one publish task per
      stored testament (`testamentsOf r k`: detached then destroyed, in stored order), followed by
      `wamp.session.on_leave`: nothing is queued twice, nothing is left out;
    * removes `k`'s bucket from the testament table (and `k` from `clients`, so nothing can be stored
      for it again: `C05_add_testament_unattached`): no later event can queue them a second time;
    * and whenever such a task runs — in whatever state `r2` satisfying the invariant (whose meta session
      is the publisher the realm was created with) — it publishes the testament once if the testament
      is well-formed for `r2` (one publication id, the EVENTs of `C05_testament_published`) and not at
      all otherwise (`r2` unchanged).  `strict` and `allowDisclose` are configuration constants, so
      well-formedness does not depend on when the task runs.
    For the shutdown mode nothing is queued (`C05_leave_testaments`). -/
theorem C05_testaments_exactly_once (r : Realm) (k : SessKey) (s : Session) (mode : LeaveMode)
    (hf : r.clients.find? (fun c => c.key == k) = some s) (hm : mode.isShutdown = false) :
    (r.leave k mode).tasks =
      leaveBaseTasks r k mode ++ ((testamentsOf r k).map (fun t => Task.metaPub (testamentPub t)) ++
        [.metaPub (onLeavePub s)]) ∧
    bucketOf (r.leave k mode) k = none ∧ testamentsOf (r.leave k mode) k = [] ∧
    (∀ r2 : Realm, RealmInv r2 → r2.metaS.hasFeature RolePublisher FeaturePayloadPassthruMode = true →
      ∀ t : Testament,
        (WellFormedTestament r2 t →
          r2.runTask (.metaPub (testamentPub t)) =
            ({ r2 with pubCount := r2.pubCount + 1,
                       broker := (r2.broker.syncPublish r2.session? r2.now (WpC.testamentPublication r2 t)).1 } : Realm).deliver
              (r2.broker.syncPublish r2.session? r2.now (WpC.testamentPublication r2 t)).2 ∧
          (r2.runTask (.metaPub (testamentPub t))).pubCount = r2.pubCount + 1) ∧
        (¬ WellFormedTestament r2 t → r2.runTask (.metaPub (testamentPub t)) = r2)) := by
  obtain ⟨h1, h2, _, h4, h5⟩ := C05_leave_testaments r k s mode hf
  have htt : testamentTasks (bucketOf r k) = (testamentsOf r k).map (fun t => Task.metaPub (testamentPub t)) := by
    unfold testamentsOf
    cases hb : bucketOf r k with
    | none => rfl
    | some b => rfl
  have hbk : bucketOf (r.leave k mode) k = none := by
    unfold bucketOf
    rw [h1, List.find?_eq_none.mpr fun x hx => by simpa using (List.mem_filter.mp hx).2]
    rfl
  refine ⟨by rw [h2 hm, htt], hbk, by unfold testamentsOf; rw [hbk], ?_⟩
  intro r2 hi2 hf2 t
  constructor
  · rintro ⟨hv, hd⟩
    obtain ⟨e, _, _, _, _, _, hpc, _⟩ := C05_testament_published r2 hi2 t hv hd hf2
    exact ⟨e, hpc⟩
  · intro hnw
    cases hv : validUri r2.broker.strict "" t.topic with
    | false => exact (C05_testament_dropped r2 hi2 t).1 hv
    | true =>
      exact (C05_testament_dropped r2 hi2 t).2 hv hf2
        (eq_true_of_ne_false fun hd => hnw ⟨hv, Or.inl hd⟩)
        (eq_false_of_ne_true fun ha => hnw ⟨hv, Or.inr ha⟩)

-- non-vacuity: session 2 of the example state with one detached and one destroyed testament stored
-- (`RealmInv` does not mention the testament table); its loss queues the two publish tasks, detached
-- first, then on_leave: three tasks after those of the table removal
example :
    let ta : Testament := { topic := "t", args := [], kw := [], opts := [] }
    let tb : Testament := { topic := "a..b", args := [], kw := [], opts := [] }
    let r : Realm := { WpCEx.r4 with testaments := [(2, { detached := [tb], destroyed := [ta] })] }
    RealmInv r ∧ (r.clients.find? (fun c => c.key == 2)).isSome = true ∧
    (testamentsOf r 2).map (·.topic) = ["a..b", "t"] ∧
    (r.leave 2 .lost).tasks.length = (leaveBaseTasks r 2 .lost).length + 3 ∧
    WellFormedTestament r ta ∧ ¬ WellFormedTestament r tb := by
  have hi := WpCEx.r4_inv
  refine ⟨hi.same, ?_⟩
  unfold WellFormedTestament
  decide +kernel

-- a testament that uses payload passthru (`ppt_scheme` in its publish options) is published like any
-- other: the meta session announces the publisher feature
example : ({} : Realm).metaS.hasFeature RolePublisher FeaturePayloadPassthruMode = true := by decide +kernel

/-- the per-task statement "testament keys are attached sessions" for an arbitrary pending task … -/
def C05_testaments_task_level_full : Prop :=
  ∀ (r : Realm) (t : Task), RealmInv r → TaskOk t → (∀ x ∈ r.testaments, r.isClient x.1) →
    ∀ x ∈ (r.runTask t).testaments, (r.runTask t).isClient x.1

/-- … holds at task granularity (F20 fixed: `testamentAdd` checks `r.clients[caller]`).  Whichever pending task runs
    next: `add_testament` stores nothing for a caller that is no longer attached
    (`C05_add_testament_unattached`), `flush_testaments` only shrinks or rewrites an existing bucket, the
    departure of a session takes its own bucket out (`C05_leave_testaments`), and no other task writes
    the table.  So also when the `add_testament` invocation of a session is still pending when the
    session has left (the interleaving the real router's concurrent handlers can produce), no testament
    of a session that does not exist is ever stored. -/
theorem C05_testaments_task_level : C05_testaments_task_level_full :=
  fun _ t hi ht h => runTask_testaments hi h t ht

/-- `add_testament` by a caller that is not an attached client (its id is below the session-id base, or
    names no session in `clients`): the answer is the same empty YIELD, the state is unchanged. -/
theorem C05_add_testament_unattached (r : Realm) (req c : Nat) (details : Dict) (kw : Dict) (topic : String)
    (targs : List WVal) (tkw : Dict) (rest : List WVal) (hc : callerOf details = some c)
    (hs : scopeOf kw = "destroyed" ∨ scopeOf kw = "detached")
    (hna : c < sidBase ∨ ∀ s ∈ r.clients, s.key ≠ c - sidBase) :
    metaProc r MetaProcSessionAddTestament req details (.str topic :: .list targs :: .dict tkw :: rest) kw =
      (mYield req [], r) :=
  metaProc_addTestament_unattached r req c details kw topic targs tkw rest hc hs hna

-- no client, pending `add_testament` of session 5: nothing is stored
example : let r0 : Realm := { metaProcs := [(1, MetaProcSessionAddTestament)] }
    (r0.runTask (.metaInvoke 7 1 [("caller", .int (sidBase + 5))] [.str "t", .list [], .dict []] [])).testaments = [] := by
  decide +kernel

/-- The invariant "every testament bucket is stored under the key of an attached session" is kept by
    every external input, every internal task, every timed event and every step, and holds in every
    reachable state. -/
theorem C05_testaments_attached (r : Realm) (hi : RealmInv r) (h : TestamentsAttached r) :
    (∀ op, TestamentsAttached (r.stepOp op)) ∧
    (∀ t, TaskOk t → TestamentsAttached (r.runTask t)) ∧
    (∀ t, TestamentsAttached (r.timerDue t)) ∧ (∀ x, TestamentsAttached (r.retryDue x)) ∧
    (FuelOnly r.panic → ∀ op, TestamentsAttached (r.step op).2) :=
  ⟨stepOp_testaments hi h, fun t ht => runTask_testaments hi h t ht, timerDue_testaments h, retryDue_testaments h,
   fun hp op => Sound.step TestamentsAttached.keeps ⟨hi, hp⟩ (stepOp_testaments hi h op)⟩

theorem C05_testaments_attached_reachable (cfg : Config) (r : Realm) (h : Realm.Reachable cfg r) :
    ∀ x ∈ r.testaments, r.isClient x.1 := h.testaments

theorem no_client {r : Realm} (hc : r.clients = []) (k : SessKey) : ¬ r.isClient k := by
  rintro ⟨c, hcm, _⟩
  rw [hc] at hcm
  cases hcm

/-- In a state satisfying the invariant in which no session is attached: every subscription left is
    memberless and has a history store (i.e. is a pre-created history subscription), the broker
    index is empty, every registration left has the meta session as its only callee (the `wamp.*`
    meta procedures), the callee index has no key but the meta session, and there is no call, no
    invocation, no call→invocation link; only the meta session's handler can be in a retry loop.
    Holds in particular for every reachable state with `clients = []`, whatever the history
    (refused / failed calls and registrations included). -/
theorem C05_returns_to_empty (r : Realm) (hi : RealmInv r) (hc : r.clients = []) :
    (∀ s ∈ r.broker.subs, s.members = [] ∧ r.broker.hasHist s.id = true) ∧
    r.broker.index = [] ∧
    (∀ g ∈ r.ds.d.regs, g.callees = [metaKey]) ∧
    (∀ e ∈ r.ds.d.index, e.1 = metaKey) ∧
    r.ds.d.calls = [] ∧ r.ds.d.invs = [] ∧ r.ds.d.byCall = [] ∧
    (∀ x ∈ r.retries, x.callee = metaKey) := by
  have nocl := no_client hc
  have attm : ∀ k, r.att k → k = metaKey := fun k h => h.elim id (fun h => absurd h (nocl k))
  obtain ⟨l1, l2, l3, l4, _, _, _, l8⟩ := C05_live_refs r hi
  have hcalls : r.ds.d.calls = [] := List.eq_nil_iff_forall_not_mem.mpr fun c h => nocl _ (hi.callers c h)
  have hsz := CallInv.sizes hi.dinv.call
  rw [hcalls] at hsz
  have hby : r.ds.d.byCall = [] := List.eq_nil_of_length_eq_zero hsz.1.symm
  have hinv : r.ds.d.invs = [] := List.eq_nil_of_length_eq_zero (by rw [← hsz.2, hby]; rfl)
  refine ⟨fun s hs => ?_, List.eq_nil_iff_forall_not_mem.mpr fun e h => nocl _ (l2 e h), fun g hg => ?_,
    fun e he => attm _ (l4 e he), hcalls, hinv, hby, fun x hx => attm _ (l8 x hx)⟩
  · have hm : s.members = [] := List.eq_nil_iff_forall_not_mem.mpr fun k h => nocl k (l1 s hs k h)
    exact ⟨hm, hi.binv.empty_hist s hs hm⟩
  · obtain ⟨hne, hnd⟩ := hi.dinv.reg.regs.callees g hg
    exact eq_singleton_of_nodup hne hnd fun k hk => attm k (l3 g hg k hk)

example (cfg : Config) (r : Realm) (h : Realm.Reachable cfg r) (hc : r.clients = []) :
    r.ds.d.calls = [] ∧ r.broker.index = [] :=
  ⟨(C05_returns_to_empty r h.inv.1 hc).2.2.2.2.1, (C05_returns_to_empty r h.inv.1 hc).2.1⟩

/-- The three call tables always have the same number of entries, one per pending call, and every
    entry belongs to an attached caller and an attached (or meta) callee: the tables cannot hold
    anything for sessions that have left, whatever calls were refused or failed before. -/
theorem C05_bounded (r : Realm) (hi : RealmInv r) :
    r.ds.d.calls.length = r.ds.d.byCall.length ∧ r.ds.d.byCall.length = r.ds.d.invs.length ∧
    r.ds.d.calls.Nodup ∧
    (∀ c ∈ r.ds.d.calls, r.isClient c.sess) ∧
    (∀ v ∈ r.ds.d.invs, v.callId ∈ r.ds.d.calls ∧ r.att v.callee) :=
  ⟨(CallInv.sizes hi.dinv.call).1, (CallInv.sizes hi.dinv.call).2, hi.dinv.call.calls, hi.callers,
   fun v hv => ⟨(hi.dinv.call.inv_call hv).1, ((C05_live_refs r hi).2.2.2.2.2.1 v hv).1⟩⟩

open Nexus.L2.WpC in
/-- From the input to the effect ("for any reason … from then on").  The theorems above are about the function
    `Realm.leave`; this one connects an input to it.  In a state reachable by any history of inputs
    (`Realm.Reachable`) whose
    panic flag is `none` (so nothing is pending: `Reachable.quiescent`), let `k` be an attached session that
    is not already ending and whose handler is not in the yield retry loop, and let the input be one that
    ends it (`EndsInput`): its transport is lost (`.drop k`), or it sends GOODBYE, or a protocol violation —
    any message type the router does not expect, or an ERROR not answering an INVOCATION — that the
    authorization gate lets through.  Then, when the step is over and unless the model's task fuel ran out
    (`panic = none` afterwards), `k` is no client any more and occurs nowhere: not in a subscription, the
    broker index, a registration, the callee index, a call, an invocation (`Gone`), not in `ending`, among
    the deferred departures, the waiting transport input, the retrying handlers or the testament table; and
    no task is pending.  The proof is the `drain` induction principle (`drain_quiescent`) with the property
    "a `leave k` is pending while `k` is attached" (`drain_gone`).

    Exceptions, all explicit hypotheses: a busy handler (in the retry loop) notices its end only when the
    loop ends (≤ 65.5 s, `C07_retry_*`; the departure is deferred: `runTask_leave`), and a session that is
    already ending ignores further input. -/
theorem C05_end_input_gone (cfg : Config) (r : Realm) (h : Realm.Reachable cfg r) (hp0 : r.panic = none) (k : SessKey)
    (hk : r.isClient k) (hb : r.busy k = false) (he : k ∉ r.ending) (op : Op) (hop : EndsInput r k op)
    (hp : (r.step op).2.panic = none) :
    ¬ (r.step op).2.isClient k ∧ Gone (r.step op).2 k ∧ (∀ t ∈ (r.step op).2.testaments, t.1 ≠ k) ∧
    k ∉ (r.step op).2.ending ∧ (∀ d ∈ (r.step op).2.deferred, d.1 ≠ k) ∧ (∀ e ∈ (r.step op).2.inbox, e.1 ≠ k) ∧
    (∀ x ∈ (r.step op).2.retries, x.callee ≠ k) ∧ (r.step op).2.tasks = [] := by
  obtain ⟨g1, g2, g3, g4, g5, g6, g7, _, _⟩ := step_gone h.inv.1 h.ctl hk hb he hop hp
  refine ⟨g1, g2, ?_, g3, g4, g5, g6, g7⟩
  intro t ht e
  exact g1 (e ▸ (Realm.Reachable.step op h).testaments t ht)

open Nexus.L2.WpC in
/-- the state-level form (no history): from any state satisfying the two invariants -/
theorem C05_end_input_gone_inv (r : Realm) (hi : RealmInv r) (hc : CtlInv r) (k : SessKey)
    (hk : r.isClient k) (hb : r.busy k = false) (he : k ∉ r.ending) (op : Op) (hop : EndsInput r k op)
    (hp : (r.step op).2.panic = none) :
    ¬ (r.step op).2.isClient k ∧ Gone (r.step op).2 k ∧ k ∉ (r.step op).2.ending ∧ (r.step op).2.tasks = [] := by
  obtain ⟨g1, g2, g3, _, _, _, g7, _, _⟩ := step_gone hi hc hk hb he hop hp
  exact ⟨g1, g2, g3, g7⟩

-- on the example state `WpCEx.r5` and its session 1, four of the hypotheses of `C05_end_input_gone` / `_inv`:
-- `.drop 1`, a GOODBYE from 1 and a WELCOME from 1 are each an `EndsInput` (for a message this includes that 1 has
-- a client record and that the authorization gate lets the message through), 1's handler is not busy, 1 is not
-- ending, and the step of `.drop 1` ends with `panic = none`; and, of the conclusion for `.drop 1`, that the
-- clients left are [2].  `Realm.Reachable` / `panic = none` / `CtlInv` of `WpCEx.r5` are not shown here (`RealmInv`
-- is `WpCEx.r5_inv`).
open Nexus.L2.WpC in
example : EndsInput WpCEx.r5 1 (.drop 1) ∧ EndsInput WpCEx.r5 1 (.msg 1 (.goodbye [] "wamp.close.normal")) ∧
    EndsInput WpCEx.r5 1 (.msg 1 (.welcome 1 [])) ∧
    WpCEx.r5.busy 1 = false ∧ 1 ∉ WpCEx.r5.ending ∧ (WpCEx.r5.step (.drop 1)).2.panic = none ∧
    (WpCEx.r5.step (.drop 1)).2.clients.map (·.key) = [2] := by
  -- one evaluation of the example history for all the closed facts
  obtain ⟨hs, hz, hrest⟩ : (WpCEx.r5.clients.find? (fun c => c.key == 1)).isSome = true ∧
      WpCEx.r5.cfg.authz.isNone = true ∧ WpCEx.r5.busy 1 = false ∧ 1 ∉ WpCEx.r5.ending ∧
      (WpCEx.r5.step (.drop 1)).2.panic = none ∧ (WpCEx.r5.step (.drop 1)).2.clients.map (·.key) = [2] := by
    decide +kernel
  obtain ⟨s1, hf⟩ := Option.isSome_iff_exists.mp hs
  have hg : ∀ m, (authzGate WpCEx.r5 s1 m).1 = true := fun m =>
    congrArg Prod.fst (authzGate_none (Option.isNone_iff_eq_none.mp hz) s1 m)
  exact ⟨Or.inl rfl, Or.inr ⟨_, s1, rfl, hf, rfl, hg _⟩, Or.inr ⟨_, s1, rfl, hf, rfl, hg _⟩, hrest⟩

open Nexus.L2.WpC in
/-- Testaments are live, at every level.  Every testament bucket is stored under the key of an attached
    session: in every reachable state (`Reachable`, any inputs), kept by every step, and — since F20 is fixed
    (`add_testament` checks `clients`) — kept by every single internal task, external input and timed event
    whichever is scheduled next (`C05_testaments_task_level`, `C05_testaments_attached`).  So the statement
    holds at the level of atomic actions, not only at quiescence. -/
theorem C05_testaments_live (cfg : Config) (r : Realm) (h : Realm.Reachable cfg r) :
    (∀ t ∈ r.testaments, r.isClient t.1) ∧
    (∀ task, TaskOk task → ∀ t ∈ (r.runTask task).testaments, (r.runTask task).isClient t.1) ∧
    (∀ op, ∀ t ∈ (r.stepOp op).testaments, (r.stepOp op).isClient t.1) ∧
    (∀ op, ∀ t ∈ (r.step op).2.testaments, (r.step op).2.isClient t.1) :=
  ⟨h.testaments, fun task ht => runTask_testaments h.inv.1 h.testaments task ht,
   fun op => stepOp_testaments h.inv.1 h.testaments op, fun op => (Realm.Reachable.step op h).testaments⟩

open Nexus.L2.WpC in
/-- "Once all sessions of a realm have left … the router holds no per-session state", completed.
    `C05_returns_to_empty` covers the broker and dealer tables; this adds the realm's own per-session state.
    In every reachable state (`Realm.Reachable`, any history of inputs) in which no session is attached: the
    testament table is empty, nobody is marked as ending, no departure is deferred, no input waits in a
    transport, only the meta session's handler can be in the retry loop (F19, for ≤ 65.5 s, then it is gone
    too), and — unless a fuel marker was set — no task is pending.  (`queues`, `closedPeers`, `ghosts` hold
    what departed sessions have not yet read; they are the subject of C07/C11. The dealer's `timers` list
    keeps cancelled timers until they fire: a model artefact, in Go the goroutine ends.) -/
theorem C05_returns_to_empty' (cfg : Config) (r : Realm) (h : Realm.Reachable cfg r) (hc : r.clients = []) :
    r.testaments = [] ∧ r.ending = [] ∧ r.deferred = [] ∧ r.inbox = [] ∧
    (∀ x ∈ r.retries, x.callee = metaKey ∧ pptScheme x.opts = "") ∧
    (r.panic = none → r.tasks = []) ∧
    ((∀ s ∈ r.broker.subs, s.members = [] ∧ r.broker.hasHist s.id = true) ∧ r.broker.index = [] ∧
     (∀ g ∈ r.ds.d.regs, g.callees = [metaKey]) ∧ (∀ e ∈ r.ds.d.index, e.1 = metaKey) ∧
     r.ds.d.calls = [] ∧ r.ds.d.invs = [] ∧ r.ds.d.byCall = [] ∧ (∀ x ∈ r.retries, x.callee = metaKey)) := by
  have hi := h.inv.1
  have hct := h.ctl
  have nocl := no_client hc
  have hretr : ∀ x ∈ r.retries, x.callee = metaKey := fun x hx => (hi.retr x hx).elim id (fun h => absurd h (nocl _))
  refine ⟨List.eq_nil_iff_forall_not_mem.mpr fun t ht => nocl _ (h.testaments t ht),
    List.eq_nil_iff_forall_not_mem.mpr fun j hj => nocl _ (hct.ending j hj),
    List.eq_nil_iff_forall_not_mem.mpr fun d hdm => ?_,
    List.eq_nil_iff_forall_not_mem.mpr fun e he => let ⟨c, hcm, hk, _⟩ := (hi.inb e he).1; nocl _ ⟨c, hcm, hk⟩,
    fun x hx => ⟨hretr x hx, hct.safe.retries x hx (hretr x hx)⟩,
    fun hp => Reachable.quiescent h hp, C05_returns_to_empty r hi hc⟩
  -- a deferred departure waits for a retry loop of its session, and only the meta session's is left
  obtain ⟨x, hx, hxk⟩ := List.any_eq_true.mp (hct.defBusy d hdm)
  have : x.callee = d.1 := by simpa using hxk
  exact hct.safe.deferred d hdm (this ▸ hretr x hx)

/-- the `ending` clause over all histories of the model's input type (`.drop k` for a key naming no attached
    client is a no-op of the model) … -/
def C05_returns_to_empty'_full : Prop :=
  ∀ (cfg : Config) (r : Realm), Realm.Reachable cfg r → r.clients = [] → r.ending = []

/-- … holds: it is a clause of `C05_returns_to_empty'`. -/
theorem C05_returns_to_empty'_full_holds : C05_returns_to_empty'_full :=
  fun cfg r h hc => (C05_returns_to_empty' cfg r h hc).2.1

-- the two hypotheses of `C05_returns_to_empty'` on a freshly created realm: whenever `Realm.create cfg` gives `r`,
-- `r` is reachable and has no client (that `create` succeeds for some `cfg` is not shown here;
-- `Realm.create_default` is such a fact); and on such an `r` the input `.drop 5`, whose key names no client there,
-- is a no-op of `stepOp`
example (cfg : Config) (r : Realm) (h : Realm.create cfg = some r) : Realm.Reachable cfg r ∧ r.clients = [] :=
  ⟨.init h, (create_rinv h).clients⟩
example (cfg : Config) (r : Realm) (h : Realm.create cfg = some r) : r.stepOp (.drop 5) = r :=
  stepOp_drop_absent (by rw [(create_rinv h).clients]; intro c hc; cases hc)

open Nexus.L2.WpC in
/-- "For any reason": whoever is marked as ending leaves by the end of the step.  Every way a session's end
    is decided — lost transport, GOODBYE, protocol violation, ABORT by the broker (`handlePublish`) or the
    dealer (`syncCall`, `syncYield`), kill / kill_by_authid / kill_by_authrole / kill_all through the meta API
    (`C18_kill`: exactly the selected sessions are marked and get a `leave` task) — marks the session in
    `ending` and queues its `leave` together (`Eff.of_handles`).  So (invariant `EndPending`) in every reachable state
    (any history of inputs) each key in `ending` has its departure pending or deferred, and at quiescence
    (`panic = none`, hence no pending task) the only sessions still marked are attached sessions whose handler
    is in the yield retry loop, their departure being deferred until the loop ends (≤ 65.5 s, C07): everybody
    else who was told to end has left (and then occurs nowhere: `C05_leave_gone`). -/
theorem C05_ending_only_busy (cfg : Config) (r : Realm) (h : Realm.Reachable cfg r) :
    (∀ k ∈ r.ending, (∃ mode, Task.leave k mode ∈ r.tasks) ∨ ∃ d ∈ r.deferred, d.1 = k) ∧
    (r.panic = none → ∀ k ∈ r.ending, r.isClient k ∧ r.busy k = true ∧ ∃ mode, (k, mode) ∈ r.deferred) := by
  refine ⟨h.endPending, fun hp k hk => ?_⟩
  rcases h.endPending k hk with ⟨m, hm⟩ | ⟨d, hd, hdk⟩
  · rw [Reachable.quiescent h hp] at hm; cases hm
  · refine ⟨h.ctl.ending k hk, hdk ▸ h.ctl.defBusy d hd, d.2, ?_⟩
    rw [← hdk]; exact hd

open Nexus.L2.WpC in
/-- … and from any moment inside a step (a state `q` between two atomic actions, satisfying the invariants —
    e.g. right after the `kill` meta procedure ran): a session that is marked as ending and whose handler is
    free is, once the pending tasks have run (no fuel marker), no client any more and referenced nowhere. -/
theorem C05_marked_ending_gone (q : Realm) (hi : RealmInv q) (hc : CtlInv q) (he : EndPending q) (k : SessKey)
    (hk : k ∈ q.ending) (hb : q.busy k = false) (hp : (drain taskFuel q).panic = none) :
    ¬ (drain taskFuel q).isClient k ∧ Gone (drain taskFuel q) k ∧ k ∉ (drain taskFuel q).ending ∧
    (drain taskFuel q).tasks = [] := by
  have hkm : k ≠ metaKey := hc.safe.client_ne (hc.ending k hk)
  obtain ⟨g1, g2, g3, g4, _⟩ := drain_gone hkm q hi hc (leaving_of_ending hc he hk hb) hp
  obtain ⟨q1, q2, _⟩ := gone_of_not_client g3 g4 hkm g1
  exact ⟨g1, q1, q2, g2⟩

/-- `EndPending` is kept by every atomic action (so it holds between any two of them). -/
theorem C05_end_pending_preserved (r : Realm) (hi : RealmInv r) (hc : Nexus.L2.WpC.CtlInv r) (h : Nexus.L2.WpC.EndPending r) :
    (∀ op, Nexus.L2.WpC.EndPending (r.stepOp op)) ∧
    (∀ t ts, r.tasks = t :: ts → Nexus.L2.WpC.EndPending (runTask { r with tasks := ts } t)) ∧
    (∀ t, Nexus.L2.WpC.EndPending (r.timerDue t)) ∧ (∀ x, Nexus.L2.WpC.EndPending (r.retryDue x)) ∧
    (FuelOnly r.panic → ∀ op, Nexus.L2.WpC.EndPending (r.step op).2) :=
  ⟨fun op => h.stepOp op, fun _ _ ht => h.runHead hc ht, fun t => h.timerDue t, fun x => h.retryDue x,
   fun hp op => Nexus.L2.WpC.Ctl.step Nexus.L2.WpC.EndPending.keeps ⟨⟨hi, hp⟩, hc⟩ (h.stepOp op)⟩

-- on `q` = the example state `WpCEx.r5` with `ending := [1]` and a pending `leave 1 (killed …)` (written down
-- directly, not obtained by running `kill`), three of the hypotheses of `C05_marked_ending_gone`: 1 is marked as
-- ending, its handler is free, and the pending tasks run without a fuel marker; and, of its conclusion, that the
-- clients left are [2].  `RealmInv q`, `CtlInv q` and `EndPending q` are not shown.
open Nexus.L2.WpC in
example : let q : Realm := { WpCEx.r5 with tasks := [.leave 1 (.killed (.goodbye [] "wamp.close.normal") false)], ending := [1] }
    1 ∈ q.ending ∧ q.busy 1 = false ∧ (drain taskFuel q).panic = none ∧ (drain taskFuel q).clients.map (·.key) = [2] := by
  decide +kernel

end Nexus.C05
