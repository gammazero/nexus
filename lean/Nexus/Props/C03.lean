/-
  C03 — Calls reach the right callee with payload and ids intact.

  Property text.  "A CALL yields exactly one INVOCATION per call chunk, delivered to one session
  currently registered under the best-matching registration - exact URI first, otherwise the longest
  matching prefix, otherwise a matching wildcard - chosen by that registration's policy (single, first,
  last, round-robin in rotation, random among members); it carries the registration's id, a request id
  never used before towards that callee, the caller's arguments unchanged and the receive_progress flag
  exactly when the caller asked for progress and the callee supports it, and all chunks of one
  progressive call go to the same callee under the same invocation id.  The callee's YIELD or ERROR is
  forwarded, payload unchanged, only to the session that made that call, while an answer from a session
  that does not own the invocation has no effect.  A second registration of a procedure is accepted
  only under an identical sharing policy (otherwise procedure_already_exists), restricted wamp.*
  procedures cannot be registered by clients, and after UNREGISTERED or the callee's departure no
  further call is routed to it."

  Theorems are about the dealer model (`Dealer.matchProcedure`, `pickCallee`, `syncCall`, `syncYield`,
  `syncError`, `syncRegister`, `syncUnregister`, `syncRemoveSession`), for every state satisfying
  `DealerInv`, every environment and all arguments.  (`restricted wamp.*`: `Realm.handleRegister`,
  `C03_restricted_wamp`, and the invariant `C03_wamp_callees` over reachable realm states; `forwarded payload
  unchanged`: also C02_callee_final_yield_payload, C02_callee_final_error.)

  clause                                                          theorem
  --------------------------------------------------------------  --------------------------------------
  best match: exact, else longest matching prefix, else a          C03_match (any table, any order),
    longest matching wildcard, else none                           C03_match_unique (exact/prefix winner is
                                                                   unique under DealerInv), C03_match_order,
                                                                   C03_match_any_order (under DealerInv the lookup
                                                                   gives the same for every order of the table when
                                                                   an exact or a prefix registration matches)
  callee chosen by the registration's policy                       C03_pick_single, C03_pick_first, C03_pick_last,
                                                                   C03_pick_random, C03_pick_roundrobin (rotation),
                                                                   C03_pick_member (always a current callee)
  exactly one INVOCATION per chunk, to a callee of the best match, C03_invocation_fields (at most one),
    registration id, payload unchanged                             C03_invocation_sent_first, C03_invocation_sent_later
                                                                   (one for every accepted chunk), C03_invocation_callee
  a dealer step that sends an INVOCATION under a new request id    C03_invocation_of_call
    is a CALL whose id was not pending; the INVOCATION is its only
    message, has that CALL's arguments, and the step records it
    (callee, id, registration id) for that call
  a CALL that sets `progress` leads to an INVOCATION only if its   C03_invocation_prog_ok
    caller announced progressive call invocations
  round-robin in rotation over consecutive CALLs                   C03_call_cursor (the cursor is stored, also by
                                                                   a refused call), C03_calls_follow_pickIter,
                                                                   C03_roundrobin_calls
  receive_progress / procedure / timeout details                   C03_details_receive_progress,
                                                                   C03_details_procedure, C03_details_timeout
  request id never used before towards that callee                 C03_inv_id_step, C03_inv_id_fresh (runs)
  all chunks of a progressive call: same callee, same id, same      C03_first_chunk_records,
    registration id                                                  C03_invocation_persists,
                                                                   C03_progressive_same_callee,
                                                                   C03_invocation_reg_recorded
  answer forwarded only to the caller of that call;                C03_answer_routing_owner_yield,
    a non-owner's answer has no effect                             C03_answer_routing_owner_error,
                                                                   C03_answer_routing_foreign_yield,
                                                                   C03_answer_routing_foreign_error
  second REGISTER: accepted iff identical sharing policy           C03_shared_policy_accept,
                                                                   C03_shared_policy_refuse
  restricted wamp.* procedures cannot be registered by clients     C03_restricted_wamp (handler),
                                                                   C03_wamp_callees (reachable realm states)
  after UNREGISTERED / departure no further call is routed to it   C03_unregistered, C03_gone,
                                                                   C03_not_callee_persists,
                                                                   C03_no_invocation_to_gone
-/
import Nexus.L2.Proofs.DealerFrame
import Nexus.L2.Proofs.DealerExamples
import Nexus.L2.Proofs.WampNamespace
import Nexus.L2.Proofs.RealmMetaEvents
import Nexus.L2.Proofs.RealmCreate

namespace Nexus.C03
open Nexus.L2 Nexus.Gen.N Nexus

/-- The lookup `Dealer.matchProcedure` is a best match: the exact registration if one exists; else a matching
    prefix registration of greatest pattern length; else a matching wildcard registration of greatest pattern
    length; else none.
    The specification `BestMatch` mentions the table only through membership, so this holds for any table in
    any order (Go map iteration order). -/
theorem C03_match (d : Dealer) (proc : String) : BestMatch d.regs proc (d.matchProcedure proc) :=
  matchProcedure_bestMatch d proc

theorem C03_match_order {l l' : List Reg} (hp : l.Perm l') {proc : String} {res : Option Reg} :
    BestMatch l proc res → BestMatch l' proc res :=
  BestMatch.of_perm hp

/-- Under DealerInv (at most one registration per (procedure, kind)) the exact and the prefix winner are
    unique: whenever an exact or a prefix registration matches, any two results allowed by the
    specification coincide, and the lookup gives the same registration for every order of the table.
    (Among equally long matching wildcard patterns the choice follows the table order.) -/
theorem C03_match_unique {s : DState} (h : DealerInv s) {proc : String} {r1 r2 : Reg}
    (h1 : BestMatch s.d.regs proc (some r1)) (h2 : BestMatch s.d.regs proc (some r2))
    (hm : (∃ e ∈ s.d.regs, e.isExactFor proc) ∨ (∃ p ∈ s.d.regs, p.isPfxFor proc)) : r1 = r2 :=
  BestMatch.unique_exact_or_pfx h.reg.regs.keyUnique h1 h2 hm

theorem C03_match_any_order {s : DState} (h : DealerInv s) (d' : Dealer) (hp : s.d.regs.Perm d'.regs) (proc : String)
    (hm : (∃ e ∈ s.d.regs, e.isExactFor proc) ∨ (∃ p ∈ s.d.regs, p.isPfxFor proc)) :
    d'.matchProcedure proc = s.d.matchProcedure proc :=
  matchProcedure_perm s.d d' proc hp h.reg.regs.keyUnique hm

example : (Ex.sCall.d.matchProcedure "p").map (fun r => (r.id, r.callees)) = some (1, [1]) := by decide +kernel

theorem C03_pick_single {reg : Reg} {c : SessKey} (h : reg.callees = [c]) (rnd : Nat) :
    pickCallee reg rnd = some (c, reg) := pickCallee_single h rnd

theorem C03_pick_first {reg : Reg} {c : SessKey} {cs : List SessKey} (h : reg.callees = c :: cs)
    (hp : reg.policy = InvokeFirst) (rnd : Nat) : pickCallee reg rnd = some (c, reg) := pickCallee_first h hp rnd

theorem C03_pick_last {reg : Reg} (hne : reg.callees ≠ []) (hp : reg.policy = InvokeLast) (rnd : Nat) :
    pickCallee reg rnd = some (reg.callees.getLast hne, reg) := pickCallee_last hne hp rnd

/-- random: for every value of the oracle, some current member -/
theorem C03_pick_random {reg : Reg} (hne : reg.callees ≠ []) (hp : reg.policy = InvokeRandom) (rnd : Nat) :
    ∃ c, pickCallee reg rnd = some (c, reg) ∧ c ∈ reg.callees := by
  obtain ⟨c, h1, h2, _⟩ := pickCallee_random hne hp rnd
  exact ⟨c, h1, h2⟩

/-- round-robin: k consecutive calls to a registration with n ≥ 2 unchanged callees hit callee
    (start + i) mod n, i = 0 … k-1, where start is the cursor (reset to 0 when out of range) -/
theorem C03_pick_roundrobin {reg : Reg} (hp : reg.policy = InvokeRoundRobin) (hn : 2 ≤ reg.callees.length)
    (rnds : List Nat) :
    (pickIter reg rnds).1.length = rnds.length ∧
    ∀ i (_ : i < rnds.length), ((pickIter reg rnds).1)[i]? = reg.callees[(rrStart reg + i) % reg.callees.length]? :=
  pickCallee_rr_rotation hp hn rnds

/-- in every case the chosen session is a current callee and only the cursor of the registration changes -/
theorem C03_pick_member {reg reg' : Reg} {rnd : Nat} {c : SessKey} (h : pickCallee reg rnd = some (c, reg')) :
    c ∈ reg.callees ∧ reg' = { reg with next := reg'.next } := pickCallee_mem h

/-- A CALL sends at most one INVOCATION; if it sends one it sends nothing else, and the INVOCATION is
    * for the first chunk: to the callee chosen by `pickCallee` among the callees of the registration found by
      `matchProcedure`, with that registration's id, the next id of the callee's generator, the details
      `invDetails …`, arguments and keyword arguments unchanged;
    * for a later chunk of a pending progressive call: to the stored callee under the stored invocation id and
      the registration id stored at the first chunk, details `{progress}`, payload unchanged. -/
theorem C03_invocation_fields {env : DEnv} {s : DState} (h : DealerInv s) (caller : SessKey) (req : Nat) (opts : Dict)
    (proc : String) (args : List WVal) (kw : Dict) (rnd : Nat) (x : Send)
    (hx : x ∈ (syncCall env s caller req opts proc args kw rnd).sends) (hi : x.msg.isInvocation = true) :
    (syncCall env s caller req opts proc args kw rnd).sends = [x] ∧
      InvocationOf env s caller req opts proc args kw rnd x :=
  syncCall_invocations h caller req opts proc args kw rnd x hx hi

/-- the first-chunk INVOCATION goes to a session currently registered under the best match -/
theorem C03_invocation_callee {s : DState} {proc : String} {reg reg' : Reg} {rnd : Nat} {callee : SessKey}
    (hm : s.d.matchProcedure proc = some reg) (hp : pickCallee reg rnd = some (callee, reg')) :
    reg ∈ s.d.regs ∧ BestMatch s.d.regs proc (some reg) ∧ callee ∈ reg.callees :=
  ⟨matchProcedure_mem hm, hm ▸ matchProcedure_bestMatch s.d proc, (pickCallee_mem hp).1⟩

example : (syncCall Ex.env Ex.sReg 2 5 [] "p" [.int 7] [] 0).sends.map (fun x => (x.to, x.msg.typeCode)) = [(1, 68)] := by
  decide +kernel

/-- Exactly one INVOCATION, first chunk.  A new CALL (not a chunk of a pending one) whose procedure resolves to `reg`,
    whose caller may use the options it uses, that is not refused (`callRefusal = none`) and whose chosen callee has
    room: the step sends exactly one message — the INVOCATION to the callee chosen by `pickCallee`, with the next id of
    that callee's generator, the registration's id, details `invDetails …` and the caller's payload unchanged. -/
theorem C03_invocation_sent_first {env : DEnv} {s : DState} (h : DealerInv s) {caller : SessKey} {req : Nat} {opts : Dict}
    {proc : String} (args : List WVal) (kw : Dict) {rnd : Nat} {reg reg' : Reg} {callee : SessKey}
    (hm : s.d.matchProcedure proc = some reg) (hb : s.d.byCall? ⟨caller, req⟩ = none)
    (hprog : (opts.optFlag OptProgress && !hasFeat env caller RoleCaller FeatureProgCallInvocations) = false)
    (hp : pickCallee reg rnd = some (callee, reg'))
    (hr : callRefusal env s.d.allowDisclose reg caller callee opts = none) (hf : env.full callee = false) :
    (syncCall env s caller req opts proc args kw rnd).sends =
      [⟨callee, .invocation (genOf s.invGen callee + 1) reg.id (invDetails env reg caller callee opts proc) args kw⟩] := by
  rw [syncCall_picked args kw hm hprog hb hp, firstChunk_ok args kw reg' hr hf]

/-- Exactly one INVOCATION, later chunk.  A further CALL under the request id of the pending call of the stored
    invocation `v` (caller entitled to progressive call invocations if it sets `progress`, callee has room): exactly
    one message — INVOCATION to the stored callee under the stored invocation id and registration id, details
    `{progress}`, payload unchanged — whatever URI the chunk names. -/
theorem C03_invocation_sent_later {env : DEnv} {s : DState} (h : DealerInv s) {v : Invk} (hv : v ∈ s.d.invs)
    (opts : Dict) (proc : String) (args : List WVal) (kw : Dict) (rnd : Nat)
    (hprog : (opts.optFlag OptProgress && !hasFeat env v.callId.sess RoleCaller FeatureProgCallInvocations) = false)
    (hf : env.full v.callee = false) :
    (syncCall env s v.callId.sess v.callId.req opts proc args kw rnd).sends =
      [⟨v.callee, .invocation v.id.req v.regId [(OptProgress, .bool (opts.optFlag OptProgress))] args kw⟩] := by
  obtain ⟨_, hb, hfi⟩ := h.call.inv_call hv
  rw [syncCall_later proc args kw rnd hprog hb hfi, laterChunk_ok v.callId.sess v.callId.req opts args kw v.id hf]

/-- both situations occur: the first chunk of (2, 7) in `Ex.sReg`, and a later chunk in `Ex.sProg` -/
example : (syncCall Ex.env Ex.sReg 2 7 [(OptProgress, .bool true)] "p" [] [] 0).sends.map (fun x => (x.to, x.msg.typeCode)) =
      [(1, 68)] ∧
    (syncCall Ex.env Ex.sProg 2 7 [] "p" [.int 1] [] 0).sends.map (fun x => (x.to, x.msg.typeCode)) = [(1, 68)] := by
  decide +kernel

/-- The cursor is stored.  A new CALL whose procedure resolves to `reg` and for which `pickCallee` chooses
    `(callee, reg')` leaves the registration table with `reg` replaced by `reg'` (the same registration with the
    advanced round-robin cursor; unchanged for the other policies) and nothing else changed — whether the call is then
    sent, refused (feature / disclose_me / passthru) or fails on a full callee queue. -/
theorem C03_call_cursor {env : DEnv} {s : DState} (h : DealerInv s) {caller : SessKey} {req : Nat} {opts : Dict}
    {proc : String} (args : List WVal) (kw : Dict) {rnd : Nat} {reg reg' : Reg} {callee : SessKey}
    (hm : s.d.matchProcedure proc = some reg) (hb : s.d.byCall? ⟨caller, req⟩ = none)
    (hprog : (opts.optFlag OptProgress && !hasFeat env caller RoleCaller FeatureProgCallInvocations) = false)
    (hp : pickCallee reg rnd = some (callee, reg')) :
    (syncCall env s caller req opts proc args kw rnd).st.d.regs =
        s.d.regs.map (fun x => if x.id == reg.id then reg' else x) ∧
      reg' = { reg with next := reg'.next } ∧
      (syncCall env s caller req opts proc args kw rnd).st.d.findReg reg.id = some reg' := by
  have hid : reg'.id = reg.id := (pickCallee_shape hp).2.2.1
  have hregs := firstChunk_regs env s reg caller req opts proc args kw callee reg'
  rw [← syncCall_picked args kw hm hprog hb hp, Dealer.setReg, hid] at hregs
  exact ⟨hregs, (pickCallee_mem hp).2, (findReg_eq_some (syncCall_inv h ..).reg.regs.ids).2
    ⟨hregs ▸ List.mem_map.2 ⟨reg, matchProcedure_mem hm, by simp⟩, hid⟩⟩

structure CallArgs where
  env : DEnv
  caller : SessKey
  req : Nat
  opts : Dict
  proc : String
  args : List WVal
  kw : Dict
  rnd : Nat

def callStep (s : DState) (c : CallArgs) : DOut := syncCall c.env s c.caller c.req c.opts c.proc c.args c.kw c.rnd

/-- consecutive CALL steps from `s`, each a new call (not a chunk of a pending one, progress used legitimately) whose
    procedure resolves to the registration with id `g` -/
def NewCallsTo (g : Nat) : DState → List CallArgs → Prop
  | _, [] => True
  | s, c :: cs =>
    (∃ r, s.d.matchProcedure c.proc = some r ∧ r.id = g) ∧ s.d.byCall? ⟨c.caller, c.req⟩ = none ∧
    (c.opts.optFlag OptProgress && !hasFeat c.env c.caller RoleCaller FeatureProgCallInvocations) = false ∧
    NewCallsTo g (callStep s c).st cs

/-- the callee `syncCall` chooses at each of these steps (the recipient of the INVOCATION if the call goes through:
    `C03_invocation_sent_first`) -/
def chosen : DState → List CallArgs → List (Option SessKey)
  | _, [] => []
  | s, c :: cs =>
    ((s.d.matchProcedure c.proc).bind (fun r => (pickCallee r c.rnd).map (·.1))) :: chosen (callStep s c).st cs

/-- Consecutive new CALLs to one registration choose their callees exactly as `pickIter` does on that registration:
    each call picks from the registration as the previous call left it (cursor advanced), for every policy, whether
    or not the individual calls were then accepted. -/
theorem C03_calls_follow_pickIter : ∀ (cs : List CallArgs) {s : DState} {reg : Reg}, DealerInv s → reg ∈ s.d.regs →
    NewCallsTo reg.id s cs → chosen s cs = (pickIter reg (cs.map (·.rnd))).1.map some
  | [], _, _, _, _, _ => rfl
  | c :: cs, s, reg, h, hreg, hall => by
    obtain ⟨⟨r, hm, hrid⟩, hb, hprog, hrest⟩ := hall
    have hr : r = reg := nodup_map_inj h.reg.regs.ids (matchProcedure_mem hm) hreg hrid
    subst hr
    obtain ⟨callee, reg', hp⟩ := pickCallee_isSome h.reg.regs hreg c.rnd
    obtain ⟨hregs, _, _⟩ := C03_call_cursor (env := c.env) h c.args c.kw hm hb hprog hp
    have hid : reg'.id = r.id := (pickCallee_shape hp).2.2.1
    have hreg' : reg' ∈ (callStep s c).st.d.regs := hregs ▸ List.mem_map.2 ⟨r, hreg, by simp⟩
    have ih := C03_calls_follow_pickIter cs (s := (callStep s c).st) (reg := reg')
      (syncCall_inv h _ _ _ _ _ _ _) hreg' (hid ▸ hrest)
    rw [chosen, hm, ih]
    simp only [List.map_cons, pickIter, hp, Option.bind_some, Option.map_some]

/-- Round-robin in rotation.  k consecutive new CALLs to a round-robin registration with n ≥ 2 callees (nothing else
    happening in between, so the callee list is unchanged) choose callee (start + i) mod n, i = 0 … k−1, where `start`
    is the stored cursor (reset to 0 when out of range). -/
theorem C03_roundrobin_calls {s : DState} {reg : Reg} (h : DealerInv s) (hreg : reg ∈ s.d.regs)
    (hp : reg.policy = InvokeRoundRobin) (hn : 2 ≤ reg.callees.length) (cs : List CallArgs)
    (hall : NewCallsTo reg.id s cs) :
    (chosen s cs).length = cs.length ∧
    ∀ i (_ : i < cs.length), (chosen s cs)[i]? = some (reg.callees[(rrStart reg + i) % reg.callees.length]?) := by
  rw [C03_calls_follow_pickIter cs h hreg hall]
  obtain ⟨h1, h2⟩ := pickCallee_rr_rotation hp hn (cs.map (·.rnd))
  refine ⟨by simp [h1], fun i hi => ?_⟩
  rw [List.getElem?_map, h2 i (by simpa using hi)]
  have hlt : (rrStart reg + i) % reg.callees.length < reg.callees.length := Nat.mod_lt _ (by omega)
  rw [List.getElem?_eq_getElem hlt]
  rfl

theorem NewCallsTo.cons_of {g : Nat} {s : DState} {c : CallArgs} {cs : List CallArgs}
    (hm : (s.d.matchProcedure c.proc).map (·.id) = some g) (hb : s.d.byCall? ⟨c.caller, c.req⟩ = none)
    (hp : (c.opts.optFlag OptProgress && !hasFeat c.env c.caller RoleCaller FeatureProgCallInvocations) = false)
    (hrest : NewCallsTo g (callStep s c).st cs) : NewCallsTo g s (c :: cs) := by
  cases hr : s.d.matchProcedure c.proc with
  | none => rw [hr] at hm; cases hm
  | some r =>
    rw [hr] at hm
    exact ⟨⟨r, hr, by simpa using hm⟩, hb, hp, hrest⟩

/-- the hypotheses of `C03_roundrobin_calls` are met by two consecutive calls to "s" in `Ex.sShared` (registration 2,
    round robin, callees [1, 3]) -/
example : NewCallsTo 2 Ex.sShared [⟨Ex.env, 2, 11, [], "s", [], [], 0⟩, ⟨Ex.env, 2, 12, [], "s", [], [], 0⟩] ∧
    (Ex.sShared.d.regs.filter (fun r => r.id == 2)).map (fun r => (r.policy, r.callees)) = [(InvokeRoundRobin, [1, 3])] := by
  refine ⟨NewCallsTo.cons_of (by decide +kernel) (by decide +kernel) (by decide +kernel)
    (NewCallsTo.cons_of (by decide +kernel) (by decide +kernel) (by decide +kernel) trivial), by decide +kernel⟩

/-- three consecutive calls to the round-robin registration 2 of `Ex.sShared` (callees [1, 3]) go to 1, 3, 1 -/
example : chosen Ex.sShared
    [⟨Ex.env, 2, 11, [], "s", [], [], 0⟩, ⟨Ex.env, 2, 12, [], "s", [], [], 0⟩, ⟨Ex.env, 2, 13, [], "s", [], [], 0⟩] =
    [some 1, some 3, some 1] := by decide +kernel

/-- A REGISTER for a procedure whose URI starts with "wamp." from any session but the meta session is refused by the
    handler: exactly one ERROR(REGISTER, req, wamp.error.invalid_uri) is queued for the sender, the dealer is not
    touched. -/
theorem C03_restricted_wamp (r : Realm) (s : Session) (req : Nat) (opts : Dict) (proc : String)
    (hw : proc.startsWith "wamp." = true) (hk : s.key ≠ metaKey) :
    r.handleRegister s req opts proc =
      r.trySend ⟨s.key, .error tREGISTER req [] ErrInvalidURI [.str "<text>"] []⟩ ∧
    (r.handleRegister s req opts proc).ds = r.ds := by
  have he : r.handleRegister s req opts proc =
      r.trySend ⟨s.key, .error tREGISTER req [] ErrInvalidURI [.str "<text>"] []⟩ := by
    unfold Realm.handleRegister
    by_cases hv : (!validUri r.ds.d.strict (opts.optString OptMatch) proc) = true
    · exact if_pos hv
    · exact (if_neg hv).trans (if_pos (by simp [hw, hk]))
  exact ⟨he, by rw [he]; exact Realm.trySend_ds _ _⟩

example : ("wamp.session.count".startsWith "wamp." = true) ∧ ((5 : SessKey) ≠ metaKey) := by decide +kernel

/-- The invariant.  In every realm state reachable from `Realm.create cfg` by any history of inputs, a registration
    whose procedure starts with "wamp." has the meta session as its only callee: clients never serve (or share) a
    procedure of the reserved namespace, whatever they send.  (Every callee of such a registration is the meta
    session, `WpB.Reachable.wampOk`; callee lists are non-empty and duplicate-free, `RegsOk`.) -/
theorem C03_wamp_callees {cfg : Config} {r : Realm} (h : Realm.Reachable cfg r) {reg : Reg} (hreg : reg ∈ r.ds.d.regs)
    (hw : reg.proc.startsWith "wamp." = true) : reg.callees = [metaKey] := by
  have hall := WpB.Reachable.wampOk h reg hreg hw
  obtain ⟨hne, hnd⟩ := h.inv.1.dinv.reg.regs.callees reg hreg
  cases hc : reg.callees with
  | nil => exact absurd hc hne
  | cons a rest =>
    rw [hc] at hall hnd
    have ha : a = metaKey := hall a (List.mem_cons_self ..)
    cases rest with
    | nil => rw [ha]
    | cons b rest' =>
      exfalso
      have hb : b = metaKey := hall b (List.mem_cons_of_mem _ (List.mem_cons_self ..))
      rw [ha, hb] at hnd
      simp at hnd

/-- … and such registrations exist: the meta procedures of a fresh realm -/
example : ((Realm.create {}).map (fun r => r.ds.d.regs.all (fun reg => reg.proc.startsWith "wamp." && reg.callees == [metaKey]) &&
    !r.ds.d.regs.isEmpty)) = some true := by rw [Realm.create_default]; decide +kernel

/-- `receive_progress: true` exactly when the caller asked ∧ the callee announced progressive_call_results ∧
    call_canceling; otherwise the key is absent -/
theorem C03_details_receive_progress (env : DEnv) (reg : Reg) (caller callee : SessKey) (opts : Dict) (proc : String) :
    Dict.get? (invDetails env reg caller callee opts proc) OptReceiveProgress =
      if opts.optFlag OptReceiveProgress && hasFeat env callee RoleCallee FeatureProgCallResults &&
         hasFeat env callee RoleCallee FeatureCallCanceling then some (.bool true) else none :=
  invDetails_get?_receive_progress env reg caller callee opts proc

/-- `procedure: <called URI>` iff the registration's raw match option is not "exact" -/
theorem C03_details_procedure (env : DEnv) (reg : Reg) (caller callee : SessKey) (opts : Dict) (proc : String) :
    Dict.get? (invDetails env reg caller callee opts proc) OptProcedure =
      if reg.«match» != MatchExact then some (.str proc) else none :=
  invDetails_get?_procedure env reg caller callee opts proc

/-- `timeout` forwarded iff the CALL's timeout is positive ∧ callee has call_timeout ∧ registration forward_timeout
    (first chunk only: a later chunk's details are `{progress}`) -/
theorem C03_details_timeout (env : DEnv) (reg : Reg) (caller callee : SessKey) (opts : Dict) (proc : String) :
    Dict.get? (invDetails env reg caller callee opts proc) OptTimeout =
      if optTimeout opts > 0 && forwardsTimeout env reg callee then some (.int (optTimeout opts)) else none :=
  invDetails_get?_timeout env reg caller callee opts proc

/-- a CALL that sends an INVOCATION has passed the check "progress only from a caller that announced progressive call
    invocations" -/
theorem C03_invocation_prog_ok {env : DEnv} {s : DState} (caller : SessKey) (req : Nat) (opts : Dict)
    (proc : String) (args : List WVal) (kw : Dict) (rnd : Nat) (x : Send)
    (hx : x ∈ (syncCall env s caller req opts proc args kw rnd).sends) (hi : x.msg.isInvocation = true) :
    (opts.optFlag OptProgress && !hasFeat env caller RoleCaller FeatureProgCallInvocations) = false := by
  cases hq : (opts.optFlag OptProgress && !hasFeat env caller RoleCaller FeatureProgCallInvocations) with
  | false => rfl
  | true =>
    -- then every branch of `syncCall` ends in an ERROR, a panic or `progressAbort`
    exfalso
    have habort : ∀ y ∈ (progressAbort s caller).sends, y.msg.isInvocation = false := by
      intro y hy
      simp only [progressAbort, List.mem_singleton] at hy
      subst hy; rfl
    rw [syncCall_eq] at hx
    split at hx
    · split at hx
      · cases hx
      · rw [if_pos hq] at hx
        rw [habort x hx] at hi; cases hi
    · split at hx
      · simp only [List.mem_singleton] at hx
        subst hx; cases hi
      · split at hx
        · simp only [List.mem_singleton] at hx
          subst hx; cases hi
        · rw [habort x hx] at hi; cases hi

/-- An INVOCATION sent in a step either opens a new invocation — its request id is the callee's generator + 1,
    larger than the id of every invocation stored for that callee, and the generator is advanced to it — or it
    continues a stored invocation of that callee under its stored id. -/
theorem C03_inv_id_step {s : DState} {o : DOut} (h : DealerInv s) (st : DStep s o) (x : Send) (hx : x ∈ o.sends)
    (r g : Nat) (d : Dict) (a : List WVal) (kw : Dict) (hm : x.msg = .invocation r g d a kw) :
    (r = genOf s.invGen x.to + 1 ∧ genOf o.st.invGen x.to = r ∧ ∀ v ∈ s.d.invs, v.id.sess = x.to → v.id.req < r) ∨
    (∃ v ∈ s.d.invs, v.id = ⟨x.to, r⟩) :=
  (st.invocation_origin h hx hm).imp (fun ⟨e, hg, hlt, _⟩ => ⟨e, hg, hlt⟩) (fun ⟨v, hv, hid, _⟩ => ⟨v, hv, hid⟩)

/-- Over any run of the dealer the generator of a callee never goes back, and every INVOCATION that opens a new
    invocation towards callee `k` in the run has a request id above the generator's value at the start of the run
    and at most its value at the end: ids towards one callee strictly increase. -/
theorem C03_inv_id_fresh {s s' : DState} {tr : List (DState × DOut)} (run : Run s tr s') (k : SessKey) :
    DealerInv s →
    genOf s.invGen k ≤ genOf s'.invGen k ∧
    ∀ p ∈ tr, ∀ x ∈ p.2.sends, ∀ (r g : Nat) (d : Dict) (a : List WVal) (kw : Dict),
      x.msg = .invocation r g d a kw → x.to = k →
      (genOf s.invGen k < r ∧ r ≤ genOf s'.invGen k) ∨ (∃ v ∈ p.1.d.invs, v.id = ⟨k, r⟩) := by
  induction run with
  | nil s => intro _; exact ⟨Nat.le_refl _, fun p hp => by cases hp⟩
  | @cons s o tr s' st _ ih =>
    intro h
    obtain ⟨h1, h2⟩ := ih (st.inv h)
    have hm := (st.frame h).gen k
    refine ⟨Nat.le_trans hm h1, ?_⟩
    intro p hp x hx r g d a kw hmsg hto
    rcases List.mem_cons.1 hp with rfl | hp
    · rcases C03_inv_id_step h st x hx r g d a kw hmsg with ⟨e1, e2, _⟩ | ⟨v, hv, hvi⟩
      · left
        rw [hto] at e1 e2
        omega
      · right; exact ⟨v, hv, hto ▸ hvi⟩
    · rcases h2 p hp x hx r g d a kw hmsg hto with ⟨e1, e2⟩ | hx'
      · left; omega
      · right; exact hx'

/-- The accepted first chunk stores exactly the callee, the invocation id and the registration id its INVOCATION
    was sent with (and the registration's `forward_timeout` setting). -/
theorem C03_first_chunk_records {env : DEnv} {s : DState} (h : DealerInv s) {caller : SessKey} {req : Nat} {opts : Dict}
    {proc : String} (args : List WVal) (kw : Dict) {rnd : Nat} {reg reg' : Reg} {callee : SessKey}
    (hm : s.d.matchProcedure proc = some reg) (hb : s.d.byCall? ⟨caller, req⟩ = none)
    (hprog : (opts.optFlag OptProgress && !hasFeat env caller RoleCaller FeatureProgCallInvocations) = false)
    (hp : pickCallee reg rnd = some (callee, reg'))
    (hr : callRefusal env s.d.allowDisclose reg caller callee opts = none) (hf : env.full callee = false) :
    ∃ v ∈ (syncCall env s caller req opts proc args kw rnd).st.d.invs,
      v.callId = ⟨caller, req⟩ ∧ v.id = ⟨callee, genOf s.invGen callee + 1⟩ ∧ v.callee = callee ∧
      v.regId = reg.id ∧ v.fwdTimeout = reg.fwdTimeout := by
  rw [syncCall_picked args kw hm hprog hb hp, firstChunk_ok args kw reg' hr hf]
  have hmem : newInvk s reg caller req callee opts ∈
      (recordCall { s with d := s.d.setReg reg' } (newInvk s reg caller req callee opts) callee).d.invs :=
    List.mem_append_right _ (List.mem_singleton_self _)
  obtain ⟨_, h⟩ := armTimer_stores (env := env) hmem caller req (routerTimeout env reg callee opts)
  exact ⟨_, h, rfl, newInvk_id s reg caller req callee opts, rfl, rfl, rfl⟩

/-- The INVOCATION belongs to the CALL of its step.  An INVOCATION that opens a new invocation towards `x.to` (its id
    is not that of a stored invocation — a first chunk) is sent by the CALL step of some caller `c` with request `q`:
    it carries that CALL's arguments unchanged, it is the only message of the step, and the step records the invocation
    `(x.to, r)` for the call `(c, q)`. -/
theorem C03_invocation_of_call {s : DState} {o : DOut} (h : DealerInv s) (st : DStep s o) (x : Send) (hx : x ∈ o.sends)
    (r g : Nat) (d : Dict) (a : List WVal) (kw : Dict) (hm : x.msg = .invocation r g d a kw)
    (hnew : ∀ v ∈ s.d.invs, v.id ≠ ⟨x.to, r⟩) :
    ∃ env c q opts proc rnd, o = syncCall env s c q opts proc a kw rnd ∧ o.sends = [x] ∧
      (⟨c, q⟩ : ReqId) ∉ s.d.calls ∧ ∃ v ∈ o.st.d.invs, v.callId = ⟨c, q⟩ ∧ v.id = ⟨x.to, r⟩ ∧ v.regId = g := by
  have hi : x.msg.isInvocation = true := by rw [hm]; rfl
  obtain ⟨env, caller, req, opts, proc, args, kw', rnd, rfl⟩ := st.invocation_is_call x hx hi
  obtain ⟨hs, hform⟩ := syncCall_invocations h caller req opts proc args kw' rnd x hx hi
  have hprog := C03_invocation_prog_ok caller req opts proc args kw' rnd x hx hi
  cases hform with
  | first reg reg' callee hmm hb hp hr hf =>
    obtain ⟨rfl, rfl, -, rfl, rfl⟩ := Msg.invocation.inj hm
    obtain ⟨v, hv, h1, h2, -, h4, -⟩ := C03_first_chunk_records h args kw' hmm hb hprog hp hr hf
    refine ⟨env, caller, req, opts, proc, rnd, rfl, hs, fun hc => ?_, v, hv, h1, h2, h4⟩
    obtain ⟨i, -, hb', -⟩ := h.call.lookup hc
    rw [hb] at hb'; cases hb'
  | later iid v0 hb hfi hf =>
    obtain ⟨rfl, -⟩ := Msg.invocation.inj hm
    obtain ⟨hv, hid⟩ := findInv_some_mem hfi
    exact absurd (by rw [h.call.callee v0 hv, hid]) (hnew v0 hv)

/-- While a call stays pending its stored invocation keeps its id, its callee and the recorded registration
    (id and `forward_timeout`), whatever steps happen. -/
theorem C03_invocation_persists {s : DState} {o : DOut} (h : DealerInv s) (st : DStep s o) {v v' : Invk}
    (hv : v ∈ s.d.invs) (hv' : v' ∈ o.st.d.invs) (hc : v'.callId = v.callId) :
    v'.id = v.id ∧ v'.callee = v.callee ∧ v'.regId = v.regId ∧ v'.fwdTimeout = v.fwdTimeout := by
  rcases (st.frame h).invs v' hv' with ⟨w, hw, hs⟩ | ⟨hnew, _⟩
  · simp only [Invk.shapeC, Prod.mk.injEq] at hs
    have : w = v := nodup_map_inj h.call.invCalls hw hv (hs.2.1.trans hc)
    subst this
    exact ⟨hs.1.symm, hs.2.2.1.symm, hs.2.2.2.1.symm, hs.2.2.2.2.symm⟩
  · exact absurd (hc ▸ (h.call.inv_call hv).1) hnew

/-- A later chunk of a pending progressive call goes to the callee stored for that call, under the stored
    invocation id and the stored registration id — whatever URI the chunk names and whether or not the callee is
    still registered — with details `{progress}` and the payload unchanged, as the only message of the step. -/
theorem C03_progressive_same_callee {env : DEnv} {s : DState} (h : DealerInv s) {v : Invk} (hv : v ∈ s.d.invs)
    (opts : Dict) (proc : String) (args : List WVal) (kw : Dict) (rnd : Nat) (x : Send)
    (hx : x ∈ (syncCall env s v.callId.sess v.callId.req opts proc args kw rnd).sends) (hi : x.msg.isInvocation = true) :
    x = ⟨v.callee, .invocation v.id.req v.regId [(OptProgress, .bool (opts.optFlag OptProgress))] args kw⟩ ∧
      (syncCall env s v.callId.sess v.callId.req opts proc args kw rnd).sends = [x] := by
  obtain ⟨hs, hform⟩ := syncCall_invocations h v.callId.sess v.callId.req opts proc args kw rnd x hx hi
  have hb := (h.call.inv_call hv).2.1
  cases hform with
  | first reg reg' callee hmm hb' hp hr hf => rw [hb] at hb'; cases hb'
  | later iid v0 hb' hfi hf =>
    rw [hb] at hb'; cases hb'
    rw [(h.call.inv_call hv).2.2] at hfi; cases hfi
    exact ⟨rfl, hs⟩

/-- The registration id recorded in a stored invocation is the id of a registration that had the invocation's
    callee among its callees when the invocation was created (it may have been unregistered since). -/
theorem C03_invocation_reg_recorded {s : DState} {o : DOut} (h : DealerInv s) (st : DStep s o) {v' : Invk}
    (hv' : v' ∈ o.st.d.invs) (hnew : ∀ v ∈ s.d.invs, v.callId ≠ v'.callId) :
    calleeRel s.d.regs v'.regId v'.callee := by
  rcases (st.frame h).invs v' hv' with ⟨w, hw, hs⟩ | ⟨_, _, _, hc⟩
  · simp only [Invk.shapeC, Prod.mk.injEq] at hs
    exact absurd hs.2.1 (hnew w hw)
  · exact hc

example : (syncCall Ex.env50 Ex.sProgT 2 8 [(OptProgress, .bool true)] "p" [] [] 0).sends.map
    (fun x => (x.to, x.msg.typeCode)) = [(1, 68)] := by decide +kernel

/-- YIELD from the owner of the invocation: every message of the step goes to the caller of that call or back to
    the yielding callee (ABORT / ERROR for payload-passthru misuse, INTERRUPT when the caller cannot take the
    result) — never to a third session.  (Payload unchanged: `C02_callee_final_yield_payload`.) -/
theorem C03_answer_routing_owner_yield {env : DEnv} {s : DState} (h : DealerInv s) {v : Invk} (hv : v ∈ s.d.invs)
    (opts : Dict) (args : List WVal) (kw : Dict) (progress canRetry : Bool) :
    ∀ x ∈ (syncYield env s v.id.sess v.id.req opts args kw progress canRetry).sends,
      x.to = v.callId.sess ∨ x.to = v.id.sess :=
  yield_recipients h hv opts args kw progress canRetry

/-- INVOCATION ERROR from the owner: exactly one message, ERROR(CALL) with the same URI, details and payload, to
    the caller of that call. -/
theorem C03_answer_routing_owner_error {s : DState} (h : DealerInv s) {v : Invk} (hv : v ∈ s.d.invs) (details : Dict)
    (err : String) (args : List WVal) (kw : Dict) :
    (syncError s v.id.sess v.id.req details err args kw).sends =
      [⟨v.callId.sess, .error tCALL v.callId.req details err args kw⟩] := by
  rw [syncError_owner h hv details err args kw]; rfl

/-- YIELD from a session that does not own an invocation with that request id (invocation ids are keyed by the
    callee session): the state is unchanged and nothing is sent — except the INTERRUPT{killnowait} that answers an
    unknown progressive yield, to the sender itself. -/
theorem C03_answer_routing_foreign_yield {env : DEnv} {s : DState} (k : SessKey) (req : Nat) (opts : Dict)
    (args : List WVal) (kw : Dict) (progress canRetry : Bool) (hno : ∀ v ∈ s.d.invs, v.id ≠ ⟨k, req⟩) :
    syncYield env s k req opts args kw progress canRetry =
      if progress && !env.full k then
        { st := s, sends := [⟨k, .interrupt req [(OptMode, .str CancelModeKillNoWait)]⟩] }
      else { st := s } :=
  syncYield_unknown args kw progress canRetry (findInv_eq_none.2 hno)

/-- INVOCATION ERROR from a session that does not own such an invocation: no effect at all. -/
theorem C03_answer_routing_foreign_error {s : DState} (k : SessKey) (req : Nat) (details : Dict) (err : String)
    (args : List WVal) (kw : Dict) (hno : ∀ v ∈ s.d.invs, v.id ≠ ⟨k, req⟩) :
    syncError s k req details err args kw = { st := s } :=
  syncError_none details err args kw (findInv_eq_none.2 hno)

/-- session 3 answers the invocation (1, 1) of `Ex.sCall`: it does not own it -/
example : ∀ v ∈ Ex.sCall.d.invs, v.id ≠ ⟨3, 1⟩ := by decide +kernel

/-- The condition under which a REGISTER for an existing (procedure, kind) is accepted. -/
def sharable (reg : Reg) (invoke : String) (callee : SessKey) : Prop :=
  reg.policy ≠ "" ∧ reg.policy ≠ InvokeSingle ∧ reg.policy = invoke ∧ callee ∉ reg.callees

/-- accepted: REGISTERED with the existing registration's id, the session appended to its callees -/
theorem C03_shared_policy_accept {s : DState} (h : DealerInv s) (callee : SessKey) (req : Nat) (proc m invoke : String)
    (disclose fwd wampURI : Bool) {reg : Reg} (hf : s.d.findProc proc (matchKind m) = some reg)
    (hs : sharable reg invoke callee) :
    (syncRegister s callee req proc m invoke disclose fwd wampURI).sends = [⟨callee, .registered req reg.id⟩] ∧
      (∀ k, calleeRel (syncRegister s callee req proc m invoke disclose fwd wampURI).st.d.regs reg.id k ↔
        k ∈ reg.callees ∨ k = callee) := by
  obtain ⟨h1, h2, h3, h4⟩ := hs
  have hm := ((findProc_eq_some h.reg.regs.keys).1 hf).1
  unfold syncRegister
  simp only [hf]
  rw [if_neg (by simp [h1, h2]), if_neg (by simp [h3]), if_neg (by simpa using h4)]
  refine ⟨rfl, fun k => ?_⟩
  show calleeRel (s.d.setReg { reg with callees := reg.callees ++ [callee] }).regs reg.id k ↔ _
  rw [calleeRel_setReg hm]
  simp

/-- refused otherwise — stored policy ""/"single", or different from the requested one, or the session is a
    callee already: exactly one ERROR(REGISTER) procedure_already_exists, no state change -/
theorem C03_shared_policy_refuse {s : DState} (callee : SessKey) (req : Nat) (proc m invoke : String)
    (disclose fwd wampURI : Bool) {reg : Reg} (hf : s.d.findProc proc (matchKind m) = some reg)
    (hs : ¬ sharable reg invoke callee) :
    syncRegister s callee req proc m invoke disclose fwd wampURI =
      { st := s, sends := [⟨callee, errMsg tREGISTER req ErrProcedureAlreadyExists⟩] } := by
  refine syncRegister_refused hf (Classical.byContradiction fun hn => hs ⟨fun e => hn (.inl e), fun e => hn (.inr (.inl e)),
    Classical.not_not.1 fun e => hn (.inr (.inr (.inl e))), fun e => hn (.inr (.inr (.inr e)))⟩)

example : Ex.sReg.d.findProc "p" (matchKind "") = some
    { id := 1, proc := "p", «match» := "", policy := "", disclose := false, fwdTimeout := false, callees := [1] } := by
  rfl

/-- UNREGISTER by a callee of the registration: UNREGISTERED, and the session is no callee of it any more. -/
theorem C03_unregistered {s : DState} (h : DealerInv s) (callee : SessKey) (req regId : Nat)
    (hr : calleeRel s.d.regs regId callee) :
    (syncUnregister s callee req regId).sends = [⟨callee, .unregistered req⟩] ∧
      ¬ calleeRel (syncUnregister s callee req regId).st.d.regs regId callee := by
  refine ⟨?_, fun hc => (((syncUnregister_frame h callee req regId).2.2 regId callee).1 hc).2 ⟨rfl, rfl⟩⟩
  unfold syncUnregister
  simp only
  obtain ⟨d', del, he, _⟩ :=
    delCalleeReg_some (d := { s.d with index := idxDel s.d.index callee regId }) h.reg.regs hr
  rw [he]

/-- The session's departure: it is a callee of no registration and serves no stored invocation any more. -/
theorem C03_gone {env : DEnv} {s : DState} (h : DealerInv s) (k : SessKey) :
    (∀ id, ¬ calleeRel (syncRemoveSession env s k).st.d.regs id k) ∧
      ∀ v ∈ (syncRemoveSession env s k).st.d.invs, v.callee ≠ k :=
  ⟨fun id hc => (((syncRemoveSession_frame h k).2.2 id k).1 hc).2 rfl, syncRemoveSession_no_inv h k⟩

/-- "Is a callee of no registration and serves no invocation" persists over every step that is not a REGISTER by
    that session (a departed session sends nothing). -/
theorem C03_not_callee_persists {s : DState} {o : DOut} (h : DealerInv s) (st : DStep s o) (k : SessKey)
    (hreg : ¬ IsRegisterStep s o k) (h1 : ∀ id, ¬ calleeRel s.d.regs id k) (h2 : ∀ v ∈ s.d.invs, v.callee ≠ k) :
    (∀ id, ¬ calleeRel o.st.d.regs id k) ∧ ∀ v ∈ o.st.d.invs, v.callee ≠ k := by
  refine ⟨fun id hc => ((st.frame h).callees id k hc).elim (h1 id) hreg, fun v' hv' hk => ?_⟩
  rcases (st.frame h).invs v' hv' with ⟨w, hw, hs⟩ | ⟨_, _, _, hc⟩
  · simp only [Invk.shapeC, Prod.mk.injEq] at hs
    exact h2 w hw (hs.2.2.1.trans hk)
  · exact h1 v'.regId (hk ▸ hc)

/-- Hence no CALL produces an INVOCATION to such a session. -/
theorem C03_no_invocation_to_gone {env : DEnv} {s : DState} (h : DealerInv s) (k : SessKey)
    (h1 : ∀ id, ¬ calleeRel s.d.regs id k) (h2 : ∀ v ∈ s.d.invs, v.callee ≠ k)
    (caller : SessKey) (req : Nat) (opts : Dict) (proc : String) (args : List WVal) (kw : Dict) (rnd : Nat) :
    ∀ x ∈ (syncCall env s caller req opts proc args kw rnd).sends, x.msg.isInvocation = true → x.to ≠ k := by
  intro x hx hi hk
  obtain ⟨_, hform⟩ := syncCall_invocations h caller req opts proc args kw rnd x hx hi
  cases hform with
  | first reg reg' callee hmm hb hp hr hf =>
    exact h1 reg.id ⟨reg, matchProcedure_mem hmm, rfl, hk ▸ (pickCallee_mem hp).1⟩
  | later iid v0 hb hfi hf =>
    exact h2 v0 (findInv_some_mem hfi).1 hk

/-- session 1 leaves `Ex.sCall`: no registration is left -/
example : (syncRemoveSession Ex.env Ex.sCall 1).st.d.regs.map (·.id) = [] := by decide +kernel

end Nexus.C03
