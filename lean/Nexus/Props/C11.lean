/-
  C11 — Nothing crosses realm boundaries.

  Property text.  "Events, invocations, results, meta events, testaments and meta-API answers are
  confined to the realm in which they originate: a session never receives, observes through the
  meta API, or can affect (unsubscribe, unregister, cancel, yield to, kill) anything belonging to
  a session of another realm, even when URIs, request ids and router-assigned subscription or
  registration ids coincide across realms.  Adding or removing a realm does not disturb sessions
  of other realms."

  The theorems are about `Router.step` of `Nexus.L2.Router` (the router as a table of realms,
  mirroring router/router.go: `AttachClient` binds a session to exactly one realm, every later
  message of the session is dispatched to that realm).  They quantify over ARBITRARY router
  states: the other realms `B` may hold any subscriptions, registrations, calls, request ids,
  URIs — in particular ones coinciding with those of `A`.  The frame theorems need no invariant
  at all; the theorems about what is OBSERVED need the invariant `Router.Inv` (every realm is
  confined to the sessions that joined it), which holds in every reachable state
  (`C11_inv_reachable`).

  Vocabulary:  `rt.realmOf k`    the realm session k's operations are dispatched to;
               `rt.joined A k`   (k, A) ∈ rt.sessRealm: session k attached to realm A;
               `rt.others A`     the realm table without the entry named A;
               `Realm.Conf P r`  clients, outbound queues and just-closed peers of r are all
                                 sessions satisfying P.

  clause                                                       theorem
  -----------------------------------------------------------  -----------------------------------
  an operation (message, drop, stall, resume: any `Realm.Op`)  C11_frame
  of a session of A leaves every realm B ≠ A unchanged          (state equality, all fields)
  … also as lookup: `realm? B` unchanged for all B ≠ A          C11_frame_lookup
  … and everything observed (queue contents, closed peers)      C11_frame_observed
  concerns only sessions joined to A
  … what is observed and the new state of A are a function     C11_noninterference
  of the state of A alone (classic non-interference: "a
  session never receives/observes anything of another realm")
  a session unknown to the router / whose realm was removed     C11_unknown_session
  changes nothing and observes nothing
  attaching a session to A: B ≠ A unchanged, observed only A    C11_join_frame, C11_join_observed
  a realm template creates at most the one realm the joining    C11_template_creates_only_named
  session named, only when it was absent
  every realm holds only sessions joined to it; names distinct  C11_inv_step, C11_inv_reachable
  (the invariant, preserved by every operation)
  a session is held by at most one realm, and its operations    C11_sessions_partitioned,
  are dispatched to exactly that realm (keys attach once)       C11_dispatch_own_realm,
                                                               C11_attach_once_step
  "Adding or removing a realm does not disturb sessions of     C11_remove_add
  other realms": RemoveRealm A / AddRealm cfg leave the others
  unchanged; observed only A's sessions (shutdown GOODBYEs)
  Router.Close: the table is emptied; each realm's farewell    C11_close
  concerns its own sessions only
  the clock: every realm advances by its own `Realm.step`,     C11_tick
  pointwise; observed = concatenation of per-realm outputs
  meta-API answers are functions of the caller's realm only    C11_meta_confined (true by typing:
                                                               `Realm.metaProc` takes one `Realm`)
  HISTORIES: along two whole runs whose operations addressed   C11_run_noninterference
  to A coincide, A makes the same things observable and ends    (+ C11_run_part_is_filter: the part
  in the same state, whatever the other realms do in between    observed "on behalf of A" is the
  (their sessions' operations, joins, AddRealm, RemoveRealm,    router's observation filtered to A's
  creation from the template)                                   sessions; C11_create_modulo_pubbase,
                                                               C11_pubbase_shared_witness: why the
                                                               creation of A itself is excluded)
  the one thing the realms of a router DO share is the time:    C11_clock_step, C11_clock_shared_step,
  the router's clock is advanced by `tick` alone, a realm's     C11_clock_shared (over
  by its own `tick` alone and by exactly `ms`; every realm of   `Router.ReachableT`),
  the table shows the router's time (realms created later       C11_clock_shared_needs_untimed (why
  start at the current time), in every router reachable by      not over `Router.Reachable`: `ROp.wf`
  operations in which time passes through `ROp.tick` only       allows a tick wrapped into `ROp.sess`),
                                                               C11_reachableT_reachable (every such
                                                               router is `Router.Reachable`)
  sessions of a removed realm are inert: while the name is      C11_removed_sessions_inert,
  absent their operations do nothing; after a namesake has      C11_confined_to
  been added they observe nothing and cannot touch it
  reachable routers include those built with a realm template   Router.Reachable.init (t), example

  Coinciding URIs, request ids, subscription and registration ids: nothing in the statements
  restricts the state of the other realms, so the theorems hold in particular when realm B holds
  the same topic / procedure / ids as realm A (router-assigned subscription and registration ids
  DO coincide in the model: every realm's generators start at 0).

  NOTE on `ROp.sess k op`: the model type admits any `Realm.Op` as `op`, also a `join`; the
  router API (and the driver) produce only msg/drop/stall/resume/buffer of k.  The frame theorems hold
  for every `op`; the observation theorems and the invariant need `op` not to be a `join`
  (`ROp.wf`): sessions attach through `ROp.join` only.  The shared-clock theorems need `op` not to
  be a `tick` either (`ROp.untimedSess`): time passes through `ROp.tick` only.

  TRUSTED BASE specific to this file: that the real router has no state shared between realms
  is not a theorem about the model (the model is a table of independent `Realm`s — C11 is "true
  by construction" there) but the content of the tie: the multi-realm correspondence family
  (harness/l2, same histories in 2–4 realms with identical URIs and colliding ids) and the
  inventory of package-level variables (gen G6(e)).
-/
import Nexus.L2.Proofs.RouterFrame
import Nexus.L2.Proofs.RouterRun
import Nexus.L2.Proofs.RouterClock
import Nexus.L2.Proofs.RouterShutdown

namespace Nexus.C11
open Nexus.L2 Nexus.L2.Router Nexus.L2.Realm

/-- FRAME.  An operation of a session dispatched to realm `A` returns every other realm of the
    table unchanged (equality of the whole realm state), keeps the realm names and the
    session→realm map; for every router state whatsoever. -/
theorem C11_frame (rt : Router) (k : SessKey) (op : Realm.Op) (A : String) (_hA : rt.realmOf k = some A) :
    (rt.step (.sess k op)).2.others A = rt.others A ∧
    (rt.step (.sess k op)).2.realms.map (·.1) = rt.realms.map (·.1) ∧
    (rt.step (.sess k op)).2.sessRealm = rt.sessRealm ∧
    (rt.step (.sess k op)).2.closed = rt.closed := by
  cases hr : rt.realm? A with
  | none => rw [step_sess_gone _hA hr]; exact ⟨rfl, rfl, rfl, rfl⟩
  | some r =>
    rw [step_sess_some _hA hr]
    exact ⟨others_setRealm _ _ _, names_setRealm _ _ _, rfl, rfl⟩

-- non-vacuity: a router with two realms, session 1 attached to "a"; "b" is an "other" realm
example : ∃ rt : Router, rt.realmOf 1 = some "a" ∧ (rt.others "a").map (·.1) = ["b"] :=
  ⟨{ realms := [("a", {}), ("b", {})], sessRealm := [(1, "a"), (2, "b")] }, by decide, by decide⟩

/-- The same as a lookup: whatever a session of `A` does, `realm? B` is the same realm afterwards. -/
theorem C11_frame_lookup (rt : Router) (k : SessKey) (op : Realm.Op) (A B : String)
    (hA : rt.realmOf k = some A) (hB : B ≠ A) :
    (rt.step (.sess k op)).2.realm? B = rt.realm? B :=
  realm?_of_others hB (C11_frame rt k op A hA).1

/-- A session the router does not know (or whose realm has been removed) changes nothing and
    nothing is observed. -/
theorem C11_unknown_session (rt : Router) (k : SessKey) (op : Realm.Op)
    (h : rt.realmOf k = none ∨ ∃ A, rt.realmOf k = some A ∧ rt.realm? A = none) :
    (rt.step (.sess k op)).2 = rt ∧ (rt.step (.sess k op)).1.out = [] ∧ (rt.step (.sess k op)).1.closed = [] := by
  rcases h with h | ⟨A, h, hr⟩
  · rw [step_sess_unknown h]; exact ⟨rfl, rfl, rfl⟩
  · rw [step_sess_gone h hr]; exact ⟨rfl, rfl, rfl⟩

/-- General form of confinement, for an arbitrary set `P` of sessions: if the realm the router
    holds under the name `A` is confined to `P` (its clients, queues and closed peers are in `P`),
    then whatever a session dispatched to `A` does — ALSO a session that is not in `P`, e.g. one that
    had joined a removed realm of the same name — everything observed concerns sessions in `P`
    only, and the realm stays confined to `P`.  (`C11_frame_observed` is the instance
    `P := rt.joined A`; here `P` can be finer than "ever joined a realm named `A`".) -/
theorem C11_confined_to (rt : Router) (A : String) (P : SessKey → Prop) (r : Realm) (hr : rt.realm? A = some r)
    (hP : Realm.Conf P r) (k : SessKey) (hk : rt.realmOf k = some A) (op : Realm.Op) (hop : op.isJoin = false) :
    (∀ q ∈ (rt.step (.sess k op)).1.out, P q.1) ∧ (∀ k' ∈ (rt.step (.sess k op)).1.closed, P k') ∧
    ∃ r', (rt.step (.sess k op)).2.realm? A = some r' ∧ Realm.Conf P r' := by
  rw [step_sess_some hk hr]
  have hj : ∀ k l d ro c, op = .join k l d ro c → P k := by
    intro k l d ro c e; rw [e] at hop; cases hop
  obtain ⟨h1, h2, h3⟩ := hP.step op hj
  exact ⟨h2, h3, _, realm?_setRealm_self _ hr, h1⟩

/-- OBSERVATION.  In a router satisfying the invariant, whatever an operation of a session of
    `A` makes observable — the contents of router→client queues (`out`: EVENT, INVOCATION, RESULT,
    ERROR, meta events, testament events, GOODBYE/ABORT …) and closed peers — concerns sessions
    attached to `A` only. -/
theorem C11_frame_observed (rt : Router) (hi : rt.Inv) (k : SessKey) (op : Realm.Op) (hop : op.isJoin = false)
    (A : String) (hA : rt.realmOf k = some A) :
    (∀ q ∈ (rt.step (.sess k op)).1.out, rt.joined A q.1) ∧
    (∀ k' ∈ (rt.step (.sess k op)).1.closed, rt.joined A k') := by
  cases hr : rt.realm? A with
  | none => rw [step_sess_gone hA hr]; exact ⟨fun _ hq => (nomatch hq), fun _ hq => (nomatch hq)⟩
  | some r =>
    obtain ⟨h1, h2, _⟩ := C11_confined_to rt A _ r hr (hi.conf _ (realm?_mem hr)) k hA op hop
    exact ⟨h1, h2⟩

-- non-vacuity: the empty router satisfies the invariant; so does every reachable one (below)
example : Router.Inv {} := ⟨List.nodup_nil, fun p hp => by cases hp⟩
example : (Realm.Op.msg 1 (.other 99)).isJoin = false ∧ (Realm.Op.drop 1).isJoin = false := ⟨rfl, rfl⟩

/-- NON-INTERFERENCE.  What an operation of a session of `A` makes observable, and the new state
    of `A`, are determined by the state of `A` alone: two routers that agree on realm `A` (and on
    where `k` is dispatched) but differ arbitrarily elsewhere produce the same observation and the
    same new realm `A`.  So nothing of another realm is received or observed through any message,
    including every meta-API call. -/
theorem C11_noninterference (rt₁ rt₂ : Router) (k : SessKey) (op : Realm.Op) (A : String)
    (h₁ : rt₁.realmOf k = some A) (h₂ : rt₂.realmOf k = some A) (hr : rt₁.realm? A = rt₂.realm? A) :
    (rt₁.step (.sess k op)).1 = (rt₂.step (.sess k op)).1 ∧
    (rt₁.step (.sess k op)).2.realm? A = (rt₂.step (.sess k op)).2.realm? A := by
  cases hr1 : rt₁.realm? A with
  | none =>
    rw [step_sess_gone h₁ hr1, step_sess_gone h₂ (hr ▸ hr1)]
    exact ⟨rfl, hr⟩
  | some r =>
    have hr2 : rt₂.realm? A = some r := hr ▸ hr1
    rw [step_sess_some h₁ hr1, step_sess_some h₂ hr2]
    refine ⟨rfl, ?_⟩
    rw [realm?_setRealm_self _ hr1, realm?_setRealm_self _ hr2]

/-- On-demand realm creation (`Config.RealmTemplate`).  A join to `A` adds AT MOST ONE realm to the
    table, at the end, and it is named `A`; this happens only if no realm `A` existed, a template
    is configured, the router is open, `A ≠ ""`, and `Realm.create` accepts the template under the
    name `A`.  Every other operation that is not `addRealm` adds none (`C11_frame`,
    `C11_remove_add`, `C11_tick`, `C11_close`).  So a template never creates or touches a realm
    other than the one the joining session named. -/
theorem C11_template_creates_only_named (rt : Router) (A : String) (k : SessKey) (isLocal : Bool) (details : Dict)
    (roles : Roles) (cap : Nat) :
    (rt.step (.join A k isLocal details roles cap)).2.realms.map (·.1) = rt.realms.map (·.1) ∨
    ((rt.step (.join A k isLocal details roles cap)).2.realms.map (·.1) = rt.realms.map (·.1) ++ [A] ∧
      rt.realm? A = none ∧ (rt.closed || A == "") = false ∧
      ∃ t r, rt.template = some t ∧ Realm.create { t with uri := A } = some r) := by
  cases hc : (rt.closed || A == "") with
  | true => rw [step_join_refused hc]; exact .inl rfl
  | false =>
    have key : (rt.step (.join A k isLocal details roles cap)).2.realms.map (·.1) = (rt.ensureRealm A).realms.map (·.1) := by
      cases hr : (rt.ensureRealm A).realm? A with
      | none => rw [step_join_none hc hr]
      | some r => rw [step_join_some hc hr]; exact names_setRealm _ _ _
    rw [key]
    rcases ensureRealm_cases rt A with h | ⟨hn, t, r, ht, hcr, h⟩ <;> rw [h]
    · exact .inl rfl
    · exact .inr ⟨by simp, hn, rfl, t, r, ht, hcr⟩

/-- Attaching a session to realm `A` leaves every realm that existed before and is not named `A`
    unchanged; the table of realm names is kept, or extended at the end by `A` itself (on-demand
    creation from the realm template, see `C11_template_creates_only_named`); the session→realm map
    only grows (by `(k, A)`, when the join is accepted). -/
theorem C11_join_frame (rt : Router) (A : String) (k : SessKey) (isLocal : Bool) (details : Dict)
    (roles : Roles) (cap : Nat) :
    (rt.step (.join A k isLocal details roles cap)).2.others A = rt.others A ∧
    ((rt.step (.join A k isLocal details roles cap)).2.realms.map (·.1) = rt.realms.map (·.1) ∨
     (rt.step (.join A k isLocal details roles cap)).2.realms.map (·.1) = rt.realms.map (·.1) ++ [A]) ∧
    ((rt.step (.join A k isLocal details roles cap)).2.sessRealm = rt.sessRealm ∨
     (rt.step (.join A k isLocal details roles cap)).2.sessRealm = rt.sessRealm ++ [(k, A)]) := by
  refine ⟨others_step_join .., (C11_template_creates_only_named rt A k isLocal details roles cap).imp id (·.1), ?_⟩
  rcases (step_fields rt (.join A k isLocal details roles cap)).sessRealm with e | ⟨_, _, _, _, _, _, h, e⟩
  · exact .inl e
  · cases h; exact .inr e

-- non-vacuity: without a template (the default) a join never adds a realm
example (rt : Router) (h : rt.template = none) (A : String) : rt.ensureRealm A = rt :=
  WpC.ensureRealm_no_template h A

/-- What a join makes observable (e.g. `wamp.session.on_join` events) concerns sessions attached
    to `A` only (the joining session included) — also when `A` has just been created from the
    template. -/
theorem C11_join_observed (rt : Router) (hi : rt.Inv) (A : String) (k : SessKey) (isLocal : Bool)
    (details : Dict) (roles : Roles) (cap : Nat) :
    (∀ q ∈ (rt.step (.join A k isLocal details roles cap)).1.out,
        (rt.step (.join A k isLocal details roles cap)).2.joined A q.1) ∧
    (∀ k' ∈ (rt.step (.join A k isLocal details roles cap)).1.closed,
        (rt.step (.join A k isLocal details roles cap)).2.joined A k') := by
  cases hc : (rt.closed || A == "") with
  | true => rw [step_join_refused hc]; exact ⟨fun _ hq => (nomatch hq), fun _ hq => (nomatch hq)⟩
  | false =>
    have hi' : (rt.ensureRealm A).Inv := hi.ensureRealm A
    cases hr : (rt.ensureRealm A).realm? A with
    | none => rw [step_join_none hc hr]; exact ⟨fun _ hq => (nomatch hq), fun _ hq => (nomatch hq)⟩
    | some r =>
      rw [step_join_some hc hr]
      have h0 : Conf (fun k' => (k', A) ∈ (rt.ensureRealm A).sessRealm ++ [(k, A)]) r :=
        (hi'.conf _ (realm?_mem hr)).mono (fun k' hk' => List.mem_append_left _ hk')
      refine (h0.step (.join k isLocal details roles cap) ?_).2
      intro k' l' d' ro' c' e
      cases e
      exact List.mem_append_right _ (List.mem_singleton.mpr rfl)

/-- Every operation of the router API preserves: realm names are distinct and every realm's
    clients, queues and closed peers are sessions that joined THAT realm. -/
theorem C11_inv_step (rt : Router) (hi : rt.Inv) (rop : ROp) (hw : rop.wf) : (rt.step rop).2.Inv :=
  hi.step rop hw

/-- … hence it holds in every state reachable from the initial router: the realms of
    `Router.create cfgs` together with ANY realm template (`Router.Reachable.init t`; the template
    is fixed at construction, `Router.step_template`).  Routers with a realm template — the ones
    the driver and the harness run (`{ r' with template := tmpl }`) — are covered. -/
theorem C11_inv_reachable (rt : Router) (h : Router.Reachable rt) : rt.Inv := h.inv

-- non-vacuity: the empty configuration gives a reachable router; so do all operations on it
example : Router.Reachable {} := .init (cfgs := []) none rfl
example : Router.Reachable ((({} : Router).step (.addRealm {})).2) :=
  .step _ (.init (cfgs := []) none rfl) trivial
-- a router built by `Router.create` alone (no template) is reachable
example (cfgs : List Config) (rt : Router) (h : Router.create cfgs = some rt) : Router.Reachable rt := .init0 h

/-- the router with no static realm and the realm template `t` -/
def templateRouter (t : Config) : Router := { template := some t }

-- non-vacuity for TEMPLATE routers: the router whose only configuration is a realm template is
-- reachable, it keeps the template, and so is the router after a session joined the not yet
-- existing realm "x" (created on demand from the template) — hence both satisfy the invariant.
example (t : Config) : Router.Reachable (templateRouter t) := .init (cfgs := []) (some t) rfl
example (t : Config) : (templateRouter t).template = some t := rfl
example (t : Config) : Router.Reachable ((templateRouter t).step (.join "x" 1 false [] {} 8)).2 :=
  .step _ (.init (cfgs := []) (some t) rfl) trivial
example (t : Config) : ((templateRouter t).step (.join "x" 1 false [] {} 8)).2.Inv :=
  C11_inv_reachable _ (.step _ (.init (cfgs := []) (some t) rfl) trivial)
example (t : Config) : ((templateRouter t).step (.join "x" 1 false [] {} 8)).2.template = some t :=
  Router.step_template _ _

/-- If session keys attach at most once (the real router draws a fresh random session id per
    attach), no session is held by two realms. -/
theorem C11_sessions_partitioned (rt : Router) (hi : rt.Inv) (hn : (rt.sessRealm.map (·.1)).Nodup)
    (p q : String × Realm) (hp : p ∈ rt.realms) (hq : q ∈ rt.realms)
    (c c' : Session) (hc : c ∈ p.2.clients) (hc' : c' ∈ q.2.clients) (hk : c.key = c'.key) : p = q := by
  have h1 : (c.key, p.1) ∈ rt.sessRealm := (hi.conf p hp).1 c hc
  have h2 : (c.key, q.1) ∈ rt.sessRealm := hk ▸ (hi.conf q hq).1 c' hc'
  have hpq : p.1 = q.1 := by
    have := nodup_map_inj hn h1 h2 rfl
    exact congrArg Prod.snd this
  exact nodup_map_inj hi.names hp hq hpq

/-- … and the operations of a session are dispatched to exactly the realm that holds it. -/
theorem C11_dispatch_own_realm (rt : Router) (hi : rt.Inv) (hn : (rt.sessRealm.map (·.1)).Nodup)
    (p : String × Realm) (hp : p ∈ rt.realms) (c : Session) (hc : c ∈ p.2.clients) :
    rt.realmOf c.key = some p.1 :=
  realmOf_of_joined hn ((hi.conf p hp).1 c hc)

/-- "keys attach at most once" is preserved by every operation whose joins use fresh keys. -/
theorem C11_attach_once_step (rt : Router) (hn : (rt.sessRealm.map (·.1)).Nodup) (rop : ROp)
    (hfresh : ∀ A k l d ro c, rop = .join A k l d ro c → ∀ x ∈ rt.sessRealm, x.1 ≠ k) :
    ((rt.step rop).2.sessRealm.map (·.1)).Nodup := by
  rcases (step_fields rt rop).sessRealm with e | ⟨A, k, l, d, ro, c, rfl, e⟩ <;> rw [e]
  · exact hn
  · exact nodup_fst_append hn (hfresh A k l d ro c rfl) A

/-- `RemoveRealm A` and `AddRealm cfg` leave every other realm unchanged (an accepted `AddRealm`
    leaves ALL existing realms unchanged: the table is extended at the end); `RemoveRealm A`
    makes observable only farewells to sessions attached to `A`; `AddRealm` nothing. -/
theorem C11_remove_add (rt : Router) :
    (∀ A, (rt.step (.removeRealm A)).2.others A = rt.others A ∧
          (rt.step (.removeRealm A)).2.sessRealm = rt.sessRealm ∧
          (rt.Inv → (∀ q ∈ (rt.step (.removeRealm A)).1.out, rt.joined A q.1) ∧
                    (∀ k ∈ (rt.step (.removeRealm A)).1.closed, rt.joined A k))) ∧
    (∀ cfg, (∃ l, (rt.step (.addRealm cfg)).2.realms = rt.realms ++ l ∧ ∀ p ∈ l, p.1 = cfg.uri) ∧
            (rt.step (.addRealm cfg)).2.sessRealm = rt.sessRealm ∧
            (rt.step (.addRealm cfg)).1.out = [] ∧ (rt.step (.addRealm cfg)).1.closed = []) := by
  refine ⟨?_, ?_⟩
  · intro A
    refine ⟨others_step_remove rt A, (WpC.remove_fields rt A).2.2.1, fun hi => ?_⟩
    cases hr : rt.realm? A with
    | none => rw [step_remove_none hr]; exact ⟨fun _ hq => (nomatch hq), fun _ hq => (nomatch hq)⟩
    | some r => rw [step_remove_some hr]; exact (shutdownRealm_conf (hi.conf _ (realm?_mem hr))).2
  · intro cfg
    rw [step_add]
    split
    · exact ⟨⟨[], by simp, fun _ hp => (nomatch hp)⟩, rfl, rfl, rfl⟩
    · split
      · exact ⟨⟨[_], rfl, fun p hp => by rw [List.mem_singleton.mp hp]⟩, rfl, rfl, rfl⟩
      · exact ⟨⟨[], by simp, fun _ hp => (nomatch hp)⟩, rfl, rfl, rfl⟩

/-- `Router.Close`: every realm says farewell to its own sessions only — the observation is the
    concatenation of the per-realm shutdown observations, each computed from that realm alone and
    (under the invariant) mentioning only sessions attached to it; the table is emptied. -/
theorem C11_close (rt : Router) :
    (rt.step .close).2.realms = [] ∧ (rt.step .close).2.closed = true ∧
    (rt.step .close).1.out = rt.realms.flatMap (fun p => (shutdownRealm p.2).1.out) ∧
    (rt.step .close).1.closed = rt.realms.flatMap (fun p => (shutdownRealm p.2).1.closed) ∧
    (rt.Inv → ∀ p ∈ rt.realms, (∀ q ∈ (shutdownRealm p.2).1.out, rt.joined p.1 q.1) ∧
                               (∀ k ∈ (shutdownRealm p.2).1.closed, rt.joined p.1 k)) := by
  rw [step_close, foldl_merge]
  exact ⟨rfl, rfl, rfl, rfl, fun hi p hp => (shutdownRealm_conf (hi.conf p hp)).2⟩

/-- Time passes in every realm independently: the new table is the old one with each realm
    advanced by its own `Realm.step (.tick ms)` (call timeouts, yield retries), and what becomes
    observable is the concatenation of the per-realm observations, each of which concerns that
    realm's sessions only. -/
theorem C11_tick (rt : Router) (hi : rt.Inv) (ms : Nat) :
    (rt.step (.tick ms)).2.realms = rt.realms.map (fun p => (p.1, (p.2.step (.tick ms)).2)) ∧
    (rt.step (.tick ms)).1.out = rt.realms.flatMap (fun p => (p.2.step (.tick ms)).1.out) ∧
    (rt.step (.tick ms)).1.closed = rt.realms.flatMap (fun p => (p.2.step (.tick ms)).1.closed) ∧
    (∀ p ∈ rt.realms, (∀ q ∈ (p.2.step (.tick ms)).1.out, rt.joined p.1 q.1) ∧
                      (∀ k ∈ (p.2.step (.tick ms)).1.closed, rt.joined p.1 k)) := by
  refine ⟨(step_tick_realms rt ms hi.names).1, ?_, ?_, ?_⟩
  · rw [step_tick_obs, foldl_merge]; rfl
  · rw [step_tick_obs, foldl_merge]; rfl
  · intro p hp
    exact ((hi.conf p hp).step (.tick ms) (fun _ _ _ _ _ e => by cases e)).2

/-- "Removing a realm does not disturb …", seen from the sessions of the REMOVED realm `A`
    (`rt.joined A k` is by NAME and is never retracted, so the invariant cannot tell the
    sessions of the old `A` from those of a later namesake).  Let `k` be dispatched to `A`.
    (1) After `RemoveRealm A`, as long as no realm named `A` exists, every operation of `k` leaves
        the router unchanged and nothing is observed.
    (2) After a later `AddRealm cfg` with `cfg.uri = A` (accepted or refused), every operation of
        `k` (msg, drop, stall, resume) still makes nothing observable, and the namesake — if it
        exists — still has no client, no queue and no closed peer afterwards: the old session can
        neither receive from nor attach itself to the new realm.
    Sessions that join the namesake later are covered by `C11_confined_to` with
    `P :=` "joined since". -/
theorem C11_removed_sessions_inert (rt : Router) (A : String) (k : SessKey) (hk : rt.realmOf k = some A) :
    (∀ op, (((rt.step (.removeRealm A)).2).step (.sess k op)).2 = (rt.step (.removeRealm A)).2 ∧
           (((rt.step (.removeRealm A)).2).step (.sess k op)).1.out = [] ∧
           (((rt.step (.removeRealm A)).2).step (.sess k op)).1.closed = []) ∧
    (∀ cfg : Config, cfg.uri = A → ∀ op : Realm.Op, op.isJoin = false →
      ((((rt.step (.removeRealm A)).2).step (.addRealm cfg)).2.step (.sess k op)).1.out = [] ∧
      ((((rt.step (.removeRealm A)).2).step (.addRealm cfg)).2.step (.sess k op)).1.closed = [] ∧
      ∀ r', ((((rt.step (.removeRealm A)).2).step (.addRealm cfg)).2.step (.sess k op)).2.realm? A = some r' →
        r'.clients = [] ∧ r'.queues = [] ∧ r'.closedPeers = []) := by
  obtain ⟨hn1, _, hs1, _⟩ := WpC.remove_fields rt A
  generalize (rt.step (.removeRealm A)).2 = rt1 at hn1 hs1 ⊢
  have hk1 : rt1.realmOf k = some A := (realmOf_congr hs1 k).trans hk
  refine ⟨fun op => C11_unknown_session _ k op (.inr ⟨A, hk1, hn1⟩), fun cfg _ op hop => ?_⟩
  have hk2 : (rt1.step (.addRealm cfg)).2.realmOf k = some A :=
    (realmOf_congr ((step_fields rt1 (.addRealm cfg)).sessRealm.resolve_right nofun) k).trans hk1
  -- a realm named `A` can only be the one `AddRealm` has just created: it holds no session
  have hfresh : ∀ p ∈ (rt1.step (.addRealm cfg)).2.realms, p.1 = A → Realm.Conf (fun _ => False) p.2 :=
    step_realms (Q := fun B r => B = A → Realm.Conf (fun _ => False) r) (.addRealm cfg) (fun p hp e => (realm?_none hn1 p hp e).elim) (fun _ _ _ h => h)
      (fun _ _ _ hd => nomatch hd) (fun _ _ _ _ hcr _ => have h := create_conf hcr (fun _ => False); ⟨h.1, h.2.1, h.2.2⟩)
      (fun _ _ _ e => nomatch e)
  cases h2 : (rt1.step (.addRealm cfg)).2.realm? A with
  | none =>
    obtain ⟨a, b, c⟩ := C11_unknown_session _ k op (.inr ⟨A, hk2, h2⟩)
    exact ⟨b, c, fun r' hr' => by rw [a, h2] at hr'; cases hr'⟩
  | some r2 =>
    obtain ⟨a, b, r', hr', hc⟩ :=
      C11_confined_to _ A (fun _ => False) r2 h2 (hfresh _ (realm?_mem h2) rfl) k hk2 op hop
    refine ⟨List.eq_nil_iff_forall_not_mem.mpr a, List.eq_nil_iff_forall_not_mem.mpr b, fun r'' hr'' => ?_⟩
    rw [hr'] at hr''
    cases hr''
    exact ⟨List.eq_nil_iff_forall_not_mem.mpr hc.1, List.eq_nil_iff_forall_not_mem.mpr hc.2.1,
      List.eq_nil_iff_forall_not_mem.mpr hc.2.2⟩

-- non-vacuity: a router with realm "a" holding session 1; session 1 is dispatched to "a"
example : ∃ rt : Router, rt.realmOf 1 = some "a" ∧ (rt.realm? "a").isSome = true :=
  ⟨{ realms := [("a", {})], sessRealm := [(1, "a")] }, by decide, rfl⟩

open Nexus.L2.Router.WpD in
/-- RUN-LEVEL NON-INTERFERENCE.  Take two routers that agree on realm `A` (`AgreeOn`: same realm
    under the name `A`, the same sessions dispatched to it, both open or both closed — nothing is
    assumed about any other realm, session, the template or the counters) and two ARBITRARY
    operation sequences whose sub-sequences addressed to `A` coincide (`projRun`: joins to `A`,
    operations of sessions dispatched to `A`, `RemoveRealm A`, `AddRealm` named `A`, and the global
    operations tick / rnd / Close).  Then, step by step, `A` makes the same things observable
    (`obsRun`) and both runs end in routers that agree on `A`.  In between the two runs may do
    entirely different things in the other realms: operations of their sessions (with coinciding
    URIs and ids), joins, `AddRealm`, `RemoveRealm`, on-demand creation from the template.

    "Observable on behalf of `A`" (`obsPart`): for an operation addressed to `A` the whole
    observation of the router step; for the clock and `Router.Close` the contribution of realm `A`,
    which is the router's observation filtered to `A`'s sessions (`C11_run_part_is_filter`).

    Side conditions `RunOk` (each checked along its own run): session operations are not joins; a
    key joins `A` only if the router does not know it yet (fresh session ids); realm `A` is not
    CREATED in the run (an `AddRealm` named `A` is refused; a join to `A` does not create it from
    the template).  The last one is the "modulo the publication-id base" caveat: the model numbers
    the publication-id placeholders of a new realm from `created * 1000000`, and `created` counts
    the realms of the whole router, so a realm `A` created in two runs that created different
    numbers of OTHER realms differs in exactly `pubCount` — and in the clock it starts with, when the
    two runs let different amounts of time pass before (`C11_create_modulo_pubbase`,
    `C11_pubbase_shared_witness`).  The real router draws publication ids from the process-wide
    random generator; the counter is a model device. -/
theorem C11_run_noninterference (A : String) (rt₁ rt₂ : Router) (ops₁ ops₂ : List ROp)
    (h : AgreeOn A rt₁ rt₂) (hi₁ : rt₁.Inv) (hi₂ : rt₂.Inv)
    (hk₁ : RunOk A rt₁ ops₁) (hk₂ : RunOk A rt₂ ops₂)
    (hp : projRun A rt₁ ops₁ = projRun A rt₂ ops₂) :
    obsRun A rt₁ ops₁ = obsRun A rt₂ ops₂ ∧ AgreeOn A (runR rt₁ ops₁).2 (runR rt₂ ops₂).2 :=
  run_noninterference A ops₁ rt₁ rt₂ ops₂ h hi₁.names hi₂.names hk₁ hk₂ hp

namespace RunExample
open Nexus.L2.Router.WpD
/-- realms "a" and "b", one session each -/
def rtA : Router := { realms := [("a", {}), ("b", {})], sessRealm := [(1, "a"), (2, "b")] }
/-- realm "a" only -/
def rtB : Router := { realms := [("a", {})], sessRealm := [(1, "a")] }
/-- session 2 (of "b") leaves, "b" is removed, then session 1 (of "a") leaves -/
def opsA : List ROp := [.sess 2 (.drop 2), .removeRealm "b", .sess 1 (.drop 1)]
def opsB : List ROp := [.sess 1 (.drop 1)]

theorem proj_eq : projRun "a" rtA opsA = projRun "a" rtB opsB := by rfl
theorem runOkA : RunOk "a" rtA opsA := ⟨rfl, trivial, rfl, trivial⟩
theorem runOkB : RunOk "a" rtB opsB := ⟨rfl, trivial⟩
theorem invA : rtA.Inv := ⟨by decide, fun p hp => by
  have : p = ("a", {}) ∨ p = ("b", {}) := by simpa [rtA] using hp
  rcases this with rfl | rfl <;>
    exact ⟨fun _ h => (by cases h), fun _ h => (by cases h), fun _ h => (by cases h)⟩⟩
theorem invB : rtB.Inv := ⟨by decide, fun p hp => by
  have : p = ("a", {}) := by simpa [rtB] using hp
  subst this
  exact ⟨fun _ h => (by cases h), fun _ h => (by cases h), fun _ h => (by cases h)⟩⟩
theorem agree : AgreeOn "a" rtA rtB := ⟨rfl, fun k => by
  show assoc? [(1, "a"), (2, "b")] k = some "a" ↔ assoc? [(1, "a")] k = some "a"
  unfold assoc?
  simp only [List.find?_cons, List.find?_nil]
  by_cases h1 : ((1:SessKey) == k) = true
  · simp [h1]
  · by_cases h2 : ((2:SessKey) == k) = true
    · simp [h1, h2]
    · simp [h1, h2], rfl⟩

-- non-vacuity of `C11_run_noninterference`: the hypotheses hold for two different routers and
-- two different runs (the first one works in and then removes realm "b" before session 1 acts)
example : obsRun "a" rtA opsA = obsRun "a" rtB opsB ∧ AgreeOn "a" (runR rtA opsA).2 (runR rtB opsB).2 :=
  C11_run_noninterference "a" rtA rtB opsA opsB agree invA invB runOkA runOkB proj_eq
end RunExample

open Nexus.L2.Router.WpD in
/-- What `C11_run_noninterference` calls "observed on behalf of `A`" at the two operations that
    address every realm at once — the clock and `Router.Close` — is the router's observation of
    that step filtered to the sessions dispatched to `A` (queues and closed peers), in every router
    satisfying the invariant whose session keys attached at most once
    (`C11_attach_once_step`). -/
theorem C11_run_part_is_filter (rt : Router) (hi : rt.Inv) (hn : (rt.sessRealm.map (·.1)).Nodup) (A : String) :
    (∀ ms, (obsPart A rt (.tick ms)).out = (rt.step (.tick ms)).1.out.filter (fun q => rt.realmOf q.1 == some A) ∧
           (obsPart A rt (.tick ms)).closed = (rt.step (.tick ms)).1.closed.filter (fun k => rt.realmOf k == some A)) ∧
    ((obsPart A rt .close).out = (rt.step .close).1.out.filter (fun q => rt.realmOf q.1 == some A) ∧
     (obsPart A rt .close).closed = (rt.step .close).1.closed.filter (fun k => rt.realmOf k == some A)) := by
  refine ⟨fun ms => ?_, ?_⟩
  · rw [step_tick_obs, foldl_merge]
    exact obsPart_filter rt hi hn A (fun r => (r.step (.tick ms)).1) fun p hp =>
      ((hi.conf p hp).step (.tick ms) (fun _ _ _ _ _ e => nomatch e)).2
  · rw [step_close, foldl_merge]
    exact obsPart_filter rt hi hn A (fun r => (shutdownRealm r).1) fun p hp => (shutdownRealm_conf (hi.conf p hp)).2

example : RunExample.rtA.Inv ∧ (RunExample.rtA.sessRealm.map (·.1)).Nodup := ⟨RunExample.invA, by decide⟩

/-- The caveat of `C11_run_noninterference`, positively: an accepted `AddRealm cfg` yields, in
    whatever router, the realm `Realm.create cfg` with `pubCount` set to the router's
    `created * 1000000` and the clock set to the router's (`now := rt.now`: time is global, a realm
    created later starts at the current time, `C11_clock_shared`) — so the realm created by the same
    operation in two routers is the same up to these two fields, and up to the first alone when the
    two routers show the same time. -/
theorem C11_create_modulo_pubbase (rt : Router) (cfg : Config) (r : Realm) (hcr : Realm.create cfg = some r)
    (hacc : (rt.closed || rt.realms.any (fun p => p.1 == cfg.uri)) = false) :
    (rt.step (.addRealm cfg)).2.realm? cfg.uri = some { r with pubCount := rt.created * 1000000, now := rt.now } :=
  WpD.create_modulo_pubbase rt cfg r hcr hacc

example : (({} : Router).closed || ({} : Router).realms.any (fun p => p.1 == "a")) = false := rfl

open Nexus.L2.Router.WpD in
/-- … and negatively: `created` is router state shared by all realms in the MODEL.
    Adding a realm `B` first changes the publication-id base of the realm `A` added afterwards
    (1000000 instead of 0), although the two runs have the same projection to `A`.  Hence the
    creation of the observed realm is excluded from `C11_run_noninterference`.  Not a finding
    about nexus: the real publication ids are random; this is about the model's placeholders. -/
theorem C11_pubbase_shared_witness (cfgA cfgB : Config) (rA rB : Realm) (hA : Realm.create cfgA = some rA)
    (hB : Realm.create cfgB = some rB) (hne : cfgB.uri ≠ cfgA.uri) :
    (runR {} [.addRealm cfgB, .addRealm cfgA]).2.realm? cfgA.uri = some { rA with pubCount := 1000000 } ∧
    (runR {} [.addRealm cfgA]).2.realm? cfgA.uri = some { rA with pubCount := 0 } ∧
    projRun cfgA.uri {} [.addRealm cfgB, .addRealm cfgA] = projRun cfgA.uri {} [.addRealm cfgA] := by
  have e1 : (({} : Router).step (.addRealm cfgB)).2 =
      { realms := [(cfgB.uri, { rB with pubCount := 0, now := 0 })], created := 1 } := by
    rw [step_add]
    simp only [hB]
    rfl
  -- both runs start at time 0 and no time passes: the created realm keeps the clock of `Realm.create`
  have hnow : ∀ n : Nat, ({ rA with pubCount := n, now := 0 } : Realm) = { rA with pubCount := n } :=
    fun n => by rw [← (create_rinv hA).now]
  refine ⟨?_, ?_, ?_⟩
  · show (((({} : Router).step (.addRealm cfgB)).2).step (.addRealm cfgA)).2.realm? cfgA.uri = _
    rw [e1]
    have := create_modulo_pubbase { realms := [(cfgB.uri, { rB with pubCount := 0, now := 0 })], created := 1 } cfgA rA hA
      (by simp [hne])
    rw [this]
    show some { rA with pubCount := 1 * 1000000, now := 0 } = _
    rw [Nat.one_mul, hnow]
  · exact (create_modulo_pubbase {} cfgA rA hA rfl).trans (congrArg some (hnow _))
  · simp [projRun, concerns, hne]

/-- The clocks, step by step.  The router's clock is advanced by `.tick ms` (by `ms`) and by no other
    operation; a realm's clock is advanced by its own `Realm.step (.tick ms)` — to exactly `now + ms`,
    whatever call timeouts and yield retries fire on the way — and by no other input. -/
theorem C11_clock_step (rt : Router) (rop : ROp) (r : Realm) (op : Realm.Op) :
    (rt.step rop).2.now = rt.now + rop.elapsed ∧ (r.step op).2.now = r.now + op.elapsed :=
  ⟨Router.step_now rt rop, Realm.step_now r op⟩

example : (ROp.tick 7).elapsed = 7 ∧ ROp.close.elapsed = 0 ∧ (Realm.Op.tick 7).elapsed = 7 ∧
    (Realm.Op.drop 1).elapsed = 0 := ⟨rfl, rfl, rfl, rfl⟩

/-- "Every realm shows the router's time" (`Router.ClockShared`) is preserved by every operation in
    which time passes through `ROp.tick` only (`ROp.untimedSess`: a session operation is not a tick),
    from EVERY router state: the clock advances all realms together with the router's own clock; a
    realm created from the template or by `AddRealm` starts at the router's current time. -/
theorem C11_clock_shared_step (rt : Router) (h : ∀ p ∈ rt.realms, p.2.now = rt.now) (rop : ROp)
    (hu : rop.untimedSess) : ∀ p ∈ (rt.step rop).2.realms, p.2.now = (rt.step rop).2.now :=
  Router.ClockShared.step h rop hu

/-- THE CLOCK IS SHARED (time is global in the implementation).  In every router reachable from the
    initial router (`Router.create cfgs` with any realm template) by well-formed operations in which
    time passes through `ROp.tick` only (`Router.ReachableT`), every realm's clock equals the
    router's.  In particular two realms of one router always show the same time, and a realm created
    at time `t` answers time-bounded history queries like one that has existed since time 0. -/
theorem C11_clock_shared (rt : Router) (h : Router.ReachableT rt) : ∀ p ∈ rt.realms, p.2.now = rt.now :=
  h.clockShared

/-- `Router.ReachableT` is `Router.Reachable` restricted to operations in which a session operation
    is not a tick; every such router is reachable. -/
theorem C11_reachableT_reachable (rt : Router) (h : Router.ReachableT rt) : Router.Reachable rt := h.reachable

-- non-vacuity: the initial routers, with and without template, and the routers after a tick, an
-- `AddRealm` and a join that creates a realm from the template are `ReachableT`
example : Router.ReachableT {} := .init (cfgs := []) none rfl
example (t : Config) : Router.ReachableT ((((templateRouter t).step (.tick 5)).2.step (.join "x" 1 false [] {} 8)).2) :=
  .step _ (.step _ (.init (cfgs := []) (some t) rfl) trivial trivial) trivial trivial
example : Router.ReachableT (((({} : Router).step (.tick 5)).2.step (.addRealm {})).2) :=
  .step _ (.step _ (.init (cfgs := []) none rfl) trivial trivial) trivial trivial
example (k : SessKey) (m : Msg) : (ROp.sess k (.msg k m)).untimedSess ∧ (ROp.sess k (.drop k)).untimedSess := ⟨rfl, rfl⟩

/-- Why `C11_clock_shared` is not stated over `Router.Reachable`: the model TYPE allows a tick wrapped
    into a session operation, `ROp.sess k (.tick ms)`, and `ROp.wf` (which excludes only wrapped
    joins) allows it too.  In a router whose clocks agree, where session `k` is dispatched to an
    existing realm `A`, that operation is well-formed, leaves the router's clock alone and advances
    the clock of `A` alone: afterwards `A` is ahead of the router (and of every other realm).  The
    router API and the driver never produce it (session operations are msg / drop / stall / resume /
    buffer of `k`); it is a gap of `ROp.wf`, not a behaviour of nexus. -/
theorem C11_clock_shared_needs_untimed (rt : Router) (h : ∀ p ∈ rt.realms, p.2.now = rt.now) (k : SessKey)
    (A : String) (r : Realm) (hk : rt.realmOf k = some A) (hr : rt.realm? A = some r) (ms : Nat) :
    (ROp.sess k (.tick (ms + 1))).wf ∧ ¬ (ROp.sess k (.tick (ms + 1))).untimedSess ∧
    (rt.step (.sess k (.tick (ms + 1)))).2.now = rt.now ∧
    ∃ r', (rt.step (.sess k (.tick (ms + 1)))).2.realm? A = some r' ∧ r'.now = rt.now + (ms + 1) := by
  obtain ⟨a, b, c⟩ := Router.sess_tick_parts_clocks h hk hr ms
  exact ⟨a, fun e => Nat.succ_ne_zero ms e, b, c⟩

-- non-vacuity of `C11_clock_shared_needs_untimed`: its hypotheses hold in a router reachable without
-- wrapped ticks — the initial router with the default realm "r" after session 5 joined it
example : ∃ rt k A r, Router.ReachableT rt ∧ (∀ p ∈ rt.realms, p.2.now = rt.now) ∧ rt.realmOf k = some A ∧
    rt.realm? A = some r := by
  -- the router after the join, as a function of the initial one; its two closed facts in one evaluation
  let after (rt0 : Router) := (({ rt0 with template := none } : Router).step (.join "r" 5 false [] [] 4)).2
  have hev : (Router.create [{}]).map (fun rt0 =>
      (decide ((after rt0).realmOf 5 = some "r"), ((after rt0).realm? "r").isSome)) = some (true, true) := by
    decide +kernel
  cases h : Router.create [{}] with
  | none => rw [h] at hev; cases hev
  | some rt0 =>
    rw [h] at hev
    obtain ⟨hk, hs⟩ := Prod.mk.inj (Option.some.inj hev)
    have hR : Router.ReachableT (after rt0) := .step _ (.init none h) trivial trivial
    obtain ⟨r, hr⟩ := Option.isSome_iff_exists.mp hs
    exact ⟨_, 5, "r", r, hR, C11_clock_shared _ hR, of_decide_eq_true hk, hr⟩

/-- The answer (and effect) of a meta procedure is a function of the one realm it runs in.
    This is true by typing — `Realm.metaProc` takes a single `Realm` and no router — and is stated
    only for the record: if two routers hold the same realm under the name `A`, a meta procedure
    invoked in `A` answers the same in both.  The substance of "meta-API answers are confined" is
    `C11_noninterference` (a meta CALL is a session operation) and the tie to the code. -/
theorem C11_meta_confined (rt₁ rt₂ : Router) (A : String) (h : rt₁.realm? A = rt₂.realm? A)
    (proc : String) (req : Nat) (details : Dict) (args : List WVal) (kw : Dict) :
    (rt₁.realm? A).map (fun r => r.metaProc proc req details args kw) =
    (rt₂.realm? A).map (fun r => r.metaProc proc req details args kw) := by
  rw [h]

end Nexus.C11
