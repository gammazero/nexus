/-
  C12 (dealer half) — Identity is disclosed only when allowed.

  Property text (the part about callers and INVOCATIONs).  "A publisher's or caller's identity (session
  id, authid, authrole) appears in an EVENT or INVOCATION only if disclosure was requested by the
  originator (disclose_me) or by the callee's registration (disclose_caller), the realm allows disclosure
  (or the requester is trusted), and - for disclose_me - the recipient announced the identification
  feature; a disallowed disclose_me request is refused with wamp.error.option_disallowed.disclose_me and
  not delivered."

  About `syncCall` of the dealer model, for every state satisfying `DealerInv`, every environment and all
  arguments.  The identity keys are `caller`, `caller_authid`, `caller_authrole` (`identityKeys`).
  `reg.disclose` is the registration's stored `disclose_caller` flag; that it is stored only when the realm
  allows disclosure or the registrant is trusted is checked in the handler (`Realm.handleRegister`:
  `C12_reg_disclose_origin`, `C12_register_refused` in Nexus.Props.C12Broker).  The broker half (EVENTs) is
  in that file too.

  clause                                                              theorem
  ------------------------------------------------------------------  -----------------------------------
  identity keys occur in an INVOCATION's details only if the          C12_disclose_invocation
    registration asked, or (disclose_me ∧ realm allows ∧ callee has
    caller_identification)
  … and then they are the caller's session id / authid / authrole     C12_disclosed_values
  later chunks of a progressive call never carry identity             (C12_disclose_invocation, `later` case)
  a disallowed disclose_me is not delivered: no INVOCATION at all,    C12_refused_not_delivered
    every message of the step goes to the caller
  … and (no other refusal applying first) answered with exactly one   C12_refused
    ERROR wamp.error.option_disallowed.disclose_me, nothing recorded
-/
import Nexus.L2.Proofs.DealerFrame
import Nexus.L2.Proofs.DealerExamples
import Nexus.L2.Proofs.BrokerDeliver

namespace Nexus.C12
open Nexus.L2 Nexus.Gen.N Nexus

theorem ite_some_eq_none {α : Type} {c : Prop} [Decidable c] {a : α} {x : Option α}
    (h : (if c then some a else x) = none) : ¬c ∧ x = none := by
  split at h
  · cases h
  · exact ⟨‹_›, h⟩

theorem callRefusal_none_disclose {env : DEnv} {allow : Bool} {reg : Reg} {caller callee : SessKey} {opts : Dict}
    (h : callRefusal env allow reg caller callee opts = none) :
    ¬(!reg.disclose && opts.optFlag OptDiscloseMe && !allow) = true :=
  (ite_some_eq_none (ite_some_eq_none (ite_some_eq_none (ite_some_eq_none h).2).2).2).1

/-- Caller identity keys occur in the details of an INVOCATION only if the registration asked for disclosure, or
    the caller asked (`disclose_me`), the dealer allows it and the callee announced `caller_identification`. -/
theorem C12_disclose_invocation {env : DEnv} {s : DState} (h : DealerInv s) (caller : SessKey) (req : Nat) (opts : Dict)
    (proc : String) (args : List WVal) (kw : Dict) (rnd : Nat) (x : Send)
    (hx : x ∈ (syncCall env s caller req opts proc args kw rnd).sends)
    (r g : Nat) (d : Dict) (a : List WVal) (k : Dict) (hm : x.msg = .invocation r g d a k)
    (key : String) (hk : key ∈ identityKeys) (hpres : Dict.get? d key ≠ none) :
    ∃ reg, s.d.matchProcedure proc = some reg ∧
      (reg.disclose = true ∨
        (opts.optFlag OptDiscloseMe = true ∧ s.d.allowDisclose = true ∧
          hasFeat env x.to RoleCallee FeatureCallerIdent = true)) := by
  have hi : x.msg.isInvocation = true := by rw [hm]; rfl
  obtain ⟨_, hform⟩ := syncCall_invocations h caller req opts proc args kw rnd x hx hi
  cases hform with
  | first reg reg' callee hmm hb hp hr hf =>
    refine ⟨reg, hmm, ?_⟩
    simp only [Msg.invocation.injEq] at hm
    obtain ⟨_, _, rfl, _⟩ := hm
    rw [invDetails_get?_identity env reg caller callee opts proc hk] at hpres
    have hd : disclosed env reg callee opts = true := by
      cases hdd : disclosed env reg callee opts with
      | true => rfl
      | false => rw [hdd] at hpres; exact absurd rfl hpres
    unfold disclosed at hd
    cases hrd : reg.disclose with
    | true => exact Or.inl rfl
    | false =>
      right
      rw [hrd] at hd
      simp only [Bool.false_or, Bool.and_eq_true] at hd
      refine ⟨hd.1, ?_, hd.2⟩
      -- the call was not refused, so disclosure is allowed
      cases ha : s.d.allowDisclose with
      | true => rfl
      | false => exact absurd (by simp [hrd, hd.1, ha]) (callRefusal_none_disclose hr)
  | later iid v0 hb hfi hf =>
    exfalso
    simp only [Msg.invocation.injEq] at hm
    obtain ⟨_, _, rfl, _⟩ := hm
    apply hpres
    rw [identityKeys_eq] at hk
    simp only [List.mem_cons, List.not_mem_nil, or_false] at hk
    rcases hk with rfl | rfl | rfl <;> rfl

/-- when the caller is disclosed, the keys carry its own identity: `caller` = its session id, `caller_authid` /
    `caller_authrole` = the values of its session details (absent if the session has none) -/
theorem C12_disclosed_values (env : DEnv) (reg : Reg) (caller callee : SessKey) (opts : Dict) (proc : String)
    (hd : disclosed env reg callee opts = true) :
    Dict.get? (invDetails env reg caller callee opts proc) RoleCaller = some (.int (sidOf caller)) ∧
    Dict.get? (invDetails env reg caller callee opts proc) (RoleCaller ++ "_authid") =
      Dict.get? (detailsOf env caller) "authid" ∧
    Dict.get? (invDetails env reg caller callee opts proc) (RoleCaller ++ "_authrole") =
      Dict.get? (detailsOf env caller) "authrole" := by
  obtain ⟨h12, h13, h23⟩ := roleKeys_distinct (.inr rfl)
  have b : ∀ k, k ∈ identityKeys → Dict.get? (baseDetails opts) k = none := fun k hk => by
    rw [identityKeys_eq] at hk
    simp only [List.mem_cons, List.not_mem_nil, or_false] at hk
    rcases hk with rfl | rfl | rfl <;>
      exact baseDetails_get? opts (by decide) (by decide) (by decide) (by decide) (by decide)
  have h1 : RoleCaller ∈ identityKeys := .head _
  have h2 : RoleCaller ++ "_authid" ∈ identityKeys := .tail _ (.head _)
  have h3 : RoleCaller ++ "_authrole" ∈ identityKeys := .tail _ (.tail _ (.head _))
  rw [invDetails_get?_identity _ _ _ _ _ _ h1, invDetails_get?_identity _ _ _ _ _ _ h2,
    invDetails_get?_identity _ _ _ _ _ _ h3, hd]
  simp only [if_true, discloseCaller, discloseInto_get? _ _ _ _ _ h12 h13 h23, if_neg h12.symm, if_neg h13.symm,
    if_neg h23.symm, b _ h2, b _ h3, Option.or_none]
  exact ⟨trivial, trivial, trivial⟩

example : disclosed Ex.env { Ex.regPlain with callees := [1] } 1 [(OptDiscloseMe, .bool true)] = true := by decide +kernel

/-- the three checks that come before the disclosure check in `syncCall` do not apply -/
def passesFeatureChecks (env : DEnv) (caller callee : SessKey) (opts : Dict) : Prop :=
  (opts.optFlag OptProgress && (!hasFeat env callee RoleCallee FeatureProgCallInvocations ||
      !hasFeat env callee RoleCallee FeatureCallCanceling)) = false ∧
  (pptScheme opts != "" && !hasFeat env caller RoleCaller FeaturePayloadPassthruMode) = false ∧
  (pptScheme opts != "" && !hasFeat env callee RoleCallee FeaturePayloadPassthruMode) = false

/-- A `disclose_me` request the dealer does not allow (and the registration did not ask for disclosure itself):
    the CALL is refused with exactly one ERROR wamp.error.option_disallowed.disclose_me to the caller; nothing is
    sent to any callee; the call is not recorded. -/
theorem C12_refused {env : DEnv} {s : DState} (h : DealerInv s) {caller : SessKey} {req : Nat} {opts : Dict}
    {proc : String} (args : List WVal) (kw : Dict) {rnd : Nat} {reg reg' : Reg} {callee : SessKey}
    (hc : (⟨caller, req⟩ : ReqId) ∉ s.d.calls) (hm : s.d.matchProcedure proc = some reg)
    (hprog : (opts.optFlag OptProgress && !hasFeat env caller RoleCaller FeatureProgCallInvocations) = false)
    (hp : pickCallee reg rnd = some (callee, reg')) (hpass : passesFeatureChecks env caller callee opts)
    (hreg : reg.disclose = false) (hme : opts.optFlag OptDiscloseMe = true) (hallow : s.d.allowDisclose = false) :
    (syncCall env s caller req opts proc args kw rnd).sends =
        [callErr ⟨caller, req⟩ [] ErrOptionDisallowedDiscloseMe [] []] ∧
      (syncCall env s caller req opts proc args kw rnd).st.d.calls = s.d.calls ∧
      (syncCall env s caller req opts proc args kw rnd).st.d.invs = s.d.invs := by
  have hr : callRefusal env s.d.allowDisclose reg caller callee opts = some (.err ErrOptionDisallowedDiscloseMe) := by
    obtain ⟨p1, p2, p3⟩ := hpass
    unfold callRefusal
    rw [if_neg (by simp [p1]), if_neg (by simp [p2]), if_neg (by simp [p3]), if_pos (by simp [hreg, hme, hallow])]
  rw [syncCall_picked args kw hm hprog (h.call.byCall?_none hc) hp, firstChunk_eq, hr]
  exact ⟨rfl, rfl, rfl⟩

example : passesFeatureChecks Ex.env 2 1 [(OptDiscloseMe, .bool true)] := by
  unfold passesFeatureChecks; decide +kernel

/-- the disallowed request of `Ex.sReg` (realm created with allowDisclose = false) -/
example : (syncCall Ex.env Ex.sReg 2 5 [(OptDiscloseMe, .bool true)] "p" [] [] 0).sends.map Ex.summary =
    [(2, 8, some 5, true)] := by decide +kernel

/-- Whatever other check fires first, a disallowed `disclose_me` on the first chunk of a call is never delivered:
    the step sends no INVOCATION, and every message it sends goes to the caller. -/
theorem C12_refused_not_delivered {env : DEnv} {s : DState} (h : DealerInv s) {caller : SessKey} {req : Nat} {opts : Dict}
    {proc : String} (args : List WVal) (kw : Dict) {rnd : Nat} {reg : Reg}
    (hc : (⟨caller, req⟩ : ReqId) ∉ s.d.calls) (hm : s.d.matchProcedure proc = some reg)
    (hreg : reg.disclose = false) (hme : opts.optFlag OptDiscloseMe = true) (hallow : s.d.allowDisclose = false) :
    ∀ x ∈ (syncCall env s caller req opts proc args kw rnd).sends, x.msg.isInvocation = false ∧ x.to = caller := by
  have hb := h.call.byCall?_none hc
  have hrefuse : ∀ callee, callRefusal env s.d.allowDisclose reg caller callee opts ≠ none :=
    fun callee hr => callRefusal_none_disclose hr (by simp [hreg, hme, hallow])
  refine syncCall_cases (env := env) (P := fun o => ∀ x ∈ o.sends, x.msg.isInvocation = false ∧ x.to = caller)
    h caller req opts proc args kw rnd ?_ ?_ ?_ ?_ ?_ ?_ ?_ ?_
  · exact fun _ => List.forall_mem_singleton.mpr ⟨rfl, rfl⟩
  · intro iid v0 hb' _ _ _ _ _ _; rw [hb] at hb'; cases hb'
  · intro iid v0 hb' _ _ _ _ _ _; rw [hb] at hb'; cases hb'
  · exact fun _ _ _ => List.forall_mem_singleton.mpr ⟨rfl, rfl⟩
  · exact fun _ _ _ _ _ _ _ _ _ _ _ => List.forall_mem_singleton.mpr ⟨rfl, rfl⟩
  · exact fun _ _ _ _ _ _ _ _ _ _ => List.forall_mem_singleton.mpr ⟨rfl, rfl⟩
  · intro reg₁ reg' callee _ _ hm₁ _ _ _ hr _
    rw [hm] at hm₁; cases hm₁
    exact absurd hr (hrefuse callee)
  · intro reg₁ reg' callee _ _ hm₁ _ _ _ hr _
    rw [hm] at hm₁; cases hm₁
    exact absurd hr (hrefuse callee)

end Nexus.C12
