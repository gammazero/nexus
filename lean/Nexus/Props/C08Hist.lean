/-
  C08 (history level) — the SUBSCRIBED … UNSUBSCRIBED bracket over whole realm histories.

  Property text (the clause proved here).  "A session sees SUBSCRIBED before the first EVENT and no
  EVENT after UNSUBSCRIBED for that subscription […] regardless of what any other sessions do at the
  same time."

  Nexus/Props/C08Realm.lean proves the bracket for the three broker-facing handlers only.  Here it is
  proved for every history of `Realm.step` from a reachable realm: joins, departures (lost, killed,
  aborted, protocol violations, shutdown), meta events published through `metaPub` tasks, testaments,
  meta-procedure calls, all dealer traffic (calls, yields, timers, the yield retry loop), `flush`.

  Vocabulary (Nexus/L2/Proofs/Trace.lean, Script.lean, TraceQueue.lean).
  `traceHist r ops : List Rec`  — the ghost trace: the atomic actions the realm performs for the
      inputs `ops`, in order, each with the state it starts in (`x.pre`); `x.post` is the state it ends in.
      It is a function of `r` and `ops` (the unrolling of `Realm.step`: `drain`, `advance`, `flush`),
      and it chains from `r` to `runOps r ops` (`C08_hist_trace`).
  `x.script`       — what the action hands to the broker goroutine (`bsteps`), to the dealer goroutine
      (`dsteps`) and, in order, to `Realm.trySend` (`offers`), given explicitly per kind of action.
  `x.enqueued`     — the offers that `trySend` appends to a queue (recipient attached, queue not full):
      a sub-list of the offers.  The queue table changes in no other way (`C08_hist_trace`).

  clause                                                                theorem
  --------------------------------------------------------------------  ------------------------------------
  the ghost trace is faithful: it chains; an action other than `flush`
    extends the queue of every session k by exactly the enqueued
    offers addressed to k; `flush` only removes                          C08_hist_trace
  every EVENT(i) offered to a session k — a fortiori every one
    appended to its queue — is offered by an action at whose start and
    end k is a member of subscription i                                  C08_hist_event_needs_membership
  … queue form: an action at whose start or end k is not a member of i
    adds no EVENT of i to the queue of k                                 C08_hist_no_event_for_nonmember
  the memberships of k change only in an action that hands the broker
    k's own SUBSCRIBE, UNSUBSCRIBE or departure                          C08_hist_membership_changes
  k's SUBSCRIBE action offers k SUBSCRIBED(req, id) first, everything
    else it offers goes to other sessions, and it adds exactly the
    membership (k, id)                                                   C08_hist_subscribed_first
  k's UNSUBSCRIBE(i) action, k being a member of i: UNSUBSCRIBED(req)
    first, the rest to others, exactly the membership (k, i) ends;
    k not a member: one ERROR, nothing changes                           C08_hist_unsubscribed_last
  k's departure: k is a member of nothing and not attached afterwards
    (so nothing more is appended to its queue); what the action offers
    k is its handler's last message only                                 C08_hist_departure
  what k reads: every EVENT(i) in what a client reads at the end of a
    step was appended by an action of the history at whose start and
    end it was a member of i                                             C08_hist_read_event

  Together: between two actions that change k's membership in i (by the above: k's own SUBSCRIBE —
  which queues SUBSCRIBED(i) for k before anything that follows — and k's own UNSUBSCRIBE(i) / its
  departure — which queue UNSUBSCRIBED after everything before) the EVENTs of i queued for k are
  queued while k is a member; outside, none is.  The queues are lossy (a full queue drops the message,
  SUBSCRIBED included), hence the statement is about what is offered / appended.

  No hypothesis beyond `Realm.Reachable cfg r`; the invariants used (`BrokerInv`, and that the GOODBYE
  of a pending kill is no EVENT: `WpE.KillOk`) are proved for every state of every ghost trace.
-/
import Nexus.L2.Proofs.TraceInv
import Nexus.L2.Proofs.LeaveTables
import Nexus.L2.Proofs.RealmCreate
import Nexus.Props.C08Realm

namespace Nexus.C08
open Nexus.L2 Nexus.L2.Realm Nexus.L2.WpE Gen.N

/-- The ghost trace is faithful.  For any realm state and inputs: the trace chains from `r` to the state after the
    inputs; every action but `flush` extends the queue of each session `k` by the enqueued offers addressed to `k`,
    which are a sub-list of its offers; `flush` leaves or shows the clients only queues that were there (or empty
    ones). -/
theorem C08_hist_trace (r : Realm) (ops : List Op) :
    Chain r (traceHist r ops) (runOps r ops) ∧
    (∀ x ∈ traceHist r ops, x.enqueued.Sublist x.script.offers) ∧
    (∀ x ∈ traceHist r ops, x.act.isFlush = false → ∀ k, x.post.queueOf k = x.pre.queueOf k ++ msgsTo k x.enqueued) ∧
    (∀ x ∈ traceHist r ops, x.act.isFlush = true →
      x.post = x.pre.flush.2 ∧ (∀ q ∈ x.post.queues, q ∈ x.pre.queues ∨ q.2 = []) ∧
      ∀ q ∈ x.pre.flush.1.out, q ∈ x.pre.queues) := by
  refine ⟨chain_hist ops r, fun x _ => taken_sublist _ _, fun x _ hf k => x.queueOf_post hf k, ?_⟩
  intro x _ hf
  have hp := Rec.post_flush hf
  refine ⟨hp, ?_, (flush_entries x.pre).2⟩
  rw [hp]
  exact (flush_entries x.pre).1

/-- No EVENT for a non-member, over whole histories.  In every atomic action `x` of the history of any inputs `ops`
    from a reachable realm, every EVENT of subscription `i` that the action offers to a session `s.to` (whether
    `trySend` appends it or finds the queue full) goes to a session that is a member of `i` in the broker state
    the action starts with and in the one it ends with. -/
theorem C08_hist_event_needs_membership {cfg : Config} {r : Realm} (h : Realm.Reachable cfg r) (ops : List Op) :
    ∀ x ∈ traceHist r ops, ∀ s ∈ x.script.offers, ∀ i pub d a kw, s.msg = .event i pub d a kw →
      x.pre.broker.isMember s.to i ∧ x.post.broker.isMember s.to i := by
  intro x hx s hs i pub d a kw hm
  exact hist_evOk h ops x hx s hs i (by rw [hm]; rfl)

/-- … in terms of the queues: an action (other than `flush`, which only removes) at whose start or end `k` is not
    a member of `i` leaves the EVENTs of `i` in the queue of `k` as they were. -/
theorem C08_hist_no_event_for_nonmember {cfg : Config} {r : Realm} (h : Realm.Reachable cfg r) (ops : List Op) :
    ∀ x ∈ traceHist r ops, x.act.isFlush = false → ∀ k i,
      ¬ (x.pre.broker.isMember k i ∧ x.post.broker.isMember k i) →
      eventsOf i (x.post.queueOf k) = eventsOf i (x.pre.queueOf k) := by
  intro x hx hf k i hn
  rw [x.queueOf_post hf k]
  unfold eventsOf
  rw [List.filterMap_append]
  have : (msgsTo k x.enqueued).filterMap (evPubOf i) = [] := by
    rw [List.filterMap_eq_nil_iff]
    intro m hm
    cases he : evPubOf i m with
    | none => rfl
    | some p =>
      exfalso
      unfold msgsTo at hm
      obtain ⟨s, hs, rfl⟩ := List.mem_map.mp hm
      obtain ⟨hs1, hs2⟩ := List.mem_filter.mp hs
      have hto : s.to = k := by simpa using hs2
      have := hist_evOk h ops x hx s (Rec.enqueued_offers hs1) i (evPubOf_some he)
      rw [hto] at this
      exact hn this
  rw [this, List.append_nil]

/-- Who changes a membership.  If the membership of `k` in `i` differs between the start and the end of an action of
    the history, the action hands the broker goroutine a step whose actor is `k`: `k`'s own SUBSCRIBE or UNSUBSCRIBE,
    or the departure of `k`. -/
theorem C08_hist_membership_changes {cfg : Config} {r : Realm} (h : Realm.Reachable cfg r) (ops : List Op) :
    ∀ x ∈ traceHist r ops, ∀ k i, ¬ (x.post.broker.isMember k i ↔ x.pre.broker.isMember k i) →
      ∃ e ∈ x.script.bsteps, stepActor e = some k := by
  intro x hx k i hne
  apply Classical.byContradiction
  intro hno
  exact hne (x.member_change (hist_inv h ops x hx).1 k i (fun e he ha => hno ⟨e, he, ha⟩))

/-- SUBSCRIBED comes first.  If an action of the history hands the broker the SUBSCRIBE(req) of `k`, then what it
    offers is SUBSCRIBED(req, id) to `k` followed by messages for other sessions only, and the memberships at its
    end are those at its start plus (k, id). -/
theorem C08_hist_subscribed_first {cfg : Config} {r : Realm} (h : Realm.Reachable cfg r) (ops : List Op) :
    ∀ x ∈ traceHist r ops, ∀ k req topic m p, BStep.subscribe k req topic m p ∈ x.script.bsteps →
      ∃ id rest, x.script.offers = ⟨k, .subscribed req id⟩ :: rest ∧ (∀ y ∈ rest, y.to ≠ k) ∧
        ∀ k' i, x.post.broker.isMember k' i ↔ x.pre.broker.isMember k' i ∨ (k' = k ∧ i = id) := by
  intro x hx k req topic m p hmem
  have hb := (hist_inv h ops x hx).1
  obtain ⟨hbs, _, hoff⟩ := x.of_subscribe hmem
  obtain ⟨id, rest, h1, h2, h3⟩ := syncSubscribe_members hb k req topic m x.pre.pubCount
  refine ⟨id, rest, by rw [hoff]; exact h1, fun y hy => (h2 y hy).1, ?_⟩
  intro k' i
  rw [x.spec.1, hbs]
  exact h3 k' i

/-- UNSUBSCRIBED comes last.  If an action of the history hands the broker the UNSUBSCRIBE(req, i) of `k`:
    * `k` being a member of `i`: it offers UNSUBSCRIBED(req) to `k` followed by messages for other sessions only, and
      the memberships at its end are those at its start minus (k, i) — by `C08_hist_event_needs_membership` no
      later action offers `k` an EVENT of `i` until `k` subscribes again;
    * otherwise it offers `k` the ERROR no_such_subscription and the broker is unchanged. -/
theorem C08_hist_unsubscribed_last {cfg : Config} {r : Realm} (h : Realm.Reachable cfg r) (ops : List Op) :
    ∀ x ∈ traceHist r ops, ∀ k req i p, BStep.unsubscribe k req i p ∈ x.script.bsteps →
      (x.pre.broker.isMember k i →
        ∃ rest, x.script.offers = ⟨k, .unsubscribed req⟩ :: rest ∧ (∀ y ∈ rest, y.to ≠ k) ∧
          ∀ k' j, x.post.broker.isMember k' j ↔ x.pre.broker.isMember k' j ∧ ¬ (k' = k ∧ j = i)) ∧
      (¬ x.pre.broker.isMember k i →
        x.script.offers = [⟨k, errMsg tUNSUBSCRIBE req ErrNoSuchSubscription⟩] ∧ x.post.broker = x.pre.broker) := by
  intro x hx k req i p hmem
  have hb := (hist_inv h ops x hx).1
  obtain ⟨hbs, _, hoff⟩ := x.of_unsubscribe hmem
  constructor
  · intro hm
    obtain ⟨rest, h1, h2⟩ := syncUnsubscribe_members hb k req i x.pre.pubCount hm
    refine ⟨rest, by rw [hoff]; exact h1, fun y hy => (h2 y hy).1, ?_⟩
    intro k' j
    rw [x.spec.1, hbs]
    exact syncUnsubscribe_isMember hb k req i x.pre.pubCount k' j
  · intro hm
    have he := syncUnsubscribe_not_member hm req x.pre.pubCount
    refine ⟨by rw [hoff, he], ?_⟩
    rw [x.spec.1, hbs]
    show (x.pre.broker.syncUnsubscribe k req i x.pre.pubCount).1 = _
    rw [he]

/-- A departure ends everything.  If an action of the history hands the broker the departure of `k` (any mode: lost,
    killed, aborted, violation, shutdown): at its end `k` is a member of no subscription and is not attached —
    so no later `trySend` to `k` appends anything (until a session joins under that key again) —, and nobody
    else's membership has changed. -/
theorem C08_hist_departure {cfg : Config} {r : Realm} (h : Realm.Reachable cfg r) (ops : List Op) :
    ∀ x ∈ traceHist r ops, ∀ k p, BStep.removeSession k p ∈ x.script.bsteps →
      (∀ i, ¬ x.post.broker.isMember k i) ∧ ¬ x.post.isClient k ∧ (∀ s : Send, s.to = k → accepts x.post s = false) ∧
      (∀ k' i, k' ≠ k → (x.post.broker.isMember k' i ↔ x.pre.broker.isMember k' i)) := by
  intro x hx k p hmem
  have hb := (hist_inv h ops x hx).1
  obtain ⟨mode, s, hl⟩ := x.of_removeSession hmem
  obtain ⟨_, hpost, hbs⟩ := hl.script
  have hmemb : ∀ k' i, x.post.broker.isMember k' i ↔ x.pre.broker.isMember k' i ∧ k' ≠ k := by
    intro k' i
    rw [x.spec.1, hbs]
    exact syncRemoveSession_isMember hb k x.pre.pubCount k' i
  have hnc : ¬ x.post.isClient k := by
    rintro ⟨c, hc, hck⟩
    rw [hpost, Realm.leave_clients] at hc
    have := (List.mem_filter.mp hc).2
    simp [hck] at this
  refine ⟨fun i hm => ((hmemb k i).mp hm).2 rfl, hnc, ?_, ?_⟩
  · intro s' hs'
    exact accepts_not_client (by rw [hs']; exact hnc)
  · intro k' i hne
    rw [hmemb]
    exact ⟨fun hh => hh.1, fun hh => ⟨hh, hne⟩⟩

/-- What a client reads.  Start from a fresh realm, run the inputs `ops`, then `op`: every EVENT of subscription `i`
    among the messages session `q.1` reads at the end of that step was appended to its queue by an atomic action of
    the history at whose start and end that session was a member of `i`. -/
theorem C08_hist_read_event {cfg : Config} {r0 : Realm} (h0 : Realm.create cfg = some r0) (ops : List Op) (op : Op) :
    ∀ q ∈ ((runOps r0 ops).step op).1.out, ∀ m ∈ q.2, ∀ i pub d a kw, m = .event i pub d a kw →
      ∃ x ∈ traceHist r0 (ops ++ [op]), (⟨q.1, m⟩ : Send) ∈ x.enqueued ∧
        x.pre.broker.isMember q.1 i ∧ x.post.broker.isMember q.1 i := by
  intro q hq m hm i pub d a kw he
  obtain ⟨x, hx, hs⟩ := read_src h0 ops op q hq m hm
  have := hist_evOk (Realm.Reachable.init h0) (ops ++ [op]) x hx ⟨q.1, m⟩ (Rec.enqueued_offers hs) i (by rw [he]; rfl)
  exact ⟨x, hx, hs, this⟩

def exOps : List Op :=
  [ .join 1 false [] [] 8, .join 2 false [] [] 8,
    .msg 1 (.subscribe 1 [] "t"), .msg 2 (.publish 1 [] "t" [.int 7] []),
    .msg 1 (.unsubscribe 2 1), .msg 2 (.publish 2 [] "t" [.int 8] []), .drop 1 ]

def exR0 : Realm := (Realm.create {}).getD default

theorem exR0_eq : exR0 = Realm.metaRealm := by rw [exR0, Realm.create_default]; rfl

theorem exR0_create : Realm.create {} = some exR0 := exR0_eq ▸ Realm.create_default

theorem exR0_reachable : Realm.Reachable {} exR0 := .init exR0_create

def stepTag : BStep → String
  | .publish .. => "publish"
  | .subscribe .. => "subscribe"
  | .unsubscribe .. => "unsubscribe"
  | .removeSession .. => "removeSession"

/-- The two examples below, evaluated together (from the realm `Realm.create {}` builds, given as a literal). -/
theorem exR_eval :
    (((traceHist exR0 exOps).map (fun x => x.enqueued.map (fun s => (s.to, s.msg.typeCode, s.msg.eventSub?)))).filter
        (· ≠ []) = [[(1, 33, none)], [(1, 36, some 1)], [(1, 35, none)]] ∧
      (traceHist exR0 exOps).flatMap (fun x => x.script.bsteps.map (fun e => (stepTag e, stepActor e))) =
        [("publish", none), ("publish", none), ("subscribe", some 1), ("publish", none), ("unsubscribe", some 1),
         ("publish", none), ("removeSession", some 1), ("publish", none)]) ∧
    ((runOps exR0 (exOps.take 3)).step (.msg 2 (.publish 1 [] "t" [.int 7] []))).1.out.map
      (fun q => (q.1, q.2.map (fun m => (m.typeCode, m.eventSub?)))) = [(1, [(36, some 1)])] := by
  rw [exR0_eq]
  decide +kernel

set_option maxRecDepth 100000 in
/-- the ghost trace of the example history has 18 atomic actions.  The ones that append something to a queue append, in
    order: SUBSCRIBED to session 1 (its SUBSCRIBE action), EVENT of subscription 1 to session 1 (the first
    publication), UNSUBSCRIBED to session 1 (its UNSUBSCRIBE action) — the second publication, made after the
    UNSUBSCRIBE, appends nothing.  The broker steps handed over are: the `on_join` meta publications of the two joins,
    the SUBSCRIBE of 1, a publication, the UNSUBSCRIBE of 1, a publication, the departure of 1 and its `on_leave` meta
    publication.  So the hypotheses of the theorems above — an EVENT offered; a SUBSCRIBE, an UNSUBSCRIBE, a
    departure step in a script; a membership that changes — are all met in one reachable history. -/
example :
    ((traceHist exR0 exOps).map (fun x => x.enqueued.map (fun s => (s.to, s.msg.typeCode, s.msg.eventSub?)))).filter
        (· ≠ []) = [[(1, 33, none)], [(1, 36, some 1)], [(1, 35, none)]] ∧
    (traceHist exR0 exOps).flatMap (fun x => x.script.bsteps.map (fun e => (stepTag e, stepActor e))) =
      [("publish", none), ("publish", none), ("subscribe", some 1), ("publish", none), ("unsubscribe", some 1),
       ("publish", none), ("removeSession", some 1), ("publish", none)] :=
  exR_eval.1

set_option maxRecDepth 100000 in
/-- … and the hypotheses of `C08_hist_read_event`: at the end of the step for the fourth input (the first publication)
    session 1 reads one message, the EVENT of subscription 1 -/
example :
    ((runOps exR0 (exOps.take 3)).step (.msg 2 (.publish 1 [] "t" [.int 7] []))).1.out.map
      (fun q => (q.1, q.2.map (fun m => (m.typeCode, m.eventSub?)))) = [(1, [(36, some 1)])] :=
  exR_eval.2

end Nexus.C08
