/-
C04 — "No client input or timing can crash or wedge the router": the site-table half.
(The L2 `Outcome` theorems and the hostile family carry the rest of C04.)

Every site in the non-test code of router/, transport/, wamp/ (with sub-packages) that can panic —
a bare (non-comma-ok) type assertion, an explicit `panic(…)`, an index or slice expression on
message data, a write to a map taken from message data, a `close(ch)`, a `Close()` on a peer or
session — is listed in Nexus/L3/Expect.lean with the reason why a client cannot make it fire.

clause → theorem
  table (a) accounted ............ sites_accounted, no_bare_assertions
  table (b) accounted ............ closes_accounted
  the context computation ........ closures_inventory
  no routing state is global ..... globals_inventory   (support for C11)
  the dispatch ................... inbound_switch, authz_gate_before_switch   (support for C10)
A new site anywhere in those trees makes `sites_accounted` / `closes_accounted` false (the build of this
module fails and `bin/check` reports the violation); a removed site is harmless. Sites that ARE
client-reachable are not accounted away: at present there is none (the last ones were F2, F3, F4, F10;
see known_findings.json). One entry deserves a remark: the `nil session or message` guards of broker
and dealer can be tripped by an *in-process* peer that sends a typed nil pointer such as
`(*wamp.Publish)(nil)`; no serializing transport can produce that value.
-/
import Nexus.L3.Expect
import Nexus.Gen.Sites
import Nexus.L3.WpL3Wait

namespace Nexus.C04Sites
open Nexus.Gen.Sites Nexus.L3 Nexus.L3.Expect

/-- Close sites that exist once more in a second goroutine context (the generator emits a
    site inside a closure held in a local variable once per context in which the variable is called;
    Nexus/L3/WpL3Wait.lean). -/
def accountedCloseSitesX : List (Nat × String) := [
  (key! "router.router.AttachClient|Close|client@posted router.actionChan",
    "the `client.Close()` of the sendAbort closure, executed inside the action AttachClient posts to the router goroutine (router closed, unknown realm, auto-creation failed): the action then sends the error on `sync` and AttachClient returns it without touching the peer again; no handler exists for the peer")]

def accountedPanicKeys : List Nat := accountedPanicSites.map (·.1)
def accountedCloseKeys : List Nat := (accountedCloseSites ++ accountedCloseSitesX).map (·.1)

/-- Every site of table (a) is of a kind that cannot panic (a map read) or is accounted for. -/
theorem sites_accounted :
    ∀ s ∈ panicSites, harmlessKind s.kind = true ∨ s.key ∈ accountedPanicKeys := by
  decide +kernel

/-- There is no bare type assertion at all in the three trees (every `x.(T)` is in comma-ok form or
    a type switch). -/
theorem no_bare_assertions : ∀ s ∈ panicSites, s.kind ≠ .assert := by
  decide +kernel

/-- Every `close(ch)` and every `X.Close()` is accounted for (table (b) with the records of closures
    called in a second goroutine context, `WpL3.allCloseSites`). -/
theorem closes_accounted : ∀ c ∈ WpL3.allCloseSites, c.key ∈ accountedCloseKeys := by
  decide +kernel

/-- The function literals are exactly the expected ones (the goroutine context that gen assigns to
    the sites inside a literal depends on how the literal is used). -/
theorem closures_inventory : closures.map (·.key) = expectedClosures := by decide +kernel

/-- The package-level variables of the three trees are exactly the expected ones, with the expected
    mutability: no table, id generator, session or realm is global. -/
theorem globals_inventory :
    globals.map (fun g => (g.key, g.written, g.addrTaken)) = expectedGlobals := by decide +kernel

/-- The dispatch of handleInboundMessages: case types in order and what each case calls. -/
theorem inbound_switch :
    inboundSwitch = [
      (key! "*wamp.Publish", key! "router.broker.publish"),
      (key! "*wamp.Yield", key! "router.dealer.yield"),
      (key! "*wamp.Call", key! "router.dealer.call"),
      (key! "*wamp.Cancel", key! "router.dealer.cancel"),
      (key! "*wamp.Subscribe", key! "router.broker.subscribe"),
      (key! "*wamp.Register", key! "router.dealer.register"),
      (key! "*wamp.Unsubscribe", key! "router.broker.unsubscribe"),
      (key! "*wamp.Unregister", key! "router.dealer.unregister"),
      (key! "*wamp.Error", key! "router.dealer.error"),
      (key! "*wamp.Goodbye", key! "return"),
      (key! "default", key! "return")] := by decide +kernel

/-- The authorization gate `if … !r.authzMessage(sess, msg) { continue }` is the statement right
    before the switch, with nothing in between. -/
theorem authz_gate_before_switch :
    authzGateIndex + 1 = inboundSwitchIndex ∧ betweenGateAndSwitch = [] ∧
    authzGateCond = key! "realm.authorizer != nil && sess != realm.metaSess && !realm.authzMessage(sess, msg)" := by
  decide +kernel

/-- Non-vacuity: an unlisted site is rejected. -/
example : ¬ ((key! "router.broker.publish|assert|msg.Options[\"x\"].(string)") ∈ accountedPanicKeys) := by
  decide +kernel

end Nexus.C04Sites
