/-
  C08 (realm-model half) — Per-peer ordering guarantees.

  Property text (the clauses proved here).  "Events published by one session to one topic reach each
  subscriber, per subscription, in publication order; […] A session sees SUBSCRIBED before the first
  EVENT and no EVENT after UNSUBSCRIBED for that subscription […] regardless of what any other
  sessions do at the same time."

  About the realm model's handlers `Realm.handlePublish` / `handleSubscribe` / `handleUnsubscribe`
  (Nexus/L2/Realm.lean) including the bounded router→client queues: a message that finds its queue
  full is lost, so the statements are about subsequences.  Vocabulary in
  Nexus/L2/Proofs/RealmPublish.lean (`PubReq`, `publishSeq`, `publishedIds`, `evPubOf`, `eventsOf`,
  `BMsg`, `handleB`, `runB`) and RealmQueue.lean (`queueOf`, `accept`, `client?`).  The broker-level
  statement without queues is Nexus/Props/C08Broker.lean; the arrival order of one session's messages
  at the broker goroutine is the L3 part (Nexus/Props/C08.lean).

  clause                                                              theorem
  ------------------------------------------------------------------  --------------------------------
  for a sequence of PUBLISH messages of one session handled in order,
    the queue of recipient k only grows, and the EVENTs it gains
    through subscription i carry, in queue order, a subsequence of the
    publication ids drawn for those requests in request order (an EVENT
    is missing iff k's queue was full then); those ids are strictly
    increasing                                                         C08_realm_event_order
  EVENTs for (k, i) are only produced while k is a member of i: a
    broker-facing step of any session adds no EVENT of subscription i
    to the queue of a session that is not a member of i when the step
    begins — nor does any sequence of such steps throughout which k is
    not a member                                                       C08_sub_bracket (1), (2)
  the SUBSCRIBE step of k offers k's queue exactly SUBSCRIBED(req, i)
    — no EVENT — and makes k a member of i: so no EVENT of i can be
    queued to k before the SUBSCRIBED that starts its membership        C08_sub_bracket (3)
  the UNSUBSCRIBE step of a member k offers k's queue exactly
    UNSUBSCRIBED(req) and ends the membership: so no EVENT of i is
    queued to k after it (until k subscribes again)                     C08_sub_bracket (4)
  the broker invariant these statements assume is kept by every
    broker-facing step                                                 C08_steps_keep_inv
  the same statements in every realm state reached by any history of
    inputs, asking only that k is attached (the broker invariant holds
    there, and no client has the meta session's key)                   C08_realm_event_order_reachable,
                                                                       C08_sub_bracket_reachable

  the messages one session sends to the router are read in the order
    sent, also across a stay of its handler in the yield retry loop:
    what it sends meanwhile is appended to `inbox` behind what already
    waits, and is released in that order (as consecutive `inMsg` tasks,
    which `drain` runs oldest first) when the loop ends; nothing of
    another session's waiting messages is reordered                    C08_inbox_order

  The pieces above cover the three broker-facing handlers run by any sessions in any order.  The
  bracket over arbitrary `Realm.step` histories (joins, departures, meta-API calls, dealer traffic,
  `flush`) is Nexus/Props/C08Hist.lean.
-/
import Nexus.L2.Proofs.TraceInv
import Nexus.L2.Proofs.DealerRealmRpc
import Nexus.L2.Proofs.RealmKeys

namespace Nexus.C08
open Nexus.L2 Nexus.L2.Realm Gen.N

/-- One publisher `s`, a sequence of PUBLISH requests handled one after the other (whatever their
    topics and options; refused ones draw no id), a recipient `k` attached with session record `c`,
    a subscription id `i`, from any realm state whose broker satisfies `BrokerInv`:
    the queue of `k` afterwards is its queue before plus `added`; the publication ids of the EVENTs of
    subscription `i` in `added`, in queue order, form a sublist of the ids drawn for the requests in
    request order; and those ids are pairwise increasing (so the EVENTs are in publication order). -/
theorem C08_realm_event_order {r : Realm} (hb : BrokerInv r.broker) (s : Session) (ps : List PubReq)
    (k : SessKey) (c : Session) (hk : k ≠ metaKey) (hc : r.client? k = some c) (i : Nat) :
    (∃ added, (publishSeq r s ps).queueOf k = r.queueOf k ++ added ∧
        (added.filterMap (evPubOf i)).Sublist (publishedIds r s ps)) ∧
    (publishedIds r s ps).Pairwise (· < ·) ∧
    (∀ n ∈ publishedIds r s ps, pubBase + r.pubCount ≤ n) :=
  ⟨publishSeq_events s k c hk i ps hb hc, (publishedIds_increasing s ps r).2, (publishedIds_increasing s ps r).1⟩

/-- The SUBSCRIBED … UNSUBSCRIBED bracket, for the broker-facing handlers run by any sessions:
    (1) a step adds no EVENT of subscription `i` to the queue of a session `k` that is not a member of
        `i` when the step begins;
    (2) hence neither does a sequence of steps before each of which `k` is not a member of `i`;
    (3) `k`'s own SUBSCRIBE (valid URI) offers its queue exactly SUBSCRIBED(req, id), no EVENT, and
        afterwards `k` is a member of `id`;
    (4) `k`'s UNSUBSCRIBE from a subscription it is a member of offers its queue exactly
        UNSUBSCRIBED(req) and afterwards `k` is not a member (so (1)/(2) apply again). -/
theorem C08_sub_bracket {r : Realm} (hb : BrokerInv r.broker) (k : SessKey) (i : Nat) :
    (∀ m, ¬ r.broker.isMember k i → eventsOf i ((handleB r m).queueOf k) = eventsOf i (r.queueOf k)) ∧
    (∀ l, (∀ pre m post, l = pre ++ m :: post → ¬ (runB r pre).broker.isMember k i) →
      eventsOf i ((runB r l).queueOf k) = eventsOf i (r.queueOf k)) ∧
    (∀ (s c : Session) req opts topic, s.key = k → k ≠ metaKey → r.client? k = some c →
      validUri r.broker.strict (opts.optString OptMatch) topic = true →
      ∃ id, (handleSubscribe r s req opts topic).queueOf k = accept c.cap (r.queueOf k) [.subscribed req id] ∧
        (handleSubscribe r s req opts topic).broker.isMember k id) ∧
    (∀ (s c : Session) req, s.key = k → k ≠ metaKey → r.client? k = some c → r.broker.isMember k i →
      (handleUnsubscribe r s req i).queueOf k = accept c.cap (r.queueOf k) [.unsubscribed req] ∧
      ¬ (handleUnsubscribe r s req i).broker.isMember k i) := by
  refine ⟨fun m h => WpE.handleB_no_events hb m k i h, fun l h => WpE.runB_no_events k i l hb h, ?_, ?_⟩
  · intro s c req opts topic hs hk hc hv
    subst hs
    exact handleSubscribe_reply hb s c req opts topic hv hk hc
  · intro s c req hs hk hc hm
    subst hs
    exact (handleUnsubscribe_reply hb s c req i hk hc).1 hm

/-- `C08_realm_event_order` and the reply clauses (3), (4) of `C08_sub_bracket` in every reachable realm
    (any history of inputs): the hypotheses `BrokerInv r.broker` and `k ≠ metaKey` are discharged — the
    broker invariant holds in every reachable realm, and no client is stored under the meta session's key
    (`Realm.Reachable.client?_ne_meta`), so "k is attached with record c" is all that is asked. -/
theorem C08_realm_event_order_reachable {cfg : Config} {r : Realm} (h : Realm.Reachable cfg r) (s : Session)
    (ps : List PubReq) (k : SessKey) (c : Session) (hc : r.client? k = some c) (i : Nat) :
    (∃ added, (publishSeq r s ps).queueOf k = r.queueOf k ++ added ∧
        (added.filterMap (evPubOf i)).Sublist (publishedIds r s ps)) ∧
    (publishedIds r s ps).Pairwise (· < ·) ∧
    (∀ n ∈ publishedIds r s ps, pubBase + r.pubCount ≤ n) :=
  C08_realm_event_order h.inv.1.binv s ps k c (h.client?_ne_meta hc) hc i

theorem C08_sub_bracket_reachable {cfg : Config} {r : Realm} (h : Realm.Reachable cfg r) (k : SessKey) (i : Nat) :
    (∀ m, ¬ r.broker.isMember k i → eventsOf i ((handleB r m).queueOf k) = eventsOf i (r.queueOf k)) ∧
    (∀ l, (∀ pre m post, l = pre ++ m :: post → ¬ (runB r pre).broker.isMember k i) →
      eventsOf i ((runB r l).queueOf k) = eventsOf i (r.queueOf k)) ∧
    (∀ (s c : Session) req opts topic, s.key = k → r.client? k = some c →
      validUri r.broker.strict (opts.optString OptMatch) topic = true →
      ∃ id, (handleSubscribe r s req opts topic).queueOf k = accept c.cap (r.queueOf k) [.subscribed req id] ∧
        (handleSubscribe r s req opts topic).broker.isMember k id) ∧
    (∀ (s c : Session) req, s.key = k → r.client? k = some c → r.broker.isMember k i →
      (handleUnsubscribe r s req i).queueOf k = accept c.cap (r.queueOf k) [.unsubscribed req] ∧
      ¬ (handleUnsubscribe r s req i).broker.isMember k i) := by
  obtain ⟨b1, b2, b3, b4⟩ := C08_sub_bracket h.inv.1.binv k i
  exact ⟨b1, b2, fun s c req opts topic hs hc hv => b3 s c req opts topic hs (h.client?_ne_meta hc) hc hv,
    fun s c req hs hc hm => b4 s c req hs (h.client?_ne_meta hc) hc hm⟩

/-- Not reordered.  Session `k` (attached, `buffered`, not ending) sends `m1`, then `m2`, while its handler is in
    the yield retry loop; then the loop ends (the turn `x` of callee `k` answers `again = false`).  The task
    list then is: the tasks from before, what the turn itself queued, then `k`'s waiting messages as
    `inMsg` tasks — those that already waited, then `m1`, then `m2` — then `k`'s deferred departures.
    `drain` runs the task list from the front (`Realm.drain_succ_cons`), so `m1` is read before `m2`.
    The waiting messages of any other session are the same, in the same order, before and after. -/
theorem C08_inbox_order (r : Realm) (k : SessKey) (s : Session) (m1 m2 : Msg) (x : Retry)
    (hb : r.busy k = true) (hf : r.clients.find? (fun c => c.key == k) = some s) (hbuf : s.buffered = true)
    (he : r.ending.contains k = false) (hx : x.callee = k) :
    let r2 := (r.stepOp (.msg k m1)).stepOp (.msg k m2)
    r2 = { r with inbox := r.inbox ++ [(k, m1), (k, m2)] } ∧
    ((retryOut r2 x).again = false →
      (r2.retryDue x).tasks =
        r.tasks ++ retryTasks r2 x ++ (inboxOf r k ++ [m1, m2]).map (Task.inMsg k) ++
          ((r.deferred.filter (fun d => d.1 == k)).map (·.2)).map (Task.leave k) ∧
      inboxOf (r2.retryDue x) k = [] ∧
      (∀ k', k' ≠ k → inboxOf (r2.retryDue x) k' = inboxOf r k')) := by
  intro r2
  have e1 : r.stepOp (.msg k m1) = { r with inbox := r.inbox ++ [(k, m1)] } := by
    rw [stepOp_msg]; exact recvMsg_buffered m1 hb hf hbuf he
  have e2 : r2 = { r with inbox := r.inbox ++ [(k, m1), (k, m2)] } := by
    show (r.stepOp (.msg k m1)).stepOp (.msg k m2) = _
    rw [e1, stepOp_msg,
      recvMsg_buffered (r := { r with inbox := r.inbox ++ [(k, m1)] }) m2 hb hf hbuf he]
    simp only [List.append_assoc, List.cons_append, List.nil_append]
  refine ⟨e2, fun ha => ?_⟩
  obtain ⟨h1, _, _, h4, h5⟩ := retryDue_release r2 x ha
  have hin : inboxOf r2 k = inboxOf r k ++ [m1, m2] := by
    rw [e2]
    unfold inboxOf
    simp [List.filter_append]
  have hin' : ∀ k', k' ≠ k → inboxOf r2 k' = inboxOf r k' := by
    intro k' hk'
    have : ¬ k = k' := fun e => hk' e.symm
    rw [e2]
    unfold inboxOf
    simp [List.filter_append, this]
  rw [hx] at h1 h4 h5
  refine ⟨?_, h4, fun k' hk' => (h5 k' hk').trans (hin' k' hk')⟩
  rw [h1, hin, e2]

-- `drain` takes the oldest task first
example (fuel : Nat) (r : Realm) (t : Task) (ts : List Task) (h : r.tasks = t :: ts) :
    drain (fuel + 1) r = drain fuel (runTask { r with tasks := ts } t) := drain_succ_cons fuel r t ts h

/-- the invariant `BrokerInv r.broker` used above is kept by every broker-facing step -/
theorem C08_steps_keep_inv {r : Realm} (hb : BrokerInv r.broker) (m : BMsg) : BrokerInv (handleB r m).broker :=
  WpE.handleB_binv hb m

/-- non-vacuity: a realm state with an attached non-member (session 2 of subscription 1) -/
example : ∃ (r : Realm) (c : Session), BrokerInv r.broker ∧ r.client? 2 = some c ∧ (2 : SessKey) ≠ metaKey ∧
    ¬ r.broker.isMember 2 1 ∧ r.broker.isMember 1 1 := by
  have hsubs : (({} : Broker).syncSubscribe 1 1 "t" "exact" 0).1.subs =
      [{ id := 1, topic := "t", «match» := "exact", members := [1] }] := rfl
  refine ⟨{ broker := (({} : Broker).syncSubscribe 1 1 "t" "exact" 0).1,
            clients := [{ key := 1, details := [], roles := [], isLocal := false },
                        { key := 2, details := [], roles := [], isLocal := false }] },
    { key := 2, details := [], roles := [], isLocal := false },
    (BrokerInv.empty false false).subscribe 1 1 "t" "exact" 0, by rfl, by decide, ?_, ?_⟩
  · rintro ⟨s, hs, h1, h2⟩
    rw [hsubs] at hs
    simp at hs; subst hs; simp at h2
  · exact ⟨{ id := 1, topic := "t", «match» := "exact", members := [1] },
      hsubs ▸ List.mem_singleton_self _, rfl, by simp⟩

end Nexus.C08
