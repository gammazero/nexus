/-
  C08 (broker half) — Per-peer ordering: events reach each subscriber, per subscription, in
  publication order.

  Property text (the clause proved here).  "Events published by one session to one topic reach each
  subscriber, per subscription, in publication order […]"

  About `Broker.syncPublish` applied to a list of publications in order (`Broker.publishAll`,
  Nexus/L2/Proofs/BrokerSpec.lean): the broker goroutine processes publications one at a time in
  arrival order, and the messages of each are appended to the per-session FIFO queues in the order
  of the returned list (`Realm.deliver`).  The arrival order itself (one handler goroutine per
  session posting to the broker's action channel) is the L3 part of C08 and is not covered here.
  The statement is for any publishers, topics and session tables (so in particular for one
  publisher and one topic).

  clause                                                               theorem
  -------------------------------------------------------------------  ------------------------------
  the EVENTs reaching session k through subscription s from a list of
    publications processed in order are, in order, the expected EVENT
    of each publication that (s, k) is expected for — i.e. the
    projection of the concatenated outputs is in publication order       C08_event_order
  … their publication ids form a subsequence of the publications' ids   C08_event_order_ids
-/
import Nexus.L2.Proofs.BrokerDeliver

namespace Nexus.C08
open Nexus.L2 Gen.N

theorem C08_event_order {b : Broker} (hb : BrokerInv b) {s : Sub} (hs : s ∈ b.subs) (k : SessKey)
    (ps : List ((SessKey → Option Session) × Nat × Publication)) :
    through (b.publishAll ps).2 k s.id = ps.flatMap (fun x => deliveryOf x.1 x.2.2 s k) := by
  induction ps generalizing b with
  | nil => rfl
  | cons x rest ih =>
    obtain ⟨sess, now, p⟩ := x
    simp only [Broker.publishAll, List.flatMap_cons]
    rw [through_append, through_syncPublish_eq_deliveryOf hb sess now p hs k,
      ih (hb.publish sess now p) (by rw [(syncPublish_tables b sess now p).1]; exact hs)]

theorem C08_event_order_ids {b : Broker} (hb : BrokerInv b) {s : Sub} (hs : s ∈ b.subs) (k : SessKey)
    (ps : List ((SessKey → Option Session) × Nat × Publication)) :
    ((through (b.publishAll ps).2 k s.id).map (fun x => x.msg.eventPub?)).Sublist
      (ps.map (fun x => some x.2.2.pubId)) := by
  rw [C08_event_order hb hs, List.map_flatMap]
  exact flatMap_sublist_map _ _ (fun x => deliveryOf_pubs x.1 x.2.2 s k) ps

end Nexus.C08
