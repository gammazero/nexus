/-
  C13: the action a call-timeout goroutine posts to the dealer, regenerated by gen target `locks`.

  The model's `timerDue` is "drop the timer, then `syncCancel caller request killnowait
  wamp.error.timeout`": the cancel looks the call up again when it runs.  That matters when the
  timer expires while the dealer is busy and the callee's answer is already queued ahead of the
  timer's action: the action then finds no pending call and does nothing ("never after the call
  already completed").  An action that captured the invocation instead would end a completed call.
  `C13_timer_action_is_cancel_by_id`: the action regenerated from the source is exactly a `syncCancel`
  by caller and request id, with mode killnowait, wamp.error.timeout and the argument "call timeout".
-/
import Nexus.Gen.Locks

namespace Nexus.C13
open Nexus.Gen.Locks

theorem C13_timer_action_is_cancel_by_id :
    callTimerAction =
      ["errArgs := wamp.List{\"call timeout\"}",
       "d.syncCancel(caller, &wamp.Cancel{Request: msg.Request}, wamp.CancelModeKillNoWait, wamp.ErrTimeout, errArgs)"] :=
  rfl

end Nexus.C13
