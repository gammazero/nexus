/-
  C13 — CANCEL modes and call timeouts behave as documented.

  Property text.  "A CANCEL from the call's owner with mode skip answers the caller at once with
  wamp.error.canceled and sends nothing to the callee; killnowait (also the default) does the same and
  additionally sends one INTERRUPT to a callee that supports call canceling; kill sends that INTERRUPT
  and lets the callee's next RESULT or ERROR become the caller's final reply, degrading to skip when
  the callee cannot be interrupted; an unknown mode is refused with wamp.error.invalid_argument, and a
  CANCEL that is repeated, comes from another session or names a finished or unknown call has no
  effect.  A call whose timeout the callee does not handle itself is ended by the router exactly when
  the timeout expires - with wamp.error.timeout to the caller and an INTERRUPT as for killnowait -
  never earlier and never after the call already completed, while for a callee that registered with
  forward_timeout and supports call_timeout the timeout is forwarded in the INVOCATION instead."

  The theorems are about the dealer model (`syncCancel`, `syncCall`, the `Timer` table of `DState`) and
  the realm's handler/timer layer (`Realm.handleCancel`, `Realm.timerDue`, `Realm.nextDue`,
  `Realm.advance`), for every state satisfying `DealerInv`, every environment and all arguments.
  A pending, not yet cancelled call is given as its stored invocation `v ∈ s.d.invs` with
  `v.canceled = false`; its call id is `c = v.callId`, its callee `v.callee`, its invocation id `v.id`.
  `canInterrupt env v mode` = mode ≠ skip ∧ callee announced `callee.call_canceling` ∧ callee's queue has
  room.  `cancelMark s v` = `s` with `v.canceled := true` and the timer recorded in `v` stopped.
  `callErr c details uri args kw` = ERROR(CALL, c.req, details, uri, args, kw) to `c.sess`;
  `interruptOf v i mode reason` = INTERRUPT(i.req, {reason, mode}) to `v.callee`.

  clause                                                         theorem
  -------------------------------------------------------------  ---------------------------------------
  skip: ERROR canceled now, nothing to the callee, call removed   C13_skip
  killnowait: the same + one INTERRUPT{mode killnowait} to a       C13_killnowait
    callee with call_canceling and room
  kill: INTERRUPT{mode kill}, no reply yet, call stays `canceled`  C13_kill, C13_kill_then_yield,
    the callee's next final YIELD / ERROR is the caller's reply    C13_kill_then_error
  kill degrades to skip when the callee cannot be interrupted      C13_kill_degrades
  unknown mode refused with invalid_argument, no dealer change     C13_bad_mode, C13_default_mode
  repeated / foreign / finished / unknown CANCEL: no effect        C13_ineffective_repeated,
                                                                   C13_ineffective_not_pending
  timer armed with deadline now + min(timeout, max) — or forwarded C13_forward (first chunk),
                                                                   C13_later_chunk_timer
  at most one live timer per call; every live timer belongs to a    C13_timer_owned, C13_timer_unique
    pending call and is the one its invocation records               (part of DealerInv)
  a pending, not cancelled timed call has its timer live (client    C13_timer_live (reachable realm states),
    callees; not while parked in the final YIELD's retry loop)       C13_timer_live_step (per dealer step)
  a tick of the realm's clock (`Realm.advance`) is the relation    C13_advance_is_adv
    `Realm.Adv` of the next two rows, unless its budget of timed
    events (10000 per tick) runs out
  never earlier: only armed, not-cancelled timers whose deadline   C13_timeout_not_before,
    has been reached fire, earliest first, at their deadline; the     C13_timeout_not_early
    firing timer is the recorded, only live timer of its pending call
  exactly when it expires: after the tick reaching the deadline    C13_timeout_all_fired,
    no due timer is left, and no pending timed call has a deadline   C13_timeout_exact, C13_timeout_exact_tick
    `≤ now`
  what a firing timer does (ERROR timeout + INTERRUPT as for       C13_timeout_effect,
    killnowait; nothing if the call is gone or cancelled)          C13_timeout_stale
  a cancelled timer never fires; timers are never revived or       (C13_timeout_not_before),
    dropped by the dealer                                          C13_timers_persist
  never after the call completed: completion cancels the recorded  C13_timeout_cancelled_on_completion
    timer (and there is no other live one: C13_timer_owned)

  yield retry loop (C07's bounded exception): retried at +1, +3, +7 …   C13_retry_enter, C13_retry_turn,
    ms after the start; gives up (cancels the call) at the first turn    C13_retry_bound, C13_retry_busy
    ≥ 60000 ms after the start = turn 16 = 65535 ms; meanwhile the
    callee's handler is busy: its messages are not processed (those of
    a socket-attached session wait in `inbox`)

  Note on progressive call invocations (several CALL chunks under one request id).  `syncCall` arms a new
  timer on every chunk that reaches the callee (with the first chunk's timeout) and overwrites the cancel
  function stored in the invocation; before doing so it cancels the timer armed by the previous chunk
  (dealer.go `if invk.timerCancel != nil { invk.timerCancel() }`; `C13_later_chunk_timer`, `Ex.sProgT2`: timer 1
  cancelled, timer 2 live).  So "the timeout" of a progressive call invocation counts from its latest chunk, at
  most one live timer exists per pending call, and no timer of a call stays live after the call completed
  (`C13_timeout_cancelled_on_completion`).
-/
import Nexus.L2.Proofs.DealerRealm
import Nexus.L2.Proofs.DealerTimer
import Nexus.L2.Proofs.DealerInvoke
import Nexus.L2.Proofs.DealerExamples
import Nexus.L2.Proofs.DealerRealmRpc
import Nexus.L2.Proofs.TimerLiveRealm
import Nexus.L2.Proofs.RealmCreate

namespace Nexus.C13
open Nexus.L2 Nexus.Gen.N Nexus

/-- skip: exactly one message, ERROR(CALL) with the cancel's reason (wamp.error.canceled from
    `handleCancel`) to the caller; nothing to the callee; the call is removed. -/
theorem C13_skip {env : DEnv} {s : DState} (h : DealerInv s) {v : Invk} (hv : v ∈ s.d.invs) (hcan : v.canceled = false)
    (reason : String) (errArgs : List WVal) :
    syncCancel env s v.callId.sess v.callId.req CancelModeSkip reason errArgs =
      { st := { cancelMark s v with d := (cancelMark s v).d.forget v.callId v.id }
        sends := [callErr v.callId [] reason errArgs []] } ∧
    v.callId ∉ ((cancelMark s v).d.forget v.callId v.id).calls := by
  rw [syncCancel_live h hv rfl hcan]
  have : canInterrupt env v CancelModeSkip = false := by simp [canInterrupt]
  rw [this]
  exact ⟨rfl, by simp⟩

example : Ex.vCall.canceled = false ∧ Ex.sCall.d.invs.map (·.id) = [Ex.vCall.id] := by decide +kernel

/-- killnowait: the same, preceded by exactly one INTERRUPT{reason, mode: killnowait} to the callee iff it
    announced call_canceling and its queue has room. -/
theorem C13_killnowait {env : DEnv} {s : DState} (h : DealerInv s) {v : Invk} (hv : v ∈ s.d.invs)
    (hcan : v.canceled = false) (reason : String) (errArgs : List WVal) :
    syncCancel env s v.callId.sess v.callId.req CancelModeKillNoWait reason errArgs =
      { st := { cancelMark s v with d := (cancelMark s v).d.forget v.callId v.id }
        sends := (if canInterrupt env v CancelModeKillNoWait
                  then [interruptOf v v.id CancelModeKillNoWait reason] else []) ++
                 [callErr v.callId [] reason errArgs []] } := by
  rw [syncCancel_live h hv rfl hcan]
  split
  · rfl
  · rfl

example : (syncCancel Ex.env Ex.sCall 2 5 CancelModeKillNoWait ErrCanceled []).sends.map Ex.summary =
    [(1, 69, none, false), (2, 8, some 5, true)] := by decide +kernel

/-- kill, callee can be interrupted: exactly one INTERRUPT{reason, mode: kill}; no reply to the caller yet;
    the call stays, marked `canceled`, its timer stopped. -/
theorem C13_kill {env : DEnv} {s : DState} (h : DealerInv s) {v : Invk} (hv : v ∈ s.d.invs)
    (hcan : v.canceled = false) (hci : canInterrupt env v CancelModeKill = true) (reason : String) (errArgs : List WVal) :
    syncCancel env s v.callId.sess v.callId.req CancelModeKill reason errArgs =
      { st := cancelMark s v, sends := [interruptOf v v.id CancelModeKill reason] } ∧
    DealerInv (cancelMark s v) ∧ v.callId ∈ (cancelMark s v).d.calls ∧
    ({ v with canceled := true } : Invk) ∈ (cancelMark s v).d.invs := by
  rw [syncCancel_live h hv rfl hcan, if_pos hci, if_pos rfl]
  obtain ⟨h1, h2⟩ := cancelMark_inv h hv
  exact ⟨rfl, h1, by simpa using (h.call.inv_call hv).1, h2⟩

example : canInterrupt Ex.env Ex.vCall CancelModeKill = true := by decide +kernel

/-- … and the callee's next non-progress YIELD becomes the caller's (one, final) reply, the call is removed. -/
theorem C13_kill_then_yield {env' : DEnv} {s : DState} (h : DealerInv s) {v : Invk} (hv : v ∈ s.d.invs)
    (opts : Dict) (args : List WVal) (kw : Dict) (canRetry : Bool) (hfull : env'.full v.callId.sess = false) :
    ∃ x, repliesFor v.callId (syncYield env' (cancelMark s v) v.id.sess v.id.req opts args kw false canRetry).sends = [x] ∧
      x.msg.isFinalReply = true ∧
      v.callId ∉ (syncYield env' (cancelMark s v) v.id.sess v.id.req opts args kw false canRetry).st.d.calls := by
  obtain ⟨h1, h2⟩ := cancelMark_inv h hv
  exact yield_final (env := env') h1 h2 opts args kw canRetry hfull

/-- … likewise its INVOCATION ERROR. -/
theorem C13_kill_then_error {s : DState} (h : DealerInv s) {v : Invk} (hv : v ∈ s.d.invs)
    (details : Dict) (err : String) (args : List WVal) (kw : Dict) :
    (syncError (cancelMark s v) v.id.sess v.id.req details err args kw).sends = [callErr v.callId details err args kw] ∧
      v.callId ∉ (syncError (cancelMark s v) v.id.sess v.id.req details err args kw).st.d.calls := by
  obtain ⟨h1, h2⟩ := cancelMark_inv h hv
  rw [syncError_owner h1 h2 details err args kw]
  exact ⟨rfl, by simp⟩

/-- kill, but the callee lacks call_canceling or its queue is full: behaves as skip. -/
theorem C13_kill_degrades {env : DEnv} {s : DState} (h : DealerInv s) {v : Invk} (hv : v ∈ s.d.invs)
    (hcan : v.canceled = false) (hci : canInterrupt env v CancelModeKill = false) (reason : String) (errArgs : List WVal) :
    syncCancel env s v.callId.sess v.callId.req CancelModeKill reason errArgs =
      syncCancel env s v.callId.sess v.callId.req CancelModeSkip reason errArgs := by
  rw [syncCancel_live h hv rfl hcan, syncCancel_live h hv rfl hcan, hci]
  have : canInterrupt env v CancelModeSkip = false := by simp [canInterrupt]
  rw [this]
  rfl

/-- callee 3 of `Ex` has no features: it cannot be interrupted -/
example : canInterrupt Ex.env { Ex.vCall with callee := 3 } CancelModeKill = false := by decide +kernel

/-- An unknown mode is refused with exactly one ERROR(CANCEL, req, wamp.error.invalid_argument) to the
    sender (through `trySend`); the dealer is not touched. -/
theorem C13_bad_mode (r : Realm) (s : Session) (req : Nat) (opts : Dict)
    (h1 : Realm.cancelMode opts ≠ CancelModeKillNoWait) (h2 : Realm.cancelMode opts ≠ CancelModeKill)
    (h3 : Realm.cancelMode opts ≠ CancelModeSkip) :
    r.handleCancel s req opts = r.trySend ⟨s.key, .error tCANCEL req [] ErrInvalidArgument [.str "<text>"] []⟩ ∧
      (r.handleCancel s req opts).ds = r.ds := by
  rw [Realm.handleCancel_unknown s req opts h1 h2 h3]
  exact ⟨rfl, Realm.trySend_ds _ _⟩

example : Realm.cancelMode [(OptMode, .str "murder")] = "murder" := by decide +kernel

/-- No / empty / non-string `mode` option means killnowait; a known mode is passed to `syncCancel` with reason
    wamp.error.canceled. -/
theorem C13_default_mode (r : Realm) (s : Session) (req : Nat) (opts : Dict) (h : opts.optString OptMode = "") :
    r.handleCancel s req opts =
      r.applyD (syncCancel r.denv r.ds s.key req CancelModeKillNoWait ErrCanceled []) := by
  have : Realm.cancelMode opts = CancelModeKillNoWait := by simp [Realm.cancelMode, h]
  rw [Realm.handleCancel_known s req opts (Or.inl this), this]

/-- A repeated CANCEL (any mode) of a call already cancelled in kill mode: identity on the state, no message. -/
theorem C13_ineffective_repeated {env : DEnv} {s : DState} (h : DealerInv s) {v : Invk} (hv : v ∈ s.d.invs)
    (hcan : v.canceled = true) (mode reason : String) (errArgs : List WVal) :
    syncCancel env s v.callId.sess v.callId.req mode reason errArgs = { st := s } :=
  syncCancel_canceled h hv rfl hcan mode reason errArgs

example : Ex.sKill.d.invs.map (·.canceled) = [true] := by decide +kernel

/-- A CANCEL naming (session, request) that is not a pending call — the request was never issued by that
    session, is finished already, or belongs to another session: identity on the state, no message. -/
theorem C13_ineffective_not_pending {env : DEnv} {s : DState} (caller : SessKey) (req : Nat)
    (hc : (⟨caller, req⟩ : ReqId) ∉ s.d.calls) (mode reason : String) (errArgs : List WVal) :
    syncCancel env s caller req mode reason errArgs = { st := s } :=
  syncCancel_not_pending mode reason errArgs hc

/-- session 3 tries to cancel request 5 of session 2 -/
example : (⟨3, 5⟩ : ReqId) ∉ Ex.sCall.d.calls := by decide +kernel

/-- First chunk of a CALL, accepted, callee has room (hypotheses of `InvocationOf.first`).  With `t` the
    CALL's `timeout` option (0 if absent or not an integer): the INVOCATION details carry `timeout: t` iff
    `t > 0`, the callee announced `call_timeout` and the registration has `forward_timeout`, and then no
    router timer is armed; iff `t > 0` and it is not forwarded, exactly one timer is appended, for this
    call, with deadline `now + min t maxTimeoutMs`; otherwise the timer table is unchanged. -/
theorem C13_forward {env : DEnv} {s : DState} (h : DealerInv s) {caller : SessKey} {req : Nat} {opts : Dict}
    {proc : String} (args : List WVal) (kw : Dict) {rnd : Nat} {reg reg' : Reg} {callee : SessKey}
    (hm : s.d.matchProcedure proc = some reg) (hb : s.d.byCall? ⟨caller, req⟩ = none)
    (hprog : (opts.optFlag OptProgress && !hasFeat env caller RoleCaller FeatureProgCallInvocations) = false)
    (hp : pickCallee reg rnd = some (callee, reg'))
    (hr : callRefusal env s.d.allowDisclose reg caller callee opts = none) (hf : env.full callee = false) :
    (syncCall env s caller req opts proc args kw rnd).sends =
        [⟨callee, .invocation (genOf s.invGen callee + 1) reg.id (invDetails env reg caller callee opts proc) args kw⟩] ∧
      Dict.get? (invDetails env reg caller callee opts proc) OptTimeout =
        (if optTimeout opts > 0 && forwardsTimeout env reg callee then some (.int (optTimeout opts)) else none) ∧
      (syncCall env s caller req opts proc args kw rnd).st.timers =
        (if optTimeout opts > 0 && !forwardsTimeout env reg callee
         then s.timers ++ [newTimer env s caller req (optTimeout opts).toNat] else s.timers) := by
  rw [syncCall_picked args kw hm hprog hb hp, firstChunk_ok args kw reg' hr hf]
  refine ⟨rfl, invDetails_get?_timeout .., ?_⟩
  simp only
  unfold routerTimeout routerTimeoutF forwardsTimeout
  by_cases hc : (decide (optTimeout opts > 0) && !forwardsF env reg.fwdTimeout callee) = true
  · rw [if_pos hc, if_pos hc]
    have hpos : 0 < (optTimeout opts).toNat := by
      simp only [Bool.and_eq_true, decide_eq_true_eq] at hc; omega
    rw [armTimer_pos hpos]
    rfl
  · rw [if_neg hc, if_neg hc, armTimer_zero]
    rfl

example : forwardsTimeout Ex.env { Ex.regPlain with fwdTimeout := true, callees := [1] } 1 = true := by decide +kernel

/-- A later chunk of a pending progressive call (callee has room) arms a timer again, with the timeout of the
    first chunk's options, unless the first chunk's registration forwards timeouts (`v0.fwdTimeout`, recorded in
    the invocation); the timer recorded by the previous chunk (`v0.timer`) is cancelled first (dealer.go
    `if invk.timerCancel != nil { invk.timerCancel() }`), so the call's timeout restarts with every chunk and at
    most one live timer exists per pending call (`C13_timer_unique`).  Without a router-side timeout the timer
    table is unchanged. -/
theorem C13_later_chunk_timer {env : DEnv} {s : DState} {caller : SessKey} {req : Nat} {opts : Dict}
    (proc : String) (args : List WVal) (kw : Dict) (rnd : Nat) {iid : ReqId} {v0 : Invk}
    (hb : s.d.byCall? ⟨caller, req⟩ = some iid)
    (hprog : (opts.optFlag OptProgress && !hasFeat env caller RoleCaller FeatureProgCallInvocations) = false)
    (hfi : s.d.findInv iid = some v0) (hf : env.full v0.callee = false) :
    (syncCall env s caller req opts proc args kw rnd).st.timers =
      (if optTimeout v0.options > 0 && !forwardsF env v0.fwdTimeout v0.callee
       then (s.cancelTimer v0.timer).timers ++ [newTimer env s caller req (optTimeout v0.options).toNat]
       else s.timers) := by
  rw [syncCall_later proc args kw rnd hprog hb hfi, laterChunk_ok caller req opts args kw iid hf]
  simp only
  unfold routerTimeoutF
  by_cases hc : (decide (optTimeout v0.options > 0) && !forwardsF env v0.fwdTimeout v0.callee) = true
  · rw [if_pos hc, if_pos hc]
    have hpos : 0 < (optTimeout v0.options).toNat := by
      simp only [Bool.and_eq_true, decide_eq_true_eq] at hc; omega
    rw [armTimer_pos hpos, preCancel_pos _ _ hpos]
    simp only [newTimer, cancelTimer_nextTimer, cancelTimer_timers]
  · rw [if_neg hc, if_neg hc, armTimer_zero, preCancel_zero]

/-- two chunks: the first chunk's timer (deadline 100) is cancelled by the second chunk, which arms timer 2
    (deadline 150); the invocation records the second -/
example : Ex.sProgT2.timers.map (fun t => (t.id, t.deadline, t.canceled)) = [(1, 100, true), (2, 150, false)] ∧
    Ex.sProgT2.d.invs.map (·.timer) = [some 2] := by
  decide +kernel

/-- Never earlier / a cancelled timer never fires.  During `advance … target` (a tick to time `target`) a call
    timer fires only if it is in the table, not cancelled and its deadline is `≤ target`; among the due timers
    the earliest fires first; and it fires with the clock at its deadline (or at once if overdue). -/
theorem C13_timeout_not_before {target : Nat} {r r' : Realm} {evs : List (Realm × Realm.Due)} (h : Realm.Adv target r evs r')
    (p : Realm × Realm.Due) (hp : p ∈ evs) (t : Timer) (ht : p.2 = .timer t) :
    t ∈ p.1.ds.timers ∧ t.canceled = false ∧ t.deadline ≤ target ∧
      (∀ t' ∈ Realm.dueTimers p.1 target, t.deadline ≤ t'.deadline) ∧
      Realm.fireDue p.1 (.timer t) =
        Realm.drain Realm.taskFuel (({ p.1 with now := max p.1.now t.deadline } : Realm).timerDue t) := by
  obtain ⟨h1, h2, h3, h4⟩ := h.fired p hp t ht
  exact ⟨h1, h2, h3, h4, rfl⟩

/-- `Realm.advance` is `Adv` unless its fuel (10000 timed events per tick in `Realm.step`) runs out. -/
theorem C13_advance_is_adv (target fuel : Nat) (r : Realm) :
    Realm.FuelOut target fuel r ∨ ∃ evs, Realm.Adv target r evs (Realm.advance fuel r target) :=
  Realm.advance_adv target fuel r

/-- Exactly when it expires.  After a tick that reaches `target`, no armed, not-cancelled timer with deadline
    `≤ target` is left in the table: every timer whose deadline was reached has fired in this tick (or was
    cancelled because its call completed) — timers leave the table only by firing (`C13_timers_persist`). -/
theorem C13_timeout_all_fired {target : Nat} {r r' : Realm} {evs : List (Realm × Realm.Due)} (h : Realm.Adv target r evs r') :
    (∀ t ∈ r'.ds.timers, t.canceled = false → target < t.deadline) ∧ r'.now = target := by
  obtain ⟨h1, _, h3⟩ := h.none_left
  refine ⟨fun t ht hc => ?_, h3⟩
  apply Classical.byContradiction
  intro hlt
  have : t ∈ Realm.dueTimers r' target :=
    List.mem_filter.2 ⟨ht, by simp only [hc, Bool.not_false, Bool.true_and, decide_eq_true_eq]; omega⟩
  rw [h1] at this; cases this

/-- What a firing timer does when its call is pending and no cancel is outstanding: as CANCEL killnowait with
    reason wamp.error.timeout — the call is removed, the caller gets exactly one ERROR wamp.error.timeout,
    the callee one INTERRUPT{mode killnowait} iff it can be interrupted. -/
theorem C13_timeout_effect {env : DEnv} {s : DState} (h : DealerInv s) {v : Invk} (hv : v ∈ s.d.invs)
    (hcan : v.canceled = false) :
    syncCancel env s v.callId.sess v.callId.req CancelModeKillNoWait ErrTimeout [.str "<text>"] =
      { st := { cancelMark s v with d := (cancelMark s v).d.forget v.callId v.id }
        sends := (if canInterrupt env v CancelModeKillNoWait
                  then [interruptOf v v.id CancelModeKillNoWait ErrTimeout] else []) ++
                 [callErr v.callId [] ErrTimeout [.str "<text>"] []] } :=
  C13_killnowait h hv hcan _ _

/-- the timer of the two-chunk call `Ex.sProgT2` that is recorded in the invocation (timer 2, deadline 150) fires: the
    call is ended; the first chunk's timer 1 (deadline 100) is cancelled and never due -/
example : (syncCancel Ex.env100 { Ex.sProgT2 with timers := Ex.sProgT2.timers.filter (fun y => y.id != 2) } 2 8
      CancelModeKillNoWait ErrTimeout [.str "<text>"]).sends.map Ex.summary = [(1, 69, none, false), (2, 8, some 8, true)] ∧
    (syncCancel Ex.env100 { Ex.sProgT2 with timers := Ex.sProgT2.timers.filter (fun y => y.id != 2) } 2 8
      CancelModeKillNoWait ErrTimeout [.str "<text>"]).st.d.calls = [] ∧
    (Ex.sProgT2.timers.filter (fun t => !t.canceled && decide (t.deadline ≤ 100))).map (·.id) = [] := by decide +kernel

/-- What a firing timer does otherwise — its (caller, request) is not pending (the call completed, or the timer
    is a stale one of an earlier chunk) or a kill-mode cancel is outstanding: nothing but leaving the table. -/
theorem C13_timeout_stale (r : Realm) (t : Timer)
    (hst : (⟨t.caller, t.req⟩ : ReqId) ∉ r.ds.d.calls ∨
      (DealerInv r.ds ∧ ∃ v ∈ r.ds.d.invs, v.callId = ⟨t.caller, t.req⟩ ∧ v.canceled = true)) :
    (r.timerDue t).ds = { r.ds with timers := r.ds.timers.filter (fun y => y.id != t.id) } := by
  rw [Realm.timerDue_ds]
  rcases hst with hc | ⟨h, v, hv, hvc, hcan⟩
  · rw [syncCancel_not_pending _ _ _ (by exact hc)]
  · have h' := h.filterTimers (fun y => y.id != t.id)
    have := syncCancel_canceled (env := r.denv) h' (c := ⟨t.caller, t.req⟩) hv hvc hcan
      CancelModeKillNoWait ErrTimeout [.str "<text>"]
    rw [this]

/-- No `sync*` function removes a timer from the table, changes its call or deadline, or revives a cancelled one:
    timers leave the table only in `Realm.timerDue`, when they fire.  Across any step of the dealer, a timer of the
    table either is still there — same id, call, deadline, and cancelled if it was — or the step is the expiry
    bookkeeping `dropTimers p` (`Realm.timerDue` uses `p = (·.id ≠ fired.id)`) and `p` rejects that timer. -/
theorem C13_timers_persist {s : DState} {o : DOut} (st : DStep s o) {t : Timer} (ht : t ∈ s.timers) :
    (∃ t' ∈ o.st.timers, t'.id = t.id ∧ t'.caller = t.caller ∧ t'.req = t.req ∧ t'.deadline = t.deadline ∧
      (t.canceled = true → t'.canceled = true)) ∨
    (∃ p, o = { st := { s with timers := s.timers.filter p } } ∧ p t = false) := by
  rcases st.timer_persists_or_dropped ht with ⟨t', h1, h2, h3⟩ | hdrop
  · simp only [Timer.shape, Prod.mk.injEq] at h2
    exact Or.inl ⟨t', h1, h2.1, h2.2.1, h2.2.2.1, h2.2.2.2, h3⟩
  · exact Or.inr hdrop

/-- both alternatives occur: a CALL keeps timer 1 of `Ex.sTimed`; the bookkeeping step that rejects it drops it -/
example : (∃ t ∈ Ex.sTimed.timers, t.id = 1) ∧
    ({ Ex.sTimed with timers := Ex.sTimed.timers.filter (fun y => y.id != 1) } : DState).timers = [] := by
  decide +kernel

/-- Never after the call completed.  When a step (any step) removes a call (final reply, cancel, callee or caller
    gone), the timer recorded in its invocation is cancelled in the same step, hence never fires
    (`C13_timeout_not_before`, `C13_timers_persist`); and a pending call has no other live timer
    (`C13_timer_owned`). -/
theorem C13_timeout_cancelled_on_completion {s : DState} {o : DOut} (h : DealerInv s) (st : DStep s o)
    {v : Invk} (hv : v ∈ s.d.invs) {tid : Nat} (hvt : v.timer = some tid) (hgone : v.callId ∉ o.st.d.calls)
    {t : Timer} (ht : t ∈ s.timers) (hid : t.id = tid) :
    ∀ t' ∈ o.st.timers, t'.id = tid → t'.canceled = true := by
  intro t' ht' hid'
  have h' := st.inv h
  -- `t'` is the timer `t` after the step: same id, hence same call
  have hsh : t'.caller = t.caller ∧ t'.req = t.req := by
    rcases st.timers_grow_or_dropped with hg | ⟨p, rfl⟩
    · obtain ⟨t'', ht'', hs, _⟩ := hg.mem ht
      simp only [Timer.shape, Prod.mk.injEq] at hs
      have : t' = t'' := nodup_map_inj h'.aux.timerIds ht' ht'' (by rw [hid', hs.1, hid])
      rw [this]; exact ⟨hs.2.1, hs.2.2.1⟩
    · have : t' = t := nodup_map_inj h.aux.timerIds (List.mem_filter.1 ht').1 ht (hid'.trans hid.symm)
      rw [this]; exact ⟨rfl, rfl⟩
  cases hc : t'.canceled with
  | true => rfl
  | false =>
    -- a live timer after the step belongs to a pending call (`timerOwned`), and that call is `v`'s
    obtain ⟨v', hv', hvc', _⟩ := h'.aux.timerOwned t' ht' hc
    have hcall := (h.aux.invTimer v hv tid hvt).2.2 t ht hid
    refine absurd (h'.call.inv_call hv').1 ?_
    rw [hvc', hsh.1, hsh.2, hcall.1, hcall.2]
    exact hgone

/-- No stale timers (invariant, part of `DealerInv`, hence true in every reachable dealer state and — through
    `RealmInv.dinv` — in every reachable realm state).  Every armed, not cancelled timer in the table is the timer
    recorded in the stored invocation of its call, and that call is pending: no live timer survives the call it was
    armed for (whatever ended the call), and none survives a later chunk that re-armed the timeout. -/
theorem C13_timer_owned {s : DState} (h : DealerInv s) {t : Timer} (ht : t ∈ s.timers) (hc : t.canceled = false) :
    ∃ v ∈ s.d.invs, v.callId = ⟨t.caller, t.req⟩ ∧ v.timer = some t.id ∧ (⟨t.caller, t.req⟩ : ReqId) ∈ s.d.calls := by
  obtain ⟨v, hv, hvc, hvt⟩ := h.aux.timerOwned t ht hc
  exact ⟨v, hv, hvc, hvt, hvc ▸ (h.call.inv_call hv).1⟩

/-- At most one live timer per call: two armed, not cancelled timers for the same (caller, request) are the same
    table entry. -/
theorem C13_timer_unique {s : DState} (h : DealerInv s) {t1 t2 : Timer} (h1 : t1 ∈ s.timers) (h2 : t2 ∈ s.timers)
    (hc1 : t1.canceled = false) (hc2 : t2.canceled = false) (hcaller : t1.caller = t2.caller) (hreq : t1.req = t2.req) :
    t1 = t2 := by
  obtain ⟨v1, hv1, hvc1, hvt1⟩ := h.aux.timerOwned t1 h1 hc1
  obtain ⟨v2, hv2, hvc2, hvt2⟩ := h.aux.timerOwned t2 h2 hc2
  have : v1 = v2 := nodup_map_inj h.call.invCalls hv1 hv2 (by rw [hvc1, hvc2, hcaller, hreq])
  subst this
  rw [hvt1] at hvt2
  exact nodup_map_inj h.aux.timerIds h1 h2 (Option.some.inj hvt2)

/-- the reachable two-chunk state `Ex.sProgT2` has two timers for call (2, 8); only the second is live -/
example : DealerInv Ex.sProgT2 ∧
    Ex.sProgT2.timers.map (fun t => (t.id, t.caller, t.req, t.canceled)) = [(1, 2, 8, true), (2, 2, 8, false)] :=
  ⟨Ex.sProgT2_reach.inv, by decide +kernel⟩

/-- the timed call of `Ex.sTimed` is answered by its callee: timer 1 is cancelled -/
example : (syncYield Ex.env Ex.sTimed 1 1 [] [] [] false true).st.timers.map (fun t => (t.id, t.canceled)) = [(1, true)] := by
  decide +kernel

/-- a concrete reachable realm: callee 1 (call canceling, no call_timeout) registered "p", caller 2 called it with
    `timeout: 100` at time 0: invocation (1, 1), timer 1 with deadline 100 -/
def Ex.realmOps : List Realm.Op :=
  [ .join 1 false [] [(RoleCallee, [FeatureCallCanceling])] 8,
    .join 2 false [] [(RoleCaller, [])] 8,
    .msg 1 (.register 1 [] "p"),
    .msg 2 (.call 5 [(OptTimeout, .int 100)] "p" [] []) ]

def Ex.realmRun (r : Realm) (ops : List Realm.Op) : Realm := ops.foldl (fun r op => (r.step op).2) r

theorem Ex.realmRun_reachable {cfg : Config} : ∀ (ops : List Realm.Op) {r : Realm}, Realm.Reachable cfg r →
    Realm.Reachable cfg (Ex.realmRun r ops)
  | [], _, h => h
  | op :: ops, _, h => Ex.realmRun_reachable ops (.step op h)

def Ex.rTimed : Realm := Ex.realmRun ((Realm.create {}).getD default) Ex.realmOps

theorem Ex.rTimed_eq : Ex.rTimed = Ex.realmRun Realm.metaRealm Ex.realmOps := by
  rw [Ex.rTimed, Realm.create_default]; rfl

theorem Ex.rTimed_reachable : Realm.Reachable {} Ex.rTimed :=
  Ex.rTimed_eq ▸ Ex.realmRun_reachable _ (.init Realm.create_default)

/-- Two decidable facts as one Boolean: the kernel evaluates what they share once. For a conjunction whose own
    `Decidable` instance is too large to be synthesized in one piece. -/
theorem Ex.and_of_decide {a b : Prop} [Decidable a] [Decidable b] (h : (decide a && decide b) = true) : a ∧ b := by
  simpa only [Bool.and_eq_true, decide_eq_true_eq] using h

theorem Ex.rTimed_facts :
    Ex.rTimed.ds.d.invs.map (fun v => (v.id, v.callId, v.canceled, v.timer, v.callee)) =
      [(⟨1, 1⟩, ⟨2, 5⟩, false, some 1, 1)] ∧
    Ex.rTimed.ds.timers.map (fun t => (t.id, t.deadline, t.caller, t.req, t.canceled)) = [(1, 100, 2, 5, false)] ∧
    Ex.rTimed.retries.length = 0 ∧ Ex.rTimed.now = 0 := by
  rw [Ex.rTimed_eq]
  exact Ex.and_of_decide (by decide +kernel)

/-- The recorded timer is live (invariant of every reachable realm state, `WpB.Reachable.tinv`).  A pending, not
    cancelled call served by a client session whose invocation records a router-side timer `tid` has that timer in
    the table, armed and not cancelled, keyed by the call — unless the callee's handler currently sits in the retry
    loop of a non-progress YIELD for this very invocation (`WpB.parked`: the YIELD has stopped the timer, and the
    call ends when the loop ends, `C13_retry_bound`).  With `C13_timer_owned` / `C13_timer_unique`: a pending timed
    call and its live timer correspond one to one.

    (Invocations served by the meta session are exempt: the model lets the meta session park twice, see the
    header of `TimerLiveRealm.lean`.) -/
theorem C13_timer_live {cfg : Config} {r : Realm} (h : Realm.Reachable cfg r) {v : Invk} (hv : v ∈ r.ds.d.invs)
    (hcan : v.canceled = false) (hcl : v.callee ≠ metaKey) (hnp : ¬ WpB.parked r v.id) {tid : Nat}
    (hvt : v.timer = some tid) :
    ∃ t ∈ r.ds.timers, t.id = tid ∧ t.canceled = false ∧ t.caller = v.callId.sess ∧ t.req = v.callId.req := by
  have hd := h.inv.1.dinv
  obtain ⟨t, ht, hid, hc⟩ : WpB.LiveT r.ds tid := Classical.byContradiction fun hn =>
    ((WpB.Reachable.tinv h).live v.id ⟨v, hv, rfl, hcan, tid, hvt, hn⟩).elim
      (fun hm => hcl ((hd.call.callee v hv).trans hm)) hnp
  obtain ⟨_, _, h3⟩ := hd.aux.invTimer v hv tid hvt
  exact ⟨t, ht, hid, hc, (h3 t ht hid).1, (h3 t ht hid).2⟩

/-- … and how each step of the dealer keeps it (`WpB.dstep_liveStep`, a case analysis of every `sync*` function incl.
    both loops of `syncRemoveSession`): write `WpB.DeadInv s i` for "invocation `i` is stored, not cancelled, records a
    timer, and that timer is not live".  Across any `DStep` a new such invocation arises only (a) for the invocation a
    non-progress YIELD met a full caller queue for and was told to retry (`again`; the realm parks the handler in
    `retries`), or (b) when the expiry bookkeeping `dropTimers p` drops its recorded live timer (the realm does that
    only together with `syncCancel` for that very call: `WpB.timerFire_liveStep`). -/
theorem C13_timer_live_step {s : DState} {o : DOut} (h : DealerInv s) (st : DStep s o) (i : ReqId)
    (hd : WpB.DeadInv o.st i) : WpB.DeadInv s i ∨ WpB.Exc s o i :=
  WpB.dstep_liveStep h st i hd

/-- case (a) happens: the blocked final YIELD of `Ex.sTimed` stops timer 1 and keeps the call -/
example : (syncYield Ex.envCallerFull Ex.sTimed 1 1 [] [] [] false true).again = true ∧
    (syncYield Ex.envCallerFull Ex.sTimed 1 1 [] [] [] false true).st.timers.map (fun t => (t.id, t.canceled)) = [(1, true)] ∧
    (syncYield Ex.envCallerFull Ex.sTimed 1 1 [] [] [] false true).st.d.invs.map (fun v => (v.canceled, v.timer)) =
      [(false, some 1)] := by decide +kernel

/-- the hypotheses are met by the timed call of `Ex.rTimed` -/
example : ∃ v ∈ Ex.rTimed.ds.d.invs, v.canceled = false ∧ v.callee ≠ metaKey ∧ ¬ WpB.parked Ex.rTimed v.id ∧
    v.timer = some 1 := by
  obtain ⟨h1, _, h3, _⟩ := Ex.rTimed_facts
  cases hl : Ex.rTimed.ds.d.invs with
  | nil => rw [hl] at h1; cases h1
  | cons v rest =>
    rw [hl] at h1
    simp only [List.map_cons, List.cons.injEq, Prod.mk.injEq] at h1
    refine ⟨v, List.mem_cons_self .., h1.1.2.2.1, ?_, ?_, h1.1.2.2.2.1⟩
    · rw [h1.1.2.2.2.2]; decide
    · rintro ⟨x, hx, _⟩
      rw [List.length_eq_zero_iff.1 h3] at hx; cases hx

/-- Exactly when it expires.  After a tick to time `target` (relational form `Realm.Adv` of `Realm.advance`,
    `C13_advance_is_adv`), started in a state satisfying the invariants (every reachable state does), every pending,
    not cancelled, not parked call served by a client that records a router-side timer has that timer live with a
    deadline after `target`.  So no call outlives the deadline of its timeout across a tick: a call whose deadline is
    reached by the tick has been ended in that tick — by its timer, which fires at its deadline
    (`C13_timeout_not_before`) with `syncCancel(killnowait, wamp.error.timeout)` (`C13_timeout_effect`), unless
    something else completed it first — or is cancelled in kill mode (waiting for the callee), or parked in the
    bounded retry loop of its final YIELD, or has had its timeout restarted by a later chunk (`C13_later_chunk_timer`:
    then `v.timer` names the new timer, whose deadline is later). -/
theorem C13_timeout_exact {target : Nat} {r r' : Realm} {evs : List (Realm × Realm.Due)} (h : Realm.Adv target r evs r')
    (hi : Realm.RealmInv r) (hp : Realm.FuelOnly r.panic) (ht : WpB.TimerInv r)
    {v : Invk} (hv : v ∈ r'.ds.d.invs) (hcan : v.canceled = false) (hcl : v.callee ≠ metaKey)
    (hnp : ¬ WpB.parked r' v.id) {tid : Nat} (hvt : v.timer = some tid) :
    ∃ t ∈ r'.ds.timers, t.id = tid ∧ t.canceled = false ∧ target < t.deadline ∧ r'.now = target := by
  obtain ⟨_, hi', _, ht'⟩ := WpB.Adv.inv h hi hp ht
  obtain ⟨t, htm, hid, hc⟩ : WpB.LiveT r'.ds tid := Classical.byContradiction fun hn =>
    (ht'.live v.id ⟨v, hv, rfl, hcan, tid, hvt, hn⟩).elim (fun hm => hcl ((hi'.dinv.call.callee v hv).trans hm)) hnp
  obtain ⟨h1, h2⟩ := C13_timeout_all_fired h
  exact ⟨t, htm, hid, hc, h1 t htm hc, h2⟩

/-- … for a tick of the reachable realm: after `step (.tick ms)` (unless the model's fuel of 10000 timed events per
    tick ran out) no pending, not cancelled, not parked, client-served timed call has a deadline `≤ now`. -/
theorem C13_timeout_exact_tick {cfg : Config} {r : Realm} (h : Realm.Reachable cfg r) (ms : Nat)
    (hfuel : ¬ Realm.FuelOut (r.now + ms) 10000 r)
    {v : Invk} (hv : v ∈ (r.step (.tick ms)).2.ds.d.invs) (hcan : v.canceled = false) (hcl : v.callee ≠ metaKey)
    (hnp : ¬ WpB.parked (r.step (.tick ms)).2 v.id) {tid : Nat} (hvt : v.timer = some tid) :
    ∃ t ∈ (r.step (.tick ms)).2.ds.timers, t.id = tid ∧ t.canceled = false ∧ r.now + ms < t.deadline ∧
      (r.step (.tick ms)).2.now = r.now + ms := by
  rcases Realm.advance_adv (r.now + ms) 10000 r with hf | ⟨evs, hadv⟩
  · exact absurd hf hfuel
  · exact C13_timeout_exact hadv h.inv.1 h.inv.2 (WpB.Reachable.tinv h) hv hcan hcl hnp hvt

set_option maxRecDepth 100000 in
/-- the tick of 100 ms ends the timed call of `Ex.rTimed` (deadline 100): the caller gets ERROR wamp.error.timeout,
    the callee (call canceling) an INTERRUPT; a tick of 99 ms leaves the call pending with its timer -/
example :
    (Ex.rTimed.step (.tick 100)).2.ds.d.calls = [] ∧
    (Ex.rTimed.step (.tick 100)).1.out.map (fun q => (q.1, q.2.map Msg.typeCode)) = [(1, [69]), (2, [8])] ∧
    (Ex.rTimed.step (.tick 99)).2.ds.d.calls = [⟨2, 5⟩] ∧
    (Ex.rTimed.step (.tick 99)).2.ds.timers.map (fun t => (t.id, t.canceled)) = [(1, false)] := by
  rw [Ex.rTimed_eq]
  decide +kernel

/-- Never earlier / the right call.  Every call timer that fires during a tick is, at that moment, the timer recorded
    in the invocation of its own pending call, and that call has no other live timer.  (No side condition about
    request-id reuse is needed: stale timers do not exist, `C13_timer_owned`.)  Since the timer recorded is the one
    armed by the call's latest chunk with deadline `arming time + min(timeout, max)` (`C13_forward`,
    `C13_later_chunk_timer`) and a timer fires with the clock at its deadline or later (`C13_timeout_not_before`), a
    call is never timed out before its timeout has passed. -/
theorem C13_timeout_not_early {target : Nat} {r r' : Realm} {evs : List (Realm × Realm.Due)} (h : Realm.Adv target r evs r')
    (hi : Realm.RealmInv r) (hp : Realm.FuelOnly r.panic) (ht : WpB.TimerInv r)
    (p : Realm × Realm.Due) (hpe : p ∈ evs) (t : Timer) (hpt : p.2 = .timer t) :
    ∃ v ∈ p.1.ds.d.invs, v.callId = ⟨t.caller, t.req⟩ ∧ v.timer = some t.id ∧
      (⟨t.caller, t.req⟩ : ReqId) ∈ p.1.ds.d.calls ∧ t.deadline ≤ target ∧
      ∀ t' ∈ p.1.ds.timers, t'.canceled = false → t'.caller = t.caller → t'.req = t.req → t' = t := by
  obtain ⟨hall, _⟩ := WpB.Adv.inv h hi hp ht
  have hd := (hall p hpe).1.dinv
  obtain ⟨h1, h2, h3, _⟩ := h.fired p hpe t hpt
  obtain ⟨v, hv, hvc, hvt, hpend⟩ := C13_timer_owned hd h1 h2
  exact ⟨v, hv, hvc, hvt, hpend, h3, fun t' ht' hc' hca hre => C13_timer_unique hd ht' h1 hc' h2 hca hre⟩

/-- the hypotheses of the two theorems are met: a tick from the reachable `Ex.rTimed` is an `Adv` -/
example : Realm.RealmInv Ex.rTimed ∧ Realm.FuelOnly Ex.rTimed.panic ∧ WpB.TimerInv Ex.rTimed ∧
    (Realm.FuelOut 100 10000 Ex.rTimed ∨ ∃ evs, Realm.Adv 100 Ex.rTimed evs (Realm.advance 10000 Ex.rTimed 100)) :=
  ⟨Ex.rTimed_reachable.inv.1, Ex.rTimed_reachable.inv.2, WpB.Reachable.tinv Ex.rTimed_reachable,
   Realm.advance_adv 100 10000 Ex.rTimed⟩

/-- A YIELD whose RESULT meets a full caller queue: the handler enters the retry loop — a `Retry` entry in phase 1
    (first retry 1 ms after the start) — and is busy. -/
theorem C13_retry_enter (r : Realm) (s : Session) (req : Nat) (opts : Dict) (args : List WVal) (kw : Dict)
    (ha : (syncYield r.denv r.ds s.key req opts args kw (opts.optFlag OptProgress) true).again = true) :
    ∃ x, (r.handleYield s req opts args kw).retries = r.retries ++ [x] ∧ x.callee = s.key ∧ x.start = r.now ∧
      Realm.InPhase x 1 ∧ (r.handleYield s req opts args kw).busy s.key = true := by
  unfold Realm.handleYield
  simp only [ha, if_true, Realm.dapplyD_retries, Realm.dapplyD_now]
  refine ⟨_, rfl, rfl, rfl,
    ⟨Nat.le_refl _, by simp [Realm.yieldRetryDelayMs], by simp [Realm.yieldRetryDelayMs]⟩, ?_⟩
  simp [Realm.busy]

/-- when does the dealer answer "again": the YIELD is by the owner of a stored invocation, passthru is not misused,
    the caller's queue is full (and retries are allowed) -/
example {env : DEnv} {s : DState} (h : DealerInv s) {v : Invk} (hv : v ∈ s.d.invs) (opts : Dict) (args : List WVal)
    (kw : Dict) (progress : Bool) (hfull : env.full v.callId.sess = true)
    (h1 : yieldPptCalleeBad env v.id.sess opts = false) (h2 : yieldPptCallerBad env v.callId.sess opts = false) :
    (syncYield env s v.id.sess v.id.req opts args kw progress true).again = true := by
  rw [syncYield_owner h hv opts args kw progress true, yieldOut_retry args kw progress v h1 h2 hfull]

example : (syncYield Ex.envCallerFull Ex.sCall 1 1 [] [] [] false true).again = true := by decide +kernel

/-- One turn of the loop, for an entry in phase `n` firing at its time (`r.now = x.next`, which is what
    `Realm.advance` arranges): retries are still allowed iff `n ≤ 15` (2^n − 1 < 60000).  If the dealer answers
    "again" (caller still full), the entry moves to phase `n+1` (same start, delay doubled) and the callee stays
    busy; otherwise the entry is gone. -/
theorem C13_retry_turn (r : Realm) (x : Retry) (n : Nat) (hp : Realm.InPhase x n) (hnow : r.now = x.next) :
    decide (r.now - x.start < Realm.sendResultDeadlineMs) = decide (n ≤ 15) ∧
    ((Realm.retryOut r x).again = true →
      n ≤ 15 ∧ ∃ x', (r.retryDue x).retries = r.retries.filter (fun y => y.callee != x.callee) ++ [x'] ∧
        x'.callee = x.callee ∧ x'.start = x.start ∧ Realm.InPhase x' (n + 1) ∧ (r.retryDue x).busy x.callee = true) ∧
    ((Realm.retryOut r x).again = false →
      (r.retryDue x).retries = r.retries.filter (fun y => y.callee != x.callee) ∧
      (r.retryDue x).busy x.callee = false) := by
  obtain ⟨_, _, hr, _, _⟩ := Realm.retryDue_turn r x
  refine ⟨Realm.phase_canRetry hp hnow, fun ha => ?_, fun ha => ?_⟩
  · obtain ⟨h15, hp'⟩ := (Realm.turn_on_time hp hnow).2.2.1 ha
    rw [ha] at hr
    exact ⟨h15, _, hr, rfl, rfl, hp', (Realm.retryDue_busy r x).trans ha⟩
  · rw [ha] at hr
    exact ⟨hr.trans (List.append_nil _), (Realm.retryDue_busy r x).trans ha⟩

/-- The bound.  An entry in phase `n` fires `2^n − 1` ms after the start of the loop.  In phase 16 — 65535 ms after
    the start, the first turn at or beyond 60000 ms — retrying is no longer allowed: the dealer is asked with
    `canRetry = false`, never answers "again", the loop ends and (caller still full, call not yet cancelled) the call
    is cancelled: its invocation removed, ERROR wamp.error.canceled attempted, the callee interrupted when possible
    (`C02_full_giveup`).  Phases beyond 16 are never reached (`C13_retry_turn`: phase n+1 only from n ≤ 15). -/
theorem C13_retry_bound (r : Realm) (x : Retry) (n : Nat) (hp : Realm.InPhase x n) (hnow : r.now = x.next) :
    x.next + 1 = x.start + 2 ^ n ∧
    (n ≤ 16 → x.next - x.start ≤ 65535) ∧
    (n = 16 → x.next - x.start = 65535 ∧ Realm.sendResultDeadlineMs ≤ r.now - x.start ∧
      Realm.retryOut r x =
        syncYield r.denv r.ds x.callee x.req x.opts x.args x.kw x.progress false ∧
      (Realm.retryOut r x).again = false ∧ (r.retryDue x).busy x.callee = false ∧
      (r.retryDue x).ds = (syncYield r.denv r.ds x.callee x.req x.opts x.args x.kw x.progress false).st) := by
  have h2 := hp.2.1
  refine ⟨h2, fun hn => ?_, fun hn => ?_⟩
  · have : 2 ^ n ≤ 2 ^ 16 := Nat.pow_le_pow_right (by omega) hn
    omega
  · subst hn
    obtain ⟨l1, l2, l3, l4⟩ := Realm.retryOut_last hp hnow
    exact ⟨by omega, l2, l3, l4, (Realm.retryDue_busy r x).trans l4, by rw [Realm.retryDue_ds, l3]⟩

/-- While the handler of `k` is in the retry loop, messages from `k` are not processed: `stepOp (.msg k m)` changes
    nothing but `inbox` — the message is appended there (it waits in the socket transport until the loop ends,
    `C07_inbox_not_lost`) when `k` is an attached, not ending, `buffered` session; for a linked peer (not
    `buffered`: the client cannot hand the message over) and for an unknown or ending session it is the identity.
    A departure is deferred likewise. -/
theorem C13_retry_busy (r : Realm) (k : SessKey) (m : Msg) (hb : r.busy k = true) :
    r.stepOp (.msg k m) =
      if ((r.clients.find? (fun c => c.key == k)).any (·.buffered) && !r.ending.contains k) = true
      then { r with inbox := r.inbox ++ [(k, m)] } else r := by
  rw [Realm.stepOp_msg]; exact Realm.recvMsg_busy r k m hb

end Nexus.C13
