/-
  C16 — "Client calls return their own reply, once, and honour cancellation"

  Each blocking client operation (Subscribe, Unsubscribe, Register, Unregister, acknowledged
  Publish, Call, CallProgressive) issued from any number of goroutines returns the router's reply
  to its own request and no other, or an error when the reply does not come within the response
  timeout or the connection ends. Call delivers progressive results to the progress handler in
  order and never after Call has returned, and when its context is cancelled or expires it sends
  CANCEL with the configured mode and returns the context's error. An invocation handler runs once
  per invocation (progressive chunks in order to the same run), sees its context cancelled on
  INTERRUPT or timeout, and answers with exactly one YIELD or ERROR carrying the invocation's id;
  event handlers run one at a time in arrival order.

  The theorems are about the transition systems `Nexus.Client.R` (reply rendezvous, receive loop,
  Close) and `Nexus.Client.I` (invocation workers): every interleaving of the client's goroutines
  is an event sequence of these systems, so "for every reachable state" is "for every schedule".
  The systems are instantiated with facts regenerated from client/*.go (`Nexus.Gen.Client`).

  clause                                               theorem
  ---------------------------------------------------  ---------------------------------------------
  reply to its own request and no other                correlation, facts_reconciled, config_today,
                                                       signals_by_request, sigId_request (a reply is signalled
                                                       under its Request field)
  request ids unique per session (IDGen)               ids_unique, idgen_is_synchronised (Session.IDGen is the
                                                       mutex-protected SyncIDGen)
  one reply per operation, nothing after return        reply_once
  progress results in order, none after return         progress_order_and_closure, progress_handler_joined
                                                       (in Call and CallProgressive `close progChan` is
                                                       followed at once by a plain receive from progDone,
                                                       before the result is prepared)
  context end ⇒ one CANCEL, configured mode, ctx error  cancel_sends_cancel, cancel_is_sent
  CallProgressive is Call plus a sender goroutine;     callProgressive_is_call_plus_sender,
    its waiter runs as the waiter of Call does         callProgressive_waiter
  what the sender goroutine sends: progress chunks,    sender_sends_shape
    then one final chunk or one CANCEL, then nothing
  every CANCEL for a call, the waiter's and the        cancel_modes (the sender taking its mode from
    sender's, carries the configured mode              c.cancelMode), cancel_configured_mode (the code as
                                                       extracted, any mode), both for fewer than 2^53 ids
                                                       drawn; a run with two CANCELs for one request:
                                                       double_cancel_same_mode; regression witness:
                                                       double_cancel_old_code_mixed_modes (the sender of
                                                       before fix 4f8171f says "killnowait")
  options that leave `progress` unset mean the last    unset_progress_is_last_chunk (a witness run: sent
    chunk                                              with progress false, the sender exits); regression
                                                       witness: unset_progress_old_code_panics (the assertion
                                                       of before fix 42310e3 panics the sender goroutine)
  the sender goes on after Call has returned; its      sender_outlives_call, sender_after_close_panics
    send after Close() panics                          (witness runs)
  one worker per new invocation id, chunks in order,   invocation_once, chunks_in_order, gate_in_place
    duplicate / old ids ignored                        (the IsNewRecvID gate is in the configuration)
  exactly one YIELD/ERROR per completed worker         one_answer
  SendProgress sends a YIELD with the invocation's     send_progress
    id and progress: true; it is refused when the
    caller did not ask for progressive results or the
    invocation's gate is gone
  a progressive YIELD can still follow the             send_progress_after_answer_possible (witness run)
    invocation's ERROR
  event handlers one at a time, in arrival order       events_serial
-/
import Nexus.Client.RendezvousLive
import Nexus.Client.ProgressiveProps
import Nexus.Client.InvokeProps

namespace Nexus.C16
open Nexus.Client Nexus.Gen

/-- The facts about client.go the hand-written model relies on: the reply channel is unbuffered and
    comes with a `gone` channel; `runSignalReply` selects on (send, gone, c.Done()); the three
    selects of the wait functions; each wait function ends in one `doneWaiting`, which deletes the
    `awaitingReply` entry and then closes `gone`; the CANCEL mode is `c.cancelMode`; the invocation
    queue and result channel have capacity 1; the IsNewRecvID gate guards worker creation; a
    repeat after an invocation's final message is dropped; the enqueue select has its two escapes;
    only `Close()` closes the peer. -/
theorem facts_reconciled :
    Client.replyChanCap = 0 ∧ Client.replyWaiterHasGone = true ∧
    Client.signalSelect = ["send w.ch", "recv w.gone", "recv c.Done()"] ∧
    Client.waitForReplySelects = ["recv wait | recv timer.C | recv c.Done()"] ∧
    Client.waitForReplyWithCancelSelects =
      ["recv wait | recv ctx.Done() | recv c.Done()", "recv wait | recv timer.C"] ∧
    Client.waitForReplyDoneWaitingCalls = 1 ∧ Client.waitForReplyWithCancelDoneWaitingCalls = 1 ∧
    Client.doneWaitingDeletes = 1 ∧ Client.doneWaitingClosesGone = 1 ∧ Client.doneWaitingDeleteFirst = true ∧
    Client.waitForReplyDeletes = 0 ∧ Client.waitForReplyWithCancelDeletes = 0 ∧
    Client.cancelModeExprs = ["c.cancelMode"] ∧
    Client.invQueueCap = 1 ∧ Client.resChanCap = 1 ∧ Client.invGateChecked = true ∧
    Client.invFinalGate = true ∧ Client.invFinalSet = true ∧ Client.invFinalCleared = true ∧
    Client.enqueueSelect = ["send handlerQueue", "recv ctx.Done()", "recv c.sess.RecvDone()"] ∧
    Client.sessCloseCallers = ["Close"] ∧ Client.abortSessionEndsRecv = true ∧
    Client.recvDefaultExits = false := by decide

/-- … from which the model's configuration is derived. -/
theorem config_today :
    R.cfgToday.signalEscapes = true ∧ R.cfgToday.deletesEntry = true ∧ R.cfgToday.abortClosesSend = false ∧
    ({} : I.Cfg).invGate = true ∧ ({} : I.Cfg).finalGate = true ∧ ({} : I.Cfg).enqueueEscapes = true := by decide

/-- Every reply-type case of `runReceiveFromRouter` signals by the message's `Request` field. -/
theorem signals_by_request : ∀ c ∈ Client.recvSwitch, c.kind = "signal" → c.arg = "Request" := by decide

/-- … so the id a reply is signalled under is its `Request` field. -/
theorem sigId_request (m : RMsg) (id : Nat) (h : R.sigId m = some id) : m.request? = some id := by
  unfold R.sigId at h
  split at h
  case h_2 => cases h
  case h_1 f hf =>
    unfold R.actionOf at hf
    split at hf
    case h_2 => split at hf <;> cases hf
    case h_1 c hc =>
      split at hf
      case isTrue hk =>
        cases hf
        rw [signals_by_request c (List.mem_of_find?_eq_some hc) (eq_of_beq hk)] at h
        exact h
      case isFalse =>
        split at hf
        · cases hf
        · split at hf <;> cases hf

/-- In every reachable state of the rendezvous: a reply the loop is about to hand to waiter `g`,
    and every message ever handed to `g`, bears `g`'s request id in its `Request` field. -/
theorem correlation (cfg : R.Cfg) (st : R.State) (hr : R.Reachable cfg st) :
    (∀ g m, st.run = .signalling g m → m.request? = some (st.ws g).req) ∧
    (∀ g m, R.Out.handed g m ∈ st.out → m.request? = some (st.ws g).req) := by
  have hi := R.allInv_reachable cfg st hr
  exact ⟨fun g m h => sigId_request m _ (hi.corr.2 g m h).1,
    fun g m h => sigId_request m _ (hi.handedCorr _ h g m rfl).1⟩

/-- Request ids are unique per session as long as fewer than 2^53 were drawn (IDGen wraps then). -/
theorem ids_unique (cfg : R.Cfg) (st : R.State) (hr : R.Reachable cfg st) (hb : st.drawn < 2 ^ 53)
    (g g' : Nat) (h0 : (st.ws g).req ≠ 0) (he : (st.ws g).req = (st.ws g').req) : g = g' :=
  ((R.allInv_reachable cfg st hr).ids hb).2.2.2 g g' h0 he

/-- Non-vacuity: a reachable state in which the loop is handing SUBSCRIBED(1) to the waiter that drew id 1. -/
example : (R.steps {} {} [.apiStart 1 .subscribe "t" false, .inject (.subscribed 1 5), .runRecv]).map
    (fun st => (match st.run with | .signalling 1 (.subscribed 1 5) => true | _ => false) && (st.ws 1).req == 1) =
    some true := by decide

/-- An API call returns at most once; nothing is handed to its waiter and its progress handler is
    not called after it returned; every operation but Call takes at most one message. -/
theorem reply_once (cfg : R.Cfg) (st : R.State) (hr : R.Reachable cfg st) :
    (∀ g, List.countP (R.isRet g) st.out ≤ 1) ∧
    R.quietAfterRet st.out ∧
    (∀ g, (st.ws g).op ≠ .call → List.countP (R.isHanded g) st.out ≤ 1) := by
  have hi := R.allInv_reachable cfg st hr
  refine ⟨?_, hi.ret.2, fun g hg => (hi.hand g hg).1⟩
  intro g; rw [hi.ret.1 g]; split <;> omega

/-- The progressive results the progress handler of Call `g` saw are, in order, a subsequence of
    those handed to the call's waiter; and (`quietAfterRet`) none after Call returned. -/
theorem progress_order_and_closure (cfg : R.Cfg) (st : R.State) (hr : R.Reachable cfg st) (g : Nat) :
    (R.progressMsgs g st.out).Sublist (R.handedMsgs g st.out) ∧ R.quietAfterRet st.out := by
  have hi := R.allInv_reachable cfg st hr
  refine ⟨?_, hi.ret.2⟩
  exact (List.sublist_append_right _ _).trans (hi.prog g)

/-- Every CANCEL carries the configured mode; a call has exactly one CANCEL in the log if it took
    the ctx.Done branch and none otherwise; once it took that branch it can only return the
    context's error (or ErrReplyTimeout when the router does not answer the CANCEL). -/
theorem cancel_sends_cancel (cfg : R.Cfg) (st : R.State) (hr : R.Reachable cfg st) (hb : st.drawn < 2 ^ 53) :
    (∀ p ∈ R.cancelsOf st.out, p.2 = cfg.cancelMode) ∧
    (∀ g, (st.ws g).req ≠ 0 →
      List.countP (R.isCancelFor (st.ws g).req) st.out = if (st.ws g).cancelled then 1 else 0) ∧
    (∀ g r, (st.ws g).cancelled = true → (st.ws g).phase = .returned r →
      ∃ k, (st.ws g).ctx = some k ∧ (r = .ctx k ∨ r = .timeout)) := by
  have hi := R.allInv_reachable cfg st hr
  refine ⟨fun p hp => (hi.cancelMode hb p hp).1, hi.cancelCount hb, ?_⟩
  intro g r hc hp
  have hw := (hi.state.2.2.2 g).2.2
  rw [hp] at hw
  obtain ⟨k, hk, ho⟩ := hw hc
  refine ⟨k, hk, ?_⟩
  cases r <;> simp [R.Ret.cancelOutcome] at ho ⊢
  exact ho.symm ▸ rfl

/-- … and the ctx.Done branch is enabled as soon as the context of a waiting Call has ended: the
    step exists and sends CANCEL with the call's id and the configured mode. -/
theorem cancel_is_sent (cfg : R.Cfg) (st : R.State) (g : Nat) (k : R.CtxKind)
    (hc : st.crashed = none) (hsc : st.sendClosed = false)
    (hop : (st.ws g).op = .call) (hph : (st.ws g).phase = .waiting) (hctx : (st.ws g).ctx = some k) :
    ∃ st', R.step cfg st (.noticeCtx g) = some st' ∧
      st'.out = .send (.cancel (st.ws g).req cfg.cancelMode) :: st.out ∧
      (st'.ws g).phase = .cancelWaiting k ∧ (st'.ws g).cancelled = true := by
  refine ⟨(st.sendR (.cancel (st.ws g).req cfg.cancelMode)).setW g
      { st.ws g with phase := .cancelWaiting k, cancelled := true, deadline := st.now + cfg.timeout }, ?_, ?_, ?_, ?_⟩
  · simp [R.step_open hc hsc, R.stepCore, hop, hph, hctx]
  all_goals simp

/-- Non-vacuity: a reachable state with a cancelled Call and its one CANCEL (default mode). -/
example : (R.steps {} {} [.apiStart 1 .call "p" false, .apiWait 1, .ctxEnd 1 .canceled, .noticeCtx 1]).map
    (fun st => (st.ws 1).cancelled && R.cancelsOf st.out == [(1, Client.defaultCancelMode)]) = some true := by
  decide

/-- (a) at most one live worker per (registration, request); (b) a worker is only started for an
    INVOCATION whose id `IsNewRecvID` accepts (the gate is in the source: `invGateChecked`) and
    that has no live worker; (c) a duplicate / old id without live worker changes nothing;
    (d) everything a worker's handler is given carries that worker's (registration, request);
    the queue between them is FIFO (`I.innerTake_takes_head`, `I.enqueue_appends`). -/
theorem invocation_once (cfg : I.Cfg) (st : I.State) (hr : I.Reachable cfg st) :
    (∀ w w', (st.ws w).live = true → (st.ws w').live = true →
       (st.ws w).reg = (st.ws w').reg → (st.ws w).req = (st.ws w').req → w = w') ∧
    (∀ ev st', I.step cfg st ev = some st' → st'.n ≠ st.n →
       ∃ i hasH, ev = .recvInvocation i hasH ∧ hasH = true ∧ st'.n = st.n + 1 ∧
         I.findLive st i.reg i.req st.n = none ∧
         (cfg.invGate = true → isNewRecvID st.lastRecv (UInt64.ofNat i.req) = true)) ∧
    (∀ i, cfg.invGate = true → isNewRecvID st.lastRecv (UInt64.ofNat i.req) = false →
       I.findLive st i.reg i.req st.n = none → I.accept cfg st i = st.emit (.ignored i.req)) ∧
    (∀ i w, cfg.finalGate = true → I.findLive st i.reg i.req st.n = some w → (st.ws w).final = true →
       I.accept cfg st i = st.emit (.repeated i.req)) ∧
    (∀ w, ∀ i ∈ (st.ws w).handled, i.req = (st.ws w).req ∧ i.reg = (st.ws w).reg) := by
  have hi := I.allInv_reachable cfg st hr
  exact ⟨hi.live.2, fun ev st' h hn => I.worker_created_only_when_new cfg st ev st' h hn,
    fun i hg ho hn => I.stale_invocation_ignored cfg st i hg ho hn,
    fun i w hg hl hf => I.repeated_final_dropped cfg st i w hg hl hf, hi.matching.2.1⟩

/-- "progressive chunks in order to the same run", at the level of the whole history: for every worker
    (one handler run per invocation id, `invocation_once`), the sequence of INVOCATION messages its
    handler has been given is a prefix of the sequence accepted from the router for that worker, in
    the same order; while the worker is live the messages not yet given are exactly its queue, in
    order; everything given carries the worker's (registration, request). -/
theorem chunks_in_order (cfg : I.Cfg) (st : I.State) (hr : I.Reachable cfg st) (w : Nat) :
    (st.ws w).handled.reverse <+: (st.ws w).accepted.reverse ∧
    ((st.ws w).live = true → (st.ws w).accepted.reverse = (st.ws w).handled.reverse ++ (st.ws w).queue) ∧
    (∀ i ∈ (st.ws w).handled, i.req = (st.ws w).req ∧ i.reg = (st.ws w).reg) := by
  have hi := I.allInv_reachable cfg st hr
  obtain ⟨rest, hrest⟩ := hi.prefix_.2.1 w
  refine ⟨⟨rest.reverse, by rw [hrest, List.reverse_append]⟩, fun hl => ?_, hi.matching.2.1 w⟩
  rw [hi.prefix_.1 w hl, List.reverse_append, List.reverse_reverse]

/-- Non-vacuity: three chunks accepted, two given to the handler so far, the third waiting. -/
example : ((I.steps {} {} [.recvInvocation { req := 7, reg := 3, details := [(N.OptProgress, .bool true)], args := [.int 1] } true,
      .innerTake 0, .recvInvocation { req := 7, reg := 3, details := [(N.OptProgress, .bool true)], args := [.int 2] } true,
      .handlerReturn 0 { err := N.InternalProgressiveOmitResult } false, .innerTake 0,
      .recvInvocation { req := 7, reg := 3, args := [.int 3] } true]).map
    (fun st => ((st.ws 0).accepted.length, (st.ws 0).handled.length, (st.ws 0).queue.length))) = some (3, 2, 1) := by
  decide

/-- Today the gate is in place. -/
theorem gate_in_place : ({} : I.Cfg).invGate = true := by decide

/-- Worker `w` has exactly one answer in the log if its outer goroutine ended by answering, none
    otherwise; an answer is a final YIELD or an ERROR of type INVOCATION with the worker's id. -/
theorem one_answer (cfg : I.Cfg) (st : I.State) (hr : I.Reachable cfg st) :
    (∀ w, List.countP (I.isAnswer w) st.out = if (st.ws w).outer.answered then 1 else 0) ∧
    (∀ w m, I.Out.answer w m ∈ st.out → I.answerFor (st.ws w).req m = true) := by
  have hi := I.allInv_reachable cfg st hr
  exact ⟨hi.answer, fun w m h => (hi.shape _ h w m rfl).2⟩

/-- Non-vacuity: a worker that ran its handler and answered once. -/
example : (I.steps {} {} [.recvInvocation { req := 7, reg := 3 } true, .innerTake 0, .handlerReturn 0 {} false,
    .outerTake 0, .outerAnswer 0 false]).map
    (fun st => (st.ws 0).outer.answered && List.countP (I.isAnswer 0) st.out == 1) = some true := by decide

/-- A handler's `SendProgress` sends a YIELD with the invocation's own request id and
    `progress: true`, only for an invocation whose caller asked for progressive results and whose
    gate is still there (regenerated: the `progGate` lookup, the `progress: true` literal, the select
    of the send); otherwise it is refused and nothing is sent. Progressive YIELDs are not answers
    (`one_answer` counts the final YIELD / ERROR). -/
theorem send_progress (cfg : I.Cfg) (st : I.State) (hr : I.Reachable cfg st) :
    (Client.sendProgressGateChecked = true ∧ Client.sendProgressMarksProgress = true ∧
      Client.sendProgressSelect = ["send c.sess.Send()", "recv ctx.Done()"]) ∧
    (∀ w, (st.ws w).spArmed = true → (st.ws w).progOK = true ∧ w < st.n) ∧
    (∀ w st', I.step cfg st (.spSend w) = some st' →
      st'.out = .progressSent w :: .send (.yield (st.ws w).req true) :: st.out) ∧
    (∀ w st', ((st.ws w).progOK && st.progGate (st.ws w).req) = false →
      I.step cfg st (.spCheck w) = some st' → st' = st.emit (.progressRefused w)) :=
  ⟨by decide, (I.allInv_reachable cfg st hr).sp, fun w st' h => I.spSend_sends cfg st st' w h,
   fun w st' hg h => I.spCheck_refuses cfg st st' w hg h⟩

/-- Observation (a race, not covered by the property's sentence): a handler that ignores its
    cancelled context and is inside `SendProgress` when the worker answers the INTERRUPT can still
    send its progressive YIELD after the invocation's ERROR (both cases of the select are ready). -/
theorem send_progress_after_answer_possible :
    (I.steps {} {} I.progressAfterAnswer).map (fun st => st.out.filterMap fun o => match o with | .send m => some m | _ => none) =
      some [.yield 7 true, .error I.tINVOCATION 7 N.ErrCanceled] := I.progress_after_answer_possible

/-- Event handlers run one at a time (starts and ends alternate; one is open exactly while the
    loop is inside it), for EVENTs in the order the loop took them from the transport, which is
    the order the router sent them (the transport is FIFO). -/
theorem events_serial (cfg : R.Cfg) (st : R.State) (hr : R.Reachable cfg st) :
    R.wellNested st.out = true ∧ R.evOpen st.out = st.run.isInEvent ∧
    (R.startedEvents st.out).Sublist (R.recvEvents st.out) ∧
    (R.recvLog st.out).reverse ++ st.inbox.filterMap id = st.arrived.reverse := by
  have hi := R.allInv_reachable cfg st hr
  exact ⟨hi.events.2.1, hi.events.1, hi.events.2.2, hi.fifo⟩

/-- `CallProgressive` is `Call` with `sendProg` in front and one more goroutine (regenerated skeletons of
    the two API functions: the same calls, channel operations and go statements in the same order):
    its API goroutine is the waiter of `Nexus.Client.R`, so `correlation`, `reply_once`,
    `progress_order_and_closure` and `cancel_sends_cancel` speak about it as they do about `Call`. -/
theorem callProgressive_is_call_plus_sender :
    Client.callProgressiveSkeleton.filter (fun s => s != "sendProg" && s != "go") =
      Client.callSkeleton.filter (· != "go") ∧
    Client.callSkeleton.count "go" = 1 ∧ Client.callProgressiveSkeleton.count "go" = 2 ∧
    Client.callProgressiveSkeleton.take 2 = ["c.Connected", "sendProg"] ∧
    Client.progSenderOps = ["sendProg", "send c.sess.Send() wamp.Cancel", "return", "c.prepareCallPayloadMessage",
      "send c.sess.Send() wamp.Cancel", "return", "send c.sess.Send() message"] ∧
    ({} : P.Cfg).bare = true := by decide

/-- `Call` and `CallProgressive` wait for the progress-handler goroutine unconditionally (regenerated
    skeletons): `close progChan` is followed at once by a plain receive from `progDone`, after
    `waitForReplyWithCancel` and before the result is prepared. A receive that is merely one
    alternative of a `select` is labelled `select-recv` by the extractor, and there is none for
    `progDone`. This is the step `closing → returned` of the model `R`, which is taken only on
    `progDone` ("never after Call has returned"). -/
theorem progress_handler_joined :
    (Client.callSkeleton.dropWhile (· != "c.waitForReplyWithCancel")).take 4 =
      ["c.waitForReplyWithCancel", "close progChan", "recv progDone", "c.prepareCallResultMessage"] ∧
    (Client.callProgressiveSkeleton.dropWhile (· != "c.waitForReplyWithCancel")).take 4 =
      ["c.waitForReplyWithCancel", "close progChan", "recv progDone", "c.prepareCallResultMessage"] ∧
    Client.callSkeleton.count "recv progDone" = 1 ∧ Client.callProgressiveSkeleton.count "recv progDone" = 1 ∧
    "select-recv progDone" ∉ Client.callSkeleton ∧ "select-recv progDone" ∉ Client.callProgressiveSkeleton := by
  decide

/-- The waiter's side of every run of waiter + sender is a run of `R` (so the `R` theorems apply to
    it under every interleaving with the sender). -/
theorem callProgressive_waiter (cfg : RP.Cfg) (st : RP.State) (hr : RP.Reachable cfg st) :
    R.Reachable cfg.r st.r := RP.r_reachable cfg st hr

/-- What the sender goroutine of call `g` sends, in every reachable state: chunks with
    `progress: true`, then — exactly when it has exited — one final chunk or one CANCEL; never
    anything after that; all with the call's request id and procedure. -/
theorem sender_sends_shape (cfg : RP.Cfg) (st : RP.State) (hr : RP.Reachable cfg st) (g : Nat) :
    P.Shape cfg.pc st.p g :=
  RP.p_invariant cfg (fun s => P.Shape cfg.pc s g) ⟨0, by simp [P.sendsOf]⟩
    (fun s ev s' hi hs => P.shape_step cfg.pc s ev s' g hi hs) (fun _ _ hi => hi) st hr

/-- Every CANCEL sent for a call, by the waiter and by the sender goroutine, carries the configured
    mode (regenerated: the mode expression of every `wamp.Cancel` literal in `waitForReplyWithCancel`
    and in the sender goroutine is `c.cancelMode`; fix 4f8171f). -/
theorem cancel_modes (cfg : RP.Cfg) (st : RP.State) (hr : RP.Reachable cfg st) (hb : st.r.drawn < 2 ^ 53)
    (hp : cfg.p.usesConfigured = true) :
    (∀ q ∈ R.cancelsOf st.r.out, q.2 = cfg.r.cancelMode) ∧
    (∀ q ∈ P.cancelsOf st.p.out, q.2 = cfg.r.cancelMode) := by
  refine ⟨(cancel_sends_cancel cfg.r st.r (RP.r_reachable cfg st hr) hb).1, fun q hq => ?_⟩
  have := RP.sender_cancel_mode cfg st hr q hq
  simpa [RP.Cfg.pc, P.Cfg.senderCancelMode, hp] using this

/-- Full strength, for today's code and ANY configured mode: in every run of waiter + sender, every
    CANCEL carries the configured mode. A run may still contain TWO CANCELs for one request — when the
    caller's context ends while a `sendProg` that honours it is waiting, the waiter sends one and the
    sender goroutine another (`RP.doubleCancel`) — both with the configured mode. -/
theorem cancel_configured_mode (mode : String) (evs : List RP.Ev) (st : RP.State)
    (h : RP.steps { r := { cancelMode := mode } } {} evs = some st) (hb : st.r.drawn < 2 ^ 53) :
    (∀ q ∈ R.cancelsOf st.r.out, q.2 = mode) ∧ (∀ q ∈ P.cancelsOf st.p.out, q.2 = mode) :=
  cancel_modes { r := { cancelMode := mode } } st ⟨evs, h⟩ hb P.sender_uses_configured_today

/-- The two CANCELs of `RP.doubleCancel` under mode "kill": both say "kill" (regression witness of
    fix 4f8171f) … -/
theorem double_cancel_same_mode :
    (RP.steps { r := { cancelMode := "kill" } } {} RP.doubleCancel).map
      (fun st => (R.cancelsOf st.r.out, P.cancelsOf st.p.out)) = some ([(1, "kill")], [(1, "kill")]) := by decide

/-- … whereas with the hard-coded mode of before the fix the sender's said "killnowait". -/
theorem double_cancel_old_code_mixed_modes :
    (RP.steps { r := { cancelMode := "kill" }, p := { usesConfigured := false } } {} RP.doubleCancel).map
      (fun st => (R.cancelsOf st.r.out, P.cancelsOf st.p.out)) = some ([(1, "kill")], [(1, "killnowait")]) := by decide

/-- Options that leave `progress` unset (allowed by the documentation of `SendProgressiveData`) mean
    the last chunk (comma-ok assertion, fix 42310e3): the sender sends it with `progress: false` and
    exits … -/
theorem unset_progress_is_last_chunk :
    (RP.steps {} {} RP.unsetProgress).map (fun st => (P.sendsOf 1 st.p.out, (st.p.ss 1).phase, st.p.crashed)) =
      some ([.callChunk 1 "p" false true, .callChunk 1 "p" false false], .exited, none) := by decide

/-- … whereas the bare assertion of before the fix panicked the sender goroutine. -/
theorem unset_progress_old_code_panics :
    (RP.steps { p := { progressCommaOk := false } } {} RP.unsetProgress.dropLast).map (fun st => st.p.crashed) =
      some (some P.noFlagSite) := by decide

/-- The sender watches neither the call's return nor Done (finding candidate, leak): after the call
    has returned it goes on pulling chunks and sending CALLs for the finished request … -/
theorem sender_outlives_call :
    (RP.steps {} {} RP.senderOutlivesCall).map (fun st =>
      (match (st.r.ws 1).phase with | .returned _ => true | _ => false) &&
      P.sendsOf 1 st.p.out == [.callChunk 1 "p" false true]) = some true := by decide

/-- … and after `Close()` its next send panics (one more instance of open finding F43). -/
theorem sender_after_close_panics :
    (RP.steps {} {} RP.senderAfterClose).map (fun st => (st.r.close, st.p.crashed)) =
      some (.returned, some "send on closed channel") := by decide

/-- "issued from any number of goroutines": every goroutine entering the client API, and the dealer
    for invocation ids, draws from `Session.IDGen`; `ids_unique` speaks of one sequential generator, so
    the field must be the mutex-protected `SyncIDGen`, whose `Next` is lock; defer unlock; the
    sequential `IDGen.Next` (facts regenerated from wamp/session.go and wamp/idgen.go). -/
theorem idgen_is_synchronised :
    Nexus.Gen.sessionIDGenType = "SyncIDGen" ∧
    Nexus.Gen.syncIDGenNext = ["g.lock.Lock()", "defer g.lock.Unlock()", "return g.IDGen.Next()"] := by
  decide

end Nexus.C16
