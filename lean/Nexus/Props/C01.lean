/-
  C01 — Pub/Sub delivers each event to exactly the matching, eligible subscribers (broker, L2).

  Property text.  "When a session publishes to a topic, an EVENT is delivered exactly once per
  matching subscription to exactly those sessions of the same realm that at that moment hold a
  subscription matching the topic under its policy (exact, prefix or wildcard), minus the
  publisher unless exclude_me is false, minus sessions ruled out by the publication's
  exclude/eligible lists (by session id, authid, authrole or any other session attribute).  Each
  such EVENT carries that subscription's id, one publication id shared by all receivers (the one
  reported in PUBLISHED when acknowledged), the original topic for pattern subscriptions, and the
  publisher's arguments unchanged; no other session receives anything, and SUBSCRIBE/UNSUBSCRIBE
  answer with a stable per-(topic,policy) subscription id or the proper error (invalid_uri,
  no_such_subscription) without touching other sessions' subscriptions."

  The theorems are about the model `Nexus.L2.Broker` (router/broker.go, router/publishfilter.go),
  for EVERY broker state satisfying `BrokerInv` (Nexus/L2/Proofs/BrokerInv.lean) — hence, by
  `C01_reachable`, every state reachable from the pre-initialised broker by any sequence of
  publish / subscribe / unsubscribe / session-removal steps — every session table and every
  publication.  The declarative vocabulary (`ruledOut`, `Expected`, `expectedEvent`, `through`) is
  defined, without reference to the code it specifies, in Nexus/L2/Proofs/BrokerSpec.lean.

  clause                                                          theorem
  --------------------------------------------------------------  ---------------------------------
  the invariant holds in every reachable broker state             C01_reachable
  every EVENT sent belongs to an expected (subscription, member)
    pair and is exactly `expectedEvent` (sub id, pub id, details,
    args, kw); each expected pair gets exactly one; a pair that is
    not expected gets none; sessions that are not such members get
    nothing at all (frame)                                        C01_delivery_exact
  … hence no (recipient, subscription id) pair occurs twice       C01_delivery_nodup
  … read for a coherent session table ("is not the publisher")    C01_expected_coherent
  "the original topic for pattern subscriptions": details.topic =
    p.topic iff pattern-based (needs: no `topic` among the payload
    passthru details, which is what the realm passes)             C01_event_topic, C01_event_topic_full,
                                                                  C01_event_topic_full_fails, C01_realm_base_has_no_topic
  filter built from ANY options dict allows ⇔ not ruled out       C01_filter_iff
  SUBSCRIBE to an existing (topic, policy): that id, nothing
    created; a member's second SUBSCRIBE: same id, state unchanged;
    otherwise a fresh id nextSub+1 unused before                  C01_subscribe_stable_id
  UNSUBSCRIBE of unknown id / by a non-member: exactly one ERROR
    no_such_subscription to the sender, state unchanged           C01_unsubscribe_errors
  UNSUBSCRIBE / session removal leave every other session's
    memberships and the ids of remaining subscriptions unchanged  C01_unsub_others_untouched
  the example broker `exB` used below: its three subscriptions;
    it satisfies the invariant                                    exB_subs, exB_inv

  REALM LEVEL (`Realm.handlePublish` / `handleSubscribe` / `handleUnsubscribe`, Nexus/L2/Realm.lean:
  the handler-goroutine half of broker.go plus the delivery of the broker goroutine's sends to the
  bounded router→client queues; vocabulary `pubOf`, `pptRefused`, `discloseRefused`, `ackList` in
  Nexus/L2/Proofs/RealmBase.lean, `queueOf`, `accept`, `msgsTo`, `client?` in RealmQueue.lean)

  PUBLISH to an invalid topic (strict × exact): the state is unchanged
    except one ERROR(PUBLISH, req, invalid_uri) offered to the
    publisher's own queue iff `acknowledge` is the bool true
    (dropped, changing nothing, if that queue is full)               C01_publish_invalid_uri
  PUBLISH valid and allowed: queues = old queues offered, in order,
    the EVENTs of `C01_delivery_exact` for pubId = pubBase + pubCount
    then PUBLISHED(req, that id) to the publisher iff acknowledged
    (a full queue drops that message and nothing else); pubCount + 1;
    the broker changes only in its history stores                    C01_publish_ack
  PUBLISH with payload passthru by a publisher lacking the feature:
    ABORT to the publisher, a `leave … aborted` task, nothing delivered C01_publish_ppt_abort
  (PUBLISH with disclose_me refused by the realm: Nexus.C12.C12_refused_publish)
  SUBSCRIBE: invalid (strict × match) topic → one ERROR invalid_uri to
    the sender, nothing else; otherwise the broker-level sends of
    `syncSubscribe` offered to the queues, SUBSCRIBED first            C01_subscribe_realm
  UNSUBSCRIBE: the broker-level sends of `syncUnsubscribe` offered to
    the queues (UNSUBSCRIBED or ERROR no_such_subscription first)      C01_unsubscribe_realm

  EVERY REACHABLE REALM (`Realm.Reachable cfg r`; the facts about reachable realms and about `pubOf` these rest on are
  in Nexus/L2/Proofs/BrokerEvolution.lean, ReachableRealm.lean, PublicationOf.lean; the history-level id theorems
  `C01_id_never_reused`, `C01_id_stable`, `C01_id_stable_between`, `C01_id_not_reused_after_delete` are proved here)

  in every reachable realm: `BrokerInv r.broker`, the session table is
    coherent, every member of every subscription is an attached client   C01_reachable_realm
  the two tables of a reachable realm: `session?` is `client?` on every
    key but the meta session's, under which `session?` has the meta
    session and `client?` nothing; every attached client is found under
    its own key, which is not the meta session's, in both tables         C01_reachable_tables
  the example realm `exR` used below (session 1 joined, then subscribed
    to "a.b") is reachable                                               exR_reachable
  a PUBLISH / SUBSCRIBE / UNSUBSCRIBE from an attached client whose
    handler is free and which the authorizer allows IS the handler call
    of the realm-level theorems; a refused one never reaches the broker  C01_step_publish, C01_step_subscribe,
                                                                         C01_step_unsubscribe, C01_step_denied
  all clauses of a PUBLISH together, for a reachable realm, with
    `Expected` in its coherent reading and the hypotheses stated on the
    configuration                                                        C01_publish_reachable
  "stable id", history level: after any steps a subscription is an old
    one (same id, topic, policy) or has an id above every id handed out
    before; an id never denotes another (topic, policy); a deleted id is
    never handed out again; the same per realm input                     C01_id_never_reused, C01_id_stable,
                                                                         C01_id_stable_between,
                                                                         C01_id_not_reused_after_delete, C01_id_stable_realm
  the publication handed to the broker (`pubOf`) has no `topic` /
    publisher key among its payload-passthru details; exclude_me reading  C01_pubOf_base, C01_event_topic_realm

  Explicit assumption: the subscription id generator does not wrap (`nextSub : Nat`; the 2^53 wrap
  of `wamp.IDGen` is not modelled).  Interpretation recorded: an `eligible`/`exclude` list without
  any valid entry imposes nothing (that is what the code does).
  The `invalid_uri` answers are produced by the realm handler before the broker is reached
  (`Realm.handleSubscribe`/`handlePublish`): see the realm-level theorems.
-/
import Nexus.L2.Proofs.BrokerDeliver
import Nexus.L2.Proofs.RealmPublish
import Nexus.L2.Proofs.ReachableRealm
import Nexus.L2.Proofs.PublicationOf
import Nexus.L2.Proofs.RealmKeys

namespace Nexus.C01
open Nexus.L2 Gen.N

/-- history store on prefix "a."; then exact "a.b" (members 1, 2), prefix "a." (member 2),
    wildcard "a." (member 1): three overlapping subscriptions all matching topic "a.b". -/
def exB : Broker :=
  let b0 := ({} : Broker).preInit [("a.", "prefix", 2)]
  let b1 := (b0.syncSubscribe 1 1 "a.b" "exact" 0).1
  let b2 := (b1.syncSubscribe 2 1 "a." "prefix" 0).1
  let b3 := (b2.syncSubscribe 1 2 "a." "wildcard" 0).1
  (b3.syncSubscribe 2 2 "a.b" "exact" 0).1

def exSession (k : SessKey) : Session :=
  { key := k, details := [("authid", .str "u")],
    roles := [("subscriber", ["publisher_identification"])], isLocal := false }

def exSess : SessKey → Option Session := fun k => if k = 1 ∨ k = 2 then some (exSession k) else none

def exPub : Publication :=
  { publisher := 1, pubDetails := [("authid", .str "u")], topic := "a.b", pubId := 77, args := [.int 5], kw := [],
    opts := [], excludePub := true, disclose := false, baseDetails := [] }

def exSub : Sub := { id := 2, topic := "a.b", «match» := "exact", members := [1, 2] }

theorem exB_subs : exB.subs =
    [{ id := 1, topic := "a.", «match» := "prefix", members := [2] }, exSub,
     { id := 3, topic := "a.", «match» := "wildcard", members := [1] }] := by rfl

theorem exB_inv : BrokerInv exB :=
  ((((BrokerInv.preInit false false _).subscribe ..).subscribe ..).subscribe ..).subscribe ..

/-- Every broker state reachable from the broker a realm starts with (any configuration, any
    sequence of steps with any arguments) satisfies `BrokerInv`. -/
theorem C01_reachable (strict allowDisclose : Bool) (cfg : List (String × String × Nat)) (steps : List BStep) :
    BrokerInv ((({ strict := strict, allowDisclose := allowDisclose } : Broker).preInit cfg).run steps) :=
  (BrokerInv.preInit strict allowDisclose cfg).run steps

/-- For every broker state satisfying the invariant, every session table and every publication:
    (a) every message `syncPublish` sends is the expected EVENT of an expected pair;
    (b) each expected pair `(s, k)` gets exactly one message through `s.id`, namely that EVENT;
    (c) a (session, subscription id) pair that is not expected gets nothing;
    (d) frame: a session that is not an expected member of any subscription gets nothing. -/
theorem C01_delivery_exact {b : Broker} (hb : BrokerInv b) (sess : SessKey → Option Session) (now : Nat)
    (p : Publication) :
    (∀ x ∈ (b.syncPublish sess now p).2,
        ∃ s k c, Expected b sess p s k c ∧ x = ⟨k, expectedEvent p s c⟩) ∧
    (∀ s k c, Expected b sess p s k c →
        through (b.syncPublish sess now p).2 k s.id = [⟨k, expectedEvent p s c⟩]) ∧
    (∀ k id, (¬ ∃ s c, s.id = id ∧ Expected b sess p s k c) →
        through (b.syncPublish sess now p).2 k id = []) ∧
    (∀ k, (¬ ∃ s c, Expected b sess p s k c) → ∀ x ∈ (b.syncPublish sess now p).2, x.to ≠ k) :=
  delivery_exact hb sess now p

/-- The same "exactly once" as a `Nodup` statement: among the EVENTs of one publication no
    (recipient, subscription id) pair occurs twice. -/
theorem C01_delivery_nodup {b : Broker} (hb : BrokerInv b) (sess : SessKey → Option Session) (now : Nat)
    (p : Publication) :
    ((b.syncPublish sess now p).2.map (fun x => (x.to, x.msg.eventSub?))).Nodup := by
  rw [List.nodup_iff_count]
  rintro ⟨k, o⟩
  rw [List.count_eq_countP, List.countP_map, List.countP_eq_length_filter]
  change ((b.syncPublish sess now p).2.filter (fun x => (x.to, x.msg.eventSub?) == (k, o))).length ≤ 1
  cases o with
  | none =>
    have : (b.syncPublish sess now p).2.filter (fun x => (x.to, x.msg.eventSub?) == (k, none)) = [] := by
      rw [List.filter_eq_nil_iff]
      intro x hx
      obtain ⟨s, k', c, _, rfl⟩ := (mem_syncPublish_sends b sess now p x).mp hx
      simp [expectedEvent, Msg.eventSub?]
    rw [this]; simp
  | some id =>
    have heq : (b.syncPublish sess now p).2.filter (fun x => (x.to, x.msg.eventSub?) == (k, some id)) =
        through (b.syncPublish sess now p).2 k id := by
      unfold through
      apply List.filter_congr
      intro x _
      rw [Bool.eq_iff_iff]
      simp
    rw [heq]
    obtain ⟨_, h2, h3, _⟩ := delivery_exact hb sess now p
    by_cases he : ∃ s c, s.id = id ∧ Expected b sess p s k c
    · obtain ⟨s, c, rfl, hexp⟩ := he
      rw [h2 s k c hexp]; simp
    · rw [h3 k id he]; simp

theorem not_ruledOut_nil (sid : Nat) (details : Dict) : ¬ ruledOut [] sid details := by
  rintro (⟨_, _, _, h, _⟩ | ⟨⟨_, _, _, _, h, _⟩, _⟩ | ⟨_, _, _, _, h, _⟩ | ⟨_, _, _, h, _⟩) <;> cases h

/-- non-vacuity: an expected pair in the example state (session 2 through the exact subscription),
    and a ruled-out one (the publisher, session 1, is excluded). -/
theorem exExpected : Expected exB exSess exPub exSub 2 (exSession 2) :=
  ⟨by rw [exB_subs]; simp, by decide, by simp [exSub], by simp [exSess], by simp [exSession, exPub],
    not_ruledOut_nil _ _⟩

example : Expected exB exSess exPub exSub 2 (exSession 2) := exExpected

example : ¬ ∃ s c, Expected exB exSess exPub s 1 c := by
  rintro ⟨s, c, _, _, _, hc, hp, _⟩
  simp only [exSess, true_or, if_true, Option.some.injEq] at hc
  subst hc
  exact hp ⟨rfl, rfl⟩

/-- hence, by clause (b): session 2 gets exactly this one EVENT through subscription 2
    (`#eval` of the whole output: `[(2, some 2), (2, some 1)]` — also one through prefix "a."). -/
example : through (exB.syncPublish exSess 0 exPub).2 2 2 =
    [⟨2, .event 2 77 [] [.int 5] []⟩] :=
  (C01_delivery_exact exB_inv exSess 0 exPub).2.1 exSub 2 (exSession 2) exExpected

/-- With a coherent session table the publisher clause of `Expected` reads "k is not the
    publisher when `excludePub`". -/
theorem C01_expected_coherent {b : Broker} {sess : SessKey → Option Session} (hc : SessCoherent sess)
    (p : Publication) (s : Sub) (k : SessKey) (c : Session) :
    Expected b sess p s k c ↔
      s ∈ b.subs ∧ s.matchesTopic p.topic = true ∧ k ∈ s.members ∧ sess k = some c ∧
      ¬(k = p.publisher ∧ p.excludePub = true) ∧ ¬ ruledOut p.opts (sidOf k) c.details := by
  unfold Expected
  refine and_congr_right fun _ => and_congr_right fun _ => and_congr_right fun _ => and_congr_right fun h4 => ?_
  rw [hc k c h4]

example : SessCoherent exSess := by
  intro k c h
  unfold exSess at h
  split at h
  · simp at h; subst h; rfl
  · simp at h

/-- "the original topic for pattern subscriptions": if the payload-passthru details handed to the
    broker have no `topic` key, the EVENT details have `topic = p.topic` exactly for pattern-based
    subscriptions, and no `topic` key for exact ones. -/
theorem C01_event_topic (p : Publication) (s : Sub) (c : Session)
    (hbase : p.baseDetails.get? "topic" = none) :
    ((eventDetails p s.isPattern (some c)).get? "topic" = some (.str p.topic) ↔ s.isPattern = true) ∧
    (s.isPattern = false → (eventDetails p s.isPattern (some c)).get? "topic" = none) := by
  rw [eventDetails_get?_topic]
  cases s.isPattern <;> simp [hbase]

/-- the clause without the side condition … -/
def C01_event_topic_full : Prop :=
  ∀ (p : Publication) (s : Sub) (c : Session),
    ((eventDetails p s.isPattern (some c)).get? "topic" = some (.str p.topic) ↔ s.isPattern = true)

/-- … is false of the broker taken alone: `baseDetails` already holding `topic = p.topic` shows up
    in the EVENT of an exact subscription.  (Not reachable through the realm: see
    `C01_realm_base_has_no_topic`.) -/
theorem C01_event_topic_full_fails : ¬ C01_event_topic_full := by
  intro h
  have := h { exPub with baseDetails := [("topic", .str "a.b")] } exSub (exSession 2)
  rw [eventDetails_get?_topic] at this
  have hp : exSub.isPattern = false := by decide
  rw [hp] at this
  exact absurd (this.mp rfl) (by simp)

/-- The realm passes only payload-passthru keys: never `topic`. -/
theorem C01_realm_base_has_no_topic (opts : Dict) (usesPPT : Bool) :
    (if usesPPT then pptInto opts [] else ([] : Dict)).get? "topic" = none :=
  realm_base_ok opts usesPPT "topic" (Or.inl rfl)

example : exPub.baseDetails.get? "topic" = none := rfl

/-- For ANY options dict (any value types): the filter built by the model of
    `NewSimplePublishFilter` allows a session iff it is not ruled out. -/
theorem C01_filter_iff (opts : Dict) (sid : Nat) (details : Dict) :
    (mkFilter opts).allowed sid details = true ↔ ¬ ruledOut opts sid details :=
  mkFilter_allowed_iff opts sid details

/-- non-vacuity: options that rule a session out by attribute, and ill-typed options that do not. -/
example : ruledOut [("exclude_authid", .list [.int 3, .str "u"])] 5 [("authid", .str "u")] :=
  Or.inr (Or.inr (Or.inl ⟨"authid", .list [.int 3, .str "u"], [.int 3, .str "u"], "u",
    List.mem_singleton.mpr rfl, rfl, ⟨by decide, rfl⟩, by simp⟩))

example : ruledOut [("eligible", .list [.str "y", .int 0, .int 7])] 5 [] :=
  Or.inr (Or.inl ⟨⟨7, .list [.str "y", .int 0, .int 7], _, .int 7, rfl, rfl, by simp, by decide⟩, by
    rintro ⟨v, l, x, h1, h2, h3, h4⟩
    simp [Dict.get?] at h1; subst h1
    simp [WVal.asList] at h2; subst h2
    simp at h3
    rcases h3 with rfl | rfl | rfl <;> revert h4 <;> decide⟩)

example : ¬ ruledOut [] 5 [("authid", .str "u")] := not_ruledOut_nil _ _

/-- (1) SUBSCRIBE (by any session `k`) to a (topic, policy) for which subscription `s` exists is
    answered SUBSCRIBED with `s.id` (followed only by meta EVENTs to other sessions), creates
    nothing (ids, topics, policies and the id counter are unchanged) and adds exactly the
    membership (k, s.id);
    (2) if `k` is already a member the state does not change at all and the answer is that id;
    (3) if no subscription exists for (topic, policy): the answer carries `nextSub + 1`, an id no
    existing subscription has, and exactly that subscription is created. -/
theorem C01_subscribe_stable_id {b : Broker} (hb : BrokerInv b) (k : SessKey) (req : Nat)
    (topic m : String) (pub0 : Nat) :
    (∀ s ∈ b.subs, s.topic = topic → s.kind = matchKind m → k ∉ s.members →
      (∃ rest, (b.syncSubscribe k req topic m pub0).2.1 = ⟨k, .subscribed req s.id⟩ :: rest ∧
          ∀ x ∈ rest, x.msg.eventSub? ≠ none ∧ x.to ≠ k) ∧
      (b.syncSubscribe k req topic m pub0).1.subs.map (fun x => (x.id, x.topic, x.«match»)) =
          b.subs.map (fun x => (x.id, x.topic, x.«match»)) ∧
      (b.syncSubscribe k req topic m pub0).1.nextSub = b.nextSub ∧
      (∀ k' id, (b.syncSubscribe k req topic m pub0).1.isMember k' id ↔
          b.isMember k' id ∨ (k' = k ∧ id = s.id))) ∧
    (∀ s ∈ b.subs, s.topic = topic → s.kind = matchKind m → k ∈ s.members →
      b.syncSubscribe k req topic m pub0 = (b, [⟨k, .subscribed req s.id⟩], 0)) ∧
    ((∀ s ∈ b.subs, ¬(s.topic = topic ∧ s.kind = matchKind m)) →
      (∃ rest, (b.syncSubscribe k req topic m pub0).2.1 = ⟨k, .subscribed req (b.nextSub + 1)⟩ :: rest ∧
          ∀ x ∈ rest, x.msg.eventSub? ≠ none ∧ x.to ≠ k) ∧
      (∀ s ∈ b.subs, s.id ≠ b.nextSub + 1) ∧
      (b.syncSubscribe k req topic m pub0).1.subs =
          b.subs ++ [{ id := b.nextSub + 1, topic := topic, «match» := m, members := [k] }] ∧
      (b.syncSubscribe k req topic m pub0).1.nextSub = b.nextSub + 1) := by
  -- `findTopic` decides which of the three outcomes of `syncSubscribe` applies
  have found : ∀ s ∈ b.subs, s.topic = topic → s.kind = matchKind m → b.findTopic topic (matchKind m) = some s :=
    fun s hs ht hk => ht ▸ hk ▸ findTopic_of_mem hb hs
  refine ⟨fun s hs ht hk hm => ?_, fun s hs ht hk hm => syncSubscribe_again (found s hs ht hk) hm, fun hno => ?_⟩
  · rw [syncSubscribe_join_sends (found s hs ht hk) hm]
    refine ⟨⟨_, rfl, metaEvent_spec _ _ _ _ _⟩, ?_, rfl, fun k' id => ?_⟩
    · exact Broker.setSub_map _ fun x hx h => by rw [eq_of_id_eq hb.ids_nodup hx hs h]
    · exact ((hb.subscribe_join k hs hm).index_iff k' id).symm.trans
        ((idxRel_add hb.index_wf _ _ _ _).trans (or_congr_left (hb.index_iff k' id)))
  · have hf : b.findTopic topic (matchKind m) = none := by
      cases hf : b.findTopic topic (matchKind m) with
      | none => rfl
      | some sub => exact absurd ⟨(findTopic_some hf).2.2, (findTopic_some hf).2.1⟩ (hno sub (findTopic_some hf).1)
    rw [syncSubscribe_create hf]
    refine ⟨⟨_, rfl, fun x hx => ?_⟩, fun s hs => by have := (hb.ids_pos s hs).2; omega, rfl, rfl⟩
    rcases List.mem_append.mp hx with h | h <;> exact metaEvent_spec _ _ _ _ _ x h

/-- non-vacuity of the three cases in the example state -/
example : exSub ∈ exB.subs ∧ exSub.kind = matchKind "exact" ∧ (3 : SessKey) ∉ exSub.members ∧
    (1 : SessKey) ∈ exSub.members := by
  refine ⟨by rw [exB_subs]; simp, by decide, by decide, by decide⟩
example : ∀ s ∈ exB.subs, ¬(s.topic = "zz" ∧ s.kind = matchKind "exact") := by
  rw [exB_subs]; intro s hs; simp at hs; rcases hs with rfl | rfl | rfl <;> decide

/-- UNSUBSCRIBE naming an unknown subscription id, or one the sender is not a member of, is
    answered by exactly one ERROR `wamp.error.no_such_subscription` to the sender; the broker
    state is unchanged and no publication id is drawn.  (No invariant needed.) -/
theorem C01_unsubscribe_errors (b : Broker) (k : SessKey) (req subId pub0 : Nat)
    (h : ¬ b.isMember k subId) :
    b.syncUnsubscribe k req subId pub0 =
      (b, [⟨k, .error tUNSUBSCRIBE req [] ErrNoSuchSubscription [] []⟩], 0) :=
  syncUnsubscribe_not_member h req pub0

example : ¬ exB.isMember 1 1 ∧ ¬ exB.isMember 1 99 := by
  unfold Broker.isMember; rw [exB_subs]
  constructor <;> (rintro ⟨s, hs, h1, h2⟩; simp at hs; rcases hs with rfl | rfl | rfl <;> simp_all [exSub])

/-- After UNSUBSCRIBE of (k, subId) — successful or not — and after removal of session k:
    every OTHER session's memberships (as a set of subscription ids) are unchanged; k itself loses
    exactly (k, subId), resp. everything; every remaining subscription is an old one with the same
    id, topic and policy. -/
theorem C01_unsub_others_untouched {b : Broker} (hb : BrokerInv b) (k : SessKey) (req subId pub0 : Nat) :
    ((∀ k' id, k' ≠ k → ((b.syncUnsubscribe k req subId pub0).1.isMember k' id ↔ b.isMember k' id)) ∧
     (∀ id, (b.syncUnsubscribe k req subId pub0).1.isMember k id ↔ b.isMember k id ∧ id ≠ subId) ∧
     (∀ s' ∈ (b.syncUnsubscribe k req subId pub0).1.subs,
        ∃ s ∈ b.subs, s'.id = s.id ∧ s'.topic = s.topic ∧ s'.«match» = s.«match»)) ∧
    ((∀ k' id, k' ≠ k → ((b.syncRemoveSession k pub0).1.isMember k' id ↔ b.isMember k' id)) ∧
     (∀ id, ¬ (b.syncRemoveSession k pub0).1.isMember k id) ∧
     (∀ s' ∈ (b.syncRemoveSession k pub0).1.subs,
        ∃ s ∈ b.subs, s'.id = s.id ∧ s'.topic = s.topic ∧ s'.«match» = s.«match»)) := by
  have hu := hb.tells_unsubscribe k req subId pub0
  have hr := hb.tells_removeSession k pub0
  obtain ⟨_, _, h1, _⟩ := syncUnsubscribe_stripped hb.ids_nodup k req subId pub0
  obtain ⟨_, _, h2, _⟩ := syncRemoveSession_state hb k pub0
  exact ⟨⟨fun k' id hne => hu.others k' id fun e => hne (Option.some.inj e).symm,
      fun id => (syncUnsubscribe_isMember hb k req subId pub0 k id).trans (and_congr_right fun _ => by simp),
      subs_stripped h1⟩,
    fun k' id hne => hr.others k' id fun e => hne (Option.some.inj e).symm,
    fun id h => ((syncRemoveSession_isMember hb k pub0 k id).mp h).2 rfl, subs_stripped h2⟩

open Realm in
/-- PUBLISH to a topic that is not a valid URI for (strict, exact): the realm is `r` after offering
    the publisher's own queue one ERROR(PUBLISH, req, wamp.error.invalid_uri) — iff the option
    `acknowledge` is the bool `true`; otherwise nothing at all happens.  For an attached (non-meta)
    publisher: if its queue is full the ERROR is dropped and the state is exactly `r`; if there is
    room, exactly that message is appended to exactly that queue and everything else (all tables, all
    other queues, tasks, panic flag) is unchanged.  No publication id is drawn, the broker is untouched. -/
theorem C01_publish_invalid_uri (r : Realm) (s : Session) (req : Nat) (opts : Dict) (topic : String)
    (args : List WVal) (kw : Dict) (hv : validUri r.broker.strict "" topic = false) :
    (opts.optFlag OptAcknowledge = true ↔ opts.get? OptAcknowledge = some (.bool true)) ∧
    (opts.optFlag OptAcknowledge = false → handlePublish r s req opts topic args kw = r) ∧
    (opts.optFlag OptAcknowledge = true →
      handlePublish r s req opts topic args kw =
        r.trySend ⟨s.key, .error tPUBLISH req [] ErrInvalidURI [.str "<text>"] []⟩ ∧
      ∀ c, s.key ≠ metaKey → r.client? s.key = some c →
        (c.cap ≤ r.queueLen s.key → handlePublish r s req opts topic args kw = r) ∧
        (r.queueLen s.key < c.cap →
          (handlePublish r s req opts topic args kw).queueOf s.key =
            r.queueOf s.key ++ [.error tPUBLISH req [] ErrInvalidURI [.str "<text>"] []] ∧
          (∀ k, k ≠ s.key → (handlePublish r s req opts topic args kw).queueOf k = r.queueOf k) ∧
          SendFrame r (handlePublish r s req opts topic args kw) ∧
          (handlePublish r s req opts topic args kw).tasks = r.tasks ∧
          (handlePublish r s req opts topic args kw).panic = r.panic)) := by
  have heq := handlePublish_invalid r s req opts topic args kw hv
  refine ⟨optFlag_iff opts OptAcknowledge, ?_, ?_⟩
  · exact fun ha => heq.trans ((deliver_ackList r [] opts _).trans (by rw [ha]; rfl))
  · intro ha
    have heq' : handlePublish r s req opts topic args kw =
        r.trySend ⟨s.key, .error tPUBLISH req [] ErrInvalidURI [.str "<text>"] []⟩ :=
      heq.trans ((deliver_ackList r [] opts _).trans (by rw [ha]; rfl))
    refine ⟨heq', ?_⟩
    intro c hk hc
    rw [heq']
    exact trySend_client_effect r ⟨s.key, _⟩ hk hc

/-- non-vacuity: an invalid topic (empty component) for loose, exact -/
example : validUri false "" "a..b" = false := by decide +kernel

open Realm in
/-- PUBLISH to a valid topic, not refused (payload passthru allowed or unused, disclose_me allowed or
    not requested).  With `p := pubOf r s opts topic args kw` — publisher `s`, publication id
    `pubBase + r.pubCount` — and `(b', evs) := r.broker.syncPublish r.session? r.now p` (so `evs` are
    exactly the EVENTs of `C01_delivery_exact` for `p`, when `BrokerInv r.broker`):
    * the new state is `{ r with pubCount := r.pubCount + 1, broker := b' }` after `deliver` of `evs`
      followed by PUBLISHED(req, p.pubId) to the publisher iff `acknowledge` is the bool true;
    * hence for every attached client `k`: its queue is its old queue offered, in order, the messages
      of that list addressed to `k`, each appended if there is room at that moment and lost otherwise;
      every other queue is untouched;
    * the publication counter grows by one; clients, dealer, closed peers, ghosts, ending, testaments,
      retries, clock and configuration are unchanged; the broker changes only in its history stores. -/
theorem C01_publish_ack (r : Realm) (s : Session) (req : Nat) (opts : Dict) (topic : String)
    (args : List WVal) (kw : Dict) (hv : validUri r.broker.strict "" topic = true)
    (hp : pptRefused s opts = false) (hd : discloseRefused r opts = false) :
    (pubOf r s opts topic args kw).pubId = pubBase + r.pubCount ∧
    handlePublish r s req opts topic args kw =
      ({ r with pubCount := r.pubCount + 1,
                broker := (r.broker.syncPublish r.session? r.now (pubOf r s opts topic args kw)).1 } : Realm).deliver
        ((r.broker.syncPublish r.session? r.now (pubOf r s opts topic args kw)).2 ++
          ackList opts ⟨s.key, .published req (pubBase + r.pubCount)⟩) ∧
    (∀ k c, k ≠ metaKey → r.client? k = some c →
      (handlePublish r s req opts topic args kw).queueOf k =
        accept c.cap (r.queueOf k)
          (msgsTo k ((r.broker.syncPublish r.session? r.now (pubOf r s opts topic args kw)).2 ++
            ackList opts ⟨s.key, .published req (pubBase + r.pubCount)⟩))) ∧
    (∀ k, (k = metaKey ∨ r.client? k = none) →
      (handlePublish r s req opts topic args kw).queueOf k = r.queueOf k) ∧
    (handlePublish r s req opts topic args kw).pubCount = r.pubCount + 1 ∧
    (handlePublish r s req opts topic args kw).broker =
      (r.broker.syncPublish r.session? r.now (pubOf r s opts topic args kw)).1 ∧
    ((handlePublish r s req opts topic args kw).broker.subs = r.broker.subs ∧
     (handlePublish r s req opts topic args kw).broker.index = r.broker.index ∧
     (handlePublish r s req opts topic args kw).broker.nextSub = r.broker.nextSub) ∧
    ((handlePublish r s req opts topic args kw).clients = r.clients ∧
     (handlePublish r s req opts topic args kw).ds = r.ds ∧
     (handlePublish r s req opts topic args kw).closedPeers = r.closedPeers ∧
     (handlePublish r s req opts topic args kw).ghosts = r.ghosts ∧
     (handlePublish r s req opts topic args kw).ending = r.ending ∧
     (handlePublish r s req opts topic args kw).testaments = r.testaments ∧
     (handlePublish r s req opts topic args kw).retries = r.retries ∧
     (handlePublish r s req opts topic args kw).now = r.now ∧
     (handlePublish r s req opts topic args kw).cfg = r.cfg) := by
  have heq := handlePublish_ok r s req opts topic args kw hv hp hd
  obtain ⟨f1, f2, f3, f4, f5, f6, f7, f8, f9, f10, f11⟩ := brokerStep_frame r
    (r.broker.syncPublish r.session? r.now (pubOf r s opts topic args kw)).1 (r.pubCount + 1)
    ((r.broker.syncPublish r.session? r.now (pubOf r s opts topic args kw)).2 ++
      ackList opts ⟨s.key, .published req (pubBase + r.pubCount)⟩)
  refine ⟨rfl, heq, ?_, ?_, by rw [heq, f2], by rw [heq, f1], ?_, ?_⟩
  · intro k c hk hc
    rw [heq]
    exact brokerStep_queue r _ _ _ k c hk hc
  · intro k hk
    rw [heq]
    exact brokerStep_queue_other r _ _ _ k hk
  · rw [heq, f1]
    exact syncPublish_tables _ _ _ _
  · rw [heq]
    exact ⟨f3, f4, f5, f6, f7, f8, f9, f10, f11⟩

/-- non-vacuity of the three hypotheses: a valid topic, no passthru, no disclose_me -/
example : validUri false "" "a.b" = true ∧
    Realm.pptRefused (exSession 1) [("acknowledge", .bool true)] = false ∧
    Realm.discloseRefused {} [("acknowledge", .bool true)] = false := by
  refine ⟨by decide +kernel, by decide +kernel, by decide +kernel⟩

open Realm in
/-- PUBLISH using payload passthru by a publisher that has not announced the feature: ABORT is offered
    to the publisher's queue, the handler schedules its own departure (`leave … aborted`) and marks the
    session as ending; nothing is delivered to anybody else, no publication id is drawn, the broker
    (subscriptions and history) is untouched. -/
theorem C01_publish_ppt_abort (r : Realm) (s : Session) (req : Nat) (opts : Dict) (topic : String)
    (args : List WVal) (kw : Dict) (hv : validUri r.broker.strict "" topic = true)
    (hp : pptRefused s opts = true) :
    handlePublish r s req opts topic args kw =
      { (r.trySend ⟨s.key, abortMsg "<text>"⟩) with
        tasks := (r.trySend ⟨s.key, abortMsg "<text>"⟩).tasks ++ [.leave s.key .aborted],
        ending := (r.trySend ⟨s.key, abortMsg "<text>"⟩).ending ++ [s.key] } ∧
    (∀ k, k ≠ s.key → (handlePublish r s req opts topic args kw).queueOf k = r.queueOf k) ∧
    (handlePublish r s req opts topic args kw).broker = r.broker ∧
    (handlePublish r s req opts topic args kw).pubCount = r.pubCount ∧
    (handlePublish r s req opts topic args kw).clients = r.clients := by
  have heq := handlePublish_ppt r s req opts topic args kw hv hp
  have hf := trySend_frame r ⟨s.key, abortMsg "<text>"⟩
  refine ⟨heq, ?_, ?_, ?_, ?_⟩
  · intro k hk
    rw [heq]
    exact queueOf_trySend_ne r hk
  · rw [heq]; exact hf.broker
  · rw [heq]; exact hf.pubCount
  · rw [heq]; exact hf.clients

open Realm in
/-- SUBSCRIBE at realm level.  Invalid topic for (strict, match option): exactly one
    ERROR(SUBSCRIBE, req, invalid_uri) is offered to the sender's queue and nothing else happens (the
    broker is not reached).  Otherwise, with `(b', sends, n) := r.broker.syncSubscribe s.key req topic m
    r.pubCount`: the new state is `{ r with broker := b', pubCount := r.pubCount + n }` after `deliver
    sends` — i.e. every attached client's queue is offered the broker-level sends addressed to it, in
    order (SUBSCRIBED(req, id) for the subscriber, meta EVENTs for the others: `C01_subscribe_stable_id`). -/
theorem C01_subscribe_realm (r : Realm) (s : Session) (req : Nat) (opts : Dict) (topic : String) :
    (validUri r.broker.strict (opts.optString OptMatch) topic = false →
      handleSubscribe r s req opts topic =
        r.trySend ⟨s.key, .error tSUBSCRIBE req [] ErrInvalidURI [.str "<text>"] []⟩ ∧
      (handleSubscribe r s req opts topic).broker = r.broker ∧
      (∀ k, k ≠ s.key → (handleSubscribe r s req opts topic).queueOf k = r.queueOf k)) ∧
    (validUri r.broker.strict (opts.optString OptMatch) topic = true →
      handleSubscribe r s req opts topic =
        ({ r with pubCount := r.pubCount +
                    (r.broker.syncSubscribe s.key req topic (opts.optString OptMatch) r.pubCount).2.2,
                  broker := (r.broker.syncSubscribe s.key req topic (opts.optString OptMatch) r.pubCount).1 } : Realm).deliver
          (r.broker.syncSubscribe s.key req topic (opts.optString OptMatch) r.pubCount).2.1 ∧
      (∀ k c, k ≠ metaKey → r.client? k = some c →
        (handleSubscribe r s req opts topic).queueOf k =
          accept c.cap (r.queueOf k)
            (msgsTo k (r.broker.syncSubscribe s.key req topic (opts.optString OptMatch) r.pubCount).2.1)) ∧
      (∀ k, (k = metaKey ∨ r.client? k = none) → (handleSubscribe r s req opts topic).queueOf k = r.queueOf k) ∧
      (handleSubscribe r s req opts topic).clients = r.clients) := by
  constructor
  · intro hv
    have heq := handleSubscribe_invalid r s req opts topic hv
    have hf := trySend_frame r ⟨s.key, invalidUriErr tSUBSCRIBE req⟩
    refine ⟨heq, by rw [heq]; exact hf.broker, ?_⟩
    intro k hk
    rw [heq]
    exact queueOf_trySend_ne r hk
  · intro hv
    have heq := handleSubscribe_ok r s req opts topic hv
    refine ⟨heq, ?_, ?_, by rw [heq]; exact (brokerStep_frame r _ _ _).2.2.1⟩
    · intro k c hk hc; rw [heq]; exact brokerStep_queue r _ _ _ k c hk hc
    · intro k hk; rw [heq]; exact brokerStep_queue_other r _ _ _ k hk

open Realm in
/-- UNSUBSCRIBE at realm level: the broker-level sends of `syncUnsubscribe` (UNSUBSCRIBED or ERROR
    no_such_subscription for the sender — `C01_unsubscribe_errors` —, meta EVENTs for the others)
    offered to the queues, on the state with the broker and the publication counter updated. -/
theorem C01_unsubscribe_realm (r : Realm) (s : Session) (req sub : Nat) :
    handleUnsubscribe r s req sub =
      ({ r with pubCount := r.pubCount + (r.broker.syncUnsubscribe s.key req sub r.pubCount).2.2,
                broker := (r.broker.syncUnsubscribe s.key req sub r.pubCount).1 } : Realm).deliver
        (r.broker.syncUnsubscribe s.key req sub r.pubCount).2.1 ∧
    (∀ k c, k ≠ metaKey → r.client? k = some c →
      (handleUnsubscribe r s req sub).queueOf k =
        accept c.cap (r.queueOf k) (msgsTo k (r.broker.syncUnsubscribe s.key req sub r.pubCount).2.1)) ∧
    (∀ k, (k = metaKey ∨ r.client? k = none) → (handleUnsubscribe r s req sub).queueOf k = r.queueOf k) ∧
    (handleUnsubscribe r s req sub).clients = r.clients := by
  have heq := handleUnsubscribe_eq r s req sub
  refine ⟨heq, ?_, ?_, by rw [heq]; exact (brokerStep_frame r _ _ _).2.2.1⟩
  · intro k c hk hc; rw [heq]; exact brokerStep_queue r _ _ _ k c hk hc
  · intro k hk; rw [heq]; exact brokerStep_queue_other r _ _ _ k hk

/-! ### every reachable realm

  `Realm.Reachable cfg r` (Nexus/L2/Proofs/RealmInv.lean): `r` is obtained from `Realm.create cfg` by
  external inputs, each run to quiescence (`Realm.step`).  The theorems below discharge, for such
  `r`, the hypotheses under which the broker-level and handler-level theorems above are stated. -/

open Realm in
/-- In every reachable realm the broker satisfies `BrokerInv` (so `C01_delivery_exact`,
    `C01_subscribe_stable_id`, `C01_unsub_others_untouched` apply to `r.broker`), the session table
    `r.session?` is coherent (so `C01_expected_coherent` applies), and every member of every
    subscription is an attached client — not the meta session — found under its own key, as ONE AND THE
    SAME record, in the client table and in the session table: "the sessions that hold a subscription"
    are all attached sessions of this realm.  (No client is stored under the meta session's key in a
    reachable realm, so `session?` and `client?` agree on every client key:
    `Realm.Reachable.session?_of_client?`.) -/
theorem C01_reachable_realm {cfg : Config} {r : Realm} (h : Realm.Reachable cfg r) :
    BrokerInv r.broker ∧ SessCoherent r.session? ∧
    ∀ s ∈ r.broker.subs, ∀ k ∈ s.members,
      k ≠ metaKey ∧ ∃ c ∈ r.clients, c.key = k ∧ r.client? k = some c ∧ r.session? k = some c := by
  have hi := (Realm.Reachable.inv h).1
  refine ⟨hi.binv, WpA.sessCoherent_of_inv hi.metaKey, fun s hs k hk => ?_⟩
  obtain ⟨c, hc⟩ := isClient_find? (hi.bmem k ⟨s, hs, hk⟩)
  exact ⟨h.client?_ne_meta hc, c, (find?_key hc).1, (find?_key hc).2, hc, h.session?_of_client? hc⟩

open Realm in
/-- the two tables of a reachable realm: on every key but the meta session's `session?` is `client?`; the
    client table has nothing under the meta session's key; client keys are pairwise distinct, so every
    attached client is found under its own key in both tables -/
theorem C01_reachable_tables {cfg : Config} {r : Realm} (h : Realm.Reachable cfg r) :
    (∀ k, k ≠ metaKey → r.session? k = r.client? k) ∧ r.client? metaKey = none ∧
    r.session? metaKey = some r.metaS ∧
    (∀ c ∈ r.clients, c.key ≠ metaKey ∧ r.client? c.key = some c ∧ r.session? c.key = some c) :=
  ⟨fun k => (h.session?_eq k).1, (h.session?_eq metaKey).2.1, (h.session?_eq metaKey).2.2,
   fun c hc => ⟨h.metaSafe.noClient c hc, h.find?_client hc, h.session?_client hc⟩⟩

/-- a concrete reachable realm: history on prefix "a.", session 1 attached and subscribed to "a.b" -/
def exCfg : Config := { history := [("a.", "prefix", 2)] }
def exR0 : Realm := (Realm.create exCfg).getD {}
theorem exR0_create : Realm.create exCfg = some exR0 := by
  have h : (Realm.create exCfg).isSome = true := by decide +kernel
  unfold exR0
  cases hc : Realm.create exCfg with
  | none => rw [hc] at h; cases h
  | some r => rfl
def exR : Realm :=
  ((exR0.step (.join 1 false [("authid", .str "u")] [("subscriber", ["publisher_identification"])] 8)).2.step
    (.msg 1 (.subscribe 1 [] "a.b"))).2
theorem exR_reachable : Realm.Reachable exCfg exR := .step _ (.step _ (.init exR0_create))

/-- what the `example`s below need of the example realm, evaluated once -/
theorem exR_state :
    exR.broker.subs.map (fun s => (s.id, s.topic, s.members)) = [(1, "a.", []), (2, "a.b", [1])] ∧
    (exR.client? 1).isSome = true ∧ exR.ending.contains 1 = false ∧ exR.busy 1 = false ∧
    exR.cfg.authz = none := by
  decide +kernel

example : exR.broker.subs.map (fun s => (s.id, s.topic, s.members)) = [(1, "a.", []), (2, "a.b", [1])] :=
  exR_state.1

open Realm in
/-- The message switch.  A PUBLISH / SUBSCRIBE / UNSUBSCRIBE received from the attached client `k`
    (client record `s`), whose handler is not ending and not busy in the yield retry loop, and which
    the authorizer lets through, IS the call of the handler the realm-level theorems above are about
    (`stepOp` is the first half of `Realm.step`; the rest is the draining of internal tasks). -/
theorem C01_step_publish (r : Realm) (k : SessKey) (s : Session) (req : Nat) (opts : Dict) (topic : String)
    (args : List WVal) (kw : Dict)
    (hc : r.client? k = some s) (he : r.ending.contains k = false) (hb : r.busy k = false)
    (ha : (authzGate r s (.publish req opts topic args kw)).1 = true) :
    r.stepOp (.msg k (.publish req opts topic args kw)) = handlePublish r s req opts topic args kw :=
  WpA.stepOp_msg_dispatch r k s _ hc he hb ha

open Realm in
theorem C01_step_subscribe (r : Realm) (k : SessKey) (s : Session) (req : Nat) (opts : Dict) (topic : String)
    (hc : r.client? k = some s) (he : r.ending.contains k = false) (hb : r.busy k = false)
    (ha : (authzGate r s (.subscribe req opts topic)).1 = true) :
    r.stepOp (.msg k (.subscribe req opts topic)) = handleSubscribe r s req opts topic :=
  WpA.stepOp_msg_dispatch r k s _ hc he hb ha

open Realm in
theorem C01_step_unsubscribe (r : Realm) (k : SessKey) (s : Session) (req sub : Nat)
    (hc : r.client? k = some s) (he : r.ending.contains k = false) (hb : r.busy k = false)
    (ha : (authzGate r s (.unsubscribe req sub)).1 = true) :
    r.stepOp (.msg k (.unsubscribe req sub)) = handleUnsubscribe r s req sub :=
  WpA.stepOp_msg_dispatch r k s _ hc he hb ha

open Realm in
/-- … and a message the authorizer refuses never reaches the broker: the state is `r` after the
    authorizer's (at most one) ERROR reply; broker and publication counter are untouched. -/
theorem C01_step_denied (r : Realm) (k : SessKey) (s : Session) (m : Msg)
    (hc : r.client? k = some s) (he : r.ending.contains k = false) (hb : r.busy k = false)
    (ha : (authzGate r s m).1 = false) :
    r.stepOp (.msg k m) = (authzGate r s m).2 ∧
    (r.stepOp (.msg k m)).broker = r.broker ∧ (r.stepOp (.msg k m)).pubCount = r.pubCount := by
  have h := (stepOp_msg_handled m hc he hb).trans (handleMsg_denied ha)
  have q := WpA.quiet_authzGate r s m
  exact ⟨h, by rw [h]; exact q.broker, by rw [h]; exact q.pubCount⟩

open Realm in
/-- non-vacuity: in the example realm session 1 is attached, not ending, not busy, and (no authorizer
    configured) every message passes the gate -/
example : ∃ s, exR.client? 1 = some s ∧ exR.ending.contains 1 = false ∧ exR.busy 1 = false ∧
    (authzGate exR s (.publish 7 [] "a.b" [] [])).1 = true := by
  obtain ⟨_, h, he, hb, hcfg⟩ := exR_state
  cases hc : exR.client? 1 with
  | none => rw [hc] at h; cases h
  | some s => exact ⟨s, rfl, he, hb, congrArg Prod.fst (authzGate_none hcfg s _)⟩

open Realm in
/-- PUBLISH in a reachable realm, all clauses together.  Let `r` be reachable, `k` an attached
    client (record `s`) whose handler is free, the PUBLISH allowed by the authorizer, the topic valid
    for the realm's strictness, payload passthru and `disclose_me` not refused.  With
    `p := pubOf r s opts topic args kw` (publisher `k`, id `pubBase + r.pubCount`) and
    `evs := (r.broker.syncPublish r.session? r.now p).2`:
    * the input is handled as `C01_publish_ack` says;
    * `Expected` reads: `s'` is a subscription of the realm matching the topic under its policy, `k'` is
      a member, attached as `c`, `k'` is not the publisher `k` unless `exclude_me` is the bool false,
      and `k'` is not ruled out by the options; every member of every subscription IS attached;
    * `evs` are exactly the expected EVENTs, each expected pair exactly once, nothing else;
    * every attached client's queue is its old queue offered, in order, its part of `evs` and (for the
      publisher, iff acknowledged) PUBLISHED with the same publication id. -/
theorem C01_publish_reachable {cfg : Config} {r : Realm} (h : Realm.Reachable cfg r)
    (k : SessKey) (s : Session) (req : Nat) (opts : Dict) (topic : String) (args : List WVal) (kw : Dict)
    (hc : r.client? k = some s) (he : r.ending.contains k = false) (hb : r.busy k = false)
    (ha : (authzGate r s (.publish req opts topic args kw)).1 = true)
    (hv : validUri cfg.strict "" topic = true) (hp : pptRefused s opts = false)
    (hd : (opts.optFlag OptDiscloseMe && !cfg.allowDisclose) = false) :
    r.stepOp (.msg k (.publish req opts topic args kw)) =
      ({ r with pubCount := r.pubCount + 1,
                broker := (r.broker.syncPublish r.session? r.now (pubOf r s opts topic args kw)).1 } : Realm).deliver
        ((r.broker.syncPublish r.session? r.now (pubOf r s opts topic args kw)).2 ++
          ackList opts ⟨k, .published req (pubBase + r.pubCount)⟩) ∧
    (pubOf r s opts topic args kw).publisher = k ∧
    (pubOf r s opts topic args kw).pubId = pubBase + r.pubCount ∧
    ((pubOf r s opts topic args kw).excludePub = false ↔ opts.get? OptExcludeMe = some (.bool false)) ∧
    (∀ s' k' c, Expected r.broker r.session? (pubOf r s opts topic args kw) s' k' c ↔
        s' ∈ r.broker.subs ∧ s'.matchesTopic topic = true ∧ k' ∈ s'.members ∧ r.session? k' = some c ∧
        ¬(k' = k ∧ (pubOf r s opts topic args kw).excludePub = true) ∧ ¬ ruledOut opts (sidOf k') c.details) ∧
    (∀ s' ∈ r.broker.subs, ∀ k' ∈ s'.members, ∃ c, r.session? k' = some c ∧ c.key = k') ∧
    (∀ x ∈ (r.broker.syncPublish r.session? r.now (pubOf r s opts topic args kw)).2,
        ∃ s' k' c, Expected r.broker r.session? (pubOf r s opts topic args kw) s' k' c ∧
          x = ⟨k', expectedEvent (pubOf r s opts topic args kw) s' c⟩) ∧
    (∀ s' k' c, Expected r.broker r.session? (pubOf r s opts topic args kw) s' k' c →
        through (r.broker.syncPublish r.session? r.now (pubOf r s opts topic args kw)).2 k' s'.id =
          [⟨k', expectedEvent (pubOf r s opts topic args kw) s' c⟩]) ∧
    (∀ k' id, (¬ ∃ s' c, s'.id = id ∧ Expected r.broker r.session? (pubOf r s opts topic args kw) s' k' c) →
        through (r.broker.syncPublish r.session? r.now (pubOf r s opts topic args kw)).2 k' id = []) ∧
    (∀ k', (¬ ∃ s' c, Expected r.broker r.session? (pubOf r s opts topic args kw) s' k' c) →
        ∀ x ∈ (r.broker.syncPublish r.session? r.now (pubOf r s opts topic args kw)).2, x.to ≠ k') ∧
    (∀ k' c, r.client? k' = some c →
      (r.stepOp (.msg k (.publish req opts topic args kw))).queueOf k' =
        accept c.cap (r.queueOf k')
          (msgsTo k' ((r.broker.syncPublish r.session? r.now (pubOf r s opts topic args kw)).2 ++
            ackList opts ⟨k, .published req (pubBase + r.pubCount)⟩))) := by
  obtain ⟨hbi, hco, hmem⟩ := C01_reachable_realm h
  obtain ⟨f1, _, f3, _, _, _⟩ := WpA.flags_const h
  have hk : s.key = k := (find?_key hc).2
  subst hk
  have hv' : validUri r.broker.strict "" topic = true := by rw [f3]; exact hv
  have hd' : discloseRefused r opts = false := by unfold discloseRefused; rw [f1]; exact hd
  have hstep := C01_step_publish r s.key s req opts topic args kw hc he hb ha
  obtain ⟨a1, a2, a3, _⟩ := C01_publish_ack r s req opts topic args kw hv' hp hd'
  obtain ⟨d1, d2, d3, d4⟩ := C01_delivery_exact hbi r.session? r.now (pubOf r s opts topic args kw)
  refine ⟨hstep.trans a2, rfl, rfl, (WpA.C01_pubOf_base r s opts topic args kw).2,
    C01_expected_coherent hco _, ?_, d1, d2, d3, d4, ?_⟩
  · intro s' hs' k' hk'
    obtain ⟨_, c, _, hck, _, hcs⟩ := hmem s' hs' k' hk'
    exact ⟨c, hcs, hck⟩
  · intro k' c hc'
    rw [hstep]
    exact a3 k' c (h.client?_ne_meta hc') hc'

open Realm in
/-- non-vacuity of the remaining hypotheses for the example realm -/
example : validUri exCfg.strict "" "a.b" = true ∧
    (Dict.optFlag ([] : Dict) OptDiscloseMe && !exCfg.allowDisclose) = false ∧
    ∀ s, pptRefused s [] = false := by
  refine ⟨by decide +kernel, by decide +kernel, fun s => ?_⟩
  unfold pptRefused
  have : (pptScheme [] != "") = false := by decide +kernel
  rw [this]; rfl

/-- History-level stability of subscription ids.  From any broker state satisfying the invariant,
    after ANY sequence of steps: every subscription is either an old one (same id, same topic, same
    policy) or carries an id greater than every id handed out before (`nextSub`). -/
theorem C01_id_never_reused {b : Broker} (hb : BrokerInv b) (steps : List BStep) :
    ∀ s' ∈ (b.run steps).subs,
      (∃ s ∈ b.subs, s'.id = s.id ∧ s'.topic = s.topic ∧ s'.«match» = s.«match») ∨ b.nextSub < s'.id := by
  induction steps generalizing b with
  | nil => intro s' hs'; exact Or.inl ⟨s', hs', rfl, rfl, rfl⟩
  | cons e rest ih =>
    intro s' hs'
    rw [WpA.bk_run_cons] at hs'
    rcases ih (hb.step e) s' hs' with ⟨s1, hs1, e1, e2, e3⟩ | hlt
    · rcases step_subs_origin hb e s1 hs1 with ⟨s, hs, f1, f2, f3⟩ | hlt
      · exact Or.inl ⟨s, hs, e1.trans f1, e2.trans f2, e3.trans f3⟩
      · exact Or.inr (by rw [e1]; exact hlt)
    · exact Or.inr (Nat.lt_of_le_of_lt (step_frame hb e).1 hlt)

/-- … hence the id generator never goes back and, as long as an id denotes a subscription, it denotes
    the same (topic, policy). -/
theorem C01_id_stable {b : Broker} (hb : BrokerInv b) (steps : List BStep) :
    b.nextSub ≤ (b.run steps).nextSub ∧
    ∀ s ∈ b.subs, ∀ s' ∈ (b.run steps).subs, s'.id = s.id →
      s'.topic = s.topic ∧ s'.«match» = s.«match» := by
  refine ⟨WpA.bk_run_nextSub_mono steps hb, ?_⟩
  intro s hs s' hs' hid
  rcases C01_id_never_reused hb steps s' hs' with ⟨s0, hs0, e1, e2, e3⟩ | hlt
  · have : s0 = s := eq_of_id_eq hb.ids_nodup hs0 hs (e1.symm.trans hid)
    subst this
    exact ⟨e2, e3⟩
  · have := (hb.ids_pos s hs).2
    omega

/-- … between any two moments of a history -/
theorem C01_id_stable_between {b : Broker} (hb : BrokerInv b) (steps1 steps2 : List BStep) :
    ∀ s ∈ (b.run steps1).subs, ∀ s' ∈ (b.run (steps1 ++ steps2)).subs, s'.id = s.id →
      s'.topic = s.topic ∧ s'.«match» = s.«match» := by
  rw [WpA.bk_run_append]
  exact (C01_id_stable (hb.run steps1) steps2).2

/-- … and once its subscription has been deleted an id is never handed out again. -/
theorem C01_id_not_reused_after_delete {b : Broker} (hb : BrokerInv b) (steps1 steps2 steps3 : List BStep)
    {s : Sub} (hs : s ∈ (b.run steps1).subs)
    (hgone : ∀ s2 ∈ (b.run (steps1 ++ steps2)).subs, s2.id ≠ s.id) :
    ∀ s3 ∈ (b.run (steps1 ++ steps2 ++ steps3)).subs, s3.id ≠ s.id := by
  intro s3 hs3 hid
  have hb1 := hb.run steps1
  have hb2 := hb.run (steps1 ++ steps2)
  rw [WpA.bk_run_append b (steps1 ++ steps2) steps3] at hs3
  rcases C01_id_never_reused hb2 steps3 s3 hs3 with ⟨s2, hs2, e1, _, _⟩ | hlt
  · exact hgone s2 hs2 (e1.symm.trans hid)
  · have h1 := (hb1.ids_pos s hs).2
    have h2 : (b.run steps1).nextSub ≤ (b.run (steps1 ++ steps2)).nextSub := by
      rw [WpA.bk_run_append]; exact WpA.bk_run_nextSub_mono steps2 hb1
    omega

/-- non-vacuity (see Nexus/L2/Proofs/PublicationOf.lean for the evaluated history): subscribe "t" → id 1,
    unsubscribe → deleted, subscribe "t" again → id 2 -/
example : ∃ s ∈ (({} : Broker).run WpA.exSteps1).subs, s.id = 1 ∧
    ∀ s2 ∈ (({} : Broker).run (WpA.exSteps1 ++ WpA.exSteps2)).subs, s2.id ≠ s.id :=
  WpA.exSteps_deleted

/-- The same for realms: one external input (run to quiescence) takes a reachable realm's broker
    through some broker steps, so every subscription after it is an old one with the same id, topic
    and policy, or has a fresh id; by induction along `Realm.Reachable` this covers whole realm
    histories. -/
theorem C01_id_stable_realm {cfg : Config} {r : Realm} (h : Realm.Reachable cfg r) (op : Realm.Op) :
    (∀ s' ∈ (r.step op).2.broker.subs,
      (∃ s ∈ r.broker.subs, s'.id = s.id ∧ s'.topic = s.topic ∧ s'.«match» = s.«match») ∨
        r.broker.nextSub < s'.id) ∧
    r.broker.nextSub ≤ (r.step op).2.broker.nextSub := by
  obtain ⟨steps, hb, _⟩ := (WpA.evo_step h.inv.1.dinv op).run
  have hbi := (C01_reachable_realm h).1
  rw [hb]
  exact ⟨C01_id_never_reused hbi steps, (C01_id_stable hbi steps).1⟩

open Realm in
/-- `pubOf` — the publication `handlePublish` hands to the broker (`C01_publish_ack`) — carries
    payload-passthru details WITHOUT `topic` and without publisher keys (so the side condition of
    `C01_event_topic` holds for it, not just for a look-alike expression), and excludes the publisher
    unless `exclude_me` is the bool false.  (Restates `WpA.C01_pubOf_base` of Nexus/L2/Proofs/PublicationOf.lean,
    which `C01_pubOf_fields` there and `C01_publish_reachable` above use.) -/
theorem C01_pubOf_base (r : Realm) (s : Session) (opts : Dict) (topic : String) (args : List WVal) (kw : Dict) :
    (∀ key, key = "topic" ∨ isPublisherKey key →
        (pubOf r s opts topic args kw).baseDetails.get? key = none) ∧
    ((pubOf r s opts topic args kw).excludePub = false ↔ opts.get? OptExcludeMe = some (.bool false)) :=
  WpA.C01_pubOf_base r s opts topic args kw

/-- hence, for the publication actually handed over: EVENT details carry `topic = the published topic`
    exactly for pattern-based subscriptions -/
theorem C01_event_topic_realm (r : Realm) (s : Session) (opts : Dict) (topic : String) (args : List WVal) (kw : Dict)
    (sub : Sub) (c : Session) :
    ((eventDetails (Realm.pubOf r s opts topic args kw) sub.isPattern (some c)).get? "topic" = some (.str topic) ↔
        sub.isPattern = true) ∧
    (sub.isPattern = false →
      (eventDetails (Realm.pubOf r s opts topic args kw) sub.isPattern (some c)).get? "topic" = none) :=
  C01_event_topic (Realm.pubOf r s opts topic args kw) sub c ((C01_pubOf_base r s opts topic args kw).1 "topic" (Or.inl rfl))

end Nexus.C01
