/-
L3 (i): wait-for graphs.

An edge `(a, b)` says: actor `a` can be blocked until actor `b` acts. If some rank strictly
decreases along every edge then no actor waits, directly or indirectly, for itself
(`no_wait_cycle`), and — the form that excludes deadlock — every non-empty set of actors has a
member none of whose wait targets lies in the set (`no_deadlocked_set`): the actors of a set
can never all be waiting for each other. `checkRanks` is the decidable table check.
-/
namespace Nexus.L3.Graph

variable {α : Type}

inductive Path (t : List (α × α)) : α → α → Prop
  | single {a b : α} : (a, b) ∈ t → Path t a b
  | cons {a b c : α} : (a, b) ∈ t → Path t b c → Path t a c

def Acyclic (t : List (α × α)) : Prop := ∀ a, ¬ Path t a a

def Descends (t : List (α × α)) (rank : α → Nat) : Prop := ∀ e ∈ t, rank e.2 < rank e.1

theorem path_rank_lt {t : List (α × α)} {rank : α → Nat} (h : Descends t rank) {a b : α}
    (p : Path t a b) : rank b < rank a := by
  induction p with
  | single e => exact h _ e
  | cons e _ ih => exact Nat.lt_trans ih (h _ e)

theorem no_wait_cycle (t : List (α × α)) (rank : α → Nat) (h : Descends t rank) : Acyclic t := by
  intro a p
  exact Nat.lt_irrefl _ (path_rank_lt h p)

def checkRanks (t : List (α × α)) (rank : α → Nat) : Bool :=
  t.all fun e => decide (rank e.2 < rank e.1)

theorem checkRanks_descends {t : List (α × α)} {rank : α → Nat} (h : checkRanks t rank = true) :
    Descends t rank := by
  intro e he
  have := List.all_eq_true.mp h e he
  exact of_decide_eq_true this

theorem exists_min (rank : α → Nat) : ∀ (s : List α), s ≠ [] →
    ∃ a ∈ s, ∀ b ∈ s, rank a ≤ rank b
  | [], h => absurd rfl h
  | [x], _ => ⟨x, List.mem_singleton.mpr rfl, fun b hb => by
      rw [List.mem_singleton.mp hb]; exact Nat.le_refl _⟩
  | x :: y :: r, _ => by
    obtain ⟨m, hm, hmin⟩ := exists_min rank (y :: r) (List.cons_ne_nil _ _)
    by_cases hx : rank x ≤ rank m
    · refine ⟨x, List.mem_cons_self, fun b hb => ?_⟩
      rcases List.mem_cons.mp hb with rfl | hb
      · exact Nat.le_refl _
      · exact Nat.le_trans hx (hmin b hb)
    · refine ⟨m, List.mem_cons_of_mem _ hm, fun b hb => ?_⟩
      rcases List.mem_cons.mp hb with rfl | hb
      · exact Nat.le_of_lt (Nat.lt_of_not_le hx)
      · exact hmin b hb

theorem no_deadlocked_set (t : List (α × α)) (rank : α → Nat) (h : Descends t rank)
    (s : List α) (hs : s ≠ []) : ∃ a ∈ s, ∀ b, (a, b) ∈ t → b ∉ s := by
  obtain ⟨a, ha, hmin⟩ := exists_min rank s hs
  refine ⟨a, ha, fun b hab hb => ?_⟩
  have h1 : rank b < rank a := h _ hab
  have h2 : rank a ≤ rank b := hmin b hb
  exact Nat.lt_irrefl _ (Nat.lt_of_lt_of_le h1 h2)

/-- Conversely a cycle defeats every rank: the check is not vacuous. -/
theorem cycle_no_rank {t : List (α × α)} {a : α} (p : Path t a a) (rank : α → Nat) :
    ¬ Descends t rank := fun h => Nat.lt_irrefl _ (path_rank_lt h p)

end Nexus.L3.Graph
