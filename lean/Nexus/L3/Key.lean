/-
Keys of the generated site tables (Nexus/Gen/Sites.lean).

Every textual attribute of a site (function, normalised expression, channel) is carried as the
64-bit FNV-1a hash of its UTF-8 text: the kernel decides `Nat` equality quickly and `String`
equality far too slowly for `decide` over a few hundred sites. `key! "text"` is the same hash,
computed when the file is elaborated, so hand-written expectations stay readable and cannot
drift from the text they name. `/verif/gen/sites.go` uses the same function and fails on a
collision among the keys it emits.
-/
import Lean

namespace Nexus.L3

def fnv1a (s : String) : Nat :=
  s.toUTF8.foldl (fun a c => ((a ^^^ c.toNat) * 1099511628211) % 18446744073709551616)
    14695981039346656037

macro "key! " s:str : term =>
  pure (Lean.Syntax.mkNumLit (toString (fnv1a s.getString)))

/-- Membership test on `Nat` lists written with `Nat.beq` so that it evaluates fast. -/
def memN (k : Nat) : List Nat → Bool
  | [] => false
  | x :: xs => Nat.beq k x || memN k xs

theorem memN_iff {k : Nat} {l : List Nat} : memN k l = true ↔ k ∈ l := by
  induction l with
  | nil => simp [memN]
  | cons x xs ih =>
    simp only [memN, Bool.or_eq_true, ih, List.mem_cons]
    constructor
    · rintro (h | h)
      · exact Or.inl (Nat.eq_of_beq_eq_true h)
      · exact Or.inr h
    · rintro (h | h)
      · exact Or.inl (by subst h; exact Nat.beq_refl k)
      · exact Or.inr h

end Nexus.L3
