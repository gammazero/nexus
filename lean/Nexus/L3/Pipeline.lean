/-
L3 (iii′): the pipeline  session handlers → one worker → per-recipient lossy FIFOs.

The L2 model proves in which order the broker and the dealer *produce* messages, as atomic actions in
the order they take them. Props/C08 has the table facts (one submitter per session, one worker per
table, one emitting role per ordered message kind) and a single-queue FIFO theorem. This file is the
reduction of a concurrent execution to "a sequence of atomic actions, and the client receives a
subsequence of their outputs", as a theorem about a small transition system.

  * Every session `s` has a program `progs s : List Req`, the requests it submits to *this* worker, in
    the order its handler goroutine reads them.
  * `handoff s`: the handler hands its next request to the worker. The hand-off is a rendezvous
    (a plain send on an unbuffered channel whose only reader is the worker's loop): it happens only
    when the worker is idle, the worker appends the request to its `log` and computes, atomically on
    its own state `σ`, the messages the action emits (`act : σ → Sess → Req → σ × List (Rcpt × Msg)` —
    for the broker and the dealer this is the L2 step function).
  * `emit`: the worker offers the next of those messages to its recipient's queue with a
    non-blocking send (`Fifo.step … (.offer m)`: dropped when the queue is full).
  * `take k`: recipient `k` takes a message from its queue.
  * `other k m`: some *other* goroutine (another worker, a session handler) offers `m` to `k`'s queue.

A schedule is any list of these events, in any order; an event that is not enabled does nothing.
For every schedule:

  * `worker_order_is_program_order`: the worker's log restricted to a session, followed by what the
    session has not submitted yet, is that session's program — the worker takes each session's
    requests in program order, whatever the other sessions do;
  * `delivered_sublist_of_emissions`: if the other goroutines offer no message of the kinds `p`
    (the table fact `C08.emitters`: each ordered kind has one emitting role), then for every recipient
    the delivered messages of kind `p` are a subsequence, in order, of the messages of kind `p` that
    the worker's actions emit for that recipient in log order — i.e. of the L2 output stream;
  * `delivered_pair_in_action_order`: two delivered messages of kind `p` were emitted in that order.
-/
import Nexus.L3.Fifo

namespace Nexus.L3.WpL3.Pipeline

inductive Ev (Sess Rcpt Msg : Type)
  | handoff (s : Sess)
  | emit
  | take (k : Rcpt)
  | other (k : Rcpt) (m : Msg)

structure Sys (σ Sess Req Rcpt Msg : Type) where
  progs : Sess → List Req
  act : σ → Sess → Req → σ × List (Rcpt × Msg)
  init : σ
  cap : Rcpt → Nat

structure St (σ Sess Req Rcpt Msg : Type) where
  /-- what each session has not handed over yet -/
  rest : Sess → List Req
  /-- the actions the worker has taken, in the order it took them -/
  log : List (Sess × Req)
  wstate : σ
  /-- messages of the current action not yet offered -/
  pending : List (Rcpt × Msg)
  /-- messages the worker has offered so far -/
  offered : List (Rcpt × Msg)
  /-- messages offered by other goroutines so far -/
  foreign : List (Rcpt × Msg)
  fifo : Rcpt → Fifo.St Msg

variable {σ Sess Req Rcpt Msg : Type} [DecidableEq Sess] [DecidableEq Rcpt]

def start (S : Sys σ Sess Req Rcpt Msg) : St σ Sess Req Rcpt Msg :=
  { rest := S.progs, log := [], wstate := S.init, pending := [], offered := [], foreign := [],
    fifo := fun _ => Fifo.empty }

def setFifo (f : Rcpt → Fifo.St Msg) (k : Rcpt) (v : Fifo.St Msg) : Rcpt → Fifo.St Msg :=
  fun x => if x = k then v else f x

def step (S : Sys σ Sess Req Rcpt Msg) (st : St σ Sess Req Rcpt Msg) :
    Ev Sess Rcpt Msg → St σ Sess Req Rcpt Msg
  | .handoff s =>
    match st.pending, st.rest s with
    | [], r :: rs =>
      let o := S.act st.wstate s r
      { st with rest := fun x => if x = s then rs else st.rest x,
                log := st.log ++ [(s, r)], wstate := o.1, pending := o.2 }
    | _, _ => st
  | .emit =>
    match st.pending with
    | [] => st
    | (k, m) :: ps =>
      { st with pending := ps, offered := st.offered ++ [(k, m)],
                fifo := setFifo st.fifo k (Fifo.step (S.cap k) (st.fifo k) (.offer m)) }
  | .take k => { st with fifo := setFifo st.fifo k (Fifo.step (S.cap k) (st.fifo k) .take) }
  | .other k m =>
    { st with foreign := st.foreign ++ [(k, m)],
              fifo := setFifo st.fifo k (Fifo.step (S.cap k) (st.fifo k) (.offer m)) }

def run (S : Sys σ Sess Req Rcpt Msg) (st : St σ Sess Req Rcpt Msg) (evs : List (Ev Sess Rcpt Msg)) :
    St σ Sess Req Rcpt Msg := evs.foldl (step S) st

def runLog (S : Sys σ Sess Req Rcpt Msg) : σ → List (Sess × Req) → σ × List (Rcpt × Msg)
  | w, [] => (w, [])
  | w, (s, r) :: l =>
    let o := S.act w s r
    let o2 := runLog S o.1 l
    (o2.1, o.2 ++ o2.2)

def emissionsFor (S : Sys σ Sess Req Rcpt Msg) (log : List (Sess × Req)) (k : Rcpt) : List Msg :=
  ((runLog S S.init log).2.filter fun p => decide (p.1 = k)).map (·.2)

def toRcpt (l : List (Rcpt × Msg)) (k : Rcpt) : List Msg :=
  (l.filter fun p => decide (p.1 = k)).map (·.2)

theorem toRcpt_append (a b : List (Rcpt × Msg)) (k : Rcpt) :
    toRcpt (a ++ b) k = toRcpt a k ++ toRcpt b k := by
  simp [toRcpt, List.filter_append]

omit [DecidableEq Sess] [DecidableEq Rcpt] in
theorem runLog_append (S : Sys σ Sess Req Rcpt Msg) (w : σ) (l : List (Sess × Req)) (s : Sess) (r : Req) :
    runLog S w (l ++ [(s, r)]) =
      ((S.act (runLog S w l).1 s r).1, (runLog S w l).2 ++ (S.act (runLog S w l).1 s r).2) := by
  induction l generalizing w with
  | nil => simp [runLog]
  | cons x l ih =>
    obtain ⟨s', r'⟩ := x
    simp only [List.cons_append, runLog, ih, List.append_assoc]

structure Inv (S : Sys σ Sess Req Rcpt Msg) (p : Msg → Bool) (st : St σ Sess Req Rcpt Msg) : Prop where
  order : ∀ s, ((st.log.filter fun a => decide (a.1 = s)).map (·.2)) ++ st.rest s = S.progs s
  out : runLog S S.init st.log = (st.wstate, st.offered ++ st.pending)
  fifo : ∀ k, (((st.fifo k).delivered ++ (st.fifo k).queue).filter p).Sublist ((toRcpt st.offered k).filter p)
  bound : ∀ k, (st.fifo k).queue.length ≤ S.cap k

theorem inv_start (S : Sys σ Sess Req Rcpt Msg) (p : Msg → Bool) : Inv S p (start S) where
  order := by intro s; simp [start]
  out := by simp [start, runLog]
  fifo := by intro k; simp [start, Fifo.empty, toRcpt]
  bound := fun _ => Nat.zero_le _

/-- What holds of every recipient's queue holds after `setFifo` if it holds of the queue put in. -/
theorem setFifo_all {P : Rcpt → Fifo.St Msg → Prop} {f : Rcpt → Fifo.St Msg} (h : ∀ x, P x (f x)) {k : Rcpt}
    {q : Fifo.St Msg} (hq : P k q) (x : Rcpt) : P x (setFifo f k q x) := by
  unfold setFifo
  split
  · next e => exact e ▸ hq
  · exact h x

theorem fifo_step (p : Msg → Bool) {f : Rcpt → Fifo.St Msg} {off off' : List (Rcpt × Msg)}
    (h : ∀ x, (((f x).delivered ++ (f x).queue).filter p).Sublist ((toRcpt off x).filter p))
    (hmono : ∀ x, ((toRcpt off x).filter p).Sublist ((toRcpt off' x).filter p))
    (k : Rcpt) {q : Fifo.St Msg}
    (hq : ((q.delivered ++ q.queue).filter p).Sublist ((toRcpt off' k).filter p)) (x : Rcpt) :
    (((setFifo f k q x).delivered ++ (setFifo f k q x).queue).filter p).Sublist
      ((toRcpt off' x).filter p) :=
  setFifo_all (P := fun x q => ((q.delivered ++ q.queue).filter p).Sublist ((toRcpt off' x).filter p))
    (fun x => (h x).trans (hmono x)) hq x

theorem inv_step (S : Sys σ Sess Req Rcpt Msg) (p : Msg → Bool) {st : St σ Sess Req Rcpt Msg}
    (hi : Inv S p st) (e : Ev Sess Rcpt Msg)
    (hother : ∀ k m, e = .other k m → p m = false) : Inv S p (step S st e) := by
  have hb : ∀ k ev x, (setFifo st.fifo k (Fifo.step (S.cap k) (st.fifo k) ev) x).queue.length ≤ S.cap x := fun k ev =>
    setFifo_all (P := fun x q => q.queue.length ≤ S.cap x) hi.bound (Fifo.step_queue_le _ _ (hi.bound k) ev)
  cases e with
  | handoff s =>
    simp only [step]
    split
    · rename_i r rs hpend hrest
      refine ⟨?_, ?_, hi.fifo, hi.bound⟩
      · intro x
        rw [← hi.order x]
        by_cases hx : x = s
        · subst hx
          simp [List.filter_append, hrest]
        · have hne : ¬ (s = x) := fun h => hx h.symm
          simp [List.filter_append, hx, hne]
      · have ho := hi.out
        rw [hpend, List.append_nil] at ho
        rw [runLog_append, ho]
    · exact hi
  | emit =>
    simp only [step]
    split
    · exact hi
    · rename_i k m ps hpend
      have hmono : ∀ x, ((toRcpt st.offered x).filter p).Sublist
          ((toRcpt (st.offered ++ [(k, m)]) x).filter p) := fun x => by
        rw [toRcpt_append, List.filter_append]
        exact List.sublist_append_left _ _
      refine ⟨hi.order, ?_, fifo_step p hi.fifo hmono k ?_, hb k _⟩
      · have := hi.out
        rw [hpend] at this
        simpa [List.append_assoc] using this
      · rcases Fifo.offer_shape (S.cap k) (st.fifo k) m with h | h <;> rw [h]
        · exact (hi.fifo k).trans (hmono k)
        · have hk : toRcpt [(k, m)] k = [m] := by simp [toRcpt]
          simpa [toRcpt_append, hk, List.filter_append, List.append_assoc] using
            (hi.fifo k).append (.refl ([m].filter p))
  | take k =>
    refine ⟨hi.order, hi.out, fifo_step p hi.fifo (fun _ => .refl _) k ?_, hb k _⟩
    rw [Fifo.take_shape]
    exact hi.fifo k
  | other k m =>
    refine ⟨hi.order, hi.out, fifo_step p hi.fifo (fun _ => .refl _) k ?_, hb k _⟩
    rcases Fifo.offer_shape (S.cap k) (st.fifo k) m with h | h <;> rw [h]
    · exact hi.fifo k
    · have hm : [m].filter p = [] := by simp [hother k m rfl]
      rw [List.filter_append, hm, List.append_nil]
      exact hi.fifo k

def Foreign (p : Msg → Bool) (evs : List (Ev Sess Rcpt Msg)) : Prop :=
  ∀ e ∈ evs, ∀ k m, e = .other k m → p m = false

theorem inv_run (S : Sys σ Sess Req Rcpt Msg) (p : Msg → Bool) :
    ∀ (evs : List (Ev Sess Rcpt Msg)) (st : St σ Sess Req Rcpt Msg), Inv S p st → Foreign p evs →
      Inv S p (run S st evs)
  | [], _, hi, _ => hi
  | e :: r, st, hi, hf => by
    have h1 := inv_step S p hi e (hf e List.mem_cons_self)
    exact inv_run S p r _ h1 (fun e' he' => hf e' (List.mem_cons_of_mem _ he'))

theorem worker_order_is_program_order (S : Sys σ Sess Req Rcpt Msg) (evs : List (Ev Sess Rcpt Msg))
    (s : Sess) :
    (((run S (start S) evs).log.filter fun a => decide (a.1 = s)).map (·.2)) ++ (run S (start S) evs).rest s
      = S.progs s :=
  (inv_run S (fun _ => false) evs _ (inv_start S _) (fun _ _ _ _ _ => rfl)).order s

theorem worker_order_prefix (S : Sys σ Sess Req Rcpt Msg) (evs : List (Ev Sess Rcpt Msg)) (s : Sess) :
    (((run S (start S) evs).log.filter fun a => decide (a.1 = s)).map (·.2)) <+: S.progs s :=
  ⟨_, worker_order_is_program_order S evs s⟩

theorem delivered_sublist_of_emissions (S : Sys σ Sess Req Rcpt Msg) (p : Msg → Bool)
    (evs : List (Ev Sess Rcpt Msg)) (hf : Foreign p evs) (k : Rcpt) :
    (((run S (start S) evs).fifo k).delivered.filter p).Sublist
      ((emissionsFor S (run S (start S) evs).log k).filter p) := by
  have hi := inv_run S p evs _ (inv_start S p) hf
  refine ((List.sublist_append_left _ _).filter p).trans ((hi.fifo k).trans ?_)
  unfold emissionsFor
  rw [hi.out]
  exact (((List.sublist_append_left _ _).filter _).map _).filter p

/-- Without foreign offers: everything delivered, in order. -/
theorem delivered_sublist_all (S : Sys σ Sess Req Rcpt Msg) (evs : List (Ev Sess Rcpt Msg))
    (hno : ∀ e ∈ evs, ∀ k m, e ≠ .other k m) (k : Rcpt) :
    ((run S (start S) evs).fifo k).delivered.Sublist (emissionsFor S (run S (start S) evs).log k) := by
  have := delivered_sublist_of_emissions S (fun _ => true) evs
    (fun e he k m h => absurd h (hno e he k m)) k
  rwa [List.filter_eq_self.mpr fun _ _ => rfl, List.filter_eq_self.mpr fun _ _ => rfl] at this

/-- If `x` is delivered before `y` (both of kind `p`) then the worker emitted `x` before `y`: an
    earlier action, or earlier within the same action (SUBSCRIBED before the first EVENT, progressive
    results before the final one, INVOCATIONs in call order …). -/
theorem delivered_pair_in_action_order (S : Sys σ Sess Req Rcpt Msg) (p : Msg → Bool)
    (evs : List (Ev Sess Rcpt Msg)) (hf : Foreign p evs) (k : Rcpt) {a b c : List Msg} {x y : Msg}
    (e : ((run S (start S) evs).fifo k).delivered.filter p = a ++ x :: b ++ y :: c) :
    [x, y].Sublist ((emissionsFor S (run S (start S) evs).log k).filter p) :=
  Fifo.sublist_pair (delivered_sublist_of_emissions S p evs hf k) e

/-- The queue bound survives the composition. -/
theorem queue_bounded (S : Sys σ Sess Req Rcpt Msg) (evs : List (Ev Sess Rcpt Msg)) (k : Rcpt) :
    ((run S (start S) evs).fifo k).queue.length ≤ S.cap k :=
  (inv_run S (fun _ => false) evs _ (inv_start S _) (fun _ _ _ _ _ => rfl)).bound k

end Nexus.L3.WpL3.Pipeline
