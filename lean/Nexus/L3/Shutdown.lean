/-
L3 (ii): the shutdown protocol as a transition system, and `no_post_after_close`.

One *closer* runs a straight-line program (`prog`, regenerated from the statement order of
`realm.close` by gen target `sites`, table (g)): set a flag, wait until no actor of a role is
alive, close a channel. Around it live *actors*, grouped in roles. At any moment an actor may
post to a channel its role posts to (`posts`, derived from table (c)), may exit, and new actors
may appear according to the role's spawn rule: never (`initial`: the realm's fixed goroutines),
from outside while a flag is unset (`env`: a session handler is registered under the close lock
only while `realm.closed` is false), or by a live actor of a parent role (`child`). An actor of a
role with `exitNeeds r = some q` exits only when no `q` is alive (the meta-procedure handler
leaves when the meta session's handler has said GOODBYE, which is the last thing that one does).

A post to a closed channel is a panic in Go (or, for the meta peer's unbuffered channel whose
reader has left, a goroutine blocked for ever). `no_post_after_close`: in every reachable
configuration, a role that is *quiesced* for a channel — waited for before the channel's close
statement at a point after which it cannot be respawned — has no live actor once the channel is
closed. `quiesced` is decidable; the instantiation evaluates it on the regenerated tables.

`exec`/`reach_of_exec` give concrete runs, used to exhibit the configurations in which a role
that is *not* quiesced does post to a closed channel.
-/
namespace Nexus.L3.Shutdown

inductive Instr (Role Chan Flag : Type)
  | setFlag (f : Flag)
  | await (r : Role)
  | closeChan (c : Chan)
  | skip
  deriving DecidableEq, Repr

inductive SpawnRule (Role Flag : Type)
  | initial
  | env (gate : Option Flag)
  | child (parent : Role)
  deriving DecidableEq, Repr

structure Sys (Role Chan Flag : Type) where
  prog : List (Instr Role Chan Flag)
  posts : Role → Chan → Bool
  rule : Role → SpawnRule Role Flag
  exitNeeds : Role → Option Role

structure Cfg (Role Chan Flag : Type) where
  pc : Nat
  alive : Role → Nat
  flag : Flag → Bool
  closed : Chan → Bool

variable {Role Chan Flag : Type} [DecidableEq Role] [DecidableEq Chan] [DecidableEq Flag]

def upd {α β : Type} [DecidableEq α] (f : α → β) (a : α) (b : β) : α → β :=
  fun x => if x = a then b else f x

@[simp] theorem upd_same {α β : Type} [DecidableEq α] (f : α → β) (a : α) (b : β) :
    upd f a b a = b := by simp [upd]

theorem upd_other {α β : Type} [DecidableEq α] (f : α → β) {a x : α} (b : β) (h : x ≠ a) :
    upd f a b x = f x := by simp [upd, h]

inductive Step (S : Sys Role Chan Flag) : Cfg Role Chan Flag → Cfg Role Chan Flag → Prop
  | setFlag {c : Cfg Role Chan Flag} {f : Flag} :
      S.prog[c.pc]? = some (.setFlag f) →
      Step S c { c with pc := c.pc + 1, flag := upd c.flag f true }
  | await {c : Cfg Role Chan Flag} {r : Role} :
      S.prog[c.pc]? = some (.await r) → c.alive r = 0 →
      Step S c { c with pc := c.pc + 1 }
  | closeChan {c : Cfg Role Chan Flag} {ch : Chan} :
      S.prog[c.pc]? = some (.closeChan ch) →
      Step S c { c with pc := c.pc + 1, closed := upd c.closed ch true }
  | skip {c : Cfg Role Chan Flag} :
      S.prog[c.pc]? = some .skip →
      Step S c { c with pc := c.pc + 1 }
  | exit {c : Cfg Role Chan Flag} (r : Role) :
      0 < c.alive r → (∀ q, S.exitNeeds r = some q → c.alive q = 0) →
      Step S c { c with alive := upd c.alive r (c.alive r - 1) }
  | spawnEnv {c : Cfg Role Chan Flag} (r : Role) (g : Option Flag) :
      S.rule r = .env g → (∀ f, g = some f → c.flag f = false) →
      Step S c { c with alive := upd c.alive r (c.alive r + 1) }
  | spawnChild {c : Cfg Role Chan Flag} (r p : Role) :
      S.rule r = .child p → 0 < c.alive p →
      Step S c { c with alive := upd c.alive r (c.alive r + 1) }
  | post {c : Cfg Role Chan Flag} (r : Role) (ch : Chan) :
      0 < c.alive r → S.posts r ch = true → Step S c c

/-- Start: the closer has not begun, nothing is closed, no flag is set; any population of actors
    that respects the exit dependencies. -/
structure Init (S : Sys Role Chan Flag) (c : Cfg Role Chan Flag) : Prop where
  pc : c.pc = 0
  flag : ∀ f, c.flag f = false
  closed : ∀ ch, c.closed ch = false
  dep : ∀ r q, S.exitNeeds r = some q → c.alive r = 0 → c.alive q = 0

inductive Reach (S : Sys Role Chan Flag) : Cfg Role Chan Flag → Prop
  | init {c : Cfg Role Chan Flag} : Init S c → Reach S c
  | step {c c' : Cfg Role Chan Flag} : Reach S c → Step S c c' → Reach S c'

/-- `stable S n j r`: once the closer is past instruction `j`, no actor of role `r` can appear
    (`n` bounds the length of the parent chain that is followed). -/
def stable (S : Sys Role Chan Flag) : Nat → Nat → Role → Bool
  | 0, _, _ => false
  | n + 1, j, r =>
    match S.rule r with
    | .initial => true
    | .env none => false
    | .env (some f) => (List.range j).any fun k => decide (S.prog[k]? = some (.setFlag f))
    | .child p => (List.range j).any fun k =>
        decide (S.prog[k]? = some (.await p)) && stable S n k p

def awaitedBefore (S : Sys Role Chan Flag) (n i : Nat) (r : Role) : Bool :=
  (List.range i).any fun j => decide (S.prog[j]? = some (.await r)) && stable S n j r

/-- `r` is quiesced before instruction `i`: waited for, or — for a fixed goroutine `r` — a fixed
    goroutine `r'` that can only leave after `r` is waited for. -/
def quiescedBefore (S : Sys Role Chan Flag) (roles : List Role) (n i : Nat) (r : Role) : Bool :=
  awaitedBefore S n i r ||
  roles.any fun r' => decide (S.exitNeeds r' = some r) && decide (S.rule r' = .initial) &&
    decide (S.rule r = .initial) && awaitedBefore S n i r'

def quiesced (S : Sys Role Chan Flag) (roles : List Role) (n : Nat) (r : Role) (ch : Chan) : Bool :=
  (List.range S.prog.length).all fun i =>
    !decide (S.prog[i]? = some (.closeChan ch)) || quiescedBefore S roles n i r

structure Inv (S : Sys Role Chan Flag) (c : Cfg Role Chan Flag) : Prop where
  flags : ∀ k f, k < c.pc → S.prog[k]? = some (.setFlag f) → c.flag f = true
  closedBy : ∀ ch, c.closed ch = true → ∃ i, i < c.pc ∧ S.prog[i]? = some (.closeChan ch)
  awaited : ∀ n j r, j < c.pc → S.prog[j]? = some (.await r) → stable S n j r = true →
    c.alive r = 0
  dep : ∀ r q, S.exitNeeds r = some q → S.rule r = .initial → S.rule q = .initial →
    c.alive r = 0 → c.alive q = 0

theorem inv_init {S : Sys Role Chan Flag} {c : Cfg Role Chan Flag} (h : Init S c) : Inv S c where
  flags := fun k f hk _ => by rw [h.pc] at hk; exact absurd hk (Nat.not_lt_zero _)
  closedBy := fun ch hc => by rw [h.closed ch] at hc; exact absurd hc (by decide)
  awaited := fun n j r hj _ _ => by rw [h.pc] at hj; exact absurd hj (Nat.not_lt_zero _)
  dep := fun r q hq _ _ hr => h.dep r q hq hr

/-- Why no actor of a stable role can appear once the closer is past `j`: the role is fixed, or its gate was set
    before `j`, or its parent was waited for before `j` and was stable then. -/
theorem stable_spawn {S : Sys Role Chan Flag} {n j : Nat} {r : Role} (h : stable S n j r = true) :
    match S.rule r with
    | .initial => True
    | .env g => ∃ f k, g = some f ∧ k < j ∧ S.prog[k]? = some (.setFlag f)
    | .child p => ∃ m k, k < j ∧ S.prog[k]? = some (.await p) ∧ stable S m k p = true := by
  cases n with
  | zero => cases h
  | succ n =>
    unfold stable at h
    -- the cases of `stable` on the spawn rule are those of the statement
    split at h <;> rename_i hr <;> rw [hr]
    · trivial
    · cases h
    · simp only [List.any_eq_true, List.mem_range, decide_eq_true_eq] at h
      exact let ⟨k, hk, hp⟩ := h; ⟨_, k, rfl, hk, hp⟩
    · simp only [List.any_eq_true, List.mem_range, Bool.and_eq_true, decide_eq_true_eq] at h
      exact let ⟨k, hk, hp, hs⟩ := h; ⟨n, k, hk, hp, hs⟩

theorem Inv.advance {S : Sys Role Chan Flag} {c c' : Cfg Role Chan Flag} (hi : Inv S c)
    {i : Instr Role Chan Flag} (hp : S.prog[c.pc]? = some i) (hpc : c'.pc = c.pc + 1)
    (halive : c'.alive = c.alive)
    (hflag : ∀ f, c.flag f = true ∨ i = .setFlag f → c'.flag f = true)
    (hclosed : ∀ ch, c'.closed ch = true → c.closed ch = true ∨ i = .closeChan ch)
    (hawait : ∀ r, i = .await r → c.alive r = 0) : Inv S c' := by
  have last : ∀ {k j}, k < c'.pc → S.prog[k]? = some j → k < c.pc ∨ j = i := by
    intro k j hk hj
    rw [hpc] at hk
    rcases Nat.lt_succ_iff_lt_or_eq.mp hk with h | h
    · exact .inl h
    · subst h; rw [hp] at hj; exact .inr (Option.some.inj hj).symm
  refine ⟨fun k f hk hkp => hflag f ?_, fun ch hc => ?_, fun n j r hj hjr hst => ?_, ?_⟩
  · exact (last hk hkp).imp (hi.flags k f · hkp) Eq.symm
  · rw [hpc]
    rcases hclosed ch hc with h | h
    · obtain ⟨j, hj, hjp⟩ := hi.closedBy ch h
      exact ⟨j, Nat.lt_succ_of_lt hj, hjp⟩
    · exact ⟨c.pc, Nat.lt_succ_self _, h ▸ hp⟩
  · rw [halive]
    rcases last hj hjr with h | h
    · exact hi.awaited n j r h hjr hst
    · exact hawait r h.symm
  · rw [halive]; exact hi.dep

theorem Inv.spawn {S : Sys Role Chan Flag} {c : Cfg Role Chan Flag} (hi : Inv S c) {r : Role}
    (hrule : S.rule r ≠ .initial)
    (hst : ∀ n j, j < c.pc → S.prog[j]? = some (.await r) → stable S n j r ≠ true) :
    Inv S { c with alive := upd c.alive r (c.alive r + 1) } := by
  refine ⟨hi.flags, hi.closedBy, fun n j r' hj hjr hs => ?_, fun r' q hq hr1 hr2 h0 => ?_⟩
  · show upd c.alive r (c.alive r + 1) r' = 0
    by_cases e : r' = r
    · subst e; exact absurd hs (hst n j hj hjr)
    · rw [upd_other _ _ e]; exact hi.awaited n j r' hj hjr hs
  · have e1 : r' ≠ r := fun e => hrule (e ▸ hr1)
    have e2 : q ≠ r := fun e => hrule (e ▸ hr2)
    show upd c.alive r (c.alive r + 1) q = 0
    rw [upd_other _ _ e2]
    exact hi.dep r' q hq hr1 hr2 (by rwa [← upd_other c.alive (c.alive r + 1) e1])

theorem inv_step {S : Sys Role Chan Flag} {c c' : Cfg Role Chan Flag} (hi : Inv S c)
    (hs : Step S c c') : Inv S c' := by
  cases hs with
  | @setFlag f hp =>
    refine hi.advance hp rfl rfl (fun f' h => ?_) (fun _ => .inl) nofun
    show upd c.flag f true f' = true
    by_cases e : f' = f
    · subst e; exact upd_same ..
    · rw [upd_other _ _ e]
      exact h.elim id fun h => absurd (Instr.setFlag.inj h).symm e
  | @await r hp h0 =>
    exact hi.advance hp rfl rfl (fun _ h => h.elim id nofun) (fun _ => .inl)
      (fun _ h => Instr.await.inj h ▸ h0)
  | @closeChan ch hp =>
    refine hi.advance hp rfl rfl (fun _ h => h.elim id nofun) (fun ch' h => ?_)
      nofun
    by_cases e : ch' = ch
    · exact .inr (e ▸ rfl)
    · exact .inl (by rwa [← upd_other c.closed true e])
  | skip hp =>
    exact hi.advance hp rfl rfl (fun _ h => h.elim id nofun) (fun _ => .inl)
      nofun
  | exit r hpos hdep =>
    have zero_of_zero : ∀ x, c.alive x = 0 → upd c.alive r (c.alive r - 1) x = 0 := by
      intro x hx
      by_cases e : x = r
      · subst e; simp [hx]
      · rw [upd_other _ _ e]; exact hx
    refine ⟨hi.flags, hi.closedBy, fun n j r' hj hjr hst => ?_, fun r' q hq hr1 hr2 h0 => ?_⟩
    · exact zero_of_zero r' (hi.awaited n j r' hj hjr hst)
    · by_cases e : r' = r
      · subst e
        exact zero_of_zero q (hdep q hq)
      · exact zero_of_zero q (hi.dep r' q hq hr1 hr2 (by rwa [← upd_other c.alive (c.alive r - 1) e]))
  | spawnEnv r g hr hg =>
    refine hi.spawn (by rw [hr]; nofun) fun n j hj hjr hst => ?_
    have hsp := stable_spawn hst
    rw [hr] at hsp
    obtain ⟨f, k, hf, hk, hkp⟩ := hsp
    have := hi.flags k f (Nat.lt_trans hk hj) hkp
    rw [hg f hf] at this
    cases this
  | spawnChild r p hr hp =>
    refine hi.spawn (by rw [hr]; nofun) fun n j hj hjr hst => ?_
    have hsp := stable_spawn hst
    rw [hr] at hsp
    obtain ⟨m, k, hk, hkp, hks⟩ := hsp
    rw [hi.awaited m k p (Nat.lt_trans hk hj) hkp hks] at hp
    exact absurd hp (Nat.lt_irrefl _)
  | post r ch _ _ => exact hi

theorem inv_reach {S : Sys Role Chan Flag} {c : Cfg Role Chan Flag} (h : Reach S c) : Inv S c := by
  induction h with
  | init hi => exact inv_init hi
  | step _ hs ih => exact inv_step ih hs

theorem awaitedBefore_zero {S : Sys Role Chan Flag} {c : Cfg Role Chan Flag} (hi : Inv S c)
    {n i : Nat} {r : Role} (hlt : i < c.pc) (h : awaitedBefore S n i r = true) :
    c.alive r = 0 := by
  simp only [awaitedBefore, List.any_eq_true, List.mem_range, Bool.and_eq_true,
    decide_eq_true_eq] at h
  obtain ⟨j, hj, hp, hs⟩ := h
  exact hi.awaited n j r (Nat.lt_trans hj hlt) hp hs

/-- In every reachable configuration, a role quiesced for a channel has no live actor once that
    channel is closed; so no post of such a role finds the channel closed. -/
theorem no_post_after_close (S : Sys Role Chan Flag) (roles : List Role) (n : Nat)
    {c : Cfg Role Chan Flag} (hreach : Reach S c) (r : Role) (ch : Chan)
    (hq : quiesced S roles n r ch = true) (hclosed : c.closed ch = true) : c.alive r = 0 := by
  have hi := inv_reach hreach
  obtain ⟨i, hlt, hp⟩ := hi.closedBy ch hclosed
  have hlen : i < S.prog.length := by
    rcases Nat.lt_or_ge i S.prog.length with h | h
    · exact h
    · rw [List.getElem?_eq_none h] at hp; cases hp
  have hq' := List.all_eq_true.mp hq i (List.mem_range.mpr hlen)
  simp only [hp, decide_true, Bool.not_true, Bool.false_or] at hq'
  simp only [quiescedBefore, Bool.or_eq_true, List.any_eq_true, Bool.and_eq_true,
    decide_eq_true_eq] at hq'
  rcases hq' with h | ⟨r', _, ⟨⟨⟨hdep, hr1⟩, hr2⟩, haw⟩⟩
  · exact awaitedBefore_zero hi hlt h
  · have h0 := awaitedBefore_zero hi hlt haw
    exact hi.dep r' r hdep hr1 hr2 h0

/-- The form stated in the property: a post step never targets a closed channel. -/
theorem no_live_poster_on_closed (S : Sys Role Chan Flag) (roles : List Role) (n : Nat)
    {c : Cfg Role Chan Flag} (hreach : Reach S c) (r : Role) (ch : Chan)
    (hq : quiesced S roles n r ch = true) (halive : 0 < c.alive r) (_hposts : S.posts r ch = true) :
    c.closed ch = false := by
  cases hc : c.closed ch with
  | false => rfl
  | true =>
    have := no_post_after_close S roles n hreach r ch hq hc
    rw [this] at halive
    exact absurd halive (Nat.lt_irrefl _)

inductive Act (Role Chan : Type)
  | closer
  | exit (r : Role)
  | spawn (r : Role)
  | post (r : Role) (ch : Chan)
  deriving Repr

/-- Executable one-step function; `none` when the action is not enabled. -/
def act (S : Sys Role Chan Flag) (c : Cfg Role Chan Flag) : Act Role Chan → Option (Cfg Role Chan Flag)
  | .closer =>
    match S.prog[c.pc]? with
    | some (.setFlag f) => some { c with pc := c.pc + 1, flag := upd c.flag f true }
    | some (.await r) => if c.alive r = 0 then some { c with pc := c.pc + 1 } else none
    | some (.closeChan ch) => some { c with pc := c.pc + 1, closed := upd c.closed ch true }
    | some .skip => some { c with pc := c.pc + 1 }
    | none => none
  | .exit r =>
    if 0 < c.alive r ∧ (∀ q, S.exitNeeds r = some q → c.alive q = 0) then
      some { c with alive := upd c.alive r (c.alive r - 1) }
    else none
  | .spawn r =>
    match S.rule r with
    | .initial => none
    | .env none => some { c with alive := upd c.alive r (c.alive r + 1) }
    | .env (some f) =>
      if c.flag f = false then some { c with alive := upd c.alive r (c.alive r + 1) } else none
    | .child p =>
      if 0 < c.alive p then some { c with alive := upd c.alive r (c.alive r + 1) } else none
  | .post r ch => if 0 < c.alive r ∧ S.posts r ch = true then some c else none

theorem step_of_act {S : Sys Role Chan Flag} {c c' : Cfg Role Chan Flag} {a : Act Role Chan}
    (h : act S c a = some c') : Step S c c' := by
  cases a with
  | closer =>
    simp only [act] at h
    split at h
    next f hp => cases h; exact .setFlag hp
    next r hp =>
      split at h
      next h0 => cases h; exact .await hp h0
      next => cases h
    next ch hp => cases h; exact .closeChan hp
    next hp => cases h; exact .skip hp
    next => cases h
  | exit r =>
    simp only [act] at h
    split at h
    next hc => cases h; exact .exit r hc.1 hc.2
    next => cases h
  | spawn r =>
    simp only [act] at h
    split at h
    next => cases h
    next hr => cases h; exact .spawnEnv r none hr nofun
    next f hr =>
      split at h
      next hf => cases h; exact .spawnEnv r (some f) hr fun _ hf' => Option.some.inj hf' ▸ hf
      next => cases h
    next p hr =>
      split at h
      next hp => cases h; exact .spawnChild r p hr hp
      next => cases h
  | post r ch =>
    simp only [act] at h
    split at h
    next hc => cases h; exact .post r ch hc.1 hc.2
    next => cases h

def exec (S : Sys Role Chan Flag) (c : Cfg Role Chan Flag) : List (Act Role Chan) → Option (Cfg Role Chan Flag)
  | [] => some c
  | a :: as =>
    match act S c a with
    | some c' => exec S c' as
    | none => none

theorem reach_of_exec {S : Sys Role Chan Flag} : ∀ (as : List (Act Role Chan)) {c c' : Cfg Role Chan Flag},
    Reach S c → exec S c as = some c' → Reach S c'
  | [], c, c', hr, h => by
    cases h; exact hr
  | a :: as, c, c', hr, h => by
    simp only [exec] at h
    split at h
    next c1 h1 => exact reach_of_exec as (.step hr (step_of_act h1)) h
    next => cases h

def PostsOnClosed (S : Sys Role Chan Flag) (c : Cfg Role Chan Flag) (r : Role) (ch : Chan) : Prop :=
  0 < c.alive r ∧ S.posts r ch = true ∧ c.closed ch = true

end Nexus.L3.Shutdown
