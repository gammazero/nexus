/-
L3 (iii), (iv): a bounded FIFO channel fed by non-blocking sends.

`offer m` is `select { case ch <- m: default: }` (the message is dropped when the buffer is
full), `take` is a receive by the consumer. For every schedule of offers and takes:
* `bounded_queue_from`: the buffer never holds more than `cap` messages;
* `fifo_lossy`: what was delivered, followed by what is still buffered, is a subsequence of what
  was offered, in order — hence (`Sublist.filter`) so are the messages selected by any predicate:
  with the table fact that the messages of one kind for one receiver are offered by one goroutine,
  this is that goroutine's program order (per sender, per message type, per subscription …);
* `sublist_pair`: two delivered messages were offered in the same relative order.
-/
namespace Nexus.L3.Fifo

variable {μ : Type}

inductive Ev (μ : Type)
  | offer (m : μ)
  | take

structure St (μ : Type) where
  queue : List μ
  delivered : List μ

def step (cap : Nat) (s : St μ) : Ev μ → St μ
  | .offer m => if s.queue.length < cap then { s with queue := s.queue ++ [m] } else s
  | .take =>
    match s.queue with
    | [] => s
    | m :: q => { queue := q, delivered := s.delivered ++ [m] }

def run (cap : Nat) (s : St μ) (evs : List (Ev μ)) : St μ := evs.foldl (step cap) s

def offered : List (Ev μ) → List μ
  | [] => []
  | .offer m :: r => m :: offered r
  | .take :: r => offered r

def empty : St μ := ⟨[], []⟩

theorem run_cons (cap : Nat) (s : St μ) (e : Ev μ) (r : List (Ev μ)) :
    run cap s (e :: r) = run cap (step cap s e) r := rfl

theorem offer_shape (cap : Nat) (s : St μ) (m : μ) :
    (step cap s (.offer m)).delivered ++ (step cap s (.offer m)).queue = s.delivered ++ s.queue ∨
    (step cap s (.offer m)).delivered ++ (step cap s (.offer m)).queue =
      (s.delivered ++ s.queue) ++ [m] := by
  simp only [step]
  split
  · exact .inr (List.append_assoc ..).symm
  · exact .inl rfl

theorem take_shape (cap : Nat) (s : St μ) :
    (step cap s .take).delivered ++ (step cap s .take).queue = s.delivered ++ s.queue := by
  simp only [step]
  split
  · rfl
  · rename_i m r hq
    simp [hq]

theorem step_queue_le (cap : Nat) (s : St μ) (h : s.queue.length ≤ cap) (e : Ev μ) :
    (step cap s e).queue.length ≤ cap := by
  cases e with
  | offer m =>
    simp only [step]
    split
    · rw [List.length_append]; exact Nat.succ_le_of_lt ‹_›
    · exact h
  | take =>
    simp only [step]
    split
    · exact h
    · rename_i m q hq
      rw [hq] at h
      exact Nat.le_of_succ_le h

theorem bounded_queue_from (cap : Nat) : ∀ (evs : List (Ev μ)) (s : St μ),
    s.queue.length ≤ cap → (run cap s evs).queue.length ≤ cap
  | [], _, h => h
  | e :: r, s, h => bounded_queue_from cap r _ (step_queue_le cap s h e)

theorem fifo_lossy_from (cap : Nat) : ∀ (evs : List (Ev μ)) (s : St μ) (base : List μ),
    (s.delivered ++ s.queue).Sublist base →
    ((run cap s evs).delivered ++ (run cap s evs).queue).Sublist (base ++ offered evs)
  | [], s, base, h => by simpa [run, offered] using h
  | .offer m :: r, s, base, h => by
    have key : ((step cap s (.offer m)).delivered ++ (step cap s (.offer m)).queue).Sublist
        (base ++ [m]) := by
      rcases offer_shape cap s m with e | e <;> rw [e]
      · exact h.trans (List.sublist_append_left _ _)
      · exact h.append (.refl _)
    simpa [run_cons, offered, List.append_assoc] using fifo_lossy_from cap r _ _ key
  | .take :: r, s, base, h =>
    fifo_lossy_from cap r _ base (by rw [take_shape]; exact h)

theorem fifo_lossy (cap : Nat) (evs : List (Ev μ)) :
    ((run cap empty evs).delivered ++ (run cap empty evs).queue).Sublist (offered evs) := by
  have := fifo_lossy_from cap evs empty [] (by simp [empty])
  simpa using this

theorem delivered_sublist (cap : Nat) (evs : List (Ev μ)) :
    (run cap empty evs).delivered.Sublist (offered evs) :=
  List.Sublist.trans (List.sublist_append_left _ _) (fifo_lossy cap evs)

theorem sublist_pair {l₁ l₂ : List μ} (h : l₁.Sublist l₂) {a b c : List μ} {x y : μ}
    (e : l₁ = a ++ x :: b ++ y :: c) : [x, y].Sublist l₂ := by
  have hx : [x].Sublist (a ++ x :: b) := List.singleton_sublist.mpr (by simp)
  have hy : [y].Sublist (y :: c) := List.singleton_sublist.mpr List.mem_cons_self
  exact (e ▸ hx.append hy : [x, y].Sublist l₁).trans h

end Nexus.L3.Fifo
