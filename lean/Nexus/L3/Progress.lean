/-
L3 (i′): from "no wait cycle" to "no wedge".

`Graph.no_deadlocked_set` yields, in every set of actors, one that waits for nobody in the set. That
is not progress: an actor that has *terminated* waits for nobody, and everybody blocked on its
channel is blocked for ever (F44: the meta session's handler gone, every `metaPeer.Send()`
hanging). What is missing is a statement about the targets of the wait edges.

A *snapshot* of a system gives every actor a status — running, blocked, done — and says for whom
each blocked actor is waiting at this moment. If

  * the waits descend a rank (equivalently, for a finite edge table: the table has no cycle,
    `acyclic_has_rank`), and
  * **servers keep serving**: nobody is waiting for an actor that is done,

then every blocked actor's wait chain is finite and ends at an actor that is *running*
(`chain_ends_running`), and so does the chain through every one of its targets
(`every_target_chain_ends_running`): whoever is blocked is blocked on work that somebody is doing
right now. `wedge_needs_dead_server` is the converse reading: a blocked actor whose chains never
reach a running actor proves that some wait targets a terminated actor.
-/
import Nexus.L3.Graph

namespace Nexus.L3.WpL3.Progress
open Nexus.L3.Graph

variable {α : Type}

inductive Status | running | blocked | done
  deriving DecidableEq, Repr

inductive Chain (w : α → α → Prop) : α → α → Prop
  | refl (a : α) : Chain w a a
  | step {a b c : α} : w a b → Chain w b c → Chain w a c

theorem Chain.single {w : α → α → Prop} {a b : α} (h : w a b) : Chain w a b :=
  .step h (.refl b)

/-- What the actors are doing at one moment. `waits a b`: `a` is blocked and `b` is one of the actors
    whose action ends the wait (for a `select`, every alternative's partner). -/
structure Snapshot (α : Type) where
  status : α → Status
  waits : α → α → Prop

structure Live (s : Snapshot α) (rank : α → Nat) : Prop where
  descends : ∀ a b, s.waits a b → rank b < rank a
  blockedWaits : ∀ a, s.status a = .blocked → ∃ b, s.waits a b
  serving : ∀ a b, s.waits a b → s.status b ≠ .done

theorem chain_from (s : Snapshot α) (rank : α → Nat) (h : Live s rank) :
    ∀ n a, rank a < n → s.status a ≠ .done → ∃ z, Chain s.waits a z ∧ s.status z = .running := by
  intro n
  induction n with
  | zero => intro a hr; exact absurd hr (Nat.not_lt_zero _)
  | succ n ih =>
    intro a hr hnd
    cases hst : s.status a with
    | running => exact ⟨a, .refl a, hst⟩
    | done => exact absurd hst hnd
    | blocked =>
      obtain ⟨b, hab⟩ := h.blockedWaits a hst
      have hlt : rank b < n := Nat.lt_of_lt_of_le (h.descends a b hab) (Nat.le_of_lt_succ hr)
      obtain ⟨z, hc, hz⟩ := ih b hlt (h.serving a b hab)
      exact ⟨z, .step hab hc, hz⟩

theorem chain_ends_running (s : Snapshot α) (rank : α → Nat) (h : Live s rank) (a : α)
    (ha : s.status a = .blocked) : ∃ z, Chain s.waits a z ∧ s.status z = .running :=
  chain_from s rank h (rank a + 1) a (Nat.lt_succ_self _) (by rw [ha]; decide)

/-- The same through every target: whichever of its partners a blocked actor is looking at, that
    partner is running or is itself (transitively) waiting for a running actor. -/
theorem every_target_chain_ends_running (s : Snapshot α) (rank : α → Nat) (h : Live s rank)
    {a b : α} (hab : s.waits a b) : ∃ z, Chain s.waits b z ∧ s.status z = .running :=
  chain_from s rank h (rank b + 1) b (Nat.lt_succ_self _) (h.serving a b hab)

/-- Contrapositive: a wedge — a blocked actor from which no running actor is reachable — needs a
    wait whose target has terminated (given no cycle). This is what the acyclicity theorem alone
    cannot exclude. -/
theorem wedge_needs_dead_server (s : Snapshot α) (rank : α → Nat)
    (hdesc : ∀ a b, s.waits a b → rank b < rank a)
    (hblk : ∀ a, s.status a = .blocked → ∃ b, s.waits a b)
    (a : α) (ha : s.status a = .blocked)
    (hw : ¬ ∃ z, Chain s.waits a z ∧ s.status z = .running) :
    ¬ ∀ x y, s.waits x y → s.status y ≠ .done :=
  fun hs => hw (chain_ends_running s rank ⟨hdesc, hblk, hs⟩ a ha)

/-- Three actors 2 → 1 → 0: 2 and 1 blocked, 0 running. -/
def exSnap : Snapshot Nat where
  status := fun n => if n = 0 then .running else if n ≤ 2 then .blocked else .done
  waits := fun a b => (a = 2 ∧ b = 1) ∨ (a = 1 ∧ b = 0)

example : Live exSnap id where
  descends := by
    intro a b h
    rcases h with ⟨rfl, rfl⟩ | ⟨rfl, rfl⟩ <;> decide
  blockedWaits := by
    intro a h
    simp only [exSnap] at h
    by_cases h0 : a = 0
    · simp [h0] at h
    · by_cases h2 : a ≤ 2
      · have : a = 1 ∨ a = 2 := by omega
        rcases this with rfl | rfl
        · exact ⟨0, Or.inr ⟨rfl, rfl⟩⟩
        · exact ⟨1, Or.inl ⟨rfl, rfl⟩⟩
      · simp [h0, h2] at h
  serving := by
    intro a b h
    rcases h with ⟨rfl, rfl⟩ | ⟨rfl, rfl⟩ <;> simp [exSnap]

/-- The wedge of F44 in miniature: 1 waits for 0, 0 has terminated. Acyclic, ranked, every
    blocked actor waits for somebody — and no chain from 1 ends at a running actor. -/
def wedgeSnap : Snapshot Nat where
  status := fun n => if n = 1 then .blocked else .done
  waits := fun a b => a = 1 ∧ b = 0

example : (∀ a b, wedgeSnap.waits a b → id b < id a) ∧
    (∀ a, wedgeSnap.status a = .blocked → ∃ b, wedgeSnap.waits a b) ∧
    ¬ ∃ z, Chain wedgeSnap.waits 1 z ∧ wedgeSnap.status z = .running := by
  refine ⟨?_, ?_, ?_⟩
  · rintro a b ⟨rfl, rfl⟩; decide
  · intro a h
    by_cases h1 : a = 1
    · exact ⟨0, h1, rfl⟩
    · simp [wedgeSnap, h1] at h
  · rintro ⟨z, _, hz⟩
    simp only [wedgeSnap] at hz
    split at hz <;> cases hz

theorem path_trans {t : List (α × α)} {a b c : α} (p : Path t a b) (q : Path t b c) : Path t a c := by
  induction p with
  | single e => exact .cons e q
  | cons e _ ih => exact .cons e (ih q)

theorem filter_length_lt {l : List α} {p q : α → Bool} (hpq : ∀ x, p x = true → q x = true)
    {x : α} (hx : x ∈ l) (hq : q x = true) (hp : p x = false) :
    (l.filter p).length < (l.filter q).length := by
  have e : l.filter p = (l.filter q).filter p := by
    rw [List.filter_filter]
    refine List.filter_congr fun a _ => ?_
    cases h : p a
    · rfl
    · rw [hpq a h]; rfl
  rw [e]
  exact List.length_filter_lt_length_iff_exists.mpr ⟨x, List.mem_filter.mpr ⟨hx, hq⟩, by rw [hp]; nofun⟩

/-- A finite wait-for table without a cycle descends a rank (the number of actors reachable from
    an actor): for finite tables `Graph.Acyclic` and `Graph.Descends` say the same. -/
theorem acyclic_has_rank (t : List (α × α)) (h : Acyclic t) : ∃ rank : α → Nat, Descends t rank := by
  classical
  let nodes := t.map (·.2)
  refine ⟨fun a => (nodes.filter fun b => decide (Path t a b)).length, ?_⟩
  intro e he
  have hmem : e.2 ∈ nodes := List.mem_map.mpr ⟨e, he, rfl⟩
  have hee : (e.1, e.2) ∈ t := he
  apply filter_length_lt (x := e.2) ?_ hmem
  · exact decide_eq_true (Path.single hee)
  · exact decide_eq_false (h e.2)
  · intro x hx
    exact decide_eq_true (Path.cons hee (of_decide_eq_true hx))

/-- The combined theorem in the form of the property: the wait-for table has no cycle, the current
    waits are edges of the table, servers keep serving — then every blocked actor's wait chain ends at
    a running actor. -/
theorem no_cycle_and_serving_give_progress (t : List (α × α)) (hac : Acyclic t) (s : Snapshot α)
    (hsub : ∀ a b, s.waits a b → (a, b) ∈ t)
    (hblk : ∀ a, s.status a = .blocked → ∃ b, s.waits a b)
    (hserve : ∀ a b, s.waits a b → s.status b ≠ .done)
    (a : α) (ha : s.status a = .blocked) : ∃ z, Chain s.waits a z ∧ s.status z = .running := by
  obtain ⟨rank, hr⟩ := acyclic_has_rank t hac
  exact chain_ends_running s rank ⟨fun a b hab => hr (a, b) (hsub a b hab), hblk, hserve⟩ a ha

end Nexus.L3.WpL3.Progress
