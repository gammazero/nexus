/-
L3: test-and-set under a mutex lets one goroutine through.

`realm.close` is `Lock; defer Unlock; if closed { return }; closed = true; …` (table fact
`C06.single_closer`: this prefix, the only assignment to `realm.closed`, the lock released only by the
deferred call). Any number of goroutines may call it (Router.Close inside the router goroutine,
RemoveRealm outside). The model: goroutine `i` is `idle`, then holds the lock (`locked`), reads the
flag (`bail` if set, `willSet` if not), sets it (`inside`: past the test, still holding the lock), and
releases the lock when it returns (`done`). The test and the assignment are separate steps — without
the lock two goroutines could both read `false`. `single_pass`: in every reachable state at most one
goroutine has passed the test; `later_callers_bail`: once one has, every other caller that gets the
lock leaves at the test.
-/
namespace Nexus.L3.WpL3.Mutex

inductive Pc | idle | locked | willSet | inside | bail | done
  deriving DecidableEq, Repr

structure St where
  flag : Bool
  holder : Option Nat
  pc : Nat → Pc
  passed : List Nat

def upd (f : Nat → Pc) (i : Nat) (v : Pc) : Nat → Pc := fun x => if x = i then v else f x

def Pc.holds : Pc → Bool
  | .locked | .willSet | .inside | .bail => true
  | _ => false

inductive Step : St → St → Prop
  | lock {s : St} (i : Nat) : s.pc i = .idle → s.holder = none →
      Step s { s with holder := some i, pc := upd s.pc i .locked }
  | testSet {s : St} (i : Nat) : s.pc i = .locked → s.flag = true →
      Step s { s with pc := upd s.pc i .bail }
  | testClear {s : St} (i : Nat) : s.pc i = .locked → s.flag = false →
      Step s { s with pc := upd s.pc i .willSet }
  | set {s : St} (i : Nat) : s.pc i = .willSet →
      Step s { s with flag := true, pc := upd s.pc i .inside, passed := i :: s.passed }
  | leave {s : St} (i : Nat) : (s.pc i = .inside ∨ s.pc i = .bail) →
      Step s { s with holder := none, pc := upd s.pc i .done }

def init : St := { flag := false, holder := none, pc := fun _ => .idle, passed := [] }

inductive Reach : St → Prop
  | init : Reach init
  | step {s s' : St} : Reach s → Step s s' → Reach s'

structure Inv (s : St) : Prop where
  holder : ∀ i, (s.pc i).holds = true → s.holder = some i
  clear : s.flag = false → s.passed = []
  one : s.passed.length ≤ 1
  willSet : ∀ i, s.pc i = .willSet → s.flag = false

theorem inv_init : Inv init :=
  ⟨fun _ h => by simp [init, Pc.holds] at h, fun _ => rfl, Nat.zero_le _, fun _ h => by simp [init] at h⟩

theorem upd_cases (f : Nat → Pc) (i : Nat) (v : Pc) (j : Nat) :
    (j = i ∧ upd f i v j = v) ∨ (j ≠ i ∧ upd f i v j = f j) := by
  by_cases e : j = i
  · exact .inl ⟨e, if_pos e⟩
  · exact .inr ⟨e, if_neg e⟩

/-- Only the goroutine that holds the lock, or one that takes the free lock, moves: nobody else holds
    the lock, so nobody else is concerned by the `holder` and `willSet` clauses. -/
theorem Inv.update {s : St} (hi : Inv s) {i : Nat} {v : Pc} {flag' : Bool} {holder' : Option Nat}
    {passed' : List Nat} (hown : s.holder = none ∨ s.holder = some i)
    (hv : v.holds = true → holder' = some i) (hw : v = .willSet → flag' = false)
    (hclear : flag' = false → passed' = []) (hone : passed'.length ≤ 1) :
    Inv { flag := flag', holder := holder', pc := upd s.pc i v, passed := passed' } := by
  have others : ∀ j, j ≠ i → (s.pc j).holds = false := by
    intro j ne
    cases h : (s.pc j).holds with
    | false => rfl
    | true =>
      rw [hi.holder j h] at hown
      rcases hown with h0 | h0
      · cases h0
      · exact absurd (Option.some.inj h0) ne
  refine ⟨fun j hj => ?_, hclear, hone, fun j hj => ?_⟩ <;> dsimp only at hj <;>
    rcases upd_cases s.pc i v j with ⟨rfl, e⟩ | ⟨ne, e⟩ <;> rw [e] at hj
  · exact hv hj
  · rw [others j ne] at hj; cases hj
  · exact hw hj
  · have := others j ne
    rw [hj] at this
    cases this

theorem inv_step {s s' : St} (hi : Inv s) (hs : Step s s') : Inv s' := by
  have holds : ∀ {i p}, s.pc i = p → p.holds = true → s.holder = none ∨ s.holder = some i :=
    fun hpc hp => .inr (hi.holder _ (hpc ▸ hp))
  cases hs with
  | lock i hpc hh => exact hi.update (.inl hh) (fun _ => rfl) nofun hi.clear hi.one
  | testSet i hpc hf => exact hi.update (holds hpc rfl) (fun _ => hi.holder i (hpc ▸ rfl)) nofun hi.clear hi.one
  | testClear i hpc hf =>
    exact hi.update (holds hpc rfl) (fun _ => hi.holder i (hpc ▸ rfl)) (fun _ => hf) hi.clear hi.one
  | set i hpc =>
    refine hi.update (holds hpc rfl) (fun _ => hi.holder i (hpc ▸ rfl)) nofun nofun ?_
    rw [hi.clear (hi.willSet i hpc)]
    exact Nat.le_refl 1
  | leave i hpc =>
    exact hi.update (hpc.elim (holds · rfl) (holds · rfl)) nofun nofun hi.clear hi.one

theorem inv_reach {s : St} (h : Reach s) : Inv s := by
  induction h with
  | init => exact inv_init
  | step _ hs ih => exact inv_step ih hs

theorem single_pass {s : St} (h : Reach s) : s.passed.length ≤ 1 := (inv_reach h).one

theorem later_callers_bail {s : St} (h : Reach s) (hf : s.flag = true) : ∀ i, s.pc i ≠ .willSet := by
  intro i hi
  have := (inv_reach h).willSet i hi
  rw [hf] at this
  cases this

/-- Non-vacuity: two callers; the first passes, the second gets the lock afterwards and bails. -/
example : ∃ s, Reach s ∧ s.passed = [0] ∧ s.pc 1 = .bail ∧ s.pc 0 = .done := by
  refine ⟨_, .step (.step (.step (.step (.step (.step .init (.lock 0 rfl rfl)) (.testClear 0 rfl rfl))
    (.set 0 rfl)) (.leave 0 (Or.inl rfl))) (.lock 1 rfl rfl)) (.testSet 1 rfl rfl), rfl, rfl, rfl⟩

end Nexus.L3.WpL3.Mutex
