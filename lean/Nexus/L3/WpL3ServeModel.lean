/-
Instantiation of "servers keep serving" (Nexus/L3/Serve.lean) with the regenerated tables.

Every served channel of `CloseModel` gets its server role (`serverOf`), and the *guard* of a server
role is computed from table (i) `loopExits` — every way out of the role's serving loop:

  role  loop function                     stop signal (issued by)                       closer's statement
  D     dealer.run                        close(dealer.closing)   (dealer.close)         → closeChan dealerChan
  B     broker.run                        close(broker.actionChan) (broker.close)        → closeChan brokerChan
  R     realm.run                         close(realm.actionChan)  (realm.close)         → closeChan realmChan
  HM    handleInboundMessages(metaSess)   realm.metaSess.EndRecv(shutdownGoodbye) (realm.close) → closeChan metaChan
  Rtr   router.run                        close(router.closing)    (router.Close)        (router level, `rtr…`)
  MP    metaProcedureHandler              every exit is after the meta session's handler left (HM)

`exitWhy` says, for each exit and each role that runs it, *why* the role takes it: `stop` — the
closer's stop signal; `after q` — only after role `q` left; `never a` — not for this role, by the
named assumption `a`. Nothing rests on the entry alone: `stopOk` checks a `stop` entry against the
tables (shape of the exit, nobody sends on the signal channel, every site that issues the signal is
in the closer function, the closer's statement is translated to `closeChan` of this very channel),
`afterOk` an `after` entry (the signal is closed only by the go literal of role `q`, or is that role's
last message), `neverOk` the table half of an assumption. A new `return` in a serving loop has no
entry: `guardOf` becomes `none` for the role and `C06.servers_guarded` fails.

Assumptions (`Assumption`), used only for the meta session's handler HM, whose loop function is the
session handlers' (a client can make *its own* handler leave in many ways; the question is whether
anything makes the meta session's handler leave):
  * `C04_meta_never_ends`   L2 theorem of that name (Props/C04): broker and dealer abort only the sender of
                             a violating message and the meta session never sends one — no
                             `EndRecv(abortedGoodbye)` on the meta session. Table half: `abortedGoodbye` is
                             passed to EndRecv only in `abortSession`.
  * `metaNotInClients`      kill goodbyes are passed to EndRecv only on values taken from `realm.clients`
                             (table (l)); only `onJoin` stores there, `onJoin` is called only by
                             `handleSession`, `handleSession` only by `AttachClient`; the meta session's
                             handler is started by `createMetaSession` directly.
  * `metaPeerNeverClosed`   the meta session's inbound channel is closed only by `Close()` on the meta
                             peer; every Close of a peer or session is in `handleSession` (its client
                             session) or `AttachClient` (table (b)).
  * `metaMessageKinds`      through the meta peer travel PUBLISH, REGISTER and what `metaProcedureHandler`
                             sends (table (f)): meta procedure results, YIELD or ERROR of type INVOCATION
                             (table (m)) — never GOODBYE, an ERROR of another type or an unknown message.
                             Residue not in any table: the `default:` branch re-sends the previous result,
                             which is a meta procedure's result (never nil: audit C04 (a)6).
-/
import Nexus.L3.CloseModel
import Nexus.L3.WpL3Tables
import Nexus.L3.Serve

namespace Nexus.L3.WpL3.ServeModel
open Nexus.Gen.Sites Nexus.L3 Nexus.L3.Shutdown Nexus.L3.CloseModel Nexus.L3.WpL3Tables
open Nexus.L3.WpL3.Serve

/-- The server of each served channel. -/
def serverOf : SChan → Role
  | .dealerChan => .D
  | .brokerChan => .B
  | .realmChan => .R
  | .metaChan => .HM

inductive Assumption
  | C04_meta_never_ends | metaNotInClients | metaPeerNeverClosed | metaMessageKinds
  deriving DecidableEq, Repr

inductive Why
  | stop
  | after (q : Role)
  | never (a : Assumption)
  deriving DecidableEq, Repr

/-- How a server is stopped. -/
structure ServerSpec where
  role : Role
  loopFn : Nat
  /-- the served channel in the realm's shutdown system (`none`: the router goroutine) -/
  chan : Option SChan
  /-- the channel whose closing is the stop signal; 0 for the meta session (EndRecv) -/
  signal : Nat
  /-- the closer's statement that issues it, and the function containing it -/
  stopStmt : Nat
  closerFn : Nat

def specD : ServerSpec := ⟨.D, key! "router.dealer.run", some .dealerChan, key! "dealer.closing",
  key! "close(dealer.closing)", key! "router.dealer.close"⟩
def specB : ServerSpec := ⟨.B, key! "router.broker.run", some .brokerChan, key! "broker.actionChan",
  key! "close(broker.actionChan)", key! "router.broker.close"⟩
def specR : ServerSpec := ⟨.R, key! "router.realm.run", some .realmChan, key! "realm.actionChan",
  key! "close(realm.actionChan)", key! "router.realm.close"⟩
def specHM : ServerSpec := ⟨.HM, key! "router.realm.handleInboundMessages", some .metaChan, 0,
  key! "realm.metaSess.EndRecv(shutdownGoodbye)", key! "router.realm.close"⟩
def specRtr : ServerSpec := ⟨.Rtr, key! "router.router.run", none, key! "router.closing",
  key! "close(router.closing)", key! "router.router.Close"⟩

def serverSpecs : List ServerSpec := [specD, specB, specR, specHM, specRtr]

def mpLoopFn : Nat := key! "router.realm.metaProcedureHandler"

/-- exit key, role → why that role takes this exit. -/
def exitWhy : List (Nat × Role × Why) := [
  (key! "router.dealer.run|exit|ret|case <-dealer.closing:", .D, .stop),
  (key! "router.broker.run|exit|rangeEnd|", .B, .stop),
  (key! "router.realm.run|exit|rangeEnd|", .R, .stop),
  (key! "router.router.run|exit|ret|case <-router.closing:", .Rtr, .stop),
  -- the meta session's handler
  (key! "router.realm.handleInboundMessages|exit|ret|case <-recvDone: > switch goodbye { > case shutdownGoodbye, wamp.NoGoodbye:",
    .HM, .stop),
  (key! "router.realm.handleInboundMessages|exit|ret|case <-recvDone: > switch goodbye { > case abortedGoodbye:",
    .HM, .never .C04_meta_never_ends),
  (key! "router.realm.handleInboundMessages|exit|ret|case <-recvDone:", .HM, .never .metaNotInClients),
  (key! "router.realm.handleInboundMessages|exit|ret|case msg, open = <-recv: > if !open {",
    .HM, .never .metaPeerNeverClosed),
  (key! "router.realm.handleInboundMessages|exit|ret|switch msg := msg.(type) { > case *wamp.Error: > if msg.Type != wamp.INVOCATION {",
    .HM, .never .metaMessageKinds),
  (key! "router.realm.handleInboundMessages|exit|ret|switch msg := msg.(type) { > case *wamp.Goodbye:",
    .HM, .never .metaMessageKinds),
  (key! "router.realm.handleInboundMessages|exit|ret|switch msg := msg.(type) { > default:",
    .HM, .never .metaMessageKinds),
  -- the meta-procedure handler: every exit follows the meta session's handler
  (key! "router.realm.metaProcedureHandler|exit|ret|case <-realm.metaSessDone:", .MP, .after .HM),
  (key! "router.realm.metaProcedureHandler|exit|ret|case msg, open = <-realm.metaPeer.Recv(): > if !open {",
    .MP, .never .metaPeerNeverClosed),
  (key! "router.realm.metaProcedureHandler|exit|ret|if !send(rsp) {", .MP, .after .HM),
  (key! "router.realm.metaProcedureHandler|exit|ret|switch msg := msg.(type) { > case *wamp.Invocation: > if !ok { > if !send(&wamp.Error{ Type: msg.MessageType(), Request: msg.Request, Details: wamp.Dict{}, Error: wamp.ErrNoSuchProcedure, }) {",
    .MP, .after .HM),
  (key! "router.realm.metaProcedureHandler|exit|ret|switch msg := msg.(type) { > case *wamp.Goodbye:", .MP, .after .HM)]

def whyOf (k : Nat) (r : Role) : Option Why :=
  (exitWhy.find? fun e => Nat.beq e.1 k && decide (e.2.1 = r)).map (·.2.2)

/-- The exits of a function itself (not of the closures it holds in local variables). -/
def exitsOf (fn : Nat) : List LoopExit := loopExits.filter fun e => Nat.beq e.fn fn

/-! ### Checking a `stop` entry -/

/-- Nobody sends on the channel (so a receive from it succeeds only when it is closed). -/
def noSendsOn (sig : Nat) : Bool :=
  chanOps.all fun o => !(decide (o.op = .send) && (Nat.beq o.owner sig || Nat.beq o.chan sig))

/-- Every `close(sig)` is in `fn`, and there is one. -/
def closedOnlyIn (sig fn : Nat) : Bool :=
  let cs := closeSites.filter fun c => c.isChanClose && Nat.beq c.target sig
  !cs.isEmpty && cs.all fun c => Nat.beq c.fn fn

/-- The statements of the closer functions. -/
def closerStmts (fn : Nat) : List Nat :=
  if Nat.beq fn (key! "router.dealer.close") then order_dealer_close
  else if Nat.beq fn (key! "router.broker.close") then order_broker_close
  else if Nat.beq fn (key! "router.realm.close") then order_realm_close
  else if Nat.beq fn (key! "router.router.Close") then order_router_Close
  else []

/-- The closer's statement is in the closer function, and (realm level) the shutdown model
    translates it to `closeChan` of this channel and to nothing else. -/
def stmtOk (s : ServerSpec) : Bool :=
  memN s.stopStmt (closerStmts s.closerFn) &&
  match s.chan with
  | some ch => decide (lookup s.stopStmt stmtInstr = some [.closeChan ch]) && memN s.stopStmt realmCloseStmts
  | none => true

/-- The shape of a channel-closed exit: the end of `range sig`, or `case <-sig: return` at the top of
    the loop's select on a channel nobody sends on. -/
def chanStopShape (s : ServerSpec) (e : LoopExit) : Bool :=
  (decide (e.kind = .rangeEnd) && Nat.beq e.chan s.signal) ||
  (decide (e.kind = .ret) && decide (e.cls = .field) && Nat.beq e.owner s.signal &&
    decide (e.guards.length = 1) && !e.openTest && noSendsOn s.signal)

/-- The meta session's stop: EndRecv on the field `realm.metaSess` occurs only in realm.close, with
    `shutdownGoodbye`; `shutdownGoodbye` and `nil` (→ NoGoodbye) are passed to EndRecv nowhere else
    outside realm.close. -/
def metaStopShape (e : LoopExit) : Bool :=
  decide (e.cls = .recvDone) &&
  (let own := endRecvSites.filter fun x => Nat.beq x.origin (key! "field realm.metaSess")
   !own.isEmpty && own.all fun x => Nat.beq x.fn (key! "router.realm.close") &&
     Nat.beq x.arg (key! "shutdownGoodbye") && decide (x.gctx = .body)) &&
  (endRecvSites.all fun x => !(Nat.beq x.arg (key! "shutdownGoodbye") || Nat.beq x.arg (key! "nil")) ||
     Nat.beq x.fn (key! "router.realm.close"))

def stopOk (s : ServerSpec) (e : LoopExit) : Bool :=
  stmtOk s &&
  (if Nat.beq s.signal 0 then metaStopShape e
   else chanStopShape s e && closedOnlyIn s.signal s.closerFn)

/-! ### Checking an `after` entry (the meta-procedure handler) -/

/-- `realm.metaSessDone` is closed only by the go literal of the meta session's handler. -/
def metaSessDoneByHM : Bool :=
  let cs := closeSites.filter fun c => c.isChanClose && Nat.beq c.target (key! "realm.metaSessDone")
  !cs.isEmpty && cs.all fun c => decide (c.gctx = .golit) &&
    decide (goLitRole c.garg = some .HM)

/-- The closure `send` of metaProcedureHandler returns false only in `case <-realm.metaSessDone`. -/
def sendFailsOnlyOnDone : Bool :=
  let es := exitsOf (key! "router.realm.metaProcedureHandler$send")
  !es.isEmpty && es.all fun e =>
    (Nat.beq e.result (key! "true") && decide (e.cls = .peerSendMeta)) ||
    (Nat.beq e.result (key! "false") && Nat.beq e.owner (key! "realm.metaSessDone"))

/-- GOODBYE reaches the meta-procedure handler only from the meta session's handler, whose exits
    are the only sends of a Goodbye by role HM (table (f): all in handleInboundMessages). -/
def goodbyeOnlyFromHandlerExit : Bool :=
  msgSends.all fun m => !(Nat.beq m.msgType (key! "Goodbye")) ||
    Nat.beq m.fn (key! "router.realm.handleInboundMessages")

def afterOk (q : Role) (e : LoopExit) : Bool :=
  decide (q = .HM) && metaSessDoneByHM &&
  ((decide (e.cls = .field) && Nat.beq e.owner (key! "realm.metaSessDone") && noSendsOn (key! "realm.metaSessDone")) ||
   ((e.guards.getLast?.any fun g => memN g [key! "if !send(rsp) {",
       key! "if !send(&wamp.Error{ Type: msg.MessageType(), Request: msg.Request, Details: wamp.Dict{}, Error: wamp.ErrNoSuchProcedure, }) {"])
      && sendFailsOnlyOnDone) ||
   ((e.guards.getLast?.any fun g => Nat.beq g (key! "case *wamp.Goodbye:")) && goodbyeOnlyFromHandlerExit))

/-! ### The table half of the assumptions -/

def neverOk : Assumption → Bool
  | .C04_meta_never_ends =>
    -- abortedGoodbye is handed to EndRecv only by abortSession
    endRecvSites.all fun x => !Nat.beq x.arg (key! "abortedGoodbye") || Nat.beq x.fn (key! "router.abortSession")
  | .metaNotInClients =>
    -- every other goodbye goes to a value of realm.clients …
    (endRecvSites.all fun x =>
      memN x.arg [key! "shutdownGoodbye", key! "abortedGoodbye"] ||
      memN x.origin [key! "range realm.clients", key! "index realm.clients"]) &&
    -- … and only handleSession ← AttachClient reaches onJoin
    (calls.all fun c => !Nat.beq c.callee (key! "router.realm.onJoin") || Nat.beq c.fn (key! "router.realm.handleSession")) &&
    (calls.all fun c => !Nat.beq c.callee (key! "router.realm.handleSession") || Nat.beq c.fn (key! "router.router.AttachClient"))
  | .metaPeerNeverClosed =>
    (closeSites ++ extraCloseSites).all fun c => c.isChanClose ||
      !memN c.recvType [key! "*wamp.Session", key! "wamp.Peer"] ||
      memN c.fn [key! "router.realm.handleSession", key! "router.router.AttachClient"]
  | .metaMessageKinds =>
    ((msgSends ++ extraMsgSends).all fun m => !m.toMeta ||
      memN m.msgType [key! "Publish", key! "Register"] ||
      (Nat.beq m.msgType (key! "Message") && Nat.beq m.fn (key! "router.realm.metaProcedureHandler"))) &&
    (msgReturns.all fun r =>
      (Nat.beq r.msgType (key! "Yield")) ||
      (Nat.beq r.msgType (key! "Error") &&
        memN r.errType [key! "INVOCATION", key! "call:router.makeError"]))

/-! ### The guard -/

def exitOk (s : ServerSpec) (e : LoopExit) : Bool :=
  match whyOf e.key s.role with
  | some .stop => stopOk s e
  | some (.never a) => neverOk a
  | some (.after _) => false
  | none => false

/-- All exits of the role's loop function are the closer's stop signal (or excluded). -/
def specOk (s : ServerSpec) : Bool :=
  let es := exitsOf s.loopFn
  !es.isEmpty && es.all (exitOk s) && es.any fun e => decide (whyOf e.key s.role = some .stop)

/-- **The guard, computed from the tables.** -/
def guardOf (r : Role) : Option SChan :=
  match serverSpecs.find? fun s => decide (s.role = r) with
  | some s => if specOk s then s.chan else none
  | none => none

/-- The meta-procedure handler leaves only after the meta session's handler (`CloseModel.exitNeeds`,
    there by prose): every exit is `after HM` or excluded. -/
def mpExitsAfterHM : Bool :=
  let es := exitsOf mpLoopFn
  !es.isEmpty && es.all fun e =>
    match whyOf e.key .MP with
    | some (.after q) => afterOk q e
    | some (.never a) => neverOk a
    | _ => false

def servers : Servers Role SChan := { server := serverOf, guard := guardOf }

/-- The pairs (role, channel) with a guard, for `Serve.gexec`. -/
def guardedPairs : List (Role × SChan) :=
  allRoles.filterMap fun r => (guardOf r).map fun ch => (r, ch)

/-! ### The served edges of the wait-for relation -/

/-- Roles blocked in a post to a served channel, without the attribution of the realm goroutine's
    posts to the session handler on whose behalf it acts (`CloseModel.shutdownRole`). -/
def rawPostPairs : List (Role × SChan) :=
  (chanOps.flatMap fun o =>
    match servedChan o with
    | none => []
    | some ch =>
      if unsafePost o && !(exemptPosts.any fun e => Nat.beq e.1 o.key) then
        (feasibleRoles o).map fun r => (r, ch)
      else []).eraseDups

/-- The wait edge of a blocked post: poster → server. -/
def serveEdges : List (Role × Role) := (rawPostPairs.map fun p => (p.1, serverOf p.2)).eraseDups



/-! ### Every wait for a server role is accounted for

The roles that other goroutines wait for as *servers*: the targets of posts, of the replies to
posts, and of the closers' waits for termination. -/

def serverRoles : List Role := [.HM, .R, .D, .B, .Rtr, .MP]

inductive EdgeClass
  /-- a post that can hang: covered by `servers_keep_serving` (poster quiesced, server guarded) -/
  | servedPost
  /-- a post with the server's stop signal (or `stopped`) as select alternative: released when the server stops -/
  | guardedPost
  /-- the closer's own post before it stops the server, or a post during realm construction -/
  | exemptPost
  /-- waiting for the answer of a closure the waiter has posted: same server, and the waiter is a poster -/
  | replyWait
  /-- waiting for the server to terminate (its `stopped`/`done` channel is closed by the server's own exit) -/
  | awaitEnd
  /-- the meta-procedure handler beside its inbox: `metaSessDone` as alternative of a send -/
  | stopAlt
  deriving DecidableEq, Repr

/-- The served channel behind the local reply channel of a posted closure. -/
def postedChan (owner : Nat) : Option (Option SChan) :=
  if Nat.beq owner (key! "posted:dealer.actionChan") then some (some .dealerChan)
  else if Nat.beq owner (key! "posted:broker.actionChan") then some (some .brokerChan)
  else if Nat.beq owner (key! "posted:realm.actionChan") then some (some .realmChan)
  else if Nat.beq owner (key! "posted:router.actionChan") then some none
  else none

/-- `stopped`/`done` channels and the function whose exit closes them. -/
def endChans : List (Nat × Nat) := [
  (key! "dealer.stopped", key! "router.dealer.run"),
  (key! "broker.stopped", key! "router.broker.run"),
  (key! "realm.stopped", key! "router.realm.run"),
  (key! "router.stopped", key! "router.router.run"),
  (key! "realm.metaDone", key! "router.realm.metaProcedureHandler"),
  (key! "realm.metaSessDone", key! "router.realm.createMetaSession")]

/-- The channel is closed only in the function given (the server's loop function, after the loop or
    deferred; for `metaSessDone` the go literal of the meta session's handler). -/
def endChanOk (owner : Nat) : Bool :=
  match lookup owner endChans with
  | some fn => closedOnlyIn owner fn && noSendsOn owner
  | none => false

def exemptFns : List Nat := [key! "router.realm.close", key! "router.dealer.setMetaPeer",
  key! "router.realm.registerMetaProcedure", key! "router.router.Close"]

def classifyServerOp (o : ChanOp) : Option EdgeClass :=
  match o.cls with
  | .action | .peerSendMeta =>
    if decide (o.op = .send) then
      if decide (o.sel = .selMulti) &&
          o.alts.any (fun a => memN a [key! "dealer.closing", key! "realm.metaSessDone", key! "router.stopped"]) then
        some .guardedPost
      else if memN o.fn exemptFns then some .exemptPost
      else match servedChan o with
        | some ch =>
          if (feasibleRoles o).all fun r => rawPostPairs.contains (r, ch) then some .servedPost else none
        | none => none
    else none
  | .peerRecvMeta => if memN o.fn exemptFns then some .exemptPost else none
  | .loc =>
    match postedChan o.owner with
    | some (some ch) =>
      if memN o.fn exemptFns then some .exemptPost
      else if (feasibleRoles o).all fun r => rawPostPairs.contains (r, ch) then some .replyWait else none
    | some none => some .replyWait
    | none => none
  | .field =>
    if decide (o.sel = .selMulti) && Nat.beq o.owner (key! "realm.metaSessDone") then some .stopAlt
    else if decide (o.sel = .selMulti) && Nat.beq o.owner (key! "router.stopped") then some .guardedPost
    else if endChanOk o.owner then some .awaitEnd else none
  | _ => none

/-- The operation makes its goroutine wait for a server role. -/
def waitsForServer (o : ChanOp) : Bool :=
  (opEdges o).any fun e => serverRoles.contains e.2

end Nexus.L3.WpL3.ServeModel
