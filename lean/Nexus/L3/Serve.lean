/-
L3 (ii′): servers keep serving.

`Shutdown.Step.exit` lets an actor of any role leave at any moment; a channel is marked `closed` (its
server stopped) only by the closer's `closeChan` instruction. Nothing ties the two: in that system
the meta session's handler may leave while session handlers are alive and post to its channel — the
wedge of F44 is a reachable configuration of that system (`C06.old_model_admits_wedge`).

Here every served channel gets its *server role*, and a role may carry a *guard*: `guard r = some ch`
says that an actor of role `r` leaves only after the stop signal of `ch` has been issued — i.e. only
after the closer executed `closeChan ch`. `GStep` is `Shutdown.Step` restricted accordingly. The
instantiation (Nexus/L3/WpL3ServeModel.lean) *computes* the guard of each server role from the
regenerated table of the exits of its serving loop: a role is guarded only if every way out of its
loop is behind the stop signal and only the closer issues that signal.
-/
import Nexus.L3.Shutdown

namespace Nexus.L3.WpL3.Serve
open Nexus.L3.Shutdown

variable {Role Chan Flag : Type} [DecidableEq Role] [DecidableEq Chan] [DecidableEq Flag]

structure Servers (Role Chan : Type) where
  server : Chan → Role
  guard : Role → Option Chan

def GStep (S : Sys Role Chan Flag) (G : Servers Role Chan) (c c' : Cfg Role Chan Flag) : Prop :=
  Step S c c' ∧ ∀ r ch, G.guard r = some ch → c'.alive r < c.alive r → c.closed ch = true

/-- Start: as `Shutdown.Init`, and every guarded role has an actor (the fixed goroutines run). -/
structure GInit (S : Sys Role Chan Flag) (G : Servers Role Chan) (c : Cfg Role Chan Flag) : Prop where
  init : Init S c
  up : ∀ r ch, G.guard r = some ch → 0 < c.alive r

inductive GReach (S : Sys Role Chan Flag) (G : Servers Role Chan) : Cfg Role Chan Flag → Prop
  | init {c : Cfg Role Chan Flag} : GInit S G c → GReach S G c
  | step {c c' : Cfg Role Chan Flag} : GReach S G c → GStep S G c c' → GReach S G c'

theorem reach_of_greach {S : Sys Role Chan Flag} {G : Servers Role Chan} {c : Cfg Role Chan Flag}
    (h : GReach S G c) : Reach S c := by
  induction h with
  | init hi => exact .init hi.init
  | step _ hs ih => exact .step ih hs.1

theorem closed_mono {S : Sys Role Chan Flag} {c c' : Cfg Role Chan Flag} (hs : Step S c c')
    (ch : Chan) (h : c.closed ch = true) : c'.closed ch = true := by
  cases hs with
  | @closeChan ch0 hp =>
    show upd c.closed ch0 true ch = true
    by_cases e : ch = ch0
    · subst e; simp
    · rw [upd_other _ _ e]; exact h
  | _ => exact h

/-- **Servers keep serving.** While the stop signal of `ch` has not been issued, every role guarded
    by `ch` has a live actor. -/
theorem guarded_alive {S : Sys Role Chan Flag} {G : Servers Role Chan} {c : Cfg Role Chan Flag}
    (h : GReach S G c) (r : Role) (ch : Chan) (hg : G.guard r = some ch)
    (hopen : c.closed ch = false) : 0 < c.alive r := by
  induction h with
  | init hi => exact hi.up r ch hg
  | @step c c' _ hs ih =>
    have hopen0 : c.closed ch = false := by
      cases hc : c.closed ch with
      | false => rfl
      | true => rw [closed_mono hs.1 ch hc] at hopen; cases hopen
    -- a guarded role loses no actor while `ch` is open
    refine Nat.lt_of_lt_of_le (ih hopen0) (Nat.le_of_not_lt fun hlt => ?_)
    have := hs.2 r ch hg hlt
    rw [hopen0] at this
    cases this

/-- With `no_post_after_close`: a live actor of a role that posts to `ch` (and is quiesced for it)
    finds the server of `ch` alive — it is never left hanging on a channel nobody reads. -/
theorem poster_finds_server (S : Sys Role Chan Flag) (G : Servers Role Chan) (roles : List Role)
    (n : Nat) {c : Cfg Role Chan Flag} (h : GReach S G c) (r : Role) (ch : Chan)
    (hq : quiesced S roles n r ch = true) (halive : 0 < c.alive r) (hposts : S.posts r ch = true)
    (hg : G.guard (G.server ch) = some ch) : 0 < c.alive (G.server ch) :=
  guarded_alive h (G.server ch) ch hg
    (no_live_poster_on_closed S roles n (reach_of_greach h) r ch hq halive hposts)

/-- A fixed goroutine `r` that leaves only after the fixed goroutine `q` is alive while `q` is. -/
theorem dependent_alive {S : Sys Role Chan Flag} {c : Cfg Role Chan Flag} (h : Reach S c)
    {r q : Role} (hdep : S.exitNeeds r = some q) (hr : S.rule r = .initial) (hq : S.rule q = .initial)
    (halive : 0 < c.alive q) : 0 < c.alive r := by
  cases h0 : c.alive r with
  | zero =>
    have := (inv_reach h).dep r q hdep hr hq h0
    rw [this] at halive
    exact absurd halive (Nat.lt_irrefl _)
  | succ n => exact Nat.succ_pos n

/-- Lifting a concrete run of `Shutdown.exec` to guarded reachability: every step of the run must
    respect the guards. `guardOk` is the executable check for one step over finite lists of the
    guarded roles. -/
def guardOk (guarded : List (Role × Chan)) (c c' : Cfg Role Chan Flag) : Bool :=
  guarded.all fun p => !decide (c'.alive p.1 < c.alive p.1) || c.closed p.2

def gexec (S : Sys Role Chan Flag) (G : Servers Role Chan) (guarded : List (Role × Chan))
    (c : Cfg Role Chan Flag) : List (Act Role Chan) → Option (Cfg Role Chan Flag)
  | [] => some c
  | a :: as =>
    match act S c a with
    | some c' => if guardOk guarded c c' then gexec S G guarded c' as else none
    | none => none

theorem greach_of_gexec {S : Sys Role Chan Flag} {G : Servers Role Chan} {guarded : List (Role × Chan)}
    (hall : ∀ r ch, G.guard r = some ch → (r, ch) ∈ guarded) :
    ∀ (as : List (Act Role Chan)) {c c' : Cfg Role Chan Flag},
      GReach S G c → gexec S G guarded c as = some c' → GReach S G c'
  | [], c, c', hr, h => by
    simp only [gexec] at h
    injection h with h; subst h; exact hr
  | a :: as, c, c', hr, h => by
    simp only [gexec] at h
    split at h
    · rename_i c1 h1
      split at h
      · rename_i hok
        refine greach_of_gexec hall as (GReach.step hr ⟨step_of_act h1, ?_⟩) h
        intro r ch hg hlt
        have := List.all_eq_true.mp hok (r, ch) (hall r ch hg)
        simpa [hlt] using this
      · cases h
    · cases h

end Nexus.L3.WpL3.Serve
