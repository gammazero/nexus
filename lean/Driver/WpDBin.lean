/-
  nexus-driver wpdbin: line protocol for the model functions of
  `Nexus/Codec/MsgPackSigned.lean` (audit C14-c3): the bytes the codec writes for SIGNED Go
  integers and for `float32`.  Value text as in `Driver/Codec.lean`.

  Requests (one per line) → answers:
    encint <decimal>               → ok <hex>        MsgPack.encIntSigned (EncodeInt of an int64)
    encs <value>                   → ok <hex> | invalid
                                     MsgPack.encSigned (every integer of the int64 range signed)
    encf32 <msgpack|cbor> <8 hex>  → ok <hex>        encFloat32 of the binary32 bit pattern
    cborint <decimal>              → ok <hex>        CBOR.encIntSigned (= CBOR.encInt)
-/
import Driver.Codec
import Nexus.Codec.MsgPackSigned

namespace Driver.WpDBin

open Nexus.Codec Driver.Codec

def parseInt (s : String) : Option Int :=
  match s.toList with
  | '-' :: r => (String.ofList r).toNat?.map fun n => -(n : Int)
  | _ => s.toNat?.map fun n => (n : Int)

def handle (line : String) : String :=
  match line.splitOn " " with
  | ["encint", d] =>
    match parseInt d with
    | some i => "ok " ++ hexOfBytes (MsgPack.encIntSigned i)
    | none => "bad-request"
  | ["cborint", d] =>
    match parseInt d with
    | some i => "ok " ++ hexOfBytes (CBOR.encIntSigned i)
    | none => "bad-request"
  | ["encs", v] =>
    match parse v with
    | some v => if validB MsgPack.maxLen v then "ok " ++ hexOfBytes (MsgPack.encSigned v) else "invalid"
    | none => "bad-request"
  | ["encf32", f, h] =>
    match bytesOfHex h with
    | some b =>
      if b.length == 4 then
        let w := beNat b
        match f with
        | "msgpack" => "ok " ++ hexOfBytes (MsgPack.encFloat32 w)
        | "cbor" => "ok " ++ hexOfBytes (CBOR.encFloat32 w)
        | _ => "bad-request"
      else "bad-request"
    | none => "bad-request"
  | _ => "bad-request"

partial def loop (h : IO.FS.Stream) (out : IO.FS.Stream) : IO Unit := do
  let line ← h.getLine
  if line.isEmpty then return ()
  out.putStrLn (handle (String.ofList (line.toList.reverse.dropWhile (fun c => c == '\n' || c == '\r')).reverse))
  loop h out

def run (_args : List String) : IO UInt32 := do
  let out ← IO.getStdout
  loop (← IO.getStdin) out
  out.flush
  return 0

end Driver.WpDBin
